-- Umbrella module: imports every Spec / Model / Generated / Proofs / Props module (written by harness/tools_umbrella.py)
import Lcapy.Spec.Cache
import Lcapy.Spec.DT
import Lcapy.Spec.Dim
import Lcapy.Spec.DimTP
import Lcapy.Spec.Fourier
import Lcapy.Spec.FourierExec
import Lcapy.Spec.Laws
import Lcapy.Spec.LawsExec
import Lcapy.Spec.LawsT
import Lcapy.Spec.LawsTD
import Lcapy.Spec.LawsTDExec
import Lcapy.Spec.Layout
import Lcapy.Spec.Netlist
import Lcapy.Spec.NetlistExec
import Lcapy.Spec.Noise
import Lcapy.Spec.OnePort
import Lcapy.Spec.OnePortExec
import Lcapy.Spec.PortRel
import Lcapy.Spec.Retained
import Lcapy.Spec.Sections
import Lcapy.Spec.Signal
import Lcapy.Spec.SpecialFn
import Lcapy.Spec.StateSpace
import Lcapy.Spec.TwoPort
import Lcapy.Spec.TwoPortExec
import Lcapy.Spec.TwoPortNet
import Lcapy.Spec.TwoPortNetExec
import Lcapy.Model.ACConv
import Lcapy.Model.ACImmittance
import Lcapy.Model.Alias
import Lcapy.Model.Alloc
import Lcapy.Model.CRat
import Lcapy.Model.Cache
import Lcapy.Model.CacheAux
import Lcapy.Model.Cx
import Lcapy.Model.DT
import Lcapy.Model.DTSel
import Lcapy.Model.Decompose
import Lcapy.Model.EnvMemo
import Lcapy.Model.EvalBase
import Lcapy.Model.EvalFallback
import Lcapy.Model.EvalLimit
import Lcapy.Model.Evaluate
import Lcapy.Model.ExpPoly
import Lcapy.Model.FloatEval
import Lcapy.Model.Formulations
import Lcapy.Model.Fourier
import Lcapy.Model.Fp
import Lcapy.Model.GQ
import Lcapy.Model.Groups
import Lcapy.Model.ILT
import Lcapy.Model.Laplace
import Lcapy.Model.Layout
import Lcapy.Model.LayoutPlacer
import Lcapy.Model.LayoutTypes
import Lcapy.Model.M2
import Lcapy.Model.MNA
import Lcapy.Model.MeshComplete
import Lcapy.Model.Netlist
import Lcapy.Model.NoiseAlg
import Lcapy.Model.OnePort
import Lcapy.Model.OnePortGuard
import Lcapy.Model.OnePortNetlist
import Lcapy.Model.Parser
import Lcapy.Model.Phasor
import Lcapy.Model.Poly
import Lcapy.Model.PolyFoster
import Lcapy.Model.PolySynth
import Lcapy.Model.PortOps
import Lcapy.Model.Quantities
import Lcapy.Model.QuantitiesSup
import Lcapy.Model.Ratfun
import Lcapy.Model.RatfunFmt
import Lcapy.Model.Realisations
import Lcapy.Model.Reassemble
import Lcapy.Model.ResidueSub
import Lcapy.Model.Response
import Lcapy.Model.Rewrite
import Lcapy.Model.RewriteCW
import Lcapy.Model.SimBase
import Lcapy.Model.SimStep
import Lcapy.Model.Sources
import Lcapy.Model.StateSpaceMaker
import Lcapy.Model.SuperSolve
import Lcapy.Model.SymReg
import Lcapy.Model.TLine
import Lcapy.Model.TimeDomain
import Lcapy.Generated.ACTable
import Lcapy.Generated.Caches
import Lcapy.Generated.DTSeq
import Lcapy.Generated.FloatTests
import Lcapy.Generated.FourierTable
import Lcapy.Generated.Grammar
import Lcapy.Generated.ILTFlags
import Lcapy.Generated.LaplaceTable
import Lcapy.Generated.LayoutTable
import Lcapy.Generated.PortOps
import Lcapy.Generated.Quantities
import Lcapy.Generated.QuantitiesSup
import Lcapy.Generated.QuantitiesTP
import Lcapy.Generated.RatfunFmtSrc
import Lcapy.Generated.RatfunSrc
import Lcapy.Generated.Sections
import Lcapy.Generated.SimCompanion
import Lcapy.Generated.SpecialFn
import Lcapy.Generated.Stamps
import Lcapy.Generated.TwoPort
import Lcapy.Generated.TwoPortNet
import Lcapy.Proofs.Alias
import Lcapy.Proofs.Alloc
import Lcapy.Proofs.CacheAux
import Lcapy.Proofs.CacheElts
import Lcapy.Proofs.CacheInv
import Lcapy.Proofs.CacheIso
import Lcapy.Proofs.CachePure
import Lcapy.Proofs.CacheTab
import Lcapy.Proofs.Cx
import Lcapy.Proofs.DT
import Lcapy.Proofs.DT2
import Lcapy.Proofs.EvalLimitBase
import Lcapy.Proofs.Formulations
import Lcapy.Proofs.Fourier
import Lcapy.Proofs.FourierAnchors
import Lcapy.Proofs.Ground
import Lcapy.Proofs.Groups
import Lcapy.Proofs.Laplace
import Lcapy.Proofs.LaplaceAnchor
import Lcapy.Proofs.LaplaceDS
import Lcapy.Proofs.LaplaceEntries
import Lcapy.Proofs.LaplaceILT
import Lcapy.Proofs.LaplaceIntegral
import Lcapy.Proofs.LaplaceSemantics
import Lcapy.Proofs.LaplaceUndef
import Lcapy.Proofs.LaplaceWindow
import Lcapy.Proofs.LayoutBase
import Lcapy.Proofs.LayoutPlacer
import Lcapy.Proofs.LayoutShapes
import Lcapy.Proofs.Linear
import Lcapy.Proofs.LinearN
import Lcapy.Proofs.MNA
import Lcapy.Proofs.MNAStamps
import Lcapy.Proofs.MeshComplete
import Lcapy.Proofs.NoiseAlg
import Lcapy.Proofs.OnePort
import Lcapy.Proofs.OnePortLine
import Lcapy.Proofs.OnePortNetlist
import Lcapy.Proofs.OnePortScan
import Lcapy.Proofs.OnePortSimplify
import Lcapy.Proofs.ParserLemmas
import Lcapy.Proofs.ParserRoundTrip
import Lcapy.Proofs.Phasor
import Lcapy.Proofs.Poly
import Lcapy.Proofs.PolyBridge
import Lcapy.Proofs.PolyCF
import Lcapy.Proofs.PolyFoster
import Lcapy.Proofs.PolyRatfun
import Lcapy.Proofs.PolyRatfunFmt
import Lcapy.Proofs.PolySynth
import Lcapy.Proofs.PortOps
import Lcapy.Proofs.PsincAnchor
import Lcapy.Proofs.QuantitiesBase
import Lcapy.Proofs.Realisations
import Lcapy.Proofs.Reassemble
import Lcapy.Proofs.ResidueSub
import Lcapy.Proofs.ResponseBase
import Lcapy.Proofs.Rewrite
import Lcapy.Proofs.RewriteCW
import Lcapy.Proofs.RewriteCWSteps
import Lcapy.Proofs.SimStepBase
import Lcapy.Proofs.SpecialFnBase
import Lcapy.Proofs.StateExists
import Lcapy.Proofs.StateSpaceMaker
import Lcapy.Proofs.StateSpaceTime
import Lcapy.Proofs.SymReg
import Lcapy.Proofs.TLine
import Lcapy.Proofs.TimeDomain
import Lcapy.Proofs.TimeDomainAnchor
import Lcapy.Proofs.TimeDomainInj
import Lcapy.Proofs.TimeDomainInjReal
import Lcapy.Proofs.Transfer
import Lcapy.Proofs.TwoPortBase
import Lcapy.Proofs.TwoPortNet
import Lcapy.Proofs.WireMerge
import Lcapy.Proofs.Witness
import Lcapy.Props.C01
import Lcapy.Props.C01Amp
import Lcapy.Props.C01Glue
import Lcapy.Props.C01Ohm
import Lcapy.Props.C01Oracle
import Lcapy.Props.C01Stamps
import Lcapy.Props.C01TwoPort
import Lcapy.Props.C02
import Lcapy.Props.C02Inj
import Lcapy.Props.C03
import Lcapy.Props.C03Groups
import Lcapy.Props.C03Lap
import Lcapy.Props.C03Noise
import Lcapy.Props.C03Wire
import Lcapy.Props.C04
import Lcapy.Props.C04Ground
import Lcapy.Props.C04Load
import Lcapy.Props.C04OnePort
import Lcapy.Props.C04Ops
import Lcapy.Props.C05
import Lcapy.Props.C05CW
import Lcapy.Props.C05Net
import Lcapy.Props.C06
import Lcapy.Props.C06Fixed
import Lcapy.Props.C06Line
import Lcapy.Props.C06Nested
import Lcapy.Props.C06Netlist
import Lcapy.Props.C07
import Lcapy.Props.C07Netlist
import Lcapy.Props.C07Simplify
import Lcapy.Props.C07TwoPort
import Lcapy.Props.C08
import Lcapy.Props.C08Net
import Lcapy.Props.C09
import Lcapy.Props.C10
import Lcapy.Props.C10b
import Lcapy.Props.C10c
import Lcapy.Props.C10d
import Lcapy.Props.C11
import Lcapy.Props.C11b
import Lcapy.Props.C12
import Lcapy.Props.C12Trap
import Lcapy.Props.C13
import Lcapy.Props.C13b
import Lcapy.Props.C14
import Lcapy.Props.C14Anchor
import Lcapy.Props.C14Conv
import Lcapy.Props.C14Imm
import Lcapy.Props.C14SS
import Lcapy.Props.C15
import Lcapy.Props.C15Mesh
import Lcapy.Props.C15SS
import Lcapy.Props.C16
import Lcapy.Props.C16Alias
import Lcapy.Props.C16Atomic
import Lcapy.Props.C16Env
import Lcapy.Props.C16Full
import Lcapy.Props.C16Order
import Lcapy.Props.C16Pure
import Lcapy.Props.C16PureCode
import Lcapy.Props.C16Sym
import Lcapy.Props.C16SymCode
import Lcapy.Props.C16Tables
import Lcapy.Props.C17
import Lcapy.Props.C17Float
import Lcapy.Props.C17Limit
import Lcapy.Props.C17Resp
import Lcapy.Props.C17Sim
import Lcapy.Props.C18
import Lcapy.Props.C18Sup
import Lcapy.Props.C18TP
import Lcapy.Props.C18Tr
import Lcapy.Props.C19
import Lcapy.Props.C19Forms
import Lcapy.Props.C20
import Lcapy.Props.C20Placer
import Lcapy.Props.C20Shapes
import Lcapy.Props.NonVacuityC01
import Lcapy.Props.NonVacuityC02
import Lcapy.Props.NonVacuityC03
import Lcapy.Props.NonVacuityC04
import Lcapy.Props.NonVacuityC05
import Lcapy.Props.NonVacuityC06
import Lcapy.Props.NonVacuityC07
import Lcapy.Props.NonVacuityC08
import Lcapy.Props.NonVacuityC08Net
import Lcapy.Props.NonVacuityC09
import Lcapy.Props.NonVacuityC10
import Lcapy.Props.NonVacuityC11
import Lcapy.Props.NonVacuityC12
import Lcapy.Props.NonVacuityC13
import Lcapy.Props.NonVacuityC14
import Lcapy.Props.NonVacuityC15
import Lcapy.Props.NonVacuityC16
import Lcapy.Props.NonVacuityC16Alias
import Lcapy.Props.NonVacuityC17
import Lcapy.Props.NonVacuityC18
import Lcapy.Props.NonVacuityC19
import Lcapy.Props.NonVacuityC20
