/-
  PROPERTY C04, the ONE-PORT-NETWORK half: "for … any one-port network, the reported Thevenin and Norton models are
  equivalent to each other … and, when the original is replaced by either model, the voltage and current delivered to an
  arbitrary external load are unchanged".

  Over the relational spec of C07 (Spec/OnePort.lean: a one-port denotes the set of (v, i) pairs it admits; series = same
  current, voltages add; parallel = same voltage, currents add) and the model of `oneport.py`'s algebra
  (Model/OnePort.lean: `Net.imp`, `Net.voc`, `Net.adm`, `Net.isc`), `OnePort.thevenin()` returns `V(Voc) + Z(Z)` and
  `OnePort.norton()` returns `I(Isc) | Y(Y)` (oneport.py: `Ser(sV(Voc), Z(Z))`, `Par(sI(Isc), Y(Y))`; for a network
  without independent sources the model keeps Z(s) / Y(s)).  For EVERY tree inside the precondition of C07
  (`tOK` / `nOK`: no ideal voltage source is shunted, no ideal current source is in series, no sum vanishes at the point):

    `oneport_thevenin_equiv`, `oneport_norton_equiv` : the model network admits EXACTLY the (v, i) pairs of the tree
    `oneport_models_equiv`                          : hence the two models admit the same pairs (each other's equivalent)
    `oneport_any_load`                              : hence, with any load relation L across the terminals, the set of
                                                      operating points (v, i) is the same for the tree and for either model
-/
import Lcapy.Props.C07
namespace Lcapy.C04
open Lcapy.OnePort
variable {K : Type} [Field K] [DecidableEq K]

/-- what `OnePort.thevenin()` returns: an s-domain voltage source in series with an impedance -/
def thevNet (Voc Z : K) : Net K := .ser [.leaf (.V .sdom Voc), .leaf (.Z Z)]
/-- what `OnePort.norton()` returns: an s-domain current source in parallel with an admittance -/
def nortNet (Isc Y : K) : Net K := .par [.leaf (.I .sdom Isc), .leaf (.Y Y)]

omit [DecidableEq K] in
theorem thevNet_rel (s Voc Z v i : K) : (thevNet Voc Z).rel s v i ↔ v = Voc + Z * i := by
  simp only [thevNet, Net.rel, relSer, SerRel, Leaf.rel]
  constructor
  · rintro ⟨v1, v2, rfl, ⟨v3, v4, rfl, rfl, rfl⟩, rfl⟩; ring
  · rintro rfl; exact ⟨Voc, Z * i, rfl, ⟨Z * i, 0, rfl, rfl, by ring⟩, rfl⟩

omit [DecidableEq K] in
theorem nortNet_rel (s Isc Y v i : K) : (nortNet Isc Y).rel s v i ↔ i = Y * v - Isc := by
  simp only [nortNet, Net.rel, relPar, ParRel, Leaf.rel]
  constructor
  · rintro ⟨i1, i2, rfl, ⟨i3, i4, rfl, rfl, rfl⟩, rfl⟩; ring
  · rintro rfl; exact ⟨-Isc, Y * v, rfl, ⟨Y * v, 0, rfl, rfl, by ring⟩, by ring⟩

/-- **oneport_thevenin_equiv**: the Thevenin model built from the tree's own `Voc` and `Z` admits exactly the pairs
    (v, i) the tree admits — for every tree, any depth and width, sources and initial conditions anywhere. -/
theorem oneport_thevenin_equiv (s : K) (n : Net K) (h : n.tOK s = true) (v i : K) :
    n.rel s v i ↔ (thevNet (n.voc s) (n.imp s)).rel s v i := by
  rw [thevNet_rel]
  exact C07.ser_thevenin s n h (C07.icOK_always s n) v i

theorem oneport_norton_equiv (s : K) (n : Net K) (h : n.nOK s = true) (v i : K) :
    n.rel s v i ↔ (nortNet (n.isc s) (n.adm s)).rel s v i := by
  rw [nortNet_rel]
  exact C07.par_norton s n h (C07.icOK_always s n) v i

/-- **oneport_models_equiv**: the reported Thevenin and Norton models are equivalent to each other -/
theorem oneport_models_equiv (s : K) (n : Net K) (ht : n.tOK s = true) (hn : n.nOK s = true) (v i : K) :
    (thevNet (n.voc s) (n.imp s)).rel s v i ↔ (nortNet (n.isc s) (n.adm s)).rel s v i := by
  rw [← oneport_thevenin_equiv s n ht, ← oneport_norton_equiv s n hn]

/-- **oneport_any_load**: with an ARBITRARY load relation L across the terminals (v the terminal voltage, i the
    current into the + terminal of the network), the operating points are the same for the tree and for its models. -/
theorem oneport_any_load (s : K) (n : Net K) (ht : n.tOK s = true) (hn : n.nOK s = true) (L : K → K → Prop) (v i : K) :
    ((n.rel s v i ∧ L v i) ↔ ((thevNet (n.voc s) (n.imp s)).rel s v i ∧ L v i)) ∧
    ((n.rel s v i ∧ L v i) ↔ ((nortNet (n.isc s) (n.adm s)).rel s v i ∧ L v i)) := by
  rw [← oneport_thevenin_equiv s n ht, ← oneport_norton_equiv s n hn]
  exact ⟨Iff.rfl, Iff.rfl⟩

/-- non-vacuity: (R 2 + L 3 (i0 = 1)) | (C 4 (v0 = 5) + Vstep 7) | Istep 2 at s = 2 (the tree of Props/C07.lean) is inside
    both preconditions -/
example : let n : Net ℚ := .par [.ser [.leaf (.R 2), .leaf (.L 3 (some 1))],
                                 .ser [.leaf (.C 4 (some 5)), .leaf (.V .step (7/2))], .leaf (.I .step 1)]
    n.tOK 2 = true ∧ n.nOK 2 = true := by decide +kernel

end Lcapy.C04
