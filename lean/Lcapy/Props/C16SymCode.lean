/-
  C16 -- the symbol registry at the generated flags.  Builds iff `symbol_delete(n)` really forgets the name
  (`SymbolRegistry.register(kind='expr')` must not find it in `symbol_kinds` any more; finding C16-F31 when
  false) -- then it is a broken obligation that the oracle must explain by a failing history (key `symbol-registry`).
-/
import Lcapy.Props.C16Sym
import Lcapy.Generated.Caches
namespace Lcapy.C16
open Lcapy.SymReg Lcapy.Gen.Caches

theorem delete_cleans_kinds : deleteCleansKinds = true := by decide

/-- CURRENT CODE: after `symbol_delete(n)` the name behaves as in a fresh process, whatever happened before -/
theorem delete_resets_history_current (h h' : List Op) (n : String) (a : Assum) :
    (use (run ⟨deleteCleansKinds, addRestoresContextOnError⟩ St.init (h ++ .delete n :: h')) n a).2 =
      (use (run ⟨deleteCleansKinds, addRestoresContextOnError⟩ St.init h') n a).2 :=
  delete_resets_history _ delete_cleans_kinds h h' n a

end Lcapy.C16
