/-
  Machine-checked NON-VACUITY witnesses for the theorems of Props/C04.lean, C04Ground.lean,
  C04Load.lean, C04Ops.lean.  Every theorem with hypotheses is APPLIED to a realistic input for which all hypotheses
  are proved:
    * the divider `V1 1 0 5; R1 1 2 3; R2 2 0 6`, port (2, 0): Voc = 10/3, Zth = 2, Isc = 5/3, Y = 1/2, H = 2/3;
      loaded by a series RC (interior node), by a short circuit, re-grounded at its output node;
    * its Thevenin (`V 2 0 10/3; Y 1 2 1/2`) and Norton (`I 1 0 5/3; Y 1 0 1/2`) models;
    * `V1 1 0 5; R1 1 2 3; C1 2 0 2 4` (charged capacitor) in the initial-value analysis;
    * the T network `R1 1 3 1; R2 3 2 2; R3 3 0 3` between ports (1, 0) and (2, 0), re-grounded at the interior node.
  All in the Laplace analysis kinds at the point s = 1 over ℚ.  Also: `Measures`, `C01.WF`, `C01.Nonsingular`,
  `Cpt.GroundFree` and the separation hypothesis of C04Load are satisfiable by these inputs; two examples that show
  where a statement is silent (`Measures` of an unsolvable experiment, the Thevenin model for Zth = 0).
-/
import Lcapy.Props.C04
import Lcapy.Props.C04Ground
import Lcapy.Props.C04Load
import Lcapy.Props.C04Ops
import Lcapy.Proofs.Witness
namespace Lcapy.NonVacuity.C04
open Lcapy.MNA Ix Lcapy.C04

/-- `V1 1 0 5; R1 1 2 3; R2 2 0 6`, port (2, 0); Laplace analysis at the point s = 1 -/
def div : List (Cpt ℚ) := [.V 1 0 0 5, .R 1 2 3, .R 2 0 6]

/-- port open: V(1) = 5, V(2) = Voc = 10/3, source current −5/9 -/
def x0 : Ix → ℚ := fun i => match i with | node 1 => 5 | node 2 => 10/3 | br 0 => -5/9 | _ => 0
/-- sources killed, 1 A into node 2: V(1) = 0, V(2) = Zth = 2, current through the killed source 2/3 -/
def xu : Ix → ℚ := fun i => match i with | node 1 => 0 | node 2 => 2 | br 0 => 2/3 | _ => 0

theorem wf_div : C01.WF div := by unfold C01.WF; decide

theorem wf_probe (J : ℚ) : C01.WF (withProbe div 2 0 J) := show [0].Nodup by decide

theorem laws_x0 : Laws .lap 1 (withProbe div 2 0 0) x0 :=
  laws_of_range 3 (by decide) (by decide +kernel) (by decide +kernel)

theorem solves_x0 : Solves .lap 1 (withProbe div 2 0 0) x0 :=
  (C01.mna_iff_laws _ _ _ _ (wf_probe 0)).mpr laws_x0

theorem laws_xu : Laws .lap 1 (withProbe (killAll div) 2 0 1) xu :=
  laws_of_range 3 (by decide) (by decide +kernel) (by decide +kernel)

theorem solves_xu : Solves .lap 1 (withProbe (killAll div) 2 0 1) xu :=
  (C01.mna_iff_laws _ _ _ _ (by unfold C01.WF; decide)).mpr laws_xu

/-- `port_affine` applied: x0 + 3·xu solves the divider with 3 A injected -/
theorem nv_port_affine : Solves .lap 1 (withProbe div 2 0 3) (fun i => x0 i + 3 * xu i) :=
  port_affine .lap 1 div 2 0 x0 xu 3 solves_x0 solves_xu

/-- the probed divider is non-singular: V(1), V(2), J(V1) are forced to 0 by the homogeneous system and
    they are exactly its unknowns -/
theorem nonsingular_probe (J : ℚ) : C01.Nonsingular .lap 1 (withProbe div 2 0 J) := by
  refine nonsingular_of_killed [node 1, node 2, br 0] (show [0].Nodup by decide) rfl ?_
  rintro z ⟨hk, hl⟩
  have e : killAll (withProbe div 2 0 J) = [.V 1 0 0 0, .R 1 2 3, .R 2 0 6, .I 2 0 0] := rfl
  rw [e] at hk hl
  have k1 := hk 1 (by decide)
  have k2 := hk 2 (by decide)
  have l1 := hl (.V 1 0 0 0) (by simp) (0, _) (List.mem_singleton.mpr rfl)
  simp [outflow, twoTerm, lsum, vd, volt] at k1 k2 l1
  have e1 : z (node 1) = 0 := l1
  have e2 : z (node 2) = 0 := by rw [e1] at k2; linarith
  have e3 : z (br 0) = 0 := by rw [e1, e2] at k1; linarith
  simp [e1, e2, e3]

/-- `port_affine_unique` applied with z := the explicit solution for J = 3 (V(2) = 10/3 + 3·2 = 28/3) -/
def z3 : Ix → ℚ := fun i => match i with | node 1 => 5 | node 2 => 28/3 | br 0 => 13/9 | _ => 0

theorem laws_z3 : Laws .lap 1 (withProbe div 2 0 3) z3 :=
  laws_of_range 3 (by decide) (by decide +kernel) (by decide +kernel)

theorem nv_port_affine_unique : vd z3 2 0 = vd x0 2 0 + 3 * vd xu 2 0 :=
  port_affine_unique .lap 1 div 2 0 x0 xu z3 3 solves_x0 solves_xu
    ((C01.mna_iff_laws _ _ _ _ (wf_probe 3)).mpr laws_z3) (nonsingular_probe 3)

example : vd x0 2 0 = 10/3 ∧ vd xu 2 0 = 2 ∧ vd z3 2 0 = 28/3 := by norm_num [vd, volt, x0, xu, z3]

/-! ### the two models (C04.lean) -/

/-- Thevenin model of the divider (Voc = 10/3, Zth = 2) with 3 A injected: V(1) = 28/3 -/
def xt : Ix → ℚ := fun i => match i with | node 1 => 28/3 | node 2 => 10/3 | br 0 => 3 | _ => 0

theorem laws_xt : Laws .lap 1 [.V 2 0 0 (10/3), .Y 1 2 (1 / 2), .I 1 0 3] xt :=
  laws_of_range 3 (by decide) (by decide +kernel) (by decide +kernel)

/-- Norton model (Isc = 5/3, Yn = 1/2) with 3 A injected: V(1) = 28/3 -/
def xn : Ix → ℚ := fun i => match i with | node 1 => 28/3 | _ => 0

theorem laws_xn : Laws .lap 1 [.I 1 0 ((10/3) / 2), .Y 1 0 (1 / 2), .I 1 0 3] xn :=
  laws_of_range 2 (by decide) (by decide +kernel) (by decide +kernel)

theorem nv_thevenin_port : vd xt 1 0 = 10/3 + 2 * 3 :=
  thevenin_port .lap 1 (10/3) 2 3 (by norm_num) xt laws_xt

theorem nv_norton_port : vd xn 1 0 = ((10/3) / 2 + 3) / (1 / 2) :=
  norton_port .lap 1 ((10/3) / 2) (1 / 2) 3 (by norm_num) xn laws_xn

theorem nv_load_invariance : vd xt 1 0 = 10/3 + 2 * 3 ∧ vd xn 1 0 = 10/3 + 2 * 3 :=
  load_invariance .lap 1 (10/3) 2 3 (by norm_num) xt xn laws_xt laws_xn

/-- `thevenin_norton_equiv` / `voc_isc_z` are satisfiable (Zth = 2) — but they are identities of the field ℚ in which
    "Isc" and "Yn" are DEFINED as Voc/Zth and 1/Zth; no circuit occurs in them. -/
example : ((28/3 : ℚ) = 10/3 - 2 * (-3)) ↔ ((-3 : ℚ) = (10/3) / 2 - (1 / 2) * (28/3)) :=
  thevenin_norton_equiv (10/3) 2 (28/3) (-3) (by norm_num)
example : (10/3 : ℚ) = ((10/3) / 2) * 2 ∧ (2 : ℚ) * (1 / 2) = 1 := voc_isc_z (10/3) 2 (by norm_num)

/-- the hypothesis `Zth ≠ 0` of `thevenin_port` is needed BECAUSE of the model chosen for the series element
    (`.Y 1 2 (1/Zth)`, an open circuit for Zth = 0 by `1/0 = 0`): for a port across an ideal source (Zth = 0, which Lcapy
    accepts for `thevenin`) that netlist has no solution with J ≠ 0, so the Thevenin theorem is not stated for it. -/
example (x : Ix → ℚ) : ¬ Laws .lap 1 [.V 2 0 0 (10/3), .Y 1 2 (1 / 0), .I 1 0 3] x := by
  rintro ⟨hk, _⟩
  have k1 := hk 1 (by decide)
  norm_num [outflow, twoTerm, lsum] at k1

/-! ### ground independence (C04Ground.lean) -/

theorem gf_div : ∀ c ∈ withProbe div 2 0 0, c.GroundFree := groundFree_of_all _ (by decide +kernel)

/-- `reground_laws` applied: the divider re-grounded at its output node 2 (`V1 1 2 5; R1 1 0 3; R2 0 2 6` after the
    renaming 0 ↔ 2) is solved by the shifted assignment -/
theorem nv_reground_laws : Laws .lap 1 (reground 2 (withProbe div 2 0 0)) (regroundSol 2 x0) :=
  reground_laws .lap 1 2 _ x0 gf_div laws_x0

example : reground 2 (withProbe div 2 0 0) = [.V 1 2 0 5, .R 1 0 3, .R 0 2 6, .I 0 2 0] := by
  simp [reground, withProbe, div, Cpt.mapNodes, swap0]

example : regroundSol 2 x0 (node 1) = 5/3 ∧ regroundSol 2 x0 (node 2) = -(10/3) ∧ regroundSol 2 x0 (br 0) = -5/9 := by
  norm_num [regroundSol, swap0, volt, x0]

theorem nv_reground_laws_iff :
    Laws .lap 1 (withProbe div 2 0 0) x0 ↔ Laws .lap 1 (reground 2 (withProbe div 2 0 0)) (regroundSol 2 x0) :=
  reground_laws_iff .lap 1 2 _ x0 gf_div

/-- `Measures` is satisfiable: the driving-point impedance of the divider at (2, 0) is 2 (= 3 ∥ 6): the probed circuit
    has a solution and EVERY solution reads 2 -/
theorem measures_impedance : Measures .lap 1 (impedanceExp div 2 0) (2 : ℚ) := by
  refine ⟨⟨xu, laws_xu⟩, ?_⟩
  rintro x ⟨hk, hl⟩
  have e : (impedanceExp div 2 0).ckt = [.V 1 0 0 0, .R 1 2 3, .R 2 0 6, .I 2 0 1] := rfl
  rw [e] at hk hl
  have k1 := hk 1 (by decide)
  have k2 := hk 2 (by decide)
  have l1 := hl (.V 1 0 0 0) (by simp) (0, _) (List.mem_singleton.mpr rfl)
  simp [outflow, twoTerm, lsum, vd, volt] at k1 k2 l1
  simp [impedanceExp, Obs.read, vd, volt]
  linarith

theorem nv_impedance_ground_independent :
    Measures .lap 1 (impedanceExp (reground 2 div) (swap0 2 2) (swap0 2 0)) (2 : ℚ) :=
  (impedance_ground_independent .lap 1 2 div 2 0 2 (groundFree_of_all _ (by decide +kernel))).mp measures_impedance

theorem nv_measure_ground_independent : Measures .lap 1 ((impedanceExp div 2 0).reground 1) (2 : ℚ) :=
  (measure_ground_independent .lap 1 1 _ 2
    (groundFree_of_all _ (by decide +kernel))).mp measures_impedance

/-- admittance of the divider at (2, 0) with the test source on the fresh branch 1: Y = 1/2 -/
def xa : Ix → ℚ := fun i => match i with | node 1 => 0 | node 2 => 1 | br 0 => 1/3 | br 1 => -1/2 | _ => 0

theorem measures_admittance : Measures .lap 1 (admittanceExp div 2 0 1) (1/2 : ℚ) := by
  refine ⟨⟨xa, laws_of_range 3 (by decide) (by decide +kernel) (by decide +kernel)⟩, ?_⟩
  rintro x ⟨hk, hl⟩
  have e : (admittanceExp div 2 0 1).ckt = [.V 1 0 0 0, .R 1 2 3, .R 2 0 6, .V 2 0 1 1] := rfl
  rw [e] at hk hl
  have k1 := hk 1 (by decide)
  have k2 := hk 2 (by decide)
  have l1 := hl (.V 1 0 0 0) (by simp) (0, _) (List.mem_singleton.mpr rfl)
  have l2 := hl (.V 2 0 1 1) (by simp) (1, _) (List.mem_singleton.mpr rfl)
  simp [outflow, twoTerm, lsum, vd, volt] at k1 k2 l1 l2
  simp [admittanceExp, Obs.read]
  linarith

theorem nv_admittance_ground_independent :
    Measures .lap 1 (admittanceExp (reground 2 div) (swap0 2 2) (swap0 2 0) 1) (1/2 : ℚ) :=
  (admittance_ground_independent .lap 1 2 div 2 0 1 (1/2) (groundFree_of_all _ (by decide +kernel))).mp measures_admittance

/-- voltage transfer of the divider from (1, 0) to (2, 0): the source V1 across the input pair is removed, H = 2/3 -/
def xh : Ix → ℚ := fun i => match i with | node 1 => 1 | node 2 => 2/3 | br 1 => -1/9 | _ => 0

theorem measures_transfer : Measures .lap 1 (transferExp div 1 0 2 0 1) (2/3 : ℚ) := by
  refine ⟨⟨xh, laws_of_range 3 (by decide) (by decide +kernel) (by decide +kernel)⟩, ?_⟩
  rintro x ⟨hk, hl⟩
  have e : (transferExp div 1 0 2 0 1).ckt = [.R 1 2 3, .R 2 0 6, .V 1 0 1 1] := rfl
  rw [e] at hk hl
  have k2 := hk 2 (by decide)
  have l1 := hl (.V 1 0 1 1) (by simp) (1, _) (List.mem_singleton.mpr rfl)
  simp [outflow, twoTerm, lsum, vd, volt] at k2 l1
  simp [transferExp, Obs.read, vd, volt]
  linarith

theorem nv_transfer_ground_independent :
    Measures .lap 1 (transferExp (reground 2 div) (swap0 2 1) (swap0 2 0) (swap0 2 2) (swap0 2 0) 1) (2/3 : ℚ) :=
  (transfer_ground_independent .lap 1 2 div 1 0 2 0 1 (2/3) (groundFree_of_all _ (by decide +kernel))).mp measures_transfer

/-- the T network `R1 1 3 1; R2 3 2 2; R3 3 0 3` of C04Ops.lean, ports (1, 0) and (2, 0): transimpedance Z21 = 3 -/
theorem measures_transimpedance : Measures .lap 1 (transimpedanceExp exT 1 0 2 0) (3 : ℚ) := by
  refine ⟨⟨exTx1, laws_of_range 4 (by decide) (by decide +kernel) (by decide +kernel)⟩, ?_⟩
  rintro x ⟨hk, _⟩
  have e : (transimpedanceExp exT 1 0 2 0).ckt = [.R 1 3 1, .R 3 2 2, .R 3 0 3, .I 1 0 1] := rfl
  rw [e] at hk
  have k1 := hk 1 (by decide)
  have k2 := hk 2 (by decide)
  have k3 := hk 3 (by decide)
  simp [outflow, twoTerm, lsum, vd, volt] at k1 k2 k3
  simp [transimpedanceExp, Obs.read, vd, volt]
  linarith

/-- re-grounded at the INTERIOR node 3: both ports become floating -/
theorem nv_transimpedance_ground_independent :
    Measures .lap 1 (transimpedanceExp (reground 3 exT) (swap0 3 1) (swap0 3 0) (swap0 3 2) (swap0 3 0)) (3 : ℚ) :=
  (transimpedance_ground_independent .lap 1 3 exT 1 0 2 0 3 (groundFree_of_all _ (by decide +kernel))).mp measures_transimpedance

/-- current gain of the T network (port 2 shorted by `Vshort_` on branch 0): I2/I1 = −3/5 -/
def xg : Ix → ℚ := fun i => match i with | node 1 => 11/5 | node 2 => 0 | node 3 => 6/5 | br 0 => 3/5 | _ => 0

theorem measures_current_gain : Measures .lap 1 (currentGainExp exT 1 0 2 0 0) (-(3/5) : ℚ) := by
  refine ⟨⟨xg, laws_of_range 4 (by decide) (by decide +kernel) (by decide +kernel)⟩, ?_⟩
  rintro x ⟨hk, hl⟩
  have e : (currentGainExp exT 1 0 2 0 0).ckt = [.R 1 3 1, .R 3 2 2, .R 3 0 3, .I 1 0 1, .V 2 0 0 0] := rfl
  rw [e] at hk hl
  have k1 := hk 1 (by decide)
  have k2 := hk 2 (by decide)
  have k3 := hk 3 (by decide)
  have l1 := hl (.V 2 0 0 0) (by simp) (0, _) (List.mem_singleton.mpr rfl)
  simp [outflow, twoTerm, lsum, vd, volt] at k1 k2 k3 l1
  simp [currentGainExp, Obs.read]
  linarith

theorem nv_current_gain_ground_independent :
    Measures .lap 1 (currentGainExp (reground 3 exT) (swap0 3 1) (swap0 3 0) (swap0 3 2) (swap0 3 0) 0) (-(3/5) : ℚ) :=
  (current_gain_ground_independent .lap 1 3 exT 1 0 2 0 0 _ (groundFree_of_all _ (by decide +kernel))).mp measures_current_gain

/-- transadmittance of the T network (1 V on branch 0 at port 1, port 2 shorted on branch 1): Y21 = −3/11 -/
def xy1 : Ix → ℚ := fun i => match i with
  | node 1 => 1 | node 2 => 0 | node 3 => 6/11 | br 0 => -5/11 | br 1 => 3/11 | _ => 0

theorem measures_transadmittance : Measures .lap 1 (transadmittanceExp exT 1 0 2 0 0 1) (-(3/11) : ℚ) := by
  refine ⟨⟨xy1, laws_of_range 4 (by decide) (by decide +kernel) (by decide +kernel)⟩, ?_⟩
  rintro x ⟨hk, hl⟩
  have e : (transadmittanceExp exT 1 0 2 0 0 1).ckt = [.R 1 3 1, .R 3 2 2, .R 3 0 3, .V 1 0 0 1, .V 2 0 1 0] := rfl
  rw [e] at hk hl
  have k2 := hk 2 (by decide)
  have k3 := hk 3 (by decide)
  have l1 := hl (.V 1 0 0 1) (by simp) (0, _) (List.mem_singleton.mpr rfl)
  have l2 := hl (.V 2 0 1 0) (by simp) (1, _) (List.mem_singleton.mpr rfl)
  simp [outflow, twoTerm, lsum, vd, volt] at k2 k3 l1 l2
  simp [transadmittanceExp, Obs.read]
  linarith

theorem nv_transadmittance_ground_independent :
    Measures .lap 1
      (transadmittanceExp (reground 3 exT) (swap0 3 1) (swap0 3 0) (swap0 3 2) (swap0 3 0) 0 1) (-(3/11) : ℚ) :=
  (transadmittance_ground_independent .lap 1 3 exT 1 0 2 0 0 1 _ (groundFree_of_all _ (by decide +kernel))).mp
    measures_transadmittance

/-- `measure_ground_independent` and its six corollaries have NO solvability hypothesis: for a probed circuit
    without a solution (1 A forced into the dangling node 7 of the divider) `Measures` is false for every value on both
    sides and the equivalence says nothing. -/
example (q : ℚ) : ¬ Measures .lap 1 (impedanceExp div 7 0) q := by
  rintro ⟨⟨x, hk, _⟩, _⟩
  have k7 := hk 7 (by decide)
  norm_num [impedanceExp, zProbe, killAll, Cpt.mapSrc, div, outflow, twoTerm, lsum] at k7

/-! ### arbitrary loads (C04Load.lean): the divider loaded by the series RC `R3 2 3 1; C1 3 0 2` (interior node 3) -/

def rc : List (Cpt ℚ) := [.R 2 3 1, .Cap 3 0 2 none]
/-- V(1) = 5, V(2) = 10/7, V(3) = 10/21, source current −25/21 (s = 1: the capacitor has admittance 2) -/
def zl : Ix → ℚ := fun i => match i with | node 1 => 5 | node 2 => 10/7 | node 3 => 10/21 | br 0 => -25/21 | _ => 0

theorem laws_zl : Laws .lap 1 (div ++ rc) zl :=
  laws_of_range 4 (by decide) (by decide +kernel) (by decide +kernel)

theorem sep_rc : ∀ c ∈ rc, ∀ n ∈ nodesOf c, n = 2 ∨ n = 0 ∨ ∀ c' ∈ div, ∀ n' ∈ nodesOf c', n' ≠ n := by
  decide

/-- the load delivers −20/21 A into node 2 (it draws 20/21 A) -/
theorem kcl_rc : kclAt .lap 1 rc zl 2 = 20/21 := by
  norm_num [kclAt, rc, zl, outflow, twoTerm, lsum, vd, volt, capCurrent]

theorem nv_load_substitution : Laws .lap 1 (div ++ [.I 2 0 (-(kclAt .lap 1 rc zl 2))]) zl :=
  load_substitution .lap 1 div rc 2 0 zl (by decide) sep_rc laws_zl

/-- `thevenin_any_load` applied: 10/7 = 10/3 + (−20/21)·2 -/
theorem nv_thevenin_any_load : vd zl 2 0 = vd x0 2 0 + -(kclAt .lap 1 rc zl 2) * vd xu 2 0 :=
  thevenin_any_load .lap 1 div rc 2 0 zl x0 xu (by decide) wf_div sep_rc laws_zl solves_x0 solves_xu
    (nonsingular_probe _)

example : vd zl 2 0 = 10/7 ∧ vd x0 2 0 + -(kclAt .lap 1 rc zl 2) * vd xu 2 0 = 10/7 := by
  rw [kcl_rc]; norm_num [vd, volt, zl, x0, xu]

/-- the SHORT CIRCUIT `Vshort_ 2 0` (branch 1) as the load: the measured short-circuit current 5/3 satisfies
    0 = Voc − Isc·Zth.  This is the statement "Voc = Isc·Zth" for the MEASURED Isc (`thevenin_norton_equiv` / `voc_isc_z`
    define Isc as Voc/Zth); it follows from `thevenin_any_load`, and `isc_voc_zth` (Props/C04Load.lean) states it for any
    netlist. -/
def short : List (Cpt ℚ) := [.V 2 0 1 0]
def zs : Ix → ℚ := fun i => match i with | node 1 => 5 | node 2 => 0 | br 0 => -5/3 | br 1 => 5/3 | _ => 0

theorem laws_zs : Laws .lap 1 (div ++ short) zs :=
  laws_of_range 3 (by decide) (by decide +kernel) (by decide +kernel)

theorem nv_isc_from_any_load : (0 : ℚ) = vd x0 2 0 + -(zs (br 1)) * vd xu 2 0 := by
  have h := thevenin_any_load .lap 1 div short 2 0 zs x0 xu (by decide) wf_div (by decide) laws_zs
    solves_x0 solves_xu (nonsingular_probe _)
  have e : kclAt .lap 1 short zs 2 = zs (br 1) := by simp [kclAt, short, outflow, twoTerm, lsum]
  have v : vd zs 2 0 = 0 := by norm_num [vd, volt, zs]
  rw [e, v] at h
  exact h

/-- `model_any_load`: the same RC load (now `R3 1 3 1; C1 3 0 2`) on the Thevenin and on the Norton model -/
def rc1 : List (Cpt ℚ) := [.R 1 3 1, .Cap 3 0 2 none]
def zt : Ix → ℚ := fun i => match i with | node 1 => 10/7 | node 2 => 10/3 | node 3 => 10/21 | br 0 => -20/21 | _ => 0
def zn : Ix → ℚ := fun i => match i with | node 1 => 10/7 | node 3 => 10/21 | _ => 0

theorem laws_zt : Laws .lap 1 ([.V 2 0 0 (10/3), .Y 1 2 (1 / 2)] ++ rc1) zt :=
  laws_of_range 4 (by decide) (by decide +kernel) (by decide +kernel)

theorem laws_zn : Laws .lap 1 ([.I 1 0 ((10/3) / 2), .Y 1 0 (1 / 2)] ++ rc1) zn :=
  laws_of_range 4 (by decide) (by decide +kernel) (by decide +kernel)

theorem nv_model_any_load :
    vd zt 1 0 = 10/3 + 2 * -(kclAt .lap 1 rc1 zt 1) ∧ vd zn 1 0 = 10/3 + 2 * -(kclAt .lap 1 rc1 zn 1) :=
  model_any_load .lap 1 (10/3) 2 (by norm_num) rc1 zt zn (by decide) (by decide)
    laws_zt laws_zn

/-- original, Thevenin model and Norton model: same load voltage 10/7 and same load current 20/21 -/
example : vd zl 2 0 = 10/7 ∧ vd zt 1 0 = 10/7 ∧ vd zn 1 0 = 10/7 ∧
    kclAt .lap 1 rc zl 2 = 20/21 ∧ kclAt .lap 1 rc1 zt 1 = 20/21 ∧ kclAt .lap 1 rc1 zn 1 = 20/21 := by
  norm_num [kclAt, rc, rc1, zl, zt, zn, outflow, twoTerm, lsum, vd, volt, capCurrent]

/-! ### C04Ops.lean -/

/-- `V1 1 0 5; R1 1 2 3; C1 2 0 2 4` (capacitor charged to 4 V), initial-value analysis at s = 1 -/
def rcic : List (Cpt ℚ) := [.V 1 0 0 5, .R 1 2 3, .Cap 2 0 2 (some 4)]

/-- hypothesis of `killed_ivp_is_lap` on a realistic probed circuit (through `probed_killed_ok`) -/
theorem nv_probed_killed_ok : ∀ c ∈ killAll rcic ++ [Cpt.I 2 0 1], ∀ v ∈ c.killSrcs.indep, v = 0 :=
  probed_killed_ok rcic [.I 2 0 1] (by simp)

theorem nv_killed_ivp_is_lap (x : Ix → ℚ) :
    Laws .ivp 1 (killAll rcic ++ [Cpt.I 2 0 1]) x ↔ Laws .lap 1 (killAll rcic ++ [Cpt.I 2 0 1]) x :=
  killed_ivp_is_lap 1 _ x nv_probed_killed_ok

/-- … and the hypothesis is not satisfied by the un-killed netlist (its capacitor carries 4 V) -/
example : ¬ ∀ c ∈ rcic, ∀ v ∈ c.killSrcs.indep, v = 0 := by
  intro h
  have := h (.Cap 2 0 2 (some 4)) (by simp [rcic]) 4 (by simp [Cpt.killSrcs, Cpt.indep])
  norm_num at this

/-- response to the source alone (IC zeroed): V(2) = 5/7;  response to the IC alone (source killed): V(2) = 24/7 -/
def xsrc : Ix → ℚ := fun i => match i with | node 1 => 5 | node 2 => 5/7 | br 0 => -10/7 | _ => 0
def xic : Ix → ℚ := fun i => match i with | node 1 => 0 | node 2 => 24/7 | br 0 => 8/7 | _ => 0

theorem solves_xsrc : Solves .ivp 1 (rcic.map Cpt.killICs) xsrc :=
  solves_of_range 3 (by unfold C01.WF; decide) (by decide) (by decide +kernel) (by decide +kernel)

theorem solves_xic : Solves .ivp 1 (rcic.map Cpt.killSrcs) xic :=
  solves_of_range 3 (by unfold C01.WF; decide) (by decide) (by decide +kernel) (by decide +kernel)

theorem nv_voc_keeps_ics :
    Solves .ivp 1 rcic (fun i => xsrc i + xic i) ∧
      vd (fun i => xsrc i + xic i) 2 0 = vd xsrc 2 0 + vd xic 2 0 :=
  voc_keeps_ics .ivp 1 rcic xsrc xic 2 0 solves_xsrc solves_xic

example : vd xsrc 2 0 + vd xic 2 0 = 29/7 := by norm_num [vd, volt, xsrc, xic]

/-- `ic_is_a_source`: an isolated 2 F capacitor charged to 4 V, s = 1 -/
def xc : Ix → ℚ := fun i => match i with | node 1 => 4 | _ => 0

theorem laws_xc : Laws .ivp 1 [.Cap 1 0 2 (some 4)] xc :=
  laws_of_range 2 (by decide) (by decide +kernel) (by decide +kernel)

theorem nv_ic_is_a_source : vd xc 1 0 = 4 / 1 := ic_is_a_source 1 2 4 (by norm_num) (by norm_num) xc laws_xc

/-! two-port extraction on the T network `exT` of C04Ops.lean, ports (1, 0), (2, 0) -/

theorem wf_zdrive (i1 i2 : ℚ) : C01.WF (zDrive exT 1 0 2 0 i1 i2) := show [].Nodup by decide

theorem solves_tx1 : Solves .lap 1 (zDrive exT 1 0 2 0 1 0) exTx1 :=
  solves_of_range 4 (wf_zdrive 1 0) (by decide) (by decide +kernel) (by decide +kernel)

theorem solves_tx2 : Solves .lap 1 (zDrive exT 1 0 2 0 0 1) exTx2 :=
  solves_of_range 4 (wf_zdrive 0 1) (by decide) (by decide +kernel) (by decide +kernel)

theorem nv_zDrive_linear : Solves .lap 1 (zDrive exT 1 0 2 0 1 2) (fun i => 1 * exTx1 i + 2 * exTx2 i) :=
  zDrive_linear .lap 1 exT 1 0 2 0 exTx1 exTx2 1 2 solves_tx1 solves_tx2

theorem nv_zparams_rel : ∃ x, Solves .lap 1 (zDrive exT 1 0 2 0 1 2) x ∧
    Spec.rel .Z (zMatrix exTx1 exTx2 1 0 2 0) 0 ⟨vd x 1 0, 1, vd x 2 0, 2⟩ :=
  zparams_rel .lap 1 exT 1 0 2 0 exTx1 exTx2 1 2 solves_tx1 solves_tx2

theorem nonsingular_zdrive (i1 i2 : ℚ) : C01.Nonsingular .lap 1 (zDrive exT 1 0 2 0 i1 i2) := by
  refine nonsingular_of_killed [node 1, node 2, node 3] (show [].Nodup by decide) rfl ?_
  rintro z ⟨hk, _⟩
  have e : killAll (zDrive exT 1 0 2 0 i1 i2) = [.R 1 3 1, .R 3 2 2, .R 3 0 3, .I 1 0 0, .I 2 0 0] := rfl
  rw [e] at hk
  have k1 := hk 1 (by decide)
  have k2 := hk 2 (by decide)
  have k3 := hk 3 (by decide)
  simp [outflow, twoTerm, lsum, vd, volt] at k1 k2 k3
  have e3 : z (node 3) = 0 := by linarith
  have e1 : z (node 1) = 0 := by rw [e3] at k1; linarith
  have e2 : z (node 2) = 0 := by rw [e3] at k2; linarith
  simp [e1, e2, e3]

/-- the explicit response to (I1, I2) = (1, 2): V(1) = 10, V(2) = 13, V(3) = 9 -/
def tz : Ix → ℚ := fun i => match i with | node 1 => 10 | node 2 => 13 | node 3 => 9 | _ => 0

theorem solves_tz : Solves .lap 1 (zDrive exT 1 0 2 0 1 2) tz :=
  solves_of_range 4 (wf_zdrive 1 2) (by decide) (by decide +kernel) (by decide +kernel)

theorem nv_zparams_rel_unique :
    Spec.rel .Z (zMatrix exTx1 exTx2 1 0 2 0) 0 ⟨vd tz 1 0, 1, vd tz 2 0, 2⟩ :=
  zparams_rel_unique .lap 1 exT 1 0 2 0 exTx1 exTx2 tz 1 2 solves_tx1 solves_tx2 solves_tz (nonsingular_zdrive 1 2)

/-- `zparams_convert` on the extracted Z = [[4, 3], [3, 5]] and the port quantities above; all four pivot conditions
    hold, so all four conclusions are obtained -/
theorem nv_zparams_convert :
    Spec.rel .Y (Gen.Z_to_Y ⟨4, 3, 3, 5⟩ 0) 0 (⟨10, 1, 13, 2⟩ : Spec.Port ℚ) ∧
    Spec.rel .H (Gen.Z_to_H ⟨4, 3, 3, 5⟩ 0) 0 (⟨10, 1, 13, 2⟩ : Spec.Port ℚ) ∧
    Spec.rel .A (Gen.Z_to_A ⟨4, 3, 3, 5⟩ 0) 0 (⟨10, 1, 13, 2⟩ : Spec.Port ℚ) ∧
    Spec.rel .B (Gen.Z_to_B ⟨4, 3, 3, 5⟩ 0) 0 (⟨10, 1, 13, 2⟩ : Spec.Port ℚ) := by
  have h := zparams_convert (⟨4, 3, 3, 5⟩ : M2 ℚ) ⟨10, 1, 13, 2⟩ (by norm_num [Spec.rel, Spec.lin])
  exact ⟨h.1 (by norm_num [M2.det]), h.2.1 (by norm_num), h.2.2.1 (by norm_num), h.2.2.2 (by norm_num)⟩

/-- short-circuit extraction: 1 V on branch 0 at port 1 with port 2 shorted on branch 1 (`xy1` above), and vice versa -/
def xy2 : Ix → ℚ := fun i => match i with
  | node 1 => 0 | node 2 => 1 | node 3 => 3/11 | br 0 => 3/11 | br 1 => -4/11 | _ => 0

theorem wf_ydrive (v1 v2 : ℚ) : C01.WF (yDrive exT 1 0 2 0 0 1 v1 v2) := show [0, 1].Nodup by decide

theorem laws_xy1 : Laws .lap 1 (yDrive exT 1 0 2 0 0 1 1 0) xy1 :=
  laws_of_range 4 (by decide) (by decide +kernel) (by decide +kernel)

theorem laws_xy2 : Laws .lap 1 (yDrive exT 1 0 2 0 0 1 0 1) xy2 :=
  laws_of_range 4 (by decide) (by decide +kernel) (by decide +kernel)

theorem solves_xy1 : Solves .lap 1 (yDrive exT 1 0 2 0 0 1 1 0) xy1 :=
  (C01.mna_iff_laws _ _ _ _ (wf_ydrive 1 0)).mpr laws_xy1
theorem solves_xy2 : Solves .lap 1 (yDrive exT 1 0 2 0 0 1 0 1) xy2 :=
  (C01.mna_iff_laws _ _ _ _ (wf_ydrive 0 1)).mpr laws_xy2

theorem nv_yDrive_linear : Solves .lap 1 (yDrive exT 1 0 2 0 0 1 10 13) (fun i => 10 * xy1 i + 13 * xy2 i) :=
  yDrive_linear .lap 1 exT 1 0 2 0 0 1 xy1 xy2 10 13 solves_xy1 solves_xy2

theorem nv_yparams_rel : ∃ x, Solves .lap 1 (yDrive exT 1 0 2 0 0 1 10 13) x ∧
    Spec.rel .Y (yMatrix xy1 xy2 0 1) 0 ⟨10, -(x (br 0)), 13, -(x (br 1))⟩ :=
  yparams_rel .lap 1 exT 1 0 2 0 0 1 xy1 xy2 10 13 solves_xy1 solves_xy2

/-- the extracted Y = (1/11)·[[5, −3], [−3, 4]] is the inverse of the extracted Z = [[4, 3], [3, 5]] -/
example : yMatrix xy1 xy2 0 1 = ⟨5/11, -(3/11), -(3/11), 4/11⟩ := by norm_num [yMatrix, xy1, xy2]

theorem nv_yDrive_port_voltages : vd xy1 1 0 = 1 ∧ vd xy1 2 0 = 0 :=
  yDrive_port_voltages .lap 1 exT 1 0 2 0 0 1 xy1 1 0 laws_xy1

/-! ### `isc_voc_zth` (Props/C04Load.lean) restated and applied to the divider -/

/-- "open-circuit voltage = short-circuit current × driving-point impedance" for the MEASURED short-circuit current
    (the branch current of `Vshort_ p m` on branch `b`, what `Isc` of netlistopsmixin.py reads), any netlist. -/
theorem suggested_isc_voc_zth {K : Type} [Field K] (kind : Kind) (s : K) (cs : List (Cpt K)) (p m b : Nat)
    (z x0 xu : Ix → K) (hpm : p ≠ m) (hwf : C01.WF cs)
    (h : Laws kind s (cs ++ [.V p m b 0]) z)
    (h0 : Solves kind s (withProbe cs p m 0) x0)
    (hu : Solves kind s (withProbe (killAll cs) p m 1) xu)
    (hns : C01.Nonsingular kind s (withProbe cs p m (-(kclAt kind s [.V p m b 0] z p)))) :
    vd x0 p m = z (br b) * vd xu p m :=
  isc_voc_zth kind s cs p m b z x0 xu hpm hwf h h0 hu hns

/-- … applied to the divider: 10/3 = (5/3)·2 -/
example : vd x0 2 0 = zs (br 1) * vd xu 2 0 :=
  suggested_isc_voc_zth .lap 1 div 2 0 1 zs x0 xu (by decide) wf_div laws_zs solves_x0 solves_xu (nonsingular_probe _)

end Lcapy.NonVacuity.C04
