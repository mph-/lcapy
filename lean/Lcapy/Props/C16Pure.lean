/-
  C16 -- QUERY PURITY, ABSTRACTION and the EXCEPTION BRANCH of the cache model (Model/Cache.lean).

  * abstraction: the next abstract state (elements + node tables of every instance) and the exception flag of
    every operation are functions of the abstract state alone; memo entries, class-level cache entries and the
    clock never influence them (`abstraction`, `history_abstraction`);
  * query purity: a read-only operation leaves the abstract state unchanged -- for EVERY configuration, also one
    in which a query mutates a cached object (`query_pure`); it can be erased from a history (`query_erasable`);
    and when no query mutates a cached object of a claimed slot, every later answer is what it would have been
    without the query (`query_transparent`); the proviso is necessary (`damaging_query_not_transparent`);
  * exception branch: an operation that raises leaves the abstract state unchanged (`failed_op_atomic`) except
    where the code is not atomic (witnesses); histories WITH failing operations refine the fresh rebuild when
    `add` invalidates in a `finally` and detaches a half-built component (`fresh_refinement_with_failures`);
  * components of any arity: witnesses for a `remove` that detaches only a slice of the nodes.
-/
import Lcapy.Props.C16
namespace Lcapy.C16
open Lcapy.Cache

/-! ## abstraction

  MODEL-STRUCTURAL theorems (`abstraction`, `history_abstraction`, `memos_never_matter`, `query_pure`, `derive_pure`,
  `query_erasable`): they hold of EVERY configuration because of the shape of `Model/Cache.lean` -- a query writes memo
  fields only, every operation acts on one instance, the next element dictionary and node table are computed from the
  current ones.  They are the reason why `Inv` need not mention memo contents when elements change, and they are used by
  `query_transparent` and `failed_op_atomic`, which DO need the invariant.  By themselves they say nothing about lcapy;
  "a query of lcapy is pure" rests on
    * Props/C16PureCode.lean `read_only_members_write_only_memo_state_partial` / `query_pure_current` (decide over the
      generated table `memberWrites`: one row per public member of the netlist classes -- every non-mutator writes memo
      slots only) and Props/C16Tables.lean `every_public_member_has_rows`, `shared_cached_objects_not_mutated`;
    * the purity oracle (every query twice, then the fixed battery on the same instance, compared with a fresh rebuild)
      and the structural comparison after every operation.
-/

/-- the abstract successor state and the exception flag depend on the abstract state only -/
theorem abstraction (cfg : Config) (w w' : World) (h : w.abs = w'.abs) (op : Op) :
    (step cfg w op).1.abs = (step cfg w' op).1.abs ∧ (step cfg w op).2 = (step cfg w' op).2 :=
  ⟨abs_of_strip (step_congr (strip_of_abs h) op).1, (step_congr (strip_of_abs h) op).2⟩

theorem history_abstraction (cfg : Config) (w w' : World) (h : w.abs = w'.abs) (ops : List Op) :
    (run cfg w ops).abs = (run cfg w' ops).abs ∧ (NoRaise cfg w ops ↔ NoRaise cfg w' ops) :=
  ⟨abs_of_strip (run_congr ops (strip_of_abs h)), noRaise_congr ops (strip_of_abs h)⟩

/-- in particular a world full of memo entries behaves like the same world without any -/
theorem memos_never_matter (cfg : Config) (w : World) (ops : List Op) :
    (run cfg w ops).abs = (run cfg (strip w) ops).abs :=
  (history_abstraction cfg w (strip w) (abs_of_strip (strip_idem w).symm) ops).1

/-! ## query purity -/

/-- QUERY PURITY: a query (analysis, graph query, ladder, transfer, ... -- whatever it reads, whatever it
    memoises, even if it mutates a cached object) leaves the elements and node tables of every instance unchanged -/
theorem query_pure (cfg : Config) (w : World) (i : Nat) (q : String) :
    (step cfg w (.query i q)).1.abs = w.abs :=
  abs_of_strip (step_query_strip w i q)

/-- deriving a circuit (copy / simplify / kill / subs ...) leaves every existing instance unchanged: the abstract
    state is extended by the new instance only -/
theorem derive_pure (cfg : Config) (w : World) (i : Nat) (pre : String) (es : List Elt) :
    (step cfg w (.derive i pre es)).1.abs.take w.insts.length = w.abs := by
  apply List.ext_getElem?
  intro k
  simp only [World.abs, List.getElem?_take, List.getElem?_map]
  by_cases hk : k < w.insts.length
  · simp only [hk, if_true]
    by_cases hki : k = i
    · subst hki
      have := derive_source (cfg := cfg) { w with clock := w.clock + 1 } k pre es hk
      simpa [step] using this
    · have := derive_other (cfg := cfg) { w with clock := w.clock + 1 } i k pre es hki hk
      simp only [step]; rw [this]
  · simp only [hk, if_false]
    rw [List.getElem?_eq_none (by omega)]; rfl

/-- a query can be erased from any position of a history: the same abstract state is reached, and the rest of
    the history raises an exception iff it did before -/
theorem query_erasable (cfg : Config) (w : World) (pre post : List Op) (i : Nat) (q : String) :
    (run cfg w (pre ++ .query i q :: post)).abs = (run cfg w (pre ++ post)).abs :=
  abs_of_strip (run_erase_query pre post w i q)

/-- OBSERVATIONAL PURITY: when no read-only member mutates a cached object of a slot of `G` (third field of
    `CfgOK`), a query inserted anywhere in an admissible history changes no later answer on any instance -/
theorem query_transparent (cfg : Config) (G : String → Bool) (hc : CfgOK cfg G)
    (pre post : List Op) (i : Nat) (q : String) (hr : RunOK cfg World.empty (pre ++ post))
    (j : Nat) (q' : String) (hq' : ∀ d ∈ cfg.readsOf q', G d = true) :
    answer cfg (run cfg World.empty (pre ++ .query i q :: post)) j q' =
      answer cfg (run cfg World.empty (pre ++ post)) j q' := by
  have hs := run_erase_query (cfg := cfg) pre post World.empty i q
  have hr' := (runOK_erase_query (cfg := cfg) pre post World.empty i q).2 hr
  rcases get_congr hs j with ⟨hx, hy⟩ | ⟨x, y, hx, hy, hxy⟩
  · -- no such instance on either side: a query on a missing instance reads nothing
    simp [answer, query]
    have h0 : ∀ (ds : List String) (w : World), w.insts[j]? = none →
        (readSlots cfg j w ds).2 = ds.map (fun d => (d, none)) := by
      intro ds
      induction ds with
      | nil => intro w _; rfl
      | cons d ds ih =>
        intro w hw
        simp only [readSlots, readSlot, hw, List.map_cons]
        rw [ih w hw]; rfl
    rw [h0 _ _ hx, h0 _ _ hy]
  · have h1 := (fresh_refinement_on cfg G hc _ hr' j x hx).1 q' hq'
    have h2 := (fresh_refinement_on cfg G hc _ hr j y hy).1 q' hq'
    rw [h1, h2, (stripI_eq.1 hxy).1]

/-- the premise of `query_transparent` is satisfiable together with a history that has queries of every kind -/
example : CfgOK exCfg3 (fun _ => true) ∧
    RunOK exCfg3 World.empty ([.new, .add 0 ⟨"E1", "E", ["3", "0", "2", "0"], "10"⟩] ++ [.query 0 "q", .remove 0 "E1"]) := by
  refine ⟨cfgOK_all (by decide +kernel) rfl, ?_⟩
  · simp only [RunOK, Op.admissible, List.cons_append, List.nil_append]; decide +kernel

/-- lcapy's configuration restricted to the circuit graph, with a `ladder` that works on the circuit's cached
    graph and consumes its edges (what the AST scan `sharedMutations` reports as `damages`) -/
def cfgLadder : Config where
  memoised := [("node_list", .cprop), ("circuit_graph", .lru)]
  cleared := ["node_list", "circuit_graph"]
  addInvalidates := true
  addMultiInvalidates := true
  removeInvalidates := true
  initInvalidates := true
  overrideDetaches := true
  keepConnectedNode := true
  deps := [("circuit_graph", ["node_list"])]
  reads := [("is_connected", ["node_list", "circuit_graph"]), ("ladder", ["node_list", "circuit_graph"])]
  spawns := []
  damages := [("ladder", "circuit_graph")]

/-- the proviso of `query_transparent` is necessary: after a `ladder` that mutates the cached graph, the next
    graph query is answered from an object that no longer reflects the netlist -- although the abstract state
    is untouched (`query_pure`) -/
theorem damaging_query_not_transparent :
    let pre : List Op := [.new, .add 0 ⟨"R1", "R", ["1", "2"], "2"⟩, .add 0 ⟨"C1", "C", ["2", "0"], "3"⟩, .query 0 "is_connected"]
    answer cfgLadder (run cfgLadder World.empty (pre ++ [.query 0 "ladder"])) 0 "is_connected" ≠
      answer cfgLadder (run cfgLadder World.empty pre) 0 "is_connected" ∧
    (run cfgLadder World.empty (pre ++ [.query 0 "ladder"])).abs = (run cfgLadder World.empty pre).abs := by decide +kernel

/-! ## the exception branch -/

/-- ATOMICITY.  When `Node.remove` cannot raise half way, an operation that raises -- `remove` of an unknown
    name, `add` of a malformed line (single line), `add` of a line whose component cannot be built or registered
    provided the code detaches the half-built component -- leaves every instance's elements and node table
    exactly as they were. -/
theorem failed_op_atomic (cfg : Config) (hk : cfg.keepConnectedNode = true) (w : World) (op : Op)
    (hop : op.atomicOnFailure cfg) (hf : (step cfg w op).2 = false) : (step cfg w op).1.abs = w.abs :=
  abs_of_strip (failed_step_strip hk w op hop hf)

example : Op.atomicOnFailure exCfg3 (.addFail 0 [] ⟨"Isc", "I", ["2", "3"], "1"⟩ true) ∧
    (step exCfg3 (run exCfg3 World.empty [.new, .add 0 ⟨"R1", "R", ["1", "2"], "1"⟩])
      (.addFail 0 [] ⟨"Isc", "I", ["2", "3"], "1"⟩ true)).2 = false := by
  refine ⟨by simp [Op.atomicOnFailure, exCfg3], by decide +kernel⟩

/-- where the code is NOT atomic (1): a component whose registration raises after its constructor attached it
    stays attached to its nodes (`Cpt.__init__` calls `cct.nodes.add` first; `_cpt_add` raises
    'Invalid component name' later): node 3 exists and node 2 has one connection too many -/
theorem failed_add_leaves_attachment :
    let cfg : Config := { exCfg3 with failedAddDetaches := false }
    let w := run cfg World.empty [.new, .add 0 ⟨"R1", "R", ["1", "2"], "1"⟩]
    let w' := (step cfg w (.addFail 0 [] ⟨"Isc", "I", ["2", "3"], "1"⟩ true)).1
    eltsOf w' 0 = eltsOf w 0 ∧ w'.abs ≠ w.abs ∧
    degOf ((w'.insts[0]?).getD (⟨[], [], []⟩ : Inst)).tab "3" = 1 ∧ degOf (buildTab (eltsOf w' 0)) "3" = 0 := by decide +kernel

/-- where the code is NOT atomic (2): a multi-line `add` whose second line raises keeps the first line -- by
    design -- but the exception skips `_invalidate()`, so a live memo stays stale -/
theorem failed_multiline_add_is_stale :
    let cfg : Config := { cfgF14 with addInvalidatesOnError := false }
    let ops : List Op := [.new, .add 0 V1, .add 0 R1, .add 0 R2, .query 0 "node_list",
      .addFail 0 [⟨"R9", "R", ["2", "7"], "1"⟩] ⟨"R5", "R", ["2"], ""⟩ false]
    answer cfg (run cfg World.empty ops) 0 "node_list" ≠
      answer cfg (build (eltsOf (run cfg World.empty ops) 0)) 0 "node_list" := by decide +kernel

/-- REFINEMENT WITH FAILURES.  For every admissible history -- operations MAY raise: unknown names, malformed
    lines, components that cannot be built -- when `Node.remove` cannot raise half way, `add` reaches
    `_invalidate()` on every path and a half-built component is detached (these are the admissibility
    conditions of `addFail`), every query on every instance answers as on a freshly built circuit. -/
theorem fresh_refinement_with_failures (cfg : Config) (G : String → Bool) (hc : CfgOK cfg G)
    (hk : cfg.keepConnectedNode = true) (ops : List Op) (hr : RunOKF cfg World.empty ops)
    (i : Nat) (inst : Inst) (hi : (run cfg World.empty ops).insts[i]? = some inst) :
    (∀ q, (∀ d ∈ cfg.readsOf q, G d = true) →
      answer cfg (run cfg World.empty ops) i q = answer cfg (build inst.elts) 0 q) ∧
    (∀ {α : Type} (f : List Elt → (String → Nat) → (String → Nat) → α),
      structural f inst = structural f ⟨inst.elts, buildTab inst.elts, []⟩) :=
  inv_implies_fresh cfg G hc _ (inv_runF hc hk ops (inv_empty (cfg := cfg) (G := G)) hr) i inst hi

example : RunOKF exCfg3 World.empty [.new, .add 0 ⟨"R1", "R", ["1", "2"], "1"⟩, .query 0 "q", .remove 0 "R99",
    .addFail 0 [⟨"R9", "R", ["2", "7"], "1"⟩] ⟨"R5", "R", ["2"], ""⟩ false,
    .addFail 0 [] ⟨"Isc", "I", ["2", "3"], "1"⟩ true, .query 0 "q"] := by
  simp only [RunOKF, Op.admissible, uniqueNames]; decide +kernel

/-! ## components of any arity -/

/-- a `remove` that detaches the component only from its first two nodes (`cpt.nodes[0:2]`): after removing the
    four-terminal `E1 4 0 3 0`, its sense node 3 keeps a stale connection entry and an inflated count, so `Rs`
    is not reported as dangling although it is in a circuit rebuilt from the same netlist -/
theorem remove_slice_leaves_stale_connection :
    let cfg : Config := { exCfg3 with removeSel := .slice 0 (some 2) }
    let Rs : Elt := ⟨"Rs", "R", ["1", "3"], "5"⟩
    let ops : List Op := [.new, .add 0 ⟨"V1", "V", ["1", "0"], "6"⟩, .add 0 Rs,
      .add 0 ⟨"E1", "E", ["4", "0", "3", "0"], "10"⟩, .add 0 ⟨"RL", "R", ["4", "0"], "7"⟩, .remove 0 "E1"]
    let inst : Inst := ((run cfg World.empty ops).insts[0]?).getD (⟨[], [], []⟩ : Inst)
    countOf inst.tab "3" = 2 ∧ countOf (buildTab inst.elts) "3" = 1 ∧
    degOf inst.tab "0" = 3 ∧ degOf (buildTab inst.elts) "0" = 2 ∧
    cptDangling inst.tab Rs = false ∧ cptDangling (buildTab inst.elts) Rs = true := by decide +kernel

/-- ... whereas with `removeSel = all` the same history ends in the table of the rebuilt circuit (an instance of
    `fresh_refinement`, here by evaluation) -/
example :
    let ops : List Op := [.new, .add 0 ⟨"V1", "V", ["1", "0"], "6"⟩, .add 0 ⟨"Rs", "R", ["1", "3"], "5"⟩,
      .add 0 ⟨"E1", "E", ["4", "0", "3", "0"], "10"⟩, .add 0 ⟨"RL", "R", ["4", "0"], "7"⟩, .remove 0 "E1"]
    let inst : Inst := ((run exCfg3 World.empty ops).insts[0]?).getD (⟨[], [], []⟩ : Inst)
    ∀ n ∈ ["0", "1", "3", "4"], countOf inst.tab n = countOf (buildTab inst.elts) n ∧ degOf inst.tab n = degOf (buildTab inst.elts) n := by
  decide +kernel

end Lcapy.C16
