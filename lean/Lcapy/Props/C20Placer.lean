/-
  C20 -- Lcapy's GRAPH PLACER (lcapy/schemgraph.py `Graph.solve`) inside the model: property theorems.

  Model  : Lcapy/Model/LayoutPlacer.lean (faithful to the code: insertion order, tie breaking, worklists; tied to the
           code on every run by exact comparison of ordered graphs and per-gnode positions on the real graphs)
  Proofs : Lcapy/Proofs/LayoutPlacer.lean

  What is proved for EVERY graph (any number of gnodes / edges):
    * `check_positions` decides exactly the edge constraints (`solve_conflicts_iff`);
    * `prune` keeps enough: if nothing is reported, the kept edges imply all the pruned parallel ones, hence a solve
      without conflicts satisfies every original edge (`solve_sat`);
    * `longest_path`: the labels of the memoised DFS are CERTIFIED by an executable check; certified labels dominate
      every walk, so the returned path is a genuine longest path (`longest_path_maximal`).  On the real graphs the
      certificate holds in every run (counted by the harness);
    * `assign_longest` lays the longest path out tightly, `assign_fixed1` places a gnode exactly at the size of the fixed
      edge it used -- no "only edge into its head" restriction (`assign_longest_exact`, `assign_fixed_exact`);
    * the even split of `assign_stretchy1` closes the gap between the two known gnodes iff
      `n·(W − E) = (n − m)·(sep − E)` (`even_split_closes_iff`): it always does when the path the positions are assigned
      along is itself a longest path with as many stretchy edges (`even_split_tight`), it stops short when that path is
      shorter (`even_split_misses`) and it overshoots -- the closing edge gets too short -- iff
      `n·(E − W) < (m − n)·(sep − E)` (`even_split_overshoots_iff`).
  Not proved (said plainly): a GLOBAL structural characterisation of the graphs on which the whole worklist
  (`assign_stretchy`, several interleaved steps) leaves no conflict -- finding C20-F20b stays an observed finding.  The
  executable predicate is `(solve g).conflicts ≠ []`, decided by `solve_conflicts_iff`.  The harness counts, for every
  conflict on the real graphs, which local mechanism is present (a non-closing split; a dangling gnode placed at the
  distance of a path THROUGH other still unplaced gnodes, as in the recorded F20b example): most conflicts show neither
  -- they are chords between gnodes assigned in different steps, which no step looks at (the TODO in the code).  What is
  missing for an exact iff is an invariant that relates the positions assigned by different worklist steps.
-/
import Lcapy.Proofs.LayoutPlacer

namespace Lcapy.C20
open Lcapy.Layout Lcapy.Placer

/-! ## 1. `check_positions` and `prune` -/

/-- the conflicts `check_positions` reports are exactly the violated edge constraints: none ⇔ every forward edge of
    every gnode holds (≥ size when stretchy, = size when fixed, both ends placed) -/
theorem solve_conflicts_iff (g : PGraph) (pos : Pos) :
    checkPositions g pos = [] ↔ ∀ x ∈ g, ∀ e ∈ x.fedges, SatE pos e := by
  unfold checkPositions
  simp only [List.flatMap_eq_nil_iff, List.filterMap_eq_nil_iff]
  constructor
  · intro h x hx e he
    have := h x hx e he
    unfold SatE
    cases ha : aget pos e.src with
    | none => simp [ha] at this
    | some a =>
      cases hb : aget pos e.dst with
      | none => simp [ha, hb] at this
      | some b =>
        simp only [ha, hb] at this
        refine ⟨a, b, rfl, rfl, ?_⟩
        by_cases hs : e.stretch = true
        · simp only [hs, if_true] at this ⊢
          by_contra hlt
          simp [lt_of_not_ge hlt] at this
        · simp only [hs, if_false, Bool.false_eq_true] at this ⊢
          by_contra hne
          simp [hne] at this
  · intro h x hx e he
    obtain ⟨a, b, ha, hb, hc⟩ := h x hx e he
    simp only [ha, hb]
    by_cases hs : e.stretch = true
    · simp only [hs, if_true] at hc ⊢
      simp [not_lt.mpr hc]
    · simp only [hs, if_false, Bool.false_eq_true] at hc ⊢
      simp [hc]

/-- `prune` drops parallel edges between the same two gnodes; if it reports nothing, the edges it keeps imply the ones it
    drops (sizes are positive, as `Graph.add` guarantees) -/
theorem prune_sound (E : List GE) (pos : Pos) (hpos : ∀ e ∈ E, 0 < e.size) (hg : grizzleList E = [])
    (hs : ∀ b ∈ pruneList E, SatE pos b) : ∀ e ∈ E, SatE pos e := by
  intro e he
  unfold pruneList at hs
  unfold grizzleList at hg
  by_cases hlen : E.length < 2
  · simp only [hlen, if_true] at hs; exact hs e he
  · simp only [hlen, if_false] at hs hg
    set grp := E.filter (fun x => x.src == e.src && x.dst == e.dst) with hgrp
    have hegrp : e ∈ grp := by simp [hgrp, he]
    have hsub : ∀ x ∈ grp, x ∈ E ∧ x.src = e.src ∧ x.dst = e.dst := by
      intro x hx
      simp only [hgrp, List.mem_filter, Bool.and_eq_true, beq_iff_eq] at hx
      exact ⟨hx.1, hx.2.1, hx.2.2⟩
    obtain ⟨b, hb, hbm, hcase⟩ := pickBest_spec grp (List.ne_nil_of_mem hegrp) (fun x hx => hpos x (hsub x hx).1)
    have hkey := keysOf_mem E e he
    have hbin : b ∈ (keysOf E).filterMap (fun k => pickBest (E.filter (fun x => x.src == k.1 && x.dst == k.2))) :=
      List.mem_filterMap.2 ⟨(e.src, e.dst), hkey, hb⟩
    obtain ⟨a, c, ha, hc, hcond⟩ := hs b hbin
    obtain ⟨_, hbs, hbd⟩ := hsub b hbm
    rw [hbs] at ha
    rw [hbd] at hc
    refine ⟨a, c, ha, hc, ?_⟩
    rcases hcase with ⟨hbfix, hfind⟩ | ⟨hall, hmax⟩
    · -- a fixed edge is kept: no grizzle message about `e`
      simp only [hbfix, Bool.false_eq_true, if_false] at hcond
      have hgk := (List.flatMap_eq_nil_iff.1 hg) (e.src, e.dst) hkey
      simp only [← hgrp] at hgk
      by_cases hl2 : grp.length < 2
      · -- the group is `[e]`, so `b = e`
        have : b = e := eq_of_mem_of_length_lt_two hl2 hbm hegrp
        subst this
        simp only [hbfix, Bool.false_eq_true, if_false]; exact hcond
      · simp only [hl2, if_false, hfind] at hgk
        have hgke := (List.filterMap_eq_nil_iff.1 hgk) e hegrp
        by_cases hes : e.stretch = true
        · simp only [hes, if_true]
          simp only [hes, Bool.not_true, Bool.and_false, Bool.false_eq_true, if_false] at hgke
          by_cases hgt : e.size > b.size
          · simp [hgt] at hgke
          · linarith [not_lt.mp hgt]
        · simp only [hes, if_false, Bool.false_eq_true]
          have hes' : e.stretch = false := by simpa using hes
          simp only [hes', Bool.not_false, Bool.and_true] at hgke
          by_cases hne : e.size = b.size
          · rw [hne]; exact hcond
          · have : (e.size != b.size) = true := by simpa using hne
            simp [this] at hgke
    · have hes := hall e hegrp
      have hbs' := hall b hbm
      simp only [hbs', if_true] at hcond
      simp only [hes, if_true]
      linarith [hmax e hegrp]

/-- **a solve without conflicts and without `prune` messages satisfies every edge of the ORIGINAL graph** -/
theorem solve_sat (g0 : PGraph) (s : Solved) (h : solve g0 = .ok s) (hc : s.conflicts = [])
    (hm : pruneMessages g0 = []) (hpos : ∀ x ∈ g0, ∀ e ∈ x.fedges, 0 < e.size) :
    ∀ x ∈ g0, ∀ e ∈ x.fedges, SatE s.pos e := by
  unfold solve at h
  simp only [bind, Except.bind, pure, Except.pure] at h
  cases h1 : longestPathCert (addStartNodes (prune g0)) [] "start" "end" with
  | error m => simp [h1] at h
  | ok pc =>
    obtain ⟨path, cert⟩ := pc
    simp only [h1] at h
    cases h2 : assignLongest path ⟨[], g0.names ++ ["start", "end"]⟩ with
    | error m => simp [h2] at h
    | ok st1 =>
      simp only [h2] at h
      cases h3 : assignFixed (addStartNodes (prune g0)) (st1.unknown.length + 1) st1 with
      | error m => simp [h3] at h
      | ok st2 =>
        simp only [h3] at h
        cases h4 : assignStretchy (addStartNodes (prune g0)) (st2.unknown.length + 1) st2 [] with
        | error m => simp [h4] at h
        | ok r =>
          obtain ⟨st3, steps⟩ := r
          simp only [h4] at h
          split at h
          · simp at h
          · simp only [Except.ok.injEq] at h
            subst h
            simp only at hc ⊢
            have hall := (solve_conflicts_iff _ _).1 hc
            intro x hx
            apply prune_sound x.fedges st3.pos (hpos x hx)
            · unfold pruneMessages at hm
              exact (List.flatMap_eq_nil_iff.1 hm) x hx
            · intro b hb
              obtain ⟨x', hx', hb'⟩ := addStartNodes_hasF _ b (prune_hasF g0 x hx b hb)
              exact hall x' hx' b hb'

/-! ## 2. `longest_path` -/

/-- **certificate**: labels that pass the executable check `lpCert` dominate the length of every walk to the target
    through gnodes of unknown position -/
theorem longest_path_labels (g : PGraph) (pos : Pos) (src dst : String) (d : List (String × Rat))
    (hc : lpCert g pos src dst d = true) (v : String) (q : List GE) (hq : IsChain g pos src dst v q)
    (hv : (aget d v).isSome = true) : ∃ x, aget d v = some x ∧ pathDist q ≤ x ∧ 0 ≤ x := by
  unfold lpCert at hc
  simp only [Bool.and_eq_true, beq_iff_eq, List.all_eq_true] at hc
  obtain ⟨h0, hall⟩ := hc
  induction q generalizing v with
  | nil =>
    cases (hq : v = dst)
    exact ⟨0, h0, by simp [pathDist], le_refl _⟩
  | cons e q ih =>
    obtain ⟨hne, he, hcut, hrest⟩ := hq
    obtain ⟨x, hx⟩ := Option.isSome_iff_exists.1 hv
    have hvn := fedgesOf_mem_names g v e he
    have := hall v hvn
    simp only [hx, Bool.or_eq_true, beq_iff_eq, hne, false_or, List.all_eq_true, Bool.and_eq_true,
      decide_eq_true_eq] at this
    obtain ⟨⟨hsz, hlab⟩, hdom⟩ := this e he
    have hlab' : (aget d e.dst).isSome = true := by
      rcases hlab with h | h
      · exact h
      · rw [hcut] at h; exact absurd h (by simp)
    obtain ⟨y, hy, hyq, hy0⟩ := ih e.dst hrest hlab'
    simp only [hy, Bool.or_eq_true, decide_eq_true_eq] at hdom
    have hdom' : y + e.size ≤ x := by
      rcases hdom with h | h
      · exact absurd h (not_lt.mpr hy0)
      · exact h
    refine ⟨x, hx, ?_, by linarith⟩
    simp only [pathDist, List.map_cons, List.sum_cons] at hyq ⊢
    linarith

/-- the executable walk check used by the certificate decides `IsChain` -/
theorem chain_check (g : PGraph) (pos : Pos) (src dst v : String) (q : List GE) :
    chainB g pos src dst v q = true ↔ IsChain g pos src dst v q := by
  induction q generalizing v with
  | nil => simp [chainB, Placer.IsChain]
  | cons e q ih =>
    simp only [chainB, Placer.IsChain, Bool.and_eq_true, ih, bne_iff_ne, ne_eq, List.contains_iff_mem,
      Bool.not_eq_true', and_assoc]

/-- **`longest_path` returns a longest path** whenever its run is certified: a genuine walk from `src` to `dst`, at least
    as long as every other one -/
theorem longest_path_maximal (g : PGraph) (pos : Pos) (src dst : String) (p : List GE)
    (h : longestPathCert g pos src dst = .ok (p, true)) :
    IsChain g pos src dst src p ∧ ∀ q, IsChain g pos src dst src q → pathDist q ≤ pathDist p := by
  unfold longestPathCert at h
  cases ht : traverse g pos src dst 1002 ⟨[], []⟩ src with
  | error m => simp [ht] at h
  | ok r =>
    obtain ⟨x0, ds⟩ := r
    simp only [ht] at h
    cases hm : makepath ds.next (g.length + 1) src with
    | error m => simp [hm] at h
    | ok p' =>
      simp only [hm, Except.ok.injEq, Prod.mk.injEq, Bool.and_eq_true, beq_iff_eq] at h
      obtain ⟨rfl, ⟨hcert, hchain⟩, hlen⟩ := h
      refine ⟨(chain_check g pos src dst src p').1 hchain, fun q hq => ?_⟩
      obtain ⟨x, hx, hle, _⟩ := longest_path_labels g pos src dst ds.dist hcert src q hq (by simp [hlen])
      rw [hlen] at hx
      simp only [Option.some.injEq] at hx
      rw [hx]; exact hle

/-! ## 3. `assign_longest`, `assign_fixed` -/

/-- every edge of the longest path is drawn with exactly its size -/
theorem assign_longest_exact (p : List GE) (hc : Consecutive p) (st st' : St) (h : assignLongest p st = .ok st') :
    ∀ e ∈ p, ∃ a, aget st'.pos e.src = some a ∧ aget st'.pos e.dst = some (a + e.size) := by
  unfold assignLongest at h
  cases p with
  | nil => simp at h
  | cons e rest => exact (go_spec (e :: rest) (by simp) hc 0 st st' h).2.2

/-- a gnode placed by `assign_fixed1` lies at exactly the size of a FIXED edge from a gnode of known position --
    whatever other edges enter or leave it -/
theorem assign_fixed_exact (g : PGraph) (pos : Pos) (n : String) (x : Rat) (h : assignFixed1 g pos n = some x) :
    (∃ e ∈ g.fedgesOf n, e.stretch = false ∧ ∃ b, aget pos e.dst = some b ∧ b - x = e.size) ∨
    (∃ e ∈ g.redgesOf n, e.stretch = false ∧ ∃ b, aget pos e.dst = some b ∧ x - b = e.size) := by
  unfold assignFixed1 at h
  cases hf : (g.fedgesOf n).find? (fun e => !e.stretch && (aget pos e.dst).isSome && e.dst != "end") with
  | some e =>
    simp only [hf, Option.map_eq_some_iff] at h
    obtain ⟨b, hb, rfl⟩ := h
    have hm := List.mem_of_find?_eq_some hf
    have hp := List.find?_some hf
    simp only [Bool.and_eq_true, Bool.not_eq_true'] at hp
    exact Or.inl ⟨e, hm, hp.1.1, b, hb, by ring⟩
  | none =>
    simp only [hf] at h
    cases hr : (g.redgesOf n).find? (fun e => !e.stretch && (aget pos e.dst).isSome && e.dst != "start") with
    | some e =>
      simp only [hr, Option.map_eq_some_iff] at h
      obtain ⟨b, hb, rfl⟩ := h
      have hm := List.mem_of_find?_eq_some hr
      have hp := List.find?_some hr
      simp only [Bool.and_eq_true, Bool.not_eq_true'] at hp
      exact Or.inr ⟨e, hm, hp.1.1, b, hb, by ring⟩
    | none => simp [hr] at h

/-! ## 4. the even split of `assign_stretchy1` (finding C20-F20b) -/

/-- where the walk of `assign_stretchy1` ends: start + Σ sizes + (number of stretchy edges)·stretch -/
theorem walk_end (which : GE → String) (s : Rat) (p : List GE) (x : Rat) (st : St) (x' : Rat) (st' : St)
    (h : walkAssign which s p x st = .ok (x', st')) : x' = x + pathDist p + (pathStretches p : Rat) * s := by
  induction p generalizing x st with
  | nil =>
    simp only [walkAssign, Except.ok.injEq, Prod.mk.injEq] at h
    simp [pathDist, pathStretches, h.1]
  | cons e rest ih =>
    simp only [walkAssign] at h
    have key : ∀ st1, walkAssign which s rest (x + e.size + (if e.stretch then s else 0)) st1 = .ok (x', st') →
        x' = x + pathDist (e :: rest) + (pathStretches (e :: rest) : Rat) * s := by
      intro st1 h1
      have := ih _ st1 h1
      rw [this, pathStretches_cons]
      simp only [pathDist, List.map_cons, List.sum_cons]
      by_cases hs : e.stretch = true <;> simp [hs] <;> ring
    split at h
    · split at h
      · exact key _ h
      · simp at h
      · simp at h
    · exact key _ h

/-- `E`, `n`: extent and stretchy edges of the LONGEST path between the two known gnodes (used for the stretch);
    `W`, `m`: those of the path the positions are assigned along.  The walk arrives exactly at the known gnode iff … -/
theorem even_split_closes_iff (fp tp E W : Rat) (n m : Nat) (hn : 0 < n) :
    fp + W + (m : Rat) * ((tp - fp - E) / (n : Rat)) = tp ↔
      (n : Rat) * (W - E) = ((n : Rat) - (m : Rat)) * (tp - fp - E) := by
  have hn' : (n : Rat) ≠ 0 := by exact_mod_cast hn.ne'
  rw [← sub_eq_zero, evenSplit_gap fp tp E W n m hn, div_eq_zero_iff, or_iff_left hn']
  constructor <;> intro h <;> linarith

/-- sufficient: the walk is itself a longest path with as many stretchy edges -/
theorem even_split_tight (fp tp E : Rat) (n : Nat) (hn : 0 < n) :
    fp + E + (n : Rat) * ((tp - fp - E) / (n : Rat)) = tp := by
  rw [even_split_closes_iff fp tp E E n n hn]; ring

/-- the walk OVERSHOOTS the known gnode -- so that the closing edge is drawn shorter than planned, a violation as soon as
    the overshoot exceeds that edge's own stretch -- iff it has more stretchy edges than the longest path and
    `n·(E − W) < (m − n)·(sep − E)` -/
theorem even_split_overshoots_iff (fp tp E W : Rat) (n m : Nat) (hn : 0 < n) :
    tp < fp + W + (m : Rat) * ((tp - fp - E) / (n : Rat)) ↔
      (n : Rat) * (E - W) < ((m : Rat) - (n : Rat)) * (tp - fp - E) := by
  have hn' : (0 : Rat) < (n : Rat) := by exact_mod_cast hn
  rw [← sub_pos, evenSplit_gap fp tp E W n m hn, lt_div_iff₀ hn', zero_mul, sub_pos]

/-- a walk that is SHORTER than the longest path but has as many stretchy edges never arrives exactly: it stops short by
    `E − W`, and the closing edge is drawn that much longer than its size (harmless when it is stretchy, a violation when
    it is fixed) -/
theorem even_split_misses (fp tp E W : Rat) (n : Nat) (hn : 0 < n) (hW : W < E) :
    fp + W + (n : Rat) * ((tp - fp - E) / (n : Rat)) ≠ tp := by
  rw [Ne, even_split_closes_iff fp tp E W n n hn]
  have hn' : (0 : Rat) < (n : Rat) := by exact_mod_cast hn
  intro h
  have : (n : Rat) * (W - E) < 0 := mul_neg_of_pos_of_neg hn' (by linarith)
  rw [h] at this
  simp at this

/-! ## non-vacuity -/

/-- a diamond with a long and a short branch: the run is certified, nothing conflicts, the short branch is stretched by
    an even split (1.5 per stretchy edge) -/
def diamond : PGraph :=
  [⟨"a", [⟨"0", "a", "b", 1, true⟩, ⟨"2", "a", "c", 3, true⟩], []⟩,
   ⟨"b", [⟨"1", "b", "d", 1, true⟩], [⟨"0", "b", "a", 1, true⟩]⟩,
   ⟨"c", [⟨"3", "c", "d", 2, true⟩], [⟨"2", "c", "a", 3, true⟩]⟩,
   ⟨"d", [], [⟨"1", "d", "b", 1, true⟩, ⟨"3", "d", "c", 2, true⟩]⟩]

theorem diamond_solved : (match solve diamond with
    | .ok s => s.certified && s.conflicts.isEmpty && decide (aget s.pos "b" = some (5/2)) && decide (aget s.pos "d" = some 5)
    | .error _ => false) = true := by decide +kernel

example : (match solve diamond with
    | .ok s => s.certified && s.conflicts.isEmpty && decide (aget s.pos "b" = some (5/2)) && decide (aget s.pos "d" = some 5)
    | .error _ => false) = true := diamond_solved

/-- the hypotheses of `solve_sat` hold for it -/
example : pruneMessages diamond = [] ∧ ∀ x ∈ diamond, ∀ e ∈ x.fedges, 0 < e.size := by decide +kernel

/-- `prune_sound`: a fixed edge of size 2 parallel to a stretchy edge of size 1 -/
example : grizzleList [⟨"0", "a", "b", 2, false⟩, ⟨"1", "a", "b", 1, true⟩] = [] ∧
    pruneList [⟨"0", "a", "b", 2, false⟩, ⟨"1", "a", "b", 1, true⟩] = [⟨"0", "a", "b", 2, false⟩] := by decide +kernel

/-- … and the other way round it is reported -/
example : grizzleList [⟨"0", "a", "b", 1, false⟩, ⟨"1", "a", "b", 2, true⟩] ≠ [] := by decide +kernel

/-- `longest_path_maximal`: the certificate holds on the diamond (with the dummy gnodes) -/
theorem diamond_certified : (match longestPathCert (addStartNodes (prune diamond)) [] "start" "end" with
    | .ok (p, c) => c && decide (pathDist p = 5)
    | .error _ => false) = true := by decide +kernel

example : (match longestPathCert (addStartNodes (prune diamond)) [] "start" "end" with
    | .ok (p, c) => c && decide (pathDist p = 5)
    | .error _ => false) = true := diamond_certified

end Lcapy.C20
