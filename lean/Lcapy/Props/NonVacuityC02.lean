/-
  C02: non-vacuity witnesses and counter-examples for
  Props/C02.lean and Props/C02Inj.lean.

  §0  what the hypothesis predicates do and do not guarantee
        * `Regular` / `LawsT`: `lawsT_junk` — a family of signals whose poles cover ℚ has NO regular point, so it satisfies
          `LawsT E tcs ·` for EVERY netlist although it violates the formal laws; `FinitePoles` is the guard (and fails for it).
        * `IsExp` over ℚ: `isExp_rat_trivial` — the only admissible `E : ℚ → ℚ` is the constant 1; `not_delayIndep_one`: for it
          `DelayIndep` is false, so over ℚ `DelaysOK` is `DelayFree` (`delaysOK_one_iff`);
          `lawsT_E1_accepts_wrong_delay`: over ℚ `LawsT E` accepts a response delayed by the wrong amount.
        * `gq_not_field`: the carrier `GQ` of the native driver is not a field (tie finding).
  §1  witnesses for every theorem of Props/C02.lean      (RC example of the file, an RL circuit, coupled inductors, hand-over)
        * `ic_start_noncausal`: `val0plus` is the value at 0⁺ only for causal `post` parts; `ic_start` does not assume that.
        * `rest_excludes_whole_axis`: `RestWhereUnspecified` excludes whole-axis dc sources without written initial conditions.
  §2  witnesses for every theorem of Props/C02Inj.lean   (ℚ; and ℝ with the real exponential and a DELAYED source)
-/
import Lcapy.Props.C02
import Lcapy.Props.C02Inj
import Mathlib.Data.Rat.Encodable
namespace Lcapy.NonVacuity.C02
open Lcapy Lcapy.MNA Lcapy.Laplace Lcapy.TD Lcapy.C02

/-! ## §0 the hypothesis predicates -/

abbrev E1 : ℚ → ℚ := fun _ => 1
theorem isExp_E1 : IsExp E1 := isExp_one

theorem isOk_eq {K : Type} {v : VerdictT K} (h : v.isOk = true) : v = .ok := by
  cases v <;> simp [VerdictT.isOk] at h ⊢

/-! ## 1. `Regular` / `LawsT` -/
noncomputable def enumQ : ℕ → ℚ := Classical.choose (exists_surjective_nat ℚ)
theorem enumQ_surj : Function.Surjective enumQ := Classical.choose_spec (exists_surjective_nat ℚ)

noncomputable def junkX : Ix → Signal ℚ
  | .node (k + 3) => ⟨[], [.ep 1 0 (enumQ k) 0]⟩
  | _ => ⟨[], []⟩

theorem regular_junk_empty (tcs : List (TCpt ℚ)) (s : ℚ) : ¬ Regular tcs junkX s := by
  rintro ⟨h, _⟩
  obtain ⟨k, rfl⟩ := enumQ_surj s
  have := h (.node (k + 3)) (.ep 1 0 (enumQ k) 0) (by simp [junkX])
  simp at this

theorem lawsT_junk (E : ℚ → ℚ) (tcs : List (TCpt ℚ)) : LawsT E tcs junkX :=
  fun s hs => absurd hs (regular_junk_empty tcs s)

theorem not_lawsTFormal_junk : ¬ LawsTFormal exTcs junkX := by
  intro h
  have := h.2 (.V 1 0 0 0, ⟨[], [.ep 5 0 0 0]⟩) (by simp [exTcs]) (0, subP (vpost junkX 1 0) [.ep 5 0 0 0]) (by simp [lawsT])
  revert this
  decide +kernel

theorem not_finitePoles_junk (tcs : List (TCpt ℚ)) : ¬ FinitePoles tcs junkX := by
  rintro ⟨bad, h⟩
  obtain ⟨s, hs⟩ := Infinite.exists_notMem_finset bad
  exact regular_junk_empty tcs s (h s hs)

/-! ## 2. DelayIndep -/
theorem not_delayIndep_one : ¬ DelayIndep (fun _ : ℚ => (1 : ℚ)) := by
  intro h
  obtain ⟨bad', hb⟩ := h [.ep 1 0 0 0, .ep (-1) 0 0 1] ∅ (fun s _ => by simp [L, Term.L, pw]; ring) 0
  obtain ⟨s, hs⟩ := Infinite.exists_notMem_finset (bad' ∪ {0})
  simp only [Finset.mem_union, Finset.mem_singleton, not_or] at hs
  have := hb s hs.1
  simp [delayPart, L, Term.L, pw, Term.delayOf] at this
  exact hs.2 this

example : DelayIndep Real.exp := delayIndep_real

theorem delaysOK_one_iff (tcs : List (TCpt ℚ)) (x : Ix → Signal ℚ) :
    DelaysOK (fun _ : ℚ => (1 : ℚ)) tcs x ↔ DelayFree tcs x :=
  ⟨fun h => h.resolve_right not_delayIndep_one, Or.inl⟩

theorem rat_all_powers (r : ℚ) (hr : 0 < r) (h : ∀ n : ℕ, 1 ≤ n → ∃ q : ℚ, r = q ^ n) : r = 1 := by
  obtain ⟨q, hq⟩ := h (r.num.natAbs + r.den + 1) (by omega)
  set N := r.num.natAbs + r.den + 1 with hN
  have hnum : r.num = q.num ^ N := by rw [hq, Rat.num_pow]
  have hden : r.den = q.den ^ N := by rw [hq, Rat.den_pow]
  have hNlt : N < 2 ^ N := Nat.lt_two_pow_self
  -- a natural number whose `N`-th power is at most `N` is 0 or 1
  have small {x : ℕ} (hx : x ^ N ≤ N) : x ≤ 1 := by
    by_contra hne
    have : 2 ^ N ≤ x ^ N := Nat.pow_le_pow_left (by omega) N
    omega
  have h4 : r.num.natAbs = q.num.natAbs ^ N := by rw [hnum, Int.natAbs_pow]
  have hqd : q.den = 1 := by have := small (x := q.den) (by omega); have := q.den_pos; omega
  have hqn : q.num.natAbs ≤ 1 := small (by omega)
  have hrn : 0 < r.num := Rat.num_pos.mpr hr
  have h5 : r.num.natAbs ≤ 1 := by rw [h4]; exact Nat.pow_le_one_iff (by omega) |>.mpr hqn |> fun h => h
  have h6 : r.num = 1 := by omega
  have h7 : r.den = 1 := by rw [hden, hqd, one_pow]
  rw [← Rat.num_div_den r, h6, h7]; norm_num

/-- over ℚ the ONLY exponential in the sense of `IsExp` is the constant 1 -/
theorem isExp_rat_trivial (E : ℚ → ℚ) (hE : IsExp E) : E = fun _ => 1 := by
  have hmul : ∀ (n : ℕ) (y : ℚ), E (n * y) = E y ^ n := by
    intro n y
    induction n with
    | zero => simp [hE.zero]
    | succ n ih => rw [Nat.cast_succ, add_mul, one_mul, hE.add, ih, pow_succ]
  funext x
  apply rat_all_powers
  · have : E x = E (x / 2) ^ 2 := by rw [← hmul 2 (x / 2)]; congr 1; ring
    rw [this]
    have hne := isExp_ne_zero hE (x / 2)
    positivity
  · intro n hn
    refine ⟨E (x / n), ?_⟩
    rw [← hmul n (x / n)]
    congr 1
    field_simp


/-- `V1 1 0 step 1 ; R1 1 0 1` with a WRONG response: everything delayed by 1 s -/
def wdTcs : List (TCpt ℚ) := [(.V 1 0 0 0, ⟨[], [.ep 1 0 0 0]⟩), (.R 1 0 1, ⟨[], []⟩)]
def wdX : Ix → Signal ℚ
  | .node 1 => ⟨[], [.ep 1 0 0 1]⟩
  | .br 0 => ⟨[], [.ep (-1) 0 0 1]⟩
  | _ => ⟨[], []⟩

theorem lawsT_E1_accepts_wrong_delay : LawsT E1 wdTcs wdX ∧ ¬ LawsTFormal wdTcs wdX := by
  constructor
  · intro s _
    constructor
    · intro k hk
      match k, hk with
      | 0, h => exact absurd rfl h
      | 1, _ =>
        simp [kclT, wdTcs, outflowT, twoTermT, subP, smul, Term.smul, vpost, voltT, wdX, Signal.zero, L, Term.L, pw]; ring
      | (k + 2), _ => simp [kclT, wdTcs, outflowT, twoTermT, subP, smul]
    · intro c hc p hp
      simp only [wdTcs, List.mem_cons, List.not_mem_nil, or_false] at hc
      rcases hc with rfl | rfl <;> simp [lawsT] at hp
      subst hp
      simp [subP, smul, Term.smul, vpost, voltT, wdX, Signal.zero, L, Term.L, pw]; ring
  · intro h
    have := h.2 (.V 1 0 0 0, ⟨[], [.ep 1 0 0 0]⟩) (by simp [wdTcs]) (0, subP (vpost wdX 1 0) [.ep 1 0 0 0]) (by simp [lawsT])
    revert this; decide +kernel

/-- the carrier of the native driver, the checked Gaussian rationals, is NOT a field: the error value has no negative -/
theorem gq_not_field : ¬ ∃ x : Lcapy.Laplace.GQ, Lcapy.Laplace.GQ.undef + x = 0 := by
  rintro ⟨x, hx⟩
  have : (Lcapy.Laplace.GQ.undef + x).v = none := by
    show (Lcapy.Laplace.GQ.lift2 _ _ _).v = none
    simp [Lcapy.Laplace.GQ.lift2, Lcapy.Laplace.GQ.undef]
  rw [hx] at this
  exact absurd this (by decide)

/-! ## §1 Props/C02.lean -/

theorem ex_regular2 : Regular exTcs exX 2 := ex_regular 2 (by norm_num) (by norm_num)

/-- the ivp laws of `V 1 0 ; R 1 2 2 ; C 2 0 1/2`, any field, any source value and initial condition -/
theorem rc_laws {K : Type} [Field K] (s v : K) (ic : Option K) (X : Ix → K)
    (h1 : X (.br 0) + (X (.node 1) - X (.node 2)) / 2 = 0)
    (h2 : (X (.node 1) - X (.node 2)) / 2 = capCurrent .ivp s (1 / 2) ic (X (.node 2)))
    (h3 : X (.node 1) = v) :
    Laws .ivp s [.V 1 0 0 v, .R 1 2 2, .Cap 2 0 (1 / 2) ic] X := by
  constructor
  · intro k hk
    match k, hk with
    | 0, h => exact absurd rfl h
    | 1, _ => simpa [outflow, twoTerm, lsum, vd, volt] using h1
    | 2, _ => rw [one_div] at h2; simp [outflow, twoTerm, lsum, vd, volt, h2]
    | (k + 3), _ => simp [outflow, twoTerm, lsum]
  · intro c hc p hp
    simp only [List.mem_cons, List.not_mem_nil, or_false] at hc
    rcases hc with rfl | rfl | rfl <;> simp [laws] at hp
    subst hp
    simp [vd, volt, h3]

/-- non-circular: the s-domain laws of the RC example computed directly -/
theorem ex_laws_s (s : ℚ) (h0 : s ≠ 0) (h1 : s ≠ -1) :
    Laws .ivp s (exTcs.map (atS E1 s)) (transformOf E1 exX s) := by
  have h1' : s + 1 ≠ 0 := fun h => h1 (by linarith)
  apply rc_laws <;> simp [transformOf, exX, L, Term.L, pw, capCurrent] <;> field_simp <;> ring

/-! ### witnesses for Props/C02.lean -/

theorem nv_cap_law_is_transform :
    L E1 (capCurrentT exX 2 0 (1 / 2) (some 3)) 2 = capCurrent .ivp 2 (1 / 2) (some 3) (vd (transformOf E1 exX 2) 2 0) :=
  cap_law_is_transform E1 isExp_E1 exX 2 0 (1 / 2) 3 2 ex_regular2.1
example : L E1 (capCurrentT exX 2 0 (1 / 2) (some 3)) 2 = 1 / 3 := by decide +kernel

theorem nv_cap_law_via_lt_deriv :
    (1 / 2 : ℚ) * (Signal.deriv ⟨[(3, 0, 0)], [.ep 5 0 0 0, .ep (-2) 0 (-1) 0]⟩).L E1 2
      = capCurrent .ivp 2 (1 / 2) (some 3) (L E1 [.ep 5 0 0 0, .ep (-2) 0 (-1) 0] 2) :=
  cap_law_via_lt_deriv E1 isExp_E1 (1 / 2) 3 2 _ (by
    intro t ht; simp at ht; rcases ht with rfl | rfl <;> norm_num)

/-- two coupled inductors L = 2, M = 1, i(0⁻) = i'(0⁻) = 1 whose currents JUMP to 2 and −1 at t = 0 (flux 2·1 + 1·1 = 3 before,
    2·2 + 1·(−1) = 3 after) while the voltage across the first stays zero -/
def cplX : Ix → Signal ℚ
  | .br 1 => ⟨[(1, 0, 0)], [.ep 2 0 0 0]⟩
  | .br 2 => ⟨[(1, 0, 0)], [.ep (-1) 0 0 0]⟩
  | _ => ⟨[], []⟩

def cplInd : TCpt ℚ := (.Ind 1 0 1 2 (some 1) [(2, 1, some 1)], ⟨[], []⟩)

theorem cpl_nonpole : ∀ ix, NonPole (cplX ix).post 2 := by
  intro ix t ht
  match ix with
  | .node k => simp [cplX] at ht
  | .br 0 => simp [cplX] at ht
  | .br 1 => simp [cplX] at ht; subst ht; norm_num
  | .br 2 => simp [cplX] at ht; subst ht; norm_num
  | .br (m + 3) => simp [cplX] at ht

theorem nv_ind_law_is_transform :
    (lawsT cplX cplInd).map (fun p => (p.1, L E1 p.2 2))
      = laws .ivp 2 (transformOf E1 cplX 2) (.Ind 1 0 1 2 (some 1) [(2, 1, some 1)]) :=
  ind_law_is_transform E1 isExp_E1 cplX 2 cpl_nonpole 1 0 1 2 (some 1) [(2, 1, some 1)] ⟨[], []⟩
    ⟨fun h => by simp at h, fun p hp h => by simp at hp; subst hp; simp at h⟩

theorem nv_laws_s_of_laws_t : Laws .ivp 2 (exTcs.map (atS E1 2)) (transformOf E1 exX 2) :=
  laws_s_of_laws_t E1 isExp_E1 exTcs exX ex_rest (formal_lawsT _ _ _ ex_lawsTFormal) 2 ex_regular2

/-- the regular points of the example are exactly the `s ∉ {0, −1}` (converse of `ex_regular`) -/
theorem ex_laws_s_regular (s : ℚ) (hs : Regular exTcs exX s) :
    Laws .ivp s (exTcs.map (atS E1 s)) (transformOf E1 exX s) := by
  have h0 : s ≠ 0 := by simpa using hs.1 (.node 1) (.ep 5 0 0 0) (by simp [exX])
  have h1 : s ≠ -1 := by
    have := hs.1 (.br 0) (.ep (-1) 0 (-1) 0) (by simp [exX])
    intro h; apply this; rw [h]; norm_num
  exact ex_laws_s s h0 h1

/-- `laws_t_of_laws_s` with its hypothesis proved by direct computation (NOT from the conclusion) -/
theorem nv_laws_t_of_laws_s : LawsT E1 exTcs exX :=
  laws_t_of_laws_s E1 isExp_E1 exTcs exX ex_rest ex_laws_s_regular

theorem nv_transforms_solve_mna : Solves .ivp 2 (exTcs.map (atS E1 2)) (transformOf E1 exX 2) :=
  transforms_solve_mna E1 isExp_E1 exTcs exX ex_rest nv_laws_t_of_laws_s 2 ex_regular2 (ex_wf 2)

/-- ANOTHER solution of the RC example: like terms of V(2) split and reordered (5 = 2 + 3), and an arbitrary signal
    e^{4t} on node 7, which does not occur in the netlist (so it is not in `U`) -/
def exY : Ix → Signal ℚ
  | .node 1 => ⟨[], [.ep 5 0 0 0]⟩
  | .node 2 => ⟨[], [.ep (-2) 0 (-1) 0, .ep 2 0 0 0, .ep 3 0 0 0]⟩
  | .node 7 => ⟨[], [.ep 1 0 4 0]⟩
  | .br 0 => ⟨[], [.ep (-1) 0 (-1) 0]⟩
  | _ => ⟨[], []⟩

theorem exY_lawsTFormal : LawsTFormal exTcs exY :=
  checkLawsT_sound exTcs exY 3 (isOk_eq (by decide +kernel)) (by decide +kernel)

theorem exY_rest : RestWhereUnspecified exTcs exY := by
  intro c hc
  simp only [exTcs, List.mem_cons, List.not_mem_nil, or_false] at hc
  rcases hc with rfl | rfl | rfl <;> trivial

theorem exY_post {P : ExpPoly ℚ → Prop} (h0 : P []) (h1 : P [.ep 5 0 0 0])
    (h2 : P [.ep (-2) 0 (-1) 0, .ep 2 0 0 0, .ep 3 0 0 0]) (h7 : P [.ep 1 0 4 0]) (hb : P [.ep (-1) 0 (-1) 0]) :
    ∀ ix, P (exY ix).post
  | .node 0 | .node 3 | .node 4 | .node 5 | .node 6 | .node (_ + 8) | .br (_ + 1) => h0
  | .node 1 => h1
  | .node 2 => h2
  | .node 7 => h7
  | .br 0 => hb

theorem exY_regular (s : ℚ) (h0 : s ≠ 0) (h1 : s ≠ -1) (h4 : s ≠ 4) : Regular exTcs exY s := by
  have h1' : s + 1 ≠ 0 := fun h => h1 (eq_neg_of_add_eq_zero_left h)
  have h4' : s - 4 ≠ 0 := sub_ne_zero.mpr h4
  refine ⟨exY_post (P := (NonPole · s)) ?_ ?_ ?_ ?_ ?_, (ex_regular s h0 h1).2⟩ <;> simp [h0, h1', h4']

abbrev exU : Ix → Prop := fun i => i = .node 1 ∨ i = .node 2 ∨ i = .br 0

/-- `U` may be taken to be `C01.Unknown …`: the ivp system of the RC example is `C01.Nonsingular` at every s ≠ −1 -/
theorem ex_nonsingular (s : ℚ) (hs : s ≠ -1) : C01.Nonsingular .ivp s (exTcs.map (atS E1 s)) := fun z hz i hi =>
  have hU : (C01.unknowns (stampAll .ivp s (exTcs.map (atS E1 s)))).all (fun i => i = .node 0 ∨ exU i) = true := rfl
  ex_nonsingularOn s hs z hz i ((of_decide_eq_true (List.all_eq_true.mp hU i hi.2)).resolve_left hi.1)

/-- two syntactically different solutions have the same transform at s = 2 on the unknowns of the netlist … -/
theorem nv_response_unique_at : ∀ i, exU i → L E1 (exX i).post 2 = L E1 (exY i).post 2 :=
  response_unique_at E1 isExp_E1 exU exTcs exX exY ex_rest exY_rest
    (formal_lawsT _ _ _ ex_lawsTFormal) (formal_lawsT _ _ _ exY_lawsTFormal) 2 ex_regular2
    (exY_regular 2 (by norm_num) (by norm_num) (by norm_num)) (ex_wf 2) (ex_nonsingularOn 2 (by norm_num))
/-- … but NOT on node 7, which the netlist does not constrain: restricting uniqueness to `U` is necessary -/
example : L E1 (exX (.node 7)).post 2 ≠ L E1 (exY (.node 7)).post 2 := by decide +kernel

/-! `response_is_ilt` on the partial-fraction data of the RC example: V1 = 5/s, V2 = 5/s − 2/(s+1), J = −1/(s+1) -/
def exPfs : Ix → List (PF ℚ)
  | .node 1 => [⟨[], [(5, 0, 1)], 0⟩]
  | .node 2 => [⟨[], [(5, 0, 1), (-2, -1, 1)], 0⟩]
  | .br 0 => [⟨[], [(-1, -1, 1)], 0⟩]
  | _ => []

theorem exPfs_response : (fun ix => (⟨[], response (exPfs ix)⟩ : Signal ℚ)) = exX := by
  funext ix
  match ix with
  | .node 0 => rfl
  | .node 1 => rfl
  | .node 2 => rfl
  | .node (k + 3) => rfl
  | .br 0 => rfl
  | .br (m + 1) => rfl

theorem exPfs_all {P : PF ℚ → Prop} (h1 : P ⟨[], [(5, 0, 1)], 0⟩) (h2 : P ⟨[], [(5, 0, 1), (-2, -1, 1)], 0⟩)
    (hb : P ⟨[], [(-1, -1, 1)], 0⟩) : ∀ ix, ∀ pf ∈ exPfs ix, P pf
  | .node 0, _, h | .node (_ + 3), _, h | .br (_ + 1), _, h => nomatch h
  | .node 1, _, h => List.mem_singleton.mp h ▸ h1
  | .node 2, _, h => List.mem_singleton.mp h ▸ h2
  | .br 0, _, h => List.mem_singleton.mp h ▸ hb

theorem exPfs_pos : ∀ ix, ∀ pf ∈ exPfs ix, ∀ r ∈ pf.R, 0 < r.2.2 :=
  exPfs_all (by simp) (by simp) (by simp)

theorem exPfs_eval (s : ℚ) : (fun ix => lsum ((exPfs ix).map (fun pf => evalPF E1 pf s))) = transformOf E1 exX s := by
  funext ix
  match ix with
  | .node 0 => rfl
  | .node 1 => simp [exPfs, lsum, evalPF, Poly.eval, sumPF, transformOf, exX, L, Term.L, pw]
  | .node 2 => simp [exPfs, lsum, evalPF, Poly.eval, sumPF, transformOf, exX, L, Term.L, pw]
  | .node (k + 3) => rfl
  | .br 0 => simp [exPfs, lsum, evalPF, Poly.eval, sumPF, transformOf, exX, L, Term.L, pw]
  | .br (m + 1) => rfl

theorem nv_response_is_ilt : LawsT E1 exTcs (fun ix => ⟨[], response (exPfs ix)⟩) :=
  response_is_ilt E1 isExp_E1 exTcs (fun _ => []) exPfs exPfs_pos (by rw [exPfs_response]; exact ex_rest) (by
    rw [exPfs_response]
    intro s hs
    rw [exPfs_eval]; exact ex_laws_s_regular s hs)

/-! ### hand-over: `V1 1 0 dc 5 ; R1 1 2 2 ; C1 2 0 1/2` in its dc steady state up to t = 0 (signals `cX` of Props/C02Inj) -/

def hoCs : List (Cpt ℚ × Signal ℚ) :=
  [(.V 1 0 0 0, ⟨[(5, 0, 0)], [.ep 5 0 0 0]⟩), (.R 1 2 2, ⟨[], []⟩), (.Cap 2 0 (1 / 2) none, ⟨[], []⟩)]

/-- the pre-switch dc solution: V(1) = V(2) = 5, no current -/
def hoX : Ix → ℚ
  | .node 1 => 5
  | .node 2 => 5
  | _ => 0

theorem ho_startsFrom : StartsFrom hoX cX := by
  intro ix
  match ix with
  | .node 0 => rfl
  | .node 1 => simp [cX, hoX, pre0]
  | .node 2 => simp [cX, hoX, pre0]
  | .node (k + 3) => rfl
  | .br m => rfl

theorem ho_clear : LawsTFormal (hoCs.map (fun c => (clearIC c.1, c.2))) cX :=
  checkLawsT_sound _ cX 3 (isOk_eq (by decide +kernel)) (by decide +kernel)

/-- `handover`: the circuit with the handed-over initial condition v_C(0⁻) = 5 has the continued solution -/
theorem nv_handover : LawsTFormal (hoCs.map (fun c => (initializeFrom hoX c.1, c.2))) cX :=
  (handover hoX hoCs cX ho_startsFrom).mpr ho_clear
/-- the capacitor of the initialised netlist carries v0 = 5 -/
example : initializeFrom hoX (.Cap 2 0 (1 / 2) none) = .Cap 2 0 (1 / 2) (some 5) := by
  simp [initializeFrom, vd, volt, hoX]

/-- `RestWhereUnspecified` EXCLUDES the whole-axis case "dc source, no initial condition written" (v_C(0⁻) = 5 ≠ 0), which Lcapy
    accepts: the transform-level theorems (`laws_s_of_laws_t`, `laws_t_of_laws_s`, `response_unique*`) do not speak about it
    directly; it is reached through `handover` (initial condition written from the pre-history) only -/
theorem rest_excludes_whole_axis : ¬ RestWhereUnspecified (hoCs.map (fun c => (clearIC c.1, c.2))) cX := by
  intro h
  have := h (.Cap 2 0 (1 / 2) none, ⟨[], []⟩) (by simp [hoCs, clearIC])
  revert this
  simp only []
  decide +kernel
/-- … while the netlist with the handed-over condition satisfies it -/
theorem rest_after_handover : RestWhereUnspecified (hoCs.map (fun c => (initializeFrom hoX c.1, c.2))) cX := by
  intro c hc
  simp only [hoCs, List.map_cons, List.map_nil, initializeFrom, List.mem_cons, List.not_mem_nil, or_false] at hc
  rcases hc with rfl | rfl | rfl <;> trivial

theorem nv_handover_state :
    initializeFrom hoX (.Cap 2 0 (1 / 2) none) = .Cap 2 0 (1 / 2) (some (vpre0 cX 2 0)) ∧
    initializeFrom hoX (.Ind 2 0 1 2 none []) = .Ind 2 0 1 2 (some (pre0 (cX (.br 1)).pre)) [] := by
  simp [initializeFrom, vpre0_of_startsFrom ho_startsFrom, ho_startsFrom _]

/-! ### RL circuit `V1 1 0 step 6 ; R1 1 2 3 ; L1 2 0 2 1` : i_L = 2 − e^{−3t/2} from i_L(0⁻) = 1 -/

def rlTcs : List (TCpt ℚ) :=
  [(.V 1 0 0 0, ⟨[], [.ep 6 0 0 0]⟩), (.R 1 2 3, ⟨[], []⟩), (.Ind 2 0 1 2 (some 1) [], ⟨[], []⟩)]

def rlX : Ix → Signal ℚ
  | .node 1 => ⟨[], [.ep 6 0 0 0]⟩
  | .node 2 => ⟨[], [.ep 3 0 (-3 / 2) 0]⟩
  | .br 0 => ⟨[], [.ep (-2) 0 0 0, .ep 1 0 (-3 / 2) 0]⟩
  | .br 1 => ⟨[], [.ep 2 0 0 0, .ep (-1) 0 (-3 / 2) 0]⟩
  | _ => ⟨[], []⟩

theorem rl_check : checkLawsT rlTcs rlX 3 = .ok := isOk_eq (by decide +kernel)

theorem nv_checkLawsT_ok :
    (∀ k, k ≠ 0 → k < 3 → FormalZero (kclT rlX k rlTcs)) ∧ (∀ c ∈ rlTcs, ∀ p ∈ lawsT rlX c, FormalZero p.2) :=
  checkLawsT_ok rlTcs rlX 3 rl_check

theorem rl_lawsTFormal : LawsTFormal rlTcs rlX :=
  checkLawsT_sound rlTcs rlX 3 rl_check (by decide +kernel)

theorem nv_formal_lawsT : LawsT E1 rlTcs rlX := formal_lawsT E1 rlTcs rlX rl_lawsTFormal

/-! ### initial values -/

theorem ex_noDelta : NoDelta (vpost exX 2 0) := by
  intro t ht
  simp [vpost, subP, voltT, exX, smul, Signal.zero] at ht
  rcases ht with rfl | rfl <;> trivial

theorem nv_ic_start : val0plus (vpost exX 2 0) = 3 :=
  ic_start exX 2 0 (1 / 2) (some 3) [.ep 1 0 (-1) 0] (by norm_num) (by decide +kernel) ex_noDelta (by decide +kernel)

theorem nv_ic_start_inductor : val0plus (rlX (.br 1)).post = 1 :=
  ic_start_inductor rlX 2 0 1 2 (some 1) ⟨[], []⟩ (by norm_num)
    (rl_lawsTFormal.2 (.Ind 2 0 1 2 (some 1) [], ⟨[], []⟩) (by simp [rlTcs]))
    (by intro t ht; simp [rlX] at ht; rcases ht with rfl | rfl <;> trivial) (by decide +kernel)

/-- `ic_start_flux` where BOTH currents jump (1 → 2 and 1 → −1) and the flux linkage does not: 2·(2−1) + 1·(−1−1) = 0 -/
theorem nv_ic_start_flux :
    (2 : ℚ) * (val0plus (cplX (.br 1)).post - stateOf (some 1) (pre0 (cplX (.br 1)).pre)) +
      lsum ([(2, (1 : ℚ), some (1 : ℚ))].map
        (fun p => p.2.1 * (val0plus (cplX (.br p.1)).post - stateOf p.2.2 (pre0 (cplX (.br p.1)).pre)))) = 0 :=
  ic_start_flux cplX 1 0 1 2 (some 1) [(2, 1, some 1)] ⟨[], []⟩
    (by intro p hp; simp [lawsT] at hp; subst hp; decide +kernel)
    (by intro t ht; simp [cplX] at ht; subst ht; trivial)
    (by intro p hp t ht; simp at hp; subst hp; simp [cplX] at ht; subst ht; trivial)
    (by decide +kernel)
example : val0plus (cplX (.br 1)).post = 2 ∧ pre0 (cplX (.br 1)).pre = 1 ∧ val0plus (cplX (.br 2)).post = -1 := by decide +kernel

/-- injectivity of `L E1` on all signals is FALSE for the rational stand-in `E = 1` (a statement assuming it is vacuous
    there); it holds for `Real.exp` (below) -/
theorem vacuous_continuity_of_inj_E1 :
    ¬ ∀ f : ExpPoly ℚ, (∀ s, NonPole f s → L E1 f s = 0) → FormalZero f := by
  intro h
  have := h [.ep 1 0 0 0, .ep (-1) 0 0 1] (fun s _ => by simp [L, Term.L, pw]; ring)
  revert this; decide +kernel

/-! ### pointwise, causality -/

theorem nv_formal_pointwise :
    (∀ k, k ≠ 0 → evalAt E1 (kclT rlX k rlTcs) 1 = 0) ∧ (∀ c ∈ rlTcs, ∀ p ∈ lawsT rlX c, evalAt E1 p.2 1 = 0) :=
  formal_pointwise E1 rlTcs rlX rl_lawsTFormal 1

theorem nv_ilt_causal : Causal (ilt (⟨[1], [(5, 0, 1), (-2, -1, 1)], 2⟩ : PF ℚ)) :=
  ilt_causal_partial _ (by norm_num)

theorem exPfs_T : ∀ ix, ∀ pf ∈ exPfs ix, (0 : ℚ) ≤ pf.T :=
  exPfs_all (le_refl _) (le_refl _) (le_refl _)

theorem nv_causal_response :
    Causal (response (exPfs (.node 2))) ∧ ∀ t, t < 0 → evalAt E1 (response (exPfs (.node 2))) t = 0 :=
  causal_response_partial E1 exPfs exPfs_T (.node 2)

/-! ### witnesses for Props/C02Inj.lean (K = ℚ, stand-in E = 1, no delays) -/

theorem nv_L_injective : FormalZero (subP (exX (.node 2)).post (exY (.node 2)).post) :=
  L_injective E1 isExp_E1 0 _ (by
      intro t ht
      simp [subP, smul, exX, exY] at ht
      rcases ht with rfl | rfl | rfl | rfl | rfl <;> rfl) ∅
    (fun s _ _ => by simp [subP, smul, Term.smul, exX, exY, L, Term.L, pw]; ring)

theorem nv_L_injective_eq (κ : Term ℚ) : coefOf κ (exX (.node 2)).post = coefOf κ (exY (.node 2)).post :=
  L_injective_eq E1 isExp_E1 0 _ _ (ex_delayFree.1 _)
    (by intro t ht; simp [exY] at ht; rcases ht with rfl | rfl | rfl <;> rfl) ∅
    (fun s _ _ _ => by simp [exX, exY, L, Term.L, pw]; ring) κ
example : coefOf (.ep 0 0 0 0) (exY (.node 2)).post = 5 := by decide +kernel

/-- delays and an impulse: u(t−1) + 2δ(t−3) written in two orders -/
def wF : ExpPoly ℚ := subP [.ep 1 0 0 1, .dl 2 0 3] [.dl 2 0 3, .ep 1 0 0 1]

theorem wF_LW (w : ℚ → ℚ) (s : ℚ) : LW w wF s = 0 := by
  simp [wF, subP, smul, Term.smul, LW, Term.LW, pw]; ring

theorem nv_L_injective_w : FormalZero wF := L_injective_w wF ∅ (fun w s _ _ => wF_LW w s)
theorem nv_formalZero_iff_LW : FormalZero wF := (formalZero_iff_LW wF).mpr wF_LW

theorem exY_delayFree : DelayFree exTcs exY := by
  refine ⟨exY_post ?_ ?_ ?_ ?_ ?_, ex_delayFree.2⟩ <;> simp [AllDelay, Term.delayOf]

theorem exY_finitePoles : FinitePoles exTcs exY := by
  refine ⟨{0, -1, 4}, fun s hs => ?_⟩
  simp only [Finset.mem_insert, Finset.mem_singleton, not_or] at hs
  exact exY_regular s hs.1 hs.2.1 hs.2.2

theorem nv_residual_inj : FormalZero (kclT exY 2 exTcs) :=
  residual_inj E1 isExp_E1 exTcs exY (Or.inl exY_delayFree) _ (Or.inl ⟨2, rfl⟩) ∅
    (fun s _ => L_of_formalZero E1 (exY_lawsTFormal.1 2 (by norm_num)) s)

/-- `response_unique` on two DIFFERENT representations (and a different unconstrained node 7): equal as formal signals on `U` -/
theorem nv_response_unique : ∀ i, exU i → FormalZero (subP (exX i).post (exY i).post) :=
  response_unique E1 isExp_E1 exTcs exX exY (Or.inl ex_delayFree) (Or.inl exY_delayFree) ex_finitePoles exY_finitePoles
    ex_rest exY_rest nv_laws_t_of_laws_s (formal_lawsT _ _ _ exY_lawsTFormal) exU {-1}
    (fun s _ => ex_wf s) (fun s hs => ex_nonsingularOn s (by simpa using hs))
/-- … and not outside `U` -/
example : ¬ FormalZero (subP (exX (.node 7)).post (exY (.node 7)).post) := by decide +kernel

theorem rlX_post {P : ExpPoly ℚ → Prop} (h0 : P []) (h1 : P [.ep 6 0 0 0]) (h2 : P [.ep 3 0 (-3 / 2) 0])
    (b0 : P [.ep (-2) 0 0 0, .ep 1 0 (-3 / 2) 0]) (b1 : P [.ep 2 0 0 0, .ep (-1) 0 (-3 / 2) 0]) : ∀ ix, P (rlX ix).post
  | .node 0 | .node (_ + 3) | .br (_ + 2) => h0
  | .node 1 => h1
  | .node 2 => h2
  | .br 0 => b0
  | .br 1 => b1

theorem rlTcs_post {P : ExpPoly ℚ → Prop} (h0 : P []) (h1 : P [.ep 6 0 0 0]) : ∀ c ∈ rlTcs, P c.2.post := by
  simp [rlTcs, h0, h1]

theorem nv_lawsT_iff_formal : LawsT E1 rlTcs rlX ↔ LawsTFormal rlTcs rlX :=
  lawsT_iff_formal E1 isExp_E1 rlTcs rlX
    (Or.inl (by refine ⟨rlX_post ?_ ?_ ?_ ?_ ?_, rlTcs_post ?_ ?_⟩ <;> simp [AllDelay, Term.delayOf]))
    ⟨{0, -3 / 2}, fun s hs => by
      simp only [Finset.mem_insert, Finset.mem_singleton, not_or] at hs
      have h1 : s - -3 / 2 ≠ 0 := sub_ne_zero.mpr hs.2
      refine ⟨rlX_post (P := (NonPole · s)) ?_ ?_ ?_ ?_ ?_, rlTcs_post (P := (NonPole · s)) ?_ ?_⟩ <;> simp [hs.1, h1]⟩

theorem nv_lawsTW_iff_formal : LawsTW exTcs exY := (lawsTW_iff_formal exTcs exY exY_finitePoles).mpr exY_lawsTFormal

/-- `lawsTFormal_of_laws_s` with the s-domain laws COMPUTED (`ex_laws_s`), not derived from the conclusion:
    s-domain solution ⇒ formal time-domain laws -/
theorem nv_lawsTFormal_of_laws_s : LawsTFormal exTcs exX :=
  lawsTFormal_of_laws_s E1 isExp_E1 exTcs exX (Or.inl ex_delayFree) ex_finitePoles ex_rest {0, -1}
    (fun s hs _ => by
      simp only [Finset.mem_insert, Finset.mem_singleton, not_or] at hs
      exact ex_laws_s s hs.1 hs.2)

/-- `continuity` on a whole-axis solution that MOVES: source 5 for t < 0, 8 for t > 0; v_C = 8 − 3e^{−t}, i_C = (3/2)e^{−t};
    v_C(0⁺) = 5 = v_C(0⁻) -/
def qX : Ix → Signal ℚ
  | .node 1 => ⟨[(5, 0, 0)], [.ep 8 0 0 0]⟩
  | .node 2 => ⟨[(5, 0, 0)], [.ep 8 0 0 0, .ep (-3) 0 (-1) 0]⟩
  | _ => ⟨[], []⟩

theorem nv_continuity : val0plus (vpost qX 2 0) = vpre0 qX 2 0 := by
  have hz : FormalZero (subP ([.ep (3 / 2) 0 (-1) 0] : ExpPoly ℚ) (capCurrentT qX 2 0 (1 / 2) none)) := by decide +kernel
  refine continuity E1 isExp_E1 qX 2 0 (1 / 2) [.ep (3 / 2) 0 (-1) 0] (by norm_num) ?_ ?_ ∅
    (fun s _ _ => L_of_formalZero _ hz s) ?_ (by decide +kernel)
  · intro ix t ht
    match ix with
    | .node 0 => simp [qX] at ht
    | .node 1 => simp [qX] at ht; subst ht; rfl
    | .node 2 => simp [qX] at ht; rcases ht with rfl | rfl <;> rfl
    | .node (k + 3) => simp [qX] at ht
    | .br m => simp [qX] at ht
  · intro t ht; simp at ht; subst ht; rfl
  · intro t ht
    simp [vpost, subP, voltT, qX, smul, Signal.zero] at ht
    rcases ht with rfl | rfl <;> trivial
example : vpre0 qX 2 0 = 5 := by decide +kernel

/-! ### `val0plus` and non-causal `post` parts (class-e remark on `ic_start*`, `continuity*`) -/

/-- `val0plus` is the value at 0⁺ only for CAUSAL signals: a term with a negative delay is ignored -/
example : val0plus ([.ep 1 0 0 (-1)] : ExpPoly ℚ) = 0 ∧ evalAt E1 [.ep 1 0 0 (-1)] 0 = 1 := by decide +kernel

/-- a `post` part with a step that began at t = −1 (not `Causal`) -/
def ncX : Ix → Signal ℚ
  | .node 2 => ⟨[], [.ep 3 0 0 0, .ep 7 0 0 (-1)]⟩
  | _ => ⟨[], []⟩

/-- all hypotheses of `ic_start` hold, it concludes `val0plus = 3 = v0`, yet the pointwise value at t = 0 is 10:
    without `Causal (vpost …)` the conclusion is not "the voltage at 0⁺" -/
theorem ic_start_noncausal :
    val0plus (vpost ncX 2 0) = 3 ∧ evalAt E1 (vpost ncX 2 0) 0 = 10 :=
  ⟨ic_start ncX 2 0 1 (some 3) (capCurrentT ncX 2 0 1 (some 3)) one_ne_zero (by decide +kernel)
      (by intro t ht; simp [vpost, subP, voltT, ncX, smul, Signal.zero] at ht; rcases ht with rfl | rfl <;> trivial)
      (by decide +kernel),
   by decide +kernel⟩

/-! ## §2 ℝ, the real exponential -/

/-- whole-axis solution over ℝ -/
noncomputable def wX : Ix → Signal ℝ
  | .node 1 => ⟨[(5, 0, 0)], [.ep 8 0 0 0]⟩
  | .node 2 => ⟨[(5, 0, 0)], [.ep 8 0 0 0, .ep (-3) 0 (-1) 0]⟩
  | _ => ⟨[], []⟩

noncomputable def wI : ExpPoly ℝ := [.ep (3 / 2) 0 (-1) 0]

theorem w_noDelta : NoDelta (vpost wX 2 0) := by
  intro t ht
  simp [vpost, subP, voltT, wX, smul, Signal.zero] at ht
  rcases ht with rfl | rfl <;> trivial

theorem w_law (s : ℝ) (hs : NonPole (subP wI (capCurrentT wX 2 0 (1 / 2) none)) s) :
    L Real.exp (subP wI (capCurrentT wX 2 0 (1 / 2) none)) s = 0 := by
  have h1 : s - -1 ≠ 0 := hs (.ep (3 / 2) 0 (-1) 0) (by simp [subP, wI])
  have h1' : s + 1 ≠ 0 := by simpa using h1
  simp [subP, wI, capCurrentT, stateDeriv, stateOf, vpre0, vpost, voltT, wX, Signal.zero, pre0, smul, Term.smul,
    Laplace.deriv, Term.deriv, L, Term.L, pw]
  field_simp
  ring

/-- continuity from injectivity over ℝ: `ic_start` + `L_injective_real` -/
theorem nv_continuity_of_inj : val0plus (vpost wX 2 0) = vpre0 wX 2 0 :=
  ic_start wX 2 0 (1 / 2) none wI (by norm_num)
    (L_injective_real _ ∅ (fun s _ hs => w_law s hs)) w_noDelta (by simp [impulse0, wI, coefOf, sameKey])
example : vpre0 wX 2 0 = 5 := by simp [vpre0, voltT, wX, pre0, Signal.zero]

/-- formal zero over ℝ obtained from the transform-level law by `L_injective_real` -/
theorem w_formal : FormalZero (subP wI (capCurrentT wX 2 0 (1 / 2) none)) :=
  L_injective_real _ ∅ (fun s _ hs => w_law s hs)

theorem w_delays (t : ℝ) (ht : t ≠ 0) : ∀ y ∈ vpost wX 2 0, t ≠ y.delayOf := by
  intro y hy
  simp [vpost, subP, voltT, wX, smul, Signal.zero] at hy
  rcases hy with rfl | rfl <;> simpa [Term.delayOf] using ht

theorem nv_deriv_is_classical :
    HasDerivAt (fun τ => evalAt Real.exp (vpost wX 2 0) τ) (evalAt Real.exp (Laplace.deriv (vpost wX 2 0)) 1) 1 :=
  deriv_is_classical (vpost wX 2 0) 1 (w_delays 1 one_ne_zero)

/-- `i_C(t) = C · dv_C/dt` in the classical sense at t = 1 (and at every t ≠ 0) for the whole-axis RC solution -/
theorem nv_cap_ode_real (t : ℝ) (ht : t ≠ 0) :
    ∃ v' : ℝ, HasDerivAt (fun τ => evalAt Real.exp (vpost wX 2 0) τ) v' t ∧ evalAt Real.exp wI t = 1 / 2 * v' :=
  cap_ode_real wX 2 0 (1 / 2) none wI w_formal t (w_delays t ht)

theorem nv_cap_pointwise (t : ℝ) :
    evalAt Real.exp wI t = 1 / 2 * evalAt Real.exp (Laplace.deriv (vpost wX 2 0)) t :=
  cap_pointwise Real.exp wX 2 0 (1 / 2) none wI w_formal t

/-! delayed step over ℝ: `V1 1 0 5·u(t−1) ; R1 1 2 2 ; C1 2 0 1/2` at rest -/
noncomputable def dTcs : List (TCpt ℝ) :=
  [(.V 1 0 0 0, ⟨[], [.ep 5 0 0 1]⟩), (.R 1 2 2, ⟨[], []⟩), (.Cap 2 0 (1 / 2) none, ⟨[], []⟩)]

noncomputable def dX : Ix → Signal ℝ
  | .node 1 => ⟨[], [.ep 5 0 0 1]⟩
  | .node 2 => ⟨[], [.ep 5 0 0 1, .ep (-5) 0 (-1) 1]⟩
  | .br 0 => ⟨[], [.ep (-5 / 2) 0 (-1) 1]⟩
  | _ => ⟨[], []⟩

/-- the same response with the terms of V(2) in the other order -/
noncomputable def dY : Ix → Signal ℝ
  | .node 1 => ⟨[], [.ep 5 0 0 1]⟩
  | .node 2 => ⟨[], [.ep (-5) 0 (-1) 1, .ep 5 0 0 1]⟩
  | .br 0 => ⟨[], [.ep (-5 / 2) 0 (-1) 1]⟩
  | _ => ⟨[], []⟩

theorem d_regular (s : ℝ) (h0 : s ≠ 0) (h1 : s ≠ -1) : Regular dTcs dX s := by
  have h0' : s - 0 ≠ 0 := by simpa using h0
  have h1' : s - -1 ≠ 0 := sub_ne_zero.mpr h1
  constructor
  · intro ix t ht
    match ix with
    | .node 0 => simp [dX] at ht
    | .node 1 => simp [dX] at ht; subst ht; exact h0'
    | .node 2 => simp [dX] at ht; rcases ht with rfl | rfl; exact h0'; exact h1'
    | .node (k + 3) => simp [dX] at ht
    | .br 0 => simp [dX] at ht; subst ht; exact h1'
    | .br (m + 1) => simp [dX] at ht
  · intro c hc t ht
    simp only [dTcs, List.mem_cons, List.not_mem_nil, or_false] at hc
    rcases hc with rfl | rfl | rfl <;> simp at ht
    subst ht; exact h0'

theorem d_finitePoles : FinitePoles dTcs dX := by
  refine ⟨{0, -1}, fun s hs => ?_⟩
  simp only [Finset.mem_insert, Finset.mem_singleton, not_or] at hs
  exact d_regular s hs.1 hs.2

theorem d_laws_s (s : ℝ) (h0 : s ≠ 0) (h1 : s + 1 ≠ 0) :
    Laws .ivp s (dTcs.map (atS Real.exp s)) (transformOf Real.exp dX s) := by
  apply rc_laws <;> simp [transformOf, dX, L, Term.L, pw, capCurrent] <;> field_simp <;> ring

theorem d_rest : RestWhereUnspecified dTcs dX := by
  intro c hc
  simp only [dTcs, List.mem_cons, List.not_mem_nil, or_false] at hc
  rcases hc with rfl | rfl | rfl <;> simp [vpre0, voltT, dX, pre0, Signal.zero]

theorem d_lawsT : LawsT Real.exp dTcs dX :=
  laws_t_of_laws_s _ isExp_real dTcs dX d_rest fun s hs =>
    d_laws_s s (by simpa using hs.1 (.node 1) (.ep 5 0 0 1) (by simp [dX]))
      (by simpa using hs.1 (.br 0) (.ep (-5 / 2) 0 (-1) 1) (by simp [dX]))

/-- `lawsT_iff_formal_real`: the DELAYED response obeys the laws formally (over ℝ, real exponential) -/
theorem nv_lawsT_iff_formal_real : LawsTFormal dTcs dX := (lawsT_iff_formal_real dTcs dX d_finitePoles).mp d_lawsT

theorem dY_eq : ∀ ix, ix ≠ .node 2 → dY ix = dX ix
  | .node 2, h => absurd rfl h
  | .node 0, _ | .node 1, _ | .node (k + 3), _ | .br 0, _ | .br (m + 1), _ => rfl

theorem dY_transform (s : ℝ) : transformOf Real.exp dY s = transformOf Real.exp dX s := by
  funext ix
  by_cases h : ix = .node 2
  · subst h; simp only [transformOf, dX, dY, L_cons, L_nil]; ring
  · simp only [transformOf, dY_eq ix h]

theorem dY_regular_iff (s : ℝ) : Regular dTcs dY s ↔ Regular dTcs dX s := by
  refine and_congr_left' (forall_congr' fun ix => ?_)
  by_cases h : ix = .node 2
  · subst h; simp [dX, dY, and_comm]
  · rw [dY_eq ix h]

theorem dY_finitePoles : FinitePoles dTcs dY :=
  d_finitePoles.imp fun _ h s hs => (dY_regular_iff s).mpr (h s hs)

theorem dY_rest : RestWhereUnspecified dTcs dY := by
  intro c hc
  simp only [dTcs, List.mem_cons, List.not_mem_nil, or_false] at hc
  rcases hc with rfl | rfl | rfl <;> simp [vpre0, voltT, dY, pre0, Signal.zero]

theorem dY_lawsT : LawsT Real.exp dTcs dY :=
  laws_t_of_laws_s _ isExp_real dTcs dY dY_rest fun s hs => by
    rw [dY_transform]
    exact laws_s_of_laws_t _ isExp_real dTcs dX d_rest d_lawsT s ((dY_regular_iff s).mp hs)

abbrev dU : Ix → Prop := fun i => i = .node 1 ∨ i = .node 2 ∨ i = .br 0

theorem d_nonsingularOn (s : ℝ) (hs : s ≠ -1) :
    C01.NonsingularOn dU .ivp s (dTcs.map (atS Real.exp s)) :=
  rc_nonsingularOn s _ _ (fun h => hs (eq_neg_of_add_eq_zero_left h)) two_ne_zero

theorem d_wf (s : ℝ) : C01.WF (dTcs.map (atS Real.exp s)) := by
  simp [C01.WF, dTcs, atS, owned]

/-- `response_unique_real` on two syntactically different DELAYED responses -/
theorem nv_response_unique_real : ∀ i, dU i → FormalZero (subP (dX i).post (dY i).post) :=
  response_unique_real dTcs dX dY d_finitePoles dY_finitePoles d_rest dY_rest d_lawsT dY_lawsT dU {-1}
    (fun s _ => d_wf s) (fun s hs => d_nonsingularOn s (by simpa using hs))

theorem nv_L_injective_real : FormalZero (subP (dX (.node 2)).post (dY (.node 2)).post) :=
  L_injective_real _ ∅ (fun s _ _ => by
    simp [subP, smul, Term.smul, dX, dY, L, Term.L, pw]; ring)

/-- `L_injective_delay` with the only known instance of `DelayIndep` -/
example : FormalZero (subP (dX (.node 2)).post (dY (.node 2)).post) :=
  L_injective_delay Real.exp isExp_real delayIndep_real _ ∅ (fun s _ _ => by
    simp [subP, smul, Term.smul, dX, dY, L, Term.L, pw]; ring)

theorem nv_delaysOK_real : DelaysOK Real.exp dTcs dX := delaysOK_real dTcs dX

end Lcapy.NonVacuity.C02
