/-
  PROPERTY C07, two-port part: the section formulas and the way the `TwoPort` subclasses build
  their B matrix / source vector describe the physical networks (Spec/Sections.lean), for all
  element values.  The `A_*`, `B_*`, `Z_*`, `TP_*` definitions are GENERATED from twoport.py
  (Generated/TwoPort.lean by tx_twoport, Generated/Sections.lean by tx_sections).
-/
import Lcapy.Spec.Sections
import Lcapy.Generated.Sections
import Lcapy.Props.C08
namespace Lcapy.C07
open Lcapy Lcapy.Spec Lcapy.Gen Lcapy.TwoPort
variable {K : Type} [Field K]

/-! ## 1. Elements -/

/-- a series one-port with Thévenin form v = Voc + Z i (its + terminal at the output side) is the B model with
    matrix `B_Zseries Z` and source vector (Voc, 0): V2 = V1 − Z I1 + Voc -/
theorem series_elem (R : K → K → Prop) (Z Voc : K) (hR : ∀ v i, R v i ↔ v = Voc + Z * i) (p : Port K) :
    SeriesElem R p ↔ relBs (B_Zseries Z) Voc 0 p := by
  obtain ⟨V1, I1, V2, I2⟩ := p
  simp only [SeriesElem, relBs, B_Zseries, hR]
  constructor
  · rintro ⟨h1, h2⟩; exact ⟨by linear_combination h2, by linear_combination -h1⟩
  · rintro ⟨e1, e2⟩; exact ⟨by linear_combination -e2, by linear_combination e1⟩

theorem relBs_zero (m : M2 K) (Z0 : K) (p : Port K) : relBs m 0 0 p ↔ rel .B m Z0 p := by
  simp only [relBs, rel, lin, add_zero]

/-- **Series_matrix**: the parameter matrix built by `Series(OP)` is that of the physical element
    (sources dead: Voc = 0) -/
theorem Series_matrix (R : K → K → Prop) (op : OneP K) (hR : ∀ v i, R v i ↔ v = op.Z * i)
    (Z0 : K) (p : Port K) : SeriesElem R p ↔ rel .B (TP_Series op).B Z0 p :=
  (series_elem R op.Z 0 (by simpa only [zero_add] using hR) p).trans (relBs_zero _ Z0 p)

/-- **Series_sources**: matrix AND source vector built by `Series(OP)` are those of the physical element as its
    netlist draws it.  (Before the repair of finding C07-d the generated netlist had the one-port the other way
    round and only a sign-flipped `…_partial` version held.) -/
theorem Series_sources (R : K → K → Prop) (op : OneP K)
    (hR : ∀ v i, R v i ↔ v = op.Voc + op.Z * i) (p : Port K) :
    SeriesElem R p ↔ relBs (TP_Series op).B (TP_Series op).V2b (TP_Series op).I2b p := by
  simpa [TP_Series] using series_elem R op.Z op.Voc hR p

/-- **SeriesAlt_sources**: matrix and source vector built by `SeriesAlt(OP)` (generated `TP_SeriesAlt`) are those of the
    one-port drawn in the bottom rail -/
theorem SeriesAlt_sources (R : K → K → Prop) (op : OneP K)
    (hR : ∀ v i, R v i ↔ v = op.Voc + op.Z * i) (p : Port K) :
    SeriesAltElem R p ↔ relBs (TP_SeriesAlt op).B (TP_SeriesAlt op).V2b (TP_SeriesAlt op).I2b p :=
  Series_sources R op hR p

/-- **Shunt_sound**: matrix and source vector built by `Shunt(OP)` are those of the physical
    element with Norton form i = Y v − Isc -/
theorem Shunt_sound (R : K → K → Prop) (op : OneP K) (hR : ∀ v i, R v i ↔ i = op.Y * v - op.Isc)
    (p : Port K) : ShuntElem R p ↔ relBs (TP_Shunt op).B (TP_Shunt op).V2b (TP_Shunt op).I2b p := by
  obtain ⟨V1, I1, V2, I2⟩ := p
  simp only [ShuntElem, relBs, TP_Shunt, B_Yshunt, hR]
  constructor
  · rintro ⟨h1, h2⟩; exact ⟨by linear_combination h1, by linear_combination -h2⟩
  · rintro ⟨e1, e2⟩; exact ⟨by linear_combination e1, by linear_combination -e2⟩

/-- **Gyrator_sound**: `IdealGyrator(R)` (non-reciprocal: Z12 = −Z21) is the two-port with
    V2 = R·I1 and V1 = −R·I2 -/
theorem Gyrator_sound (R Z0 : K) (hR : R ≠ 0) (p : Port K) :
    (p.V2 = R * p.I1 ∧ p.V1 = -(R * p.I2)) ↔ rel .B (TP_IdealGyrator R).B Z0 p := by
  obtain ⟨V1, I1, V2, I2⟩ := p
  simp only [rel, lin, TP_IdealGyrator, B_gyrator]
  constructor <;> (rintro ⟨e1, e2⟩; constructor <;> grind)

/-! ## 2. Chain: matrices multiply and source vectors accumulate -/

/-- **chain_sources**: the (B, V2b, I2b) that `Chain.__init__` accumulates is the composition of
    the two stage relations -/
theorem chain_sources (a b : TPB K) (p q r : Port K) (hc : CascadeP p q r)
    (ha : relBs a.B a.V2b a.I2b p) (hb : relBs b.B b.V2b b.I2b q) :
    relBs (TP_Chain a b).B (TP_Chain a b).V2b (TP_Chain a b).I2b r := by
  obtain ⟨V1, I1, V2, I2⟩ := p
  obtain ⟨V1', I1', V2', I2'⟩ := q
  obtain ⟨V1'', I1'', V2'', I2''⟩ := r
  simp only [CascadeP] at hc
  obtain ⟨c1, c2, c3, c4, c5, c6⟩ := hc
  simp only [relBs, TP_Chain, mulVec, M2.mul] at *
  obtain ⟨h1, h2⟩ := ha
  obtain ⟨h3, h4⟩ := hb
  constructor <;> grind

/-- conversely every behaviour of the chain comes from an intermediate port -/
theorem chain_sources_complete (a b : TPB K) (r : Port K)
    (h : relBs (TP_Chain a b).B (TP_Chain a b).V2b (TP_Chain a b).I2b r) :
    ∃ p q, CascadeP p q r ∧ relBs a.B a.V2b a.I2b p ∧ relBs b.B b.V2b b.I2b q := by
  obtain ⟨V1, I1, V2, I2⟩ := r
  simp only [relBs, TP_Chain, mulVec, M2.mul] at h
  obtain ⟨h1, h2⟩ := h
  refine ⟨⟨V1, I1, a.B.a11 * V1 + a.B.a12 * I1 + a.V2b, -(a.B.a21 * V1 + a.B.a22 * I1 + a.I2b)⟩,
          ⟨a.B.a11 * V1 + a.B.a12 * I1 + a.V2b, a.B.a21 * V1 + a.B.a22 * I1 + a.I2b, V2, I2⟩, ?_, ?_, ?_⟩
  · simp [CascadeP]
  · simp [relBs]
  · simp only [relBs]; constructor <;> grind

/- (`TwoPort.chain` puts `self` first: `Gen.chainOrder` is a literal printed by tx_sections and checked by the translator,
   not a theorem; the order is what `TP_LSection`, `TP_TSection`, `TP_Ladder_go` … are generated with.) -/

/-! ## 3. Section formulas -/

/-- **A_Lsection_sound** (classmethod `AMatrix.Lsection`, a chain of Zseries and Zshunt) -/
theorem A_Lsection_sound (Z1 Z2 Z0 : K) (h2 : Z2 ≠ 0) (p : Port K) :
    LNet Z1 Z2 p ↔ rel .A (A_Lsection Z1 Z2) Z0 p := by
  obtain ⟨V1, I1, V2, I2⟩ := p
  simp only [LNet, rel, lin, A_Lsection, A_chain, A_Zseries, A_Zshunt, M2.mul]
  constructor <;> (rintro ⟨h1, h2⟩; constructor <;> grind)

theorem A_Tsection_sound (Z1 Z2 Z3 Z0 : K) (h2 : Z2 ≠ 0) (p : Port K) :
    TNet Z1 Z2 Z3 p ↔ rel .A (A_Tsection Z1 Z2 Z3) Z0 p := by
  obtain ⟨V1, I1, V2, I2⟩ := p
  simp only [TNet, rel, lin, A_Tsection, A_Lsection, A_chain, A_Zseries, A_Zshunt, M2.mul]
  constructor
  · rintro ⟨vm, h1, h3, h4⟩; constructor <;> grind
  · rintro ⟨h1, h3⟩; exact ⟨V2 - Z3 * I2, by grind, by grind, by grind⟩

theorem A_Pisection_sound (Z1 Z2 Z3 Z0 : K) (h1 : Z1 ≠ 0) (h3 : Z3 ≠ 0) (p : Port K) :
    PiNet Z1 Z2 Z3 p ↔ rel .A (A_Pisection Z1 Z2 Z3) Z0 p := by
  obtain ⟨V1, I1, V2, I2⟩ := p
  simp only [PiNet, rel, lin, A_Pisection, A_Lsection, A_chain, A_Zseries, A_Zshunt, M2.mul]
  constructor
  · rintro ⟨is, e1, e2, e3⟩; constructor <;> grind
  · rintro ⟨e1, e2⟩; exact ⟨V2 / Z3 - I2, by grind, by grind, by grind⟩

/-- **Z_Tsection_sound** (`ZMatrix.Tsection`), no side condition -/
theorem Z_Tsection_sound (Z1 Z2 Z3 Z0 : K) (p : Port K) :
    TNet Z1 Z2 Z3 p ↔ rel .Z (Z_Tsection Z1 Z2 Z3) Z0 p := by
  obtain ⟨V1, I1, V2, I2⟩ := p
  simp only [TNet, rel, lin, Z_Tsection]
  constructor
  · rintro ⟨vm, h1, h3, h4⟩; constructor <;> grind
  · rintro ⟨h1, h3⟩; exact ⟨Z2 * (I1 + I2), by grind, by grind, rfl⟩

/-- **B_Lsection_chain / B_Tsection_chain**: the closed forms of `BMatrix.Lsection/Tsection` equal
    the chains of the generated series / shunt B matrices (their commented-out bodies).
    (False before the repair of finding C07-e, when B11 and B22 were exchanged.) -/
theorem B_Lsection_chain (Z1 Z2 : K) :
    B_Lsection Z1 Z2 = B_chain (B_Zseries Z1) (B_Zshunt Z2) := by
  simp only [B_Lsection, B_chain, B_Zshunt, B_Zseries, M2.mul, M2.mk.injEq]
  refine ⟨?_, ?_, ?_, ?_⟩ <;> ring

theorem B_Tsection_chain (Z1 Z2 Z3 : K) :
    B_Tsection Z1 Z2 Z3 = B_chain (B_chain (B_Zseries Z1) (B_Zshunt Z2)) (B_Zseries Z3) := by
  simp only [B_Tsection, B_Lsection, B_chain, B_Zshunt, B_Zseries, M2.mul, M2.mk.injEq]
  refine ⟨?_, ?_, ?_, ?_⟩ <;> ring

/-- what the class `PiSection` builds (chain of `Shunt`, `Series`, `Shunt`): -/
theorem PiSection_sound (op1 op2 op3 : OneP K) (Z0 : K) (p : Port K) :
    PiNetY op1.Y op2.Z op3.Y p ↔ rel .B (TP_PiSection op1 op2 op3).B Z0 p := by
  obtain ⟨V1, I1, V2, I2⟩ := p
  simp only [PiNetY, rel, lin, TP_PiSection, TP_Chain, TP_Series, TP_Shunt, B_Zseries, B_Yshunt, M2.mul, mulVec]
  constructor
  · rintro ⟨is, e1, e2, e3⟩; constructor <;> grind
  · rintro ⟨e1, e2⟩; exact ⟨I1 - op1.Y * V1, by grind, by grind, by grind⟩

/-- **LSection_sound / TSection_sound**: the matrices the classes `LSection`, `TSection` build
    (chains of `Series` and `Shunt`) describe the physical networks -- no side condition -/
theorem LSection_sound (op1 op2 : OneP K) (Z0 : K) (p : Port K) :
    LNetY op1.Z op2.Y p ↔ rel .B (TP_LSection op1 op2).B Z0 p := by
  obtain ⟨V1, I1, V2, I2⟩ := p
  simp only [LNetY, rel, lin, TP_LSection, TP_Chain, TP_Series, TP_Shunt, B_Zseries, B_Yshunt, M2.mul, mulVec]
  constructor
  · rintro ⟨h1, h2⟩; exact ⟨by linear_combination -h1, by linear_combination op2.Y * h1 - h2⟩
  · rintro ⟨e1, e2⟩; exact ⟨by linear_combination -e1, by linear_combination -op2.Y * e1 - e2⟩

theorem TSection_sound (op1 op2 op3 : OneP K) (Z0 : K) (p : Port K) :
    TNetY op1.Z op2.Y op3.Z p ↔ rel .B (TP_TSection op1 op2 op3).B Z0 p := by
  obtain ⟨V1, I1, V2, I2⟩ := p
  simp only [TNetY, rel, lin, TP_TSection, TP_Chain, TP_Series, TP_Shunt, B_Zseries, B_Yshunt, M2.mul, mulVec]
  constructor
  · rintro ⟨vm, e1, e3, e4⟩; constructor <;> grind
  · rintro ⟨e1, e3⟩; exact ⟨V1 - op1.Z * I1, by grind, by grind, by grind⟩

theorem B_Zshunt_eq (Z : K) : B_Zshunt Z = B_Yshunt (1 / Z) := by
  simp only [B_Zshunt, B_Yshunt, neg_div]

theorem imp_iff_adm {Z : K} (h : Z ≠ 0) (v i : K) : v = Z * i ↔ i = 1 / Z * v := by
  rw [one_div_mul_eq_div, eq_div_iff h, mul_comm, eq_comm]

/-- the mirrored chain describes the L network seen from port 2 -/
theorem B_chain_mirrored_Lsection_sound (Z1 Z2 Z0 : K) (h2 : Z2 ≠ 0) (p : Port K) :
    LNet Z1 Z2 (mirror p) ↔ rel .B (B_chain (B_Zshunt Z2) (B_Zseries Z1)) Z0 p := by
  obtain ⟨V1, I1, V2, I2⟩ := p
  simp only [LNet, mirror, rel, lin, B_chain, B_Zseries, B_Zshunt, M2.mul]
  constructor <;> (rintro ⟨e1, e2⟩; constructor <;> grind)

/-- the chains that are right: what `B_Lsection`/`B_Tsection` are documented to be (their
    commented-out bodies) describe the L and T networks: they are the matrices of the classes with the shunt
    impedance written as an admittance -/
theorem B_chain_Lsection_sound (Z1 Z2 Z0 : K) (h2 : Z2 ≠ 0) (p : Port K) :
    LNet Z1 Z2 p ↔ rel .B (B_chain (B_Zseries Z1) (B_Zshunt Z2)) Z0 p := by
  rw [B_Zshunt_eq]
  exact (and_congr_right' (imp_iff_adm h2 _ _)).trans (LSection_sound ⟨Z1, 0, 0, 0⟩ ⟨0, 1 / Z2, 0, 0⟩ Z0 p)

theorem B_chain_Tsection_sound (Z1 Z2 Z3 Z0 : K) (h2 : Z2 ≠ 0) (p : Port K) :
    TNet Z1 Z2 Z3 p ↔ rel .B (B_chain (B_chain (B_Zseries Z1) (B_Zshunt Z2)) (B_Zseries Z3)) Z0 p := by
  rw [B_Zshunt_eq]
  exact (exists_congr fun vm => and_congr_right' (and_congr_right' (imp_iff_adm h2 _ _))).trans
    (TSection_sound ⟨Z1, 0, 0, 0⟩ ⟨0, 1 / Z2, 0, 0⟩ ⟨Z3, 0, 0, 0⟩ Z0 p)

/-- **B_Lsection_sound / B_Tsection_sound / B_Pisection_sound**: they describe the physical networks -/
theorem B_Lsection_sound (Z1 Z2 Z0 : K) (h2 : Z2 ≠ 0) (p : Port K) :
    LNet Z1 Z2 p ↔ rel .B (B_Lsection Z1 Z2) Z0 p := by
  rw [B_Lsection_chain]; exact B_chain_Lsection_sound Z1 Z2 Z0 h2 p

theorem B_Tsection_sound (Z1 Z2 Z3 Z0 : K) (h2 : Z2 ≠ 0) (p : Port K) :
    TNet Z1 Z2 Z3 p ↔ rel .B (B_Tsection Z1 Z2 Z3) Z0 p := by
  rw [B_Tsection_chain]; exact B_chain_Tsection_sound Z1 Z2 Z3 Z0 h2 p

theorem B_Pisection_sound (Z1 Z2 Z3 Z0 : K) (h1 : Z1 ≠ 0) (h3 : Z3 ≠ 0) (p : Port K) :
    PiNet Z1 Z2 Z3 p ↔ rel .B (B_Pisection Z1 Z2 Z3) Z0 p := by
  rw [B_Pisection, B_Lsection_chain, ← C08.B_chain_assoc, B_Zshunt_eq, B_Zshunt_eq]
  exact (exists_congr fun is => and_congr_right' (and_congr (imp_iff_adm h1 _ _) (imp_iff_adm h3 _ _))).trans
    (PiSection_sound ⟨0, 1 / Z1, 0, 0⟩ ⟨Z2, 0, 0, 0⟩ ⟨0, 1 / Z3, 0, 0⟩ Z0 p)

/-- the class route and the A classmethods agree: `TSection.Bparams` is the inverse chain of
    `AMatrix.Tsection` -/
theorem TSection_vs_A (op1 op2 op3 : OneP K) (h : op2.Y ≠ 0) :
    M2.mul (TP_TSection op1 op2 op3).B (A_Tsection op1.Z (1 / op2.Y) op3.Z) = ⟨1, 0, 0, 1⟩ := by
  simp only [TP_TSection, TP_Chain, TP_Series, TP_Shunt, B_Zseries, B_Yshunt, A_Tsection, A_Lsection, A_chain,
    A_Zseries, A_Zshunt, M2.mul, M2.mk.injEq, one_div_one_div]
  refine ⟨?_, ?_, ?_, ?_⟩ <;> ring

/-! ## 4. Ladder = alternating chain of Series and Shunt stages (any length) -/

/-- the stage `Ladder.__init__` appends at position m of `args` -/
def ladderStage (m : Nat) (a : OneP K) : TPB K := if m % 2 = 1 then TP_Series a else TP_Shunt a

/-- left fold of `Chain` over a list of stages -/
def chainAll (tp : TPB K) : List (TPB K) → TPB K
  | [] => tp
  | x :: t => chainAll (TP_Chain tp x) t

def stagesFrom (m : Nat) : List (OneP K) → List (TPB K)
  | [] => []
  | a :: t => ladderStage m a :: stagesFrom (m + 1) t

theorem ladder_go_chain (tp : TPB K) (m : Nat) (args : List (OneP K)) :
    TP_Ladder_go tp m args = chainAll tp (stagesFrom m args) := by
  induction args generalizing tp m with
  | nil => rfl
  | cons a t ih =>
    simp only [TP_Ladder_go, stagesFrom, chainAll, ladderStage]
    rw [ih]
    split <;> rfl

/-- **ladder_chain**: `Ladder(OP1, *args)` is `Series(OP1)` chained with Shunt, Series, Shunt, … -/
theorem ladder_chain (op1 : OneP K) (args : List (OneP K)) :
    TP_Ladder op1 args = chainAll (TP_Series op1) (stagesFrom 0 args) :=
  ladder_go_chain _ 0 args

/-- physical ladder, read off the drawing: after the part already built (port relation `P`), each
    further element is cascaded as a series (odd m) or shunt (even m) element -/
def LadderPhys (m : Nat) : List (OneP K) → (Port K → Prop) → Port K → Prop
  | [], P, r => P r
  | a :: t, P, r =>
      LadderPhys (m + 1) t (fun r' => ∃ p q, CascadeP p q r' ∧ P p ∧
        (if m % 2 = 1 then SeriesElem (impRel a.Z) q else ShuntElem (admRel a.Y) q)) r

theorem stage_sound (m : Nat) (a : OneP K) (Z0 : K) (q : Port K)
    (h : if m % 2 = 1 then SeriesElem (impRel a.Z) q else ShuntElem (admRel a.Y) q) :
    rel .B (ladderStage m a).B Z0 q := by
  obtain ⟨V1, I1, V2, I2⟩ := q
  unfold ladderStage
  split at h <;> rename_i hm
  · simp only [hm, if_true, SeriesElem, impRel] at h ⊢
    simp only [rel, lin, TP_Series, B_Zseries]; obtain ⟨e1, e2⟩ := h; constructor <;> grind
  · simp only [hm, if_false, ShuntElem, admRel] at h ⊢
    simp only [rel, lin, TP_Shunt, B_Yshunt]; obtain ⟨e1, e2⟩ := h; constructor <;> grind

theorem chain_matrix (a b : TPB K) (Z0 : K) (p q r : Port K) (hc : CascadeP p q r)
    (ha : rel .B a.B Z0 p) (hb : rel .B b.B Z0 q) : rel .B (TP_Chain a b).B Z0 r :=
  C08.B_chain_sound a.B b.B Z0 p q r hc ha hb

/-- **ladder_sound**: for a ladder of ANY length, every port behaviour of the physical ladder
    satisfies the B matrix that `Ladder` accumulates (induction over the argument list) -/
theorem ladder_sound (Z0 : K) (args : List (OneP K)) : ∀ (m : Nat) (tp : TPB K) (P : Port K → Prop),
    (∀ p, P p → rel .B tp.B Z0 p) → ∀ r, LadderPhys m args P r → rel .B (TP_Ladder_go tp m args).B Z0 r := by
  induction args with
  | nil => intro m tp P hP r h; exact hP r h
  | cons a t ih =>
    intro m tp P hP r h
    simp only [LadderPhys] at h
    have key : ∀ r', (∃ p q, CascadeP p q r' ∧ P p ∧
        (if m % 2 = 1 then SeriesElem (impRel a.Z) q else ShuntElem (admRel a.Y) q)) →
        rel .B (TP_Chain tp (ladderStage m a)).B Z0 r' := by
      rintro r' ⟨p, q, hc, hp, hq⟩
      exact chain_matrix tp (ladderStage m a) Z0 p q r' hc (hP p hp) (stage_sound m a Z0 q hq)
    have := ih (m + 1) (TP_Chain tp (ladderStage m a)) _ key r h
    simp only [TP_Ladder_go]
    unfold ladderStage at this
    split <;> rename_i hm <;> simpa [hm] using this

theorem Ladder_sound (Z0 : K) (op1 : OneP K) (args : List (OneP K)) (r : Port K)
    (h : LadderPhys 0 args (SeriesElem (impRel op1.Z)) r) : rel .B (TP_Ladder op1 args).B Z0 r := by
  apply ladder_sound Z0 args 0 (TP_Series op1) _ _ r h
  intro p hp
  exact (Series_matrix (impRel op1.Z) op1 (fun v i => Iff.rfl) Z0 p).mp hp

/-! ### ladders with their sources, both directions, `Ladder` and `LadderAlt` -/

/-- a physical ladder whose stage `m` is the relation `ph m a` cascaded after what has been built -/
def LadderPhysG (ph : Nat → OneP K → Port K → Prop) (m : Nat) : List (OneP K) → (Port K → Prop) → Port K → Prop
  | [], P, r => P r
  | a :: t, P, r => LadderPhysG ph (m + 1) t (fun r' => ∃ p q, CascadeP p q r' ∧ P p ∧ ph m a q) r

def stagesG (st : Nat → OneP K → TPB K) (m : Nat) : List (OneP K) → List (TPB K)
  | [] => []
  | a :: t => st m a :: stagesG st (m + 1) t

/-- **chainAll_sources**: for ANY stage rule whose stages are exactly described by their (B, V2b, I2b), the
    physical cascade of any length is EXACTLY (both directions, sources included) the accumulated model --
    a fold of `chain_sources` / `chain_sources_complete` -/
theorem chainAll_sources (ph : Nat → OneP K → Port K → Prop) (st : Nat → OneP K → TPB K)
    (hst : ∀ m a q, ph m a q ↔ relBs (st m a).B (st m a).V2b (st m a).I2b q) (args : List (OneP K)) :
    ∀ (m : Nat) (tp : TPB K) (P : Port K → Prop), (∀ p, P p ↔ relBs tp.B tp.V2b tp.I2b p) →
      ∀ r, LadderPhysG ph m args P r ↔
        relBs (chainAll tp (stagesG st m args)).B (chainAll tp (stagesG st m args)).V2b (chainAll tp (stagesG st m args)).I2b r := by
  induction args with
  | nil => intro m tp P hP r; exact hP r
  | cons a t ih =>
    intro m tp P hP r
    simp only [LadderPhysG, stagesG, chainAll]
    apply ih (m + 1) (TP_Chain tp (st m a))
    intro r'
    constructor
    · rintro ⟨p, q, hc, hp, hq⟩
      exact chain_sources tp (st m a) p q r' hc ((hP p).mp hp) ((hst m a q).mp hq)
    · intro h
      obtain ⟨p, q, hc, hp, hq⟩ := chain_sources_complete tp (st m a) r' h
      exact ⟨p, q, hc, (hP p).mpr hp, (hst m a q).mpr hq⟩

/-- stage `m` of `Ladder` with its sources: a series one-port (Thévenin data) for odd m, a shunt one-port (Norton data) else -/
def ladderPh (m : Nat) (a : OneP K) (q : Port K) : Prop :=
  if m % 2 = 1 then SeriesElem (fun v i => v = a.Voc + a.Z * i) q else ShuntElem (fun v i => i = a.Y * v - a.Isc) q
/-- stage `m` of `LadderAlt`: shunt for odd m, series else -/
def ladderAltPh (m : Nat) (a : OneP K) (q : Port K) : Prop :=
  if m % 2 = 1 then ShuntElem (fun v i => i = a.Y * v - a.Isc) q else SeriesElem (fun v i => v = a.Voc + a.Z * i) q
def ladderAltStage (m : Nat) (a : OneP K) : TPB K := if m % 2 = 1 then TP_Shunt a else TP_Series a

theorem ladderStage_sources (m : Nat) (a : OneP K) (q : Port K) :
    ladderPh m a q ↔ relBs (ladderStage m a).B (ladderStage m a).V2b (ladderStage m a).I2b q := by
  unfold ladderPh ladderStage
  split
  · exact Series_sources _ a (fun _ _ => Iff.rfl) q
  · exact Shunt_sound _ a (fun _ _ => Iff.rfl) q

theorem ladderAltStage_sources (m : Nat) (a : OneP K) (q : Port K) :
    ladderAltPh m a q ↔ relBs (ladderAltStage m a).B (ladderAltStage m a).V2b (ladderAltStage m a).I2b q := by
  unfold ladderAltPh ladderAltStage
  split
  · exact Shunt_sound _ a (fun _ _ => Iff.rfl) q
  · exact Series_sources _ a (fun _ _ => Iff.rfl) q

theorem stagesG_ladder (m : Nat) (args : List (OneP K)) : stagesG ladderStage m args = stagesFrom m args := by
  induction args generalizing m with
  | nil => rfl
  | cons a t ih => simp [stagesG, stagesFrom, ih]

theorem ladderAlt_go_chain (tp : TPB K) (m : Nat) (args : List (OneP K)) :
    TP_LadderAlt_go tp m args = chainAll tp (stagesG ladderAltStage m args) := by
  induction args generalizing tp m with
  | nil => rfl
  | cons a t ih =>
    simp only [TP_LadderAlt_go, stagesG, chainAll, ladderAltStage]
    rw [ih]
    split <;> rfl

/-- **ladderAlt_chain**: `LadderAlt(OP1, *args)` is `Shunt(OP1)` chained with Series, Shunt, Series, … -/
theorem ladderAlt_chain (op1 : OneP K) (args : List (OneP K)) :
    TP_LadderAlt op1 args = chainAll (TP_Shunt op1) (stagesG ladderAltStage 0 args) :=
  ladderAlt_go_chain _ 0 args

/-- **Ladder_sources**: for a ladder of ANY length whose arms carry sources, the physical ladder admits EXACTLY the
    port behaviours of the (B, V2b, I2b) that `Ladder` accumulates (both directions) -/
theorem Ladder_sources (op1 : OneP K) (args : List (OneP K)) (r : Port K) :
    LadderPhysG ladderPh 0 args (SeriesElem (fun v i => v = op1.Voc + op1.Z * i)) r ↔
      relBs (TP_Ladder op1 args).B (TP_Ladder op1 args).V2b (TP_Ladder op1 args).I2b r := by
  rw [ladder_chain, ← stagesG_ladder]
  exact chainAll_sources ladderPh ladderStage ladderStage_sources args 0 (TP_Series op1) _
    (fun p => Series_sources _ op1 (fun _ _ => Iff.rfl) p) r

/-- **LadderAlt_sources**: the same for `LadderAlt` (first arm in shunt) -/
theorem LadderAlt_sources (op1 : OneP K) (args : List (OneP K)) (r : Port K) :
    LadderPhysG ladderAltPh 0 args (ShuntElem (fun v i => i = op1.Y * v - op1.Isc)) r ↔
      relBs (TP_LadderAlt op1 args).B (TP_LadderAlt op1 args).V2b (TP_LadderAlt op1 args).I2b r := by
  rw [ladderAlt_chain]
  exact chainAll_sources ladderAltPh ladderAltStage ladderAltStage_sources args 0 (TP_Shunt op1) _
    (fun p => Shunt_sound _ op1 (fun _ _ => Iff.rfl) p) r

/-- non-vacuity: Series(Z = 2, Voc = 1) then Shunt(Y = 1/3, Isc = 0): V1 = 6, I1 = 1 gives V2 = 6 − 2 + 1 = 5 … and the
    open-ended port (I2 = −I1 + V2/3) -/
example : LadderPhysG ladderPh 0 [(⟨3, 1/3, 0, 0⟩ : OneP ℚ)] (SeriesElem (fun v i => v = 1 + 2 * i)) ⟨6, 1, 5, 2/3⟩ := by
  refine ⟨⟨6, 1, 5, -1⟩, ⟨5, 1, 5, 2/3⟩, by simp [CascadeP], by simp [SeriesElem]; norm_num, ?_⟩
  simp [ladderPh, ShuntElem]; norm_num

/-! ## 5. Connections of two two-ports add the corresponding matrices -/

/-- two linear relations with the same right-hand pair add: the matrices and the left-hand pairs -/
theorem lin_add {m m' : M2 K} {l1 l2 l1' l2' r1 r2 r1' r2' L1 L2 R1 R2 : K}
    (h : lin m l1 l2 r1 r2) (h' : lin m' l1' l2' r1' r2')
    (hc : R1 = r1 ∧ R1 = r1' ∧ R2 = r2 ∧ R2 = r2' ∧ L1 = l1 + l1' ∧ L2 = l2 + l2') :
    lin (M2.add m m') L1 L2 R1 R2 := by
  obtain ⟨rfl, rfl, rfl, rfl, rfl, rfl⟩ := hc
  obtain ⟨rfl, rfl⟩ := h
  obtain ⟨rfl, rfl⟩ := h'
  constructor <;> (simp only [M2.add]; ring)

/-- … and a relation of a sum splits into the two summands at the same right-hand pair -/
theorem lin_add_split {m m' : M2 K} {L1 L2 R1 R2 : K} (h : lin (M2.add m m') L1 L2 R1 R2) :
    L1 = (m.a11 * R1 + m.a12 * R2) + (m'.a11 * R1 + m'.a12 * R2) ∧
    L2 = (m.a21 * R1 + m.a22 * R2) + (m'.a21 * R1 + m'.a22 * R2) := by
  obtain ⟨rfl, rfl⟩ := h
  constructor <;> (simp only [M2.add]; ring)

/-- **par2_Y**: `Par2` adds Y matrices; right whenever both constituents keep their own port
    relation in the connection (the port condition) -/
theorem par2_Y (b1 b2 : M2 K) (Z0 : K) (p q r : Port K) (h1 : b1.a12 ≠ 0) (h2 : b2.a12 ≠ 0)
    (hc : ParConn p q r) (hp : rel .B b1 Z0 p) (hq : rel .B b2 Z0 q) :
    rel .Y (TP_Par2_Y b1 b2 Z0) Z0 r :=
  lin_add ((C08.B_to_Y_sound b1 Z0 p h1).mp hp) ((C08.B_to_Y_sound b2 Z0 q h2).mp hq) hc

theorem ser2_Z (b1 b2 : M2 K) (Z0 : K) (p q r : Port K) (h1 : b1.a21 ≠ 0) (h2 : b2.a21 ≠ 0)
    (hc : SerConn p q r) (hp : rel .B b1 Z0 p) (hq : rel .B b2 Z0 q) :
    rel .Z (TP_Ser2_Z b1 b2 Z0) Z0 r :=
  lin_add ((C08.B_to_Z_sound b1 Z0 p h1).mp hp) ((C08.B_to_Z_sound b2 Z0 q h2).mp hq) hc

theorem hybrid2_H (b1 b2 : M2 K) (Z0 : K) (p q r : Port K) (h1 : b1.a11 ≠ 0) (h2 : b2.a11 ≠ 0)
    (hc : HybConn p q r) (hp : rel .B b1 Z0 p) (hq : rel .B b2 Z0 q) :
    rel .H (TP_Hybrid2_H b1 b2 Z0) Z0 r :=
  lin_add ((C08.B_to_H_sound b1 Z0 p h1).mp hp) ((C08.B_to_H_sound b2 Z0 q h2).mp hq) hc

theorem invhybrid2_G (b1 b2 : M2 K) (Z0 : K) (p q r : Port K) (h1 : b1.a22 ≠ 0) (h2 : b2.a22 ≠ 0)
    (hc : InvHybConn p q r) (hp : rel .B b1 Z0 p) (hq : rel .B b2 Z0 q) :
    rel .G (TP_InverseHybrid2_G b1 b2 Z0) Z0 r :=
  lin_add ((C08.B_to_G_sound b1 Z0 p h1).mp hp) ((C08.B_to_G_sound b2 Z0 q h2).mp hq) hc

/-- **par2_Y_complete** (converse of `par2_Y`): every behaviour of the summed Y matrix splits into behaviours of the
    two constituents connected in parallel -/
theorem par2_Y_complete (b1 b2 : M2 K) (Z0 : K) (r : Port K) (h1 : b1.a12 ≠ 0) (h2 : b2.a12 ≠ 0)
    (hr : rel .Y (TP_Par2_Y b1 b2 Z0) Z0 r) :
    ∃ p q, ParConn p q r ∧ rel .B b1 Z0 p ∧ rel .B b2 Z0 q :=
  have hs := lin_add_split hr
  let y1 := B_to_Y b1 Z0
  let y2 := B_to_Y b2 Z0
  ⟨⟨r.V1, y1.a11 * r.V1 + y1.a12 * r.V2, r.V2, y1.a21 * r.V1 + y1.a22 * r.V2⟩,
    ⟨r.V1, y2.a11 * r.V1 + y2.a12 * r.V2, r.V2, y2.a21 * r.V1 + y2.a22 * r.V2⟩, ⟨rfl, rfl, rfl, rfl, hs.1, hs.2⟩,
    (C08.B_to_Y_sound b1 Z0 _ h1).mpr ⟨rfl, rfl⟩, (C08.B_to_Y_sound b2 Z0 _ h2).mpr ⟨rfl, rfl⟩⟩

theorem ser2_Z_complete (b1 b2 : M2 K) (Z0 : K) (r : Port K) (h1 : b1.a21 ≠ 0) (h2 : b2.a21 ≠ 0)
    (hr : rel .Z (TP_Ser2_Z b1 b2 Z0) Z0 r) :
    ∃ p q, SerConn p q r ∧ rel .B b1 Z0 p ∧ rel .B b2 Z0 q :=
  have hs := lin_add_split hr
  let z1 := B_to_Z b1 Z0
  let z2 := B_to_Z b2 Z0
  ⟨⟨z1.a11 * r.I1 + z1.a12 * r.I2, r.I1, z1.a21 * r.I1 + z1.a22 * r.I2, r.I2⟩,
    ⟨z2.a11 * r.I1 + z2.a12 * r.I2, r.I1, z2.a21 * r.I1 + z2.a22 * r.I2, r.I2⟩, ⟨rfl, rfl, rfl, rfl, hs.1, hs.2⟩,
    (C08.B_to_Z_sound b1 Z0 _ h1).mpr ⟨rfl, rfl⟩, (C08.B_to_Z_sound b2 Z0 _ h2).mpr ⟨rfl, rfl⟩⟩

theorem hybrid2_H_complete (b1 b2 : M2 K) (Z0 : K) (r : Port K) (h1 : b1.a11 ≠ 0) (h2 : b2.a11 ≠ 0)
    (hr : rel .H (TP_Hybrid2_H b1 b2 Z0) Z0 r) :
    ∃ p q, HybConn p q r ∧ rel .B b1 Z0 p ∧ rel .B b2 Z0 q :=
  have hs := lin_add_split hr
  let g1 := B_to_H b1 Z0
  let g2 := B_to_H b2 Z0
  ⟨⟨g1.a11 * r.I1 + g1.a12 * r.V2, r.I1, r.V2, g1.a21 * r.I1 + g1.a22 * r.V2⟩,
    ⟨g2.a11 * r.I1 + g2.a12 * r.V2, r.I1, r.V2, g2.a21 * r.I1 + g2.a22 * r.V2⟩, ⟨rfl, rfl, rfl, rfl, hs.1, hs.2⟩,
    (C08.B_to_H_sound b1 Z0 _ h1).mpr ⟨rfl, rfl⟩, (C08.B_to_H_sound b2 Z0 _ h2).mpr ⟨rfl, rfl⟩⟩

theorem invhybrid2_G_complete (b1 b2 : M2 K) (Z0 : K) (r : Port K) (h1 : b1.a22 ≠ 0) (h2 : b2.a22 ≠ 0)
    (hr : rel .G (TP_InverseHybrid2_G b1 b2 Z0) Z0 r) :
    ∃ p q, InvHybConn p q r ∧ rel .B b1 Z0 p ∧ rel .B b2 Z0 q :=
  have hs := lin_add_split hr
  let g1 := B_to_G b1 Z0
  let g2 := B_to_G b2 Z0
  ⟨⟨r.V1, g1.a11 * r.V1 + g1.a12 * r.I2, g1.a21 * r.V1 + g1.a22 * r.I2, r.I2⟩,
    ⟨r.V1, g2.a11 * r.V1 + g2.a12 * r.I2, g2.a21 * r.V1 + g2.a22 * r.I2, r.I2⟩, ⟨rfl, rfl, rfl, rfl, hs.1, hs.2⟩,
    (C08.B_to_G_sound b1 Z0 _ h1).mpr ⟨rfl, rfl⟩, (C08.B_to_G_sound b2 Z0 _ h2).mpr ⟨rfl, rfl⟩⟩

/-! ## 6. Non-vacuity -/

/-- a concrete T network: Z1 = 2, Z2 = 3, Z3 = 5 with I1 = 1, I2 = 1: vm = 6, V1 = 8, V2 = 11 -/
example : TNet (2 : ℚ) 3 5 ⟨8, 1, 11, 1⟩ := ⟨6, by norm_num, by norm_num, by norm_num⟩
example : rel .Z (Z_Tsection (2 : ℚ) 3 5) 1 ⟨8, 1, 11, 1⟩ := (Z_Tsection_sound 2 3 5 1 _).mp ⟨6, by norm_num, by norm_num, by norm_num⟩
example : ParConn (⟨1, 2, 3, 4⟩ : Port ℚ) ⟨1, 5, 3, 6⟩ ⟨1, 7, 3, 10⟩ := by simp [ParConn]; norm_num

end Lcapy.C07
