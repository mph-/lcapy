/-
  C16 -- the ENVIRONMENT clause: process-wide settings (state.py, config.py; the table of settings and the modules
  reading them is GENERATED: `Gen.Caches.settings`) and memoised analyses (Model/EnvMemo.lean).

  STATUS: MODEL REMARKS.  `Model/EnvMemo.lean` is a small abstract machine (one netlist, settings, one memo slot, an
  ARBITRARY analysis `f elts env`); it is not executed by the driver and has no correspondence stream of its own --
  nothing of lcapy is claimed through these theorems.  They explain the mechanism: lcapy never invalidates a memo when
  a setting changes, so a trace can remain exactly when a memoised analysis is sensitive to a setting that is toggled
  around a query (`toggle_query_back_trace`, `toggle_trace_witness`); `toggle_back_*` hold because assigning a setting
  cannot touch a memo; `insensitive_history_independent` carries the real obligation as its HYPOTHESIS
  (`Insensitive f keys`) and that hypothesis is not discharged for any analysis of lcapy.
  What is claimed of lcapy for this clause: the table theorems `netlist_layer_reads_only_solver_method` /
  `netlist_layer_reads_no_state_setting` (Props/C16Tables.lean) and the toggle oracle on the real code (a setting is
  toggled, a query asked under it, the setting toggled back: every later observation is compared with a fresh rebuild).

  * `answer_is_function_of_elements_and_settings`  every answer is `f elts env₀` for the elements at the time of the
        query and the settings `env₀` at the time the memo was filled -- nothing else of the history enters;
  * `insensitive_history_independent`  if the analysis does not read the settings the history assigns, every query
        answers as a freshly built circuit in the current process;
  * `toggle_back_no_trace`    assigning a setting and assigning the old value back, with no query in between, leaves
        NO trace whatever the analysis reads: the state is literally the same;
  * `toggle_query_back_trace` ... with a query in between on an empty memo, the memo keeps the answer computed under
        the toggled setting: a trace remains exactly when the analysis is sensitive to that setting (witness below).
-/
import Lcapy.Model.EnvMemo
namespace Lcapy.C16
open Lcapy.EnvMemo

variable {E R : Type}

theorem set_back (e : Env) (k v : String) : (e.set k v).set k (e k) = e := by
  funext x
  simp only [Env.set]
  by_cases h : x = k
  · simp [h]
  · simp [h]

/-- TOGGLE AND BACK, nothing asked in between: the process state is the same as before -/
theorem toggle_back_no_trace (f : E → Env → R) (s : St E R) (k v : String) :
    run f s [.set k v, .set k (s.env k)] = s := by
  simp only [run, step]
  have : ((s.env.set k v).set k (s.env k)) = s.env := set_back s.env k v
  cases s
  simp_all

/-- hence every later answer is what it would have been without the toggle -/
theorem toggle_back_transparent (f : E → Env → R) (s : St E R) (k v : String) (post : List (Op E)) :
    answers f s (.set k v :: .set k (s.env k) :: post) = answers f s post := by
  have h := toggle_back_no_trace f s k v
  simp only [run] at h
  simp only [answers, step]
  rw [show ({ s with env := ((s.env.set k v).set k (s.env k)) } : St E R) = s from by
    have : ((s.env.set k v).set k (s.env k)) = s.env := set_back s.env k v
    cases s; simp_all]

/-- invariant: a filled memo holds `f elts env₀` for SOME settings `env₀` that agree with the current ones outside
    the keys assigned so far -/
def MemoFrom (f : E → Env → R) (ks : List String) (s : St E R) : Prop :=
  ∀ r, s.memo = some r → ∃ env0 : Env, r = f s.elts env0 ∧ ∀ x, x ∉ ks → env0 x = s.env x

theorem memoFrom_step (f : E → Env → R) (ks : List String) (s : St E R) (op : Op E)
    (hk : ∀ k v, op = .set k v → k ∈ ks) (h : MemoFrom f ks s) : MemoFrom f ks (step f s op).1 := by
  cases op with
  | set k v =>
    intro r hr
    obtain ⟨e0, h1, h2⟩ := h r hr
    refine ⟨e0, h1, ?_⟩
    intro x hx
    have : x ≠ k := fun e => hx (e ▸ hk k v rfl)
    simp [step, Env.set, this, h2 x hx]
  | mutate e => intro r hr; simp [step] at hr
  | query =>
    simp only [step]
    cases hm : s.memo with
    | some r0 => simpa [hm] using h
    | none =>
      intro r hr
      simp at hr
      exact ⟨s.env, hr.symm, fun _ _ => rfl⟩

/-- EVERY ANSWER IS A FUNCTION OF (ELEMENTS, SETTINGS): the answer of a query after any history is `f` of the current
    elements and of settings that differ from the current ones at most in the keys the history assigned -/
theorem answer_is_function_of_elements_and_settings (f : E → Env → R) (ops : List (Op E)) (s : St E R)
    (h0 : s.memo = none) :
    ∃ env0 : Env, (step f (run f s ops) .query).2 = some (f (run f s ops).elts env0) ∧
      ∀ x, x ∉ keysSet ops → env0 x = (run f s ops).env x := by
  have hinv : ∀ (ops : List (Op E)) (s : St E R) (ks : List String), (∀ k ∈ keysSet ops, k ∈ ks) → MemoFrom f ks s →
      MemoFrom f ks (run f s ops) := by
    intro ops
    induction ops with
    | nil => intro s ks _ h; exact h
    | cons op ops ih =>
      intro s ks hks h
      simp only [run]
      apply ih
      · intro k hk
        apply hks
        cases op <;> simp [keysSet, hk]
      · apply memoFrom_step f ks s op _ h
        intro k v e; subst e; exact hks k (by simp [keysSet])
  have hm := hinv ops s (keysSet ops) (fun _ h => h) (by intro r hr; rw [h0] at hr; cases hr)
  simp only [step]
  cases hmem : (run f s ops).memo with
  | some r =>
    obtain ⟨e0, h1, h2⟩ := hm r hmem
    exact ⟨e0, by simp [h1], h2⟩
  | none => exact ⟨(run f s ops).env, rfl, fun _ _ => rfl⟩

/-- HISTORY INDEPENDENCE under settings the analysis does not read: whatever was toggled, asked and edited before,
    a query answers as on a circuit freshly built (empty memo) from the same elements in the same process -/
theorem insensitive_history_independent (f : E → Env → R) (ops : List (Op E)) (s : St E R) (h0 : s.memo = none)
    (hins : Insensitive f (keysSet ops)) :
    (step f (run f s ops) .query).2 = (step f (fresh (run f s ops)) .query).2 := by
  obtain ⟨e0, h1, h2⟩ := answer_is_function_of_elements_and_settings f ops s h0
  rw [h1]
  simp only [step, fresh]
  rw [hins _ e0 (run f s ops).env h2]

example : Insensitive (fun (e : Nat) (env : Env) => e + (env "loose_units").length) ["current_sign_convention"] := by
  intro e a b h
  simp [h "loose_units" (by simp)]

/-- TOGGLE, ASK, TOGGLE BACK on an empty memo: the memo keeps what was computed under the toggled setting -/
theorem toggle_query_back_trace (f : E → Env → R) (s : St E R) (h0 : s.memo = none) (k v : String) :
    (step f (run f s [.set k v, .query, .set k (s.env k)]) .query).2 = some (f s.elts (s.env.set k v)) ∧
    (run f s [.set k v, .query, .set k (s.env k)]).env = s.env := by
  simp only [run, step, h0]
  exact ⟨trivial, set_back s.env k v⟩

/-- so a trace remains iff the analysis is sensitive to the setting at these elements: witness with an analysis
    that reads `current_sign_convention` -/
theorem toggle_trace_witness :
    let f : Nat → Env → Int := fun e env => if env "current_sign_convention" = "active" then -(e : Int) else e
    let s : St Nat Int := ⟨5, fun _ => "passive", none⟩
    (step f (run f s [.set "current_sign_convention" "active", .query, .set "current_sign_convention" "passive"]) .query).2 = some (-5) ∧
    (step f (fresh s) .query).2 = some 5 := by decide +kernel

end Lcapy.C16
