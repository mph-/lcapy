/-
  PROPERTY C04 -- Thevenin and Norton equivalents reproduce the terminal behaviour.
  Everything is stated at the level of `Solves`/`Laws` (no Schur complements): the port
  behaviour of any circuit is affine in an injected probe current, with offset Voc (sources on,
  port open) and slope Zth (sources and initial conditions killed, unit probe), exactly the two
  quantities `Voc` and `impedance` of lcapy/netlistopsmixin.py measure.
-/
import Lcapy.Props.C03
import Lcapy.Proofs.PortOps
import Mathlib.Tactic.LinearCombination
namespace Lcapy.C04
open Lcapy.MNA Ix
variable {K : Type} [Field K]

/-- the circuit with a probe current source pushing `J` into node `p` (returning through `m`) -/
def withProbe (cs : List (Cpt K)) (p m : Nat) (J : K) : List (Cpt K) := cs ++ [.I p m J]

/-- **port_affine**: for ANY circuit and any two nodes p, m: if `x0` is a solution with the
    sources on and the port open, and `xu` a solution with every independent source and initial
    condition killed and 1 A injected, then for every probe current J the assignment
    x0 + J·xu solves the circuit with J injected. -/
theorem port_affine (kind : Kind) (s : K) (cs : List (Cpt K)) (p m : Nat) (x0 xu : Ix → K) (J : K)
    (h0 : Solves kind s (withProbe cs p m 0) x0)
    (hu : Solves kind s (withProbe (killAll cs) p m 1) xu) :
    Solves kind s (withProbe cs p m J) (fun i => x0 i + J * xu i) := by
  have hs := C03.scaling kind s J _ xu hu
  simp only [withProbe, List.map_append, killAll_scale, List.map_cons, List.map_nil, Cpt.mapSrc] at hs
  have h := solves_add_killed kind s cs [.I p m 0] [.I p m (J * 1)] x0 _
    (.cons (by simp [SameShape, Cpt.mapSrc]) .nil) h0 hs
  simpa [withProbe, Cpt.addSrc] using h

/-- hence the port voltage is affine in the probe current: V = Voc + Zth·J -/
theorem port_voltage_affine (x0 xu : Ix → K) (J : K) (p m : Nat) :
    vd (fun i => x0 i + J * xu i) p m = vd x0 p m + J * vd xu p m := by
  rw [vd_fun_add x0 fun i => J * xu i, vd_smul]

/-- and when the circuit is non-singular this IS the circuit's response to the probe -/
theorem port_affine_unique (kind : Kind) (s : K) (cs : List (Cpt K)) (p m : Nat) (x0 xu z : Ix → K) (J : K)
    (h0 : Solves kind s (withProbe cs p m 0) x0)
    (hu : Solves kind s (withProbe (killAll cs) p m 1) xu)
    (hz : Solves kind s (withProbe cs p m J) z)
    (hns : C01.Nonsingular kind s (withProbe cs p m J)) :
    vd z p m = vd x0 p m + J * vd xu p m := by
  have h := C01.mna_unique kind s _ z _ hns hz (port_affine kind s cs p m x0 xu J h0 hu)
  have hv := volt_eq_of_unknown kind s _ (.I p m J) (by simp [withProbe]) z _ h
  rw [← port_voltage_affine]
  simp only [vd, hv p (by simp [C01.unknowns, stamp]), hv m (by simp [C01.unknowns, stamp])]

/-- **thevenin_norton_equiv**: the Thevenin line v = Voc − Zth·i and the Norton line
    i = Isc − Yn·v with Isc = Voc/Zth, Yn = 1/Zth are the same set of (v, i) pairs; Voc = Isc·Zth
    and Zth·Yn = 1. -/
theorem thevenin_norton_equiv (Voc Zth v i : K) (hZ : Zth ≠ 0) :
    v = Voc - Zth * i ↔ i = Voc / Zth - (1 / Zth) * v := by
  constructor <;> intro h <;> (field_simp at h ⊢; grind)

theorem voc_isc_z (Voc Zth : K) (hZ : Zth ≠ 0) : Voc = (Voc / Zth) * Zth ∧ Zth * (1 / Zth) = 1 := by
  constructor <;> field_simp

/-- terminal behaviour of the Thevenin network (V source `Voc` from internal node 2 to ground in
    series with `Zth` from the terminal, node 1, to node 2) under a probe current J: v = Voc + Zth·J -/
theorem thevenin_port (kind : Kind) (s Voc Zth J : K) (hZ : Zth ≠ 0) (x : Ix → K)
    (h : Laws kind s [.V 2 0 0 Voc, .Y 1 2 (1 / Zth), .I 1 0 J] x) :
    vd x 1 0 = Voc + Zth * J := by
  obtain ⟨hk, hl⟩ := h
  have k1 := hk 1 (by decide)
  have l1 := hl (.V 2 0 0 Voc) (by simp) (0, vd x 2 0 - Voc) (by simp [laws])
  simp [outflow, twoTerm, lsum, vd, volt] at k1 l1 ⊢
  field_simp at k1
  linear_combination k1 + l1

/-- terminal behaviour of the Norton network (current source `Isc` pushing into node 1, in
    parallel with `Yn`) under a probe current J: v = (Isc + J)/Yn -/
theorem norton_port (kind : Kind) (s Isc Yn J : K) (hY : Yn ≠ 0) (x : Ix → K)
    (h : Laws kind s [.I 1 0 Isc, .Y 1 0 Yn, .I 1 0 J] x) :
    vd x 1 0 = (Isc + J) / Yn := by
  obtain ⟨hk, _⟩ := h
  have k1 := hk 1 (by decide)
  simp [outflow, twoTerm, lsum, vd, volt] at k1 ⊢
  field_simp
  linear_combination k1

/-- **load_invariance**: a circuit whose port obeys v = Voc + Zth·J, its Thevenin model and its
    Norton model (Isc = Voc/Zth, Yn = 1/Zth) present the same (v, J) pairs to any load relation. -/
theorem load_invariance (kind : Kind) (s Voc Zth J : K) (hZ : Zth ≠ 0) (xt xn : Ix → K)
    (ht : Laws kind s [.V 2 0 0 Voc, .Y 1 2 (1 / Zth), .I 1 0 J] xt)
    (hn : Laws kind s [.I 1 0 (Voc / Zth), .Y 1 0 (1 / Zth), .I 1 0 J] xn) :
    vd xt 1 0 = Voc + Zth * J ∧ vd xn 1 0 = Voc + Zth * J := by
  refine ⟨thevenin_port kind s Voc Zth J hZ xt ht, ?_⟩
  rw [norton_port kind s (Voc / Zth) (1 / Zth) J (one_div_ne_zero hZ) xn hn]
  field_simp

/-- `kills_ics`: the circuit used for impedance / admittance / transfer has every independent
    source and every initial condition set to zero -/
theorem killAll_has_no_sources (cs : List (Cpt K)) :
    ∀ c ∈ killAll cs, c.mapSrc (fun _ => 0) = c := by
  intro c hc
  simp only [killAll, List.mem_map] at hc
  obtain ⟨c0, _, rfl⟩ := hc
  simp [mapSrc_comp, Function.comp_def]

end Lcapy.C04
