/-
  PROPERTY C11 (continued) -- the remaining re-formatting methods keep the value.

  Same objects as Props/C11.lean (`R : RF K`, `R.value env`, expression trees).  The methods covered here are
  the ones Lcapy implements in lcapy/expr.py / lcapy/utils.py on top of `Ratfun`:
  `coeffs`, `normcoeffs`, `Ratfun.coeffs`, `ba`, `degree`, `Ndegree`, `Ddegree`, `is_strictly_proper`,
  `as_N_D(monic_denominator=True)`, `divide_top_and_bottom`, `multiply_top_and_bottom` (any factor expression),
  `rationalize_denominator`, `recippartfrac`, `simplify_factors`, `simplify_terms`, `expandcanonical` (enumeration
  order), the multiplicity dictionaries of `poles()` / `zeros()` and their `aslist=True` form.

  Every name, operator and index the source uses (which coefficient normalises, which polynomial a degree is taken
  of, what each side is divided by, which substitution is applied …) is read from the source text on every run
  into Lcapy/Generated/RatfunFmtSrc.lean (harness/translate/tx_ratfun.py, `scan_fmt`); the theorems below are
  stated FOR THOSE CONSTANTS, so they fail to build when the source changes meaning.  The parameter-generic
  lemmas are in Lcapy/Proofs/PolyRatfunFmt.lean.  All statements hold over every field, for polynomials of every
  degree (list induction; no size bound).
-/
import Lcapy.Proofs.PolyRatfunFmt
import Lcapy.Generated.RatfunSrc
import Lcapy.Generated.RatfunFmtSrc
import Mathlib.Tactic.NormNum
namespace Lcapy.C11b
open Lcapy Lcapy.Poly Lcapy.Ratfun Lcapy.RatfunFmt Lcapy.Gen.RatfunSrc Lcapy.Gen.RatfunFmtSrc
variable {K : Type} [Field K] [DecidableEq K]
set_option linter.unusedVariables false
set_option linter.unusedSectionVars false

/-- `exp` at the sample point behaves like an exponential (as in Props/C11.lean) -/
def IsExp (env : Env K) : Prop := env.E 0 = 1 ∧ ∀ a b, env.E (a + b) = env.E a * env.E b

def envQ : Env ℚ := ⟨2, fun _ => 1, 5⟩
example : IsExp envQ := ⟨rfl, fun _ _ => by simp [envQ]⟩
/-- `(3x² + 5x + 1)/(2x² + 6x + 4) · exp(−3x) · U(x)` -/
def exQ : RF ℚ := ⟨[1, 5, 3], [4, 6, 2], 3, 1⟩

/-! ## 1. Coefficient lists -/

/-- **coeffs_value**: `all_coeffs()` (highest power first, `[0]` for the zero polynomial) re-assembles to the
    polynomial at every point. -/
theorem coeffs_value (p : List K) (x : K) : evalHigh (allCoeffs p) x = Poly.eval p x :=
  evalHigh_allCoeffs p x

/-- the list has `degree + 1` entries -/
theorem coeffs_length (p : List K) (hp : lc p ≠ 0) : (allCoeffs p).length = degree p + 1 := by
  have hne : trim p ≠ [] := fun h0 => hp ((lc_eq_zero_iff p).2 h0)
  rw [allCoeffs_of_lc_ne_zero hp, List.length_reverse, degree]
  have := List.length_pos_iff.mpr hne
  omega
example : lc ([4, 6, 2] : List ℚ) ≠ 0 := by decide +kernel

/-- **normcoeffs_value**: dividing by the coefficient the SOURCE selects (`c[normIdx]`) gives a list whose
    polynomial, multiplied by the leading coefficient, is the original polynomial … -/
theorem normcoeffs_value (p : List K) (hp : lc p ≠ 0) (x : K) :
    lc p * evalHigh (normCoeffs normIdx p) x = Poly.eval p x := by
  show lc p * evalHigh ((allCoeffs p).map fun c => c / pyIndex (allCoeffs p) 0) x = _
  rw [evalHigh_map_div, pyIndex_zero_allCoeffs hp, evalHigh_allCoeffs, mul_div_cancel₀ _ hp]

/-- … and whose highest coefficient is 1 ("normalized so the highest power is 1"). -/
theorem normcoeffs_monic (p : List K) (hp : lc p ≠ 0) : (normCoeffs normIdx p).head? = some 1 :=
  normCoeffs_head hp

/-- error branch: the zero polynomial has `all_coeffs() = [0]`; the normalisation divides by zero
    (an error value in the driver; SymPy returns `nan`). -/
theorem normcoeffs_zero (p : List K) (hp : lc p = 0) : allCoeffs p = [0] := by
  simp [allCoeffs, (lc_eq_zero_iff p).1 hp]
example : lc ([0, 0] : List ℚ) = 0 := by decide +kernel

/-! ## 2. Multiplying / dividing top and bottom -/

/-- **divide_top_and_bottom_value**: with the sides and operators as the source has them
    (`N = (self.N / factor).expand()`, `D = (self.D / factor).expand()`, `return N / D`), for ANY factor expression
    that does not vanish at the point. -/
theorem divide_top_and_bottom_value (R : RF K) (f : RExpr K) (env : Env K) (hE : IsExp env)
    (hf : f.eval env ≠ 0) :
    ∃ e, topBottom dtbNumer dtbDenom dtbReturn R f = some e ∧ e.eval env = R.value env := by
  refine ⟨_, rfl, ?_⟩
  simp only [RExpr.eval, eval_expandOver, eval_delayFactor (Or.inl rfl) env hE.1, eval_undefFactor, RF.value,
    pow_zero, one_mul, one_div_div]
  rw [← (div_mul_div_cancel₀ hf : Poly.eval R.B env.x / f.eval env * (f.eval env / Poly.eval R.A env.x) = _)]
  ring
example : (RExpr.var : RExpr ℚ).eval envQ ≠ 0 := by norm_num [RExpr.eval, envQ]

/-- **multiply_top_and_bottom_src_value**: the same for `multiply_top_and_bottom` (sides read from the source) -/
theorem multiply_top_and_bottom_src_value (R : RF K) (f : RExpr K) (env : Env K) (hE : IsExp env)
    (hf : f.eval env ≠ 0) :
    ∃ e, topBottom mtbNumer mtbDenom mtbReturn R f = some e ∧ e.eval env = R.value env := by
  refine ⟨_, rfl, ?_⟩
  simp only [RExpr.eval, eval_delayFactor (Or.inl rfl) env hE.1, eval_undefFactor, RF.value]
  rw [← mul_div_mul_right (Poly.eval R.B env.x) (Poly.eval R.A env.x) hf]
  ring

/-! ## 3. `Ratfun.coeffs`, `Expr.ba` -/

/-- **ratfun_coeffs_value**: `Ratfun.coeffs()` returns (numerator list, denominator list) in that order,
    each re-assembling to its polynomial. -/
theorem ratfun_coeffs_value (R : RF K) :
    ∃ b a, RatfunFmt.rfCoeffs Gen.RatfunFmtSrc.rfCoeffs R = some (b, a) ∧
      ∀ x, evalHigh b x = Poly.eval R.B x ∧ evalHigh a x = Poly.eval R.A x :=
  ⟨_, _, rfl, fun x => ⟨evalHigh_allCoeffs _ x, evalHigh_allCoeffs _ x⟩⟩

/-- **ba_value**: the normalised lists `b, a` (both divided by `a[baIdx]`, the leading denominator coefficient)
    describe the same rational function and `a` starts with 1. -/
theorem ba_value (R : RF K) (hA : lc R.A ≠ 0) :
    ∃ b a, ba baA baB baIdx R = some (b, a) ∧
      (∀ x, evalHigh b x / evalHigh a x = Poly.eval R.B x / Poly.eval R.A x) ∧ a.head? = some 1 :=
  RatfunFmt.ba_value R hA
example : lc exQ.A ≠ 0 := by decide +kernel

/-! ## 4. Degrees (`−∞` for the zero polynomial, as SymPy) -/

/- The four statements below are TABLE CHECKS: `rfl` on the constants generated from the source text (which polynomial
   `Ndegree` / `Ddegree` read, the function and arguments of `degree`, the comparison of `is_strictly_proper`).  They are
   regression guards that pin the regenerated table to the specification, not consequences of anything; what a degree MEANS is
   proved in `degree_is_highest_power`, `degree_neg_inf`, `degree_is_root_count`, `strictly_proper_no_quotient`. -/

/-- table check (rfl on the generated constant), not a consequence: `Ndegree` reads the numerator `B` … -/
theorem Ndegree_table (R : RF K) : propNamed ndegreeArg ddegreeArg R "Ndegree" = some (sdegree R.B) := rfl
/-- table check (rfl on the generated constant), not a consequence: … `Ddegree` reads the denominator `A` … -/
theorem Ddegree_table (R : RF K) : propNamed ndegreeArg ddegreeArg R "Ddegree" = some (sdegree R.A) := rfl
/-- table check (rfl on the generated constants), not a consequence: … `degree` is `max` of the two … -/
theorem degree_table (R : RF K) :
    rfDegree degreeFn degreeArgs R = some (Deg.max (sdegree R.B) (sdegree R.A)) := rfl
/-- table check (rfl on the generated constants), not a consequence: … and `is_strictly_proper` compares `deg B < deg A`. -/
theorem strictly_proper_table (R : RF K) :
    isStrictlyProper ndegreeArg ddegreeArg sproper R = some (Deg.lt (sdegree R.B) (sdegree R.A)) := rfl

/-- **strictly_proper_no_quotient**: for a strictly proper function the long division of `as_QMA` (hence
    `standard()`, `partfrac()`) has the zero polynomial as quotient and the numerator as remainder. -/
theorem strictly_proper_no_quotient (R : RF K) (hA : lc R.A ≠ 0)
    (h : isStrictlyProper ndegreeArg ddegreeArg sproper R = some true) (x : K) :
    Poly.eval (asQMA R).1 x = 0 ∧ Poly.eval (asQMA R).2.1 x = Poly.eval R.B x := by
  have hs := divmodT_small R.B (trim R.A) hA (trim_length_of_lt (Option.some.inj h))
  have hq : Poly.eval (divmod R.B R.A).1 x = 0 := eval_all_zero _ hs.1 x
  have hd := (divmod_spec' R.B R.A hA).1 x
  rw [hq, zero_mul, zero_add] at hd
  exact ⟨hq, hd.symm⟩
example : isStrictlyProper ndegreeArg ddegreeArg sproper (⟨[1, 5], [4, 6, 2], 0, 0⟩ : RF ℚ) = some true := by
  decide +kernel

/-- **degree_is_highest_power**: a finite degree `n` is the index of the last non-zero coefficient … -/
theorem degree_is_highest_power (p : List K) (n : Nat) (h : sdegree p = .fin n) :
    p.getD n 0 ≠ 0 ∧ ∀ m, n < m → p.getD m 0 = 0 := by
  unfold sdegree at h
  cases hq : trim p with
  | nil => rw [hq] at h; simp at h
  | cons b q =>
    rw [hq] at h
    simp only [Deg.fin.injEq] at h
    have hne : trim p ≠ [] := by rw [hq]; simp
    have hl : (trim p).getLastD 0 ≠ 0 := by
      rcases trim_getLastD p with h1 | h1
      · exact absurd h1 hne
      · exact h1
    have hn : n = (trim p).length - 1 := by rw [hq]; exact h.symm
    constructor
    · rw [← getD_trim, hn, getD_getLastD _ hne]; exact hl
    · intro m hm
      rw [← getD_trim, List.getD_eq_getElem?_getD, List.getElem?_eq_none (by
        have := List.length_pos_iff.mpr hne
        omega)]
      rfl
example : sdegree ([4, 6, 2, 0] : List ℚ) = .fin 2 := by decide +kernel

/-- … and `−∞` means the polynomial vanishes identically (every coefficient, hence every value). -/
theorem degree_neg_inf (p : List K) (h : sdegree p = .negInf) :
    (∀ m, p.getD m 0 = 0) ∧ ∀ x, Poly.eval p x = 0 := by
  have ht := trim_of_sdegree_negInf h
  exact ⟨fun m => by rw [← getD_trim, ht]; rfl, fun x => by rw [← eval_trim, ht]; rfl⟩
example : sdegree ([0, 0] : List ℚ) = .negInf := by decide +kernel

/-- the multiplicities of a checked root table add up to the degree reported by `Ndegree` / `Ddegree` -/
theorem degree_is_root_count (A : List K) (roots : List (K × Nat)) (h : rootsCheck A roots = true)
    (hA : lc A ≠ 0) : sdegree A = .fin (roots.map (fun rn => rn.2)).sum := by
  rw [sdegree_eq_degree hA, rootsCheck_degree h hA]
example : rootsCheck ([4, 6, 2] : List ℚ) [(-1, 1), (-2, 1)] = true := by decide +kernel

/-! ## 5. `as_N_D(monic_denominator=True)`, `expandcanonical` -/

/-- **as_N_D_monic_value**: `D = Dpoly.monic()`, `N = N / Dpoly.LC()` (names read from lcapy/utils.py);
    `N` carries the delay and undefined factors. -/
theorem as_N_D_monic_value (R : RF K) (env : Env K) (hE : IsExp env) (hA : Poly.eval R.A env.x ≠ 0) :
    ∃ n d, asNDMonic ndMonicDiv ndMonicD R = some (n, d) ∧ n.eval env / d.eval env = R.value env := by
  have hlc := lc_ne_zero_of_eval hA
  refine ⟨_, _, rfl, ?_⟩
  simp only [RExpr.eval, eval_delayFactor (Or.inl rfl) env hE.1, eval_undefFactor, RF.value, eval_monic, eval_smul]
  rw [← mul_div_mul_left (Poly.eval R.B env.x) (Poly.eval R.A env.x) (one_div_ne_zero hlc)]
  ring
example : Poly.eval exQ.A envQ.x ≠ 0 := by norm_num [exQ, envQ, Poly.eval]

/-- **expandcanonical_src_value**: with the enumeration order (`reversed(all_coeffs())` = low power first) and the
    divisor of every term as the source has them; stated at non-pole points (`hA`), since every term is divided by `A`. -/
theorem expandcanonical_src_value (R : RF K) (env : Env K) (hE : IsExp env) (hA : Poly.eval R.A env.x ≠ 0) :
    ∃ e, expandcanonicalSrc (sgn expandcanonicalSign) ecReversed ecDen R = some e ∧ e.eval env = R.value env :=
  ⟨_, rfl, expandcanonical_value_gen R env (Or.inl (by simp [sgn, expandcanonicalSign])) hE.1⟩
example : Poly.eval exQ.A envQ.x ≠ 0 := by norm_num [exQ, envQ, Poly.eval]

/-- **expand_response_value** (`expand_response()`, `as_sum()`): the numerator expanded into terms, each over the
    polynomial denominator; stated at non-pole points (`hA`) — at a pole both sides would agree only through `x/0 = 0`. -/
theorem expand_response_value (R : RF K) (env : Env K) (hE : IsExp env) (hA : Poly.eval R.A env.x ≠ 0) :
    (expandResponse R).eval env = R.value env := by
  unfold expandResponse
  rw [eval_foldl_add, rfTerms_value R R.B 0 env hE.1, RF.value]
  simp [RExpr.eval]
example : Poly.eval exQ.A envQ.x ≠ 0 := by norm_num [exQ, envQ, Poly.eval]

/-! ## 5b. `canonical` with the unit-factor branches of the code -/

/-- **canonical_fc_branches_value**: `canonical(factor_const=True)` as the code builds it — `1/D` omitted when `D == 1`, the
    gain prefix `K` (gain · delay factor) folded in only `if K != 1`, the undefined factor attached where the SOURCE attaches it
    (`canonFCUndefAt`, read by the translator: "top" = unconditionally).  Covers the branch gain = 1, no delay, undefined factor
    present, where an attachment under the `K != 1` test would drop the factor. -/
theorem canonical_fc_branches_value (R : RF K) (env : Env K) (hE : IsExp env) (hA : Poly.eval R.A env.x ≠ 0) :
    (canonicalBr (sgn canonicalFCSign) true canonFCSkip canonFCUndefAt R).eval env = R.value env :=
  canonicalBr_fc_value R env (Or.inl (by simp [sgn, canonicalFCSign])) hE.1 hA
/-- `(x² + 3x + 2)/(x² + 7x + 12) · U(x)`: unit gain, no delay, an undefined factor — the `K == 1` branch -/
def exU : RF ℚ := ⟨[2, 3, 1], [12, 7, 1], 0, 1⟩
example : Poly.eval exU.A envQ.x ≠ 0 := by norm_num [exU, envQ, Poly.eval]
example : (decide (exU.delay = 0) && eqConst (lc exU.B / lc exU.A) 1) = true := by decide +kernel

/-- **canonical_branches_value**: `canonical(factor_const=False)` with `if D == 1` / `if N == 1` and the undefined factor
    attached where the source attaches it. -/
theorem canonical_branches_value (R : RF K) (env : Env K) (hE : IsExp env) (hA : Poly.eval R.A env.x ≠ 0) :
    (canonicalBr (sgn canonicalSign) false canonSkip canonUndefAt R).eval env = R.value env :=
  canonicalBr_value R env (Or.inl (by simp [sgn, canonicalSign])) hE.1 hA
/-- `1/(x + 3) · U(x)`: the `N == 1` branch -/
example : polyIsConst (smul (1 / lc ([3, 1] : List ℚ)) ([1] : List ℚ)) 1 = true := by decide +kernel
example : Poly.eval ([3, 1] : List ℚ) envQ.x ≠ 0 := by norm_num [envQ, Poly.eval]

/-! ## 6. `simplify_factors`, `simplify_terms`: the loops around SymPy's simplifier

  `simp` stands for `sympy.simplify`; what is assumed of it is only that it keeps the value AT THE POINT
  (judged per case by the oracle).  The theorems say that the loops use every factor / term exactly once. -/

theorem simplify_factors_value (simp : RExpr K → RExpr K) (env : Env K)
    (hs : ∀ e, (simp e).eval env = e.eval env) (fs : List (RExpr K)) (hne : fs ≠ []) :
    ∃ e, simplifyFactors sfInit sfFrom sfOp simp fs = some e ∧
      e.eval env = (fs.map (fun e => e.eval env)).prod := by
  cases fs with
  | nil => exact absurd rfl hne
  | cons f0 rest =>
    refine ⟨_, rfl, ?_⟩
    show ((rest.map simp).foldl RExpr.mul f0).eval env = _
    rw [eval_foldl_mul, map_simp_eval simp env hs, List.map_cons, List.prod_cons]

theorem simplify_terms_value (simp : RExpr K → RExpr K) (env : Env K)
    (hs : ∀ e, (simp e).eval env = e.eval env) (ts : List (RExpr K)) :
    ∃ e, simplifyTerms stInit stOp simp ts = some e ∧ e.eval env = (ts.map (fun e => e.eval env)).sum := by
  refine ⟨_, rfl, ?_⟩
  show ((ts.map simp).foldl RExpr.add (.const 0)).eval env = _
  rw [eval_foldl_add, map_simp_eval simp env hs]
  exact zero_add _
example : ∀ e : RExpr ℚ, (id e).eval envQ = e.eval envQ := fun _ => rfl
example : rfFactors exQ ≠ [] := by simp [rfFactors]

/-- the factors / terms the driver runs the loops on have the value of the expression (at non-pole points, `hA`) -/
theorem factors_of_expression (R : RF K) (env : Env K) (hE : IsExp env) (hA : Poly.eval R.A env.x ≠ 0) :
    ((rfFactors R).map (fun e => e.eval env)).prod = R.value env ∧
    ((rfTerms R R.B 0).map (fun e => e.eval env)).sum = R.value env := by
  refine ⟨rfFactors_value R env hE.1, ?_⟩
  rw [rfTerms_value R R.B 0 env hE.1, RF.value]; simp

/-! ## 7. `recippartfrac`: partial fractions in the reciprocal variable -/

/-- **recippartfrac_value**: substitute `var = 1/q` (`recipRF`: reversed coefficient lists), expand with data that
    pass `pfCheck` FOR THE SUBSTITUTED FUNCTION, substitute `q = 1/var` back: the value is unchanged wherever
    `var ≠ 0` and the denominator does not vanish.  (With a delay factor `Ratfun(...)` raises: the model answers `none`.) -/
theorem recippartfrac_value (R : RF K) (Q : List K) (poles : List (K × Nat)) (terms : List (K × K × Nat))
    (env : Env K) (hE : IsExp env) (hd : R.delay = 0) (hx : env.x ≠ 0) (hA : Poly.eval R.A env.x ≠ 0)
    (hc : pfCheck (recipRF R).B (recipRF R).A Q poles terms = true) :
    ∃ e env', recippartfrac (sgn partfracSign) recipIn recipOut R Q terms env = some (e, env') ∧
      e.eval env' = R.value env := by
  obtain ⟨hA', hv⟩ := recipRF_value R env hd hx hA
  refine ⟨partfrac (sgn partfracSign) (recipRF R) Q terms, ⟨1 / env.x, env.E, env.u⟩, ?_, ?_⟩
  · unfold recippartfrac
    rw [if_pos hd]; rfl
  · rw [← hv]
    exact partfrac_value_gen (recipRF R) Q poles terms ⟨1 / env.x, env.E, env.u⟩ (Or.inr hd) hE.1 hA' hc
/-- `(3x² + 5x + 1)/(2x² + 6x + 4)`: in `q = 1/x` it is `(q² + 5q + 3)/(4q² + 6q + 2) = 1/4 + (1/2)/(q + 1) + (3/8)/(q + 1/2)` -/
def exR : RF ℚ := ⟨[1, 5, 3], [4, 6, 2], 0, 0⟩
example : pfCheck (recipRF exR).B (recipRF exR).A [1/4] [(-1, 1), (-1/2, 1)] [(1/2, -1, 1), (3/8, -1/2, 1)] = true := by
  decide +kernel

example : exR.delay = 0 := rfl
example : envQ.x ≠ 0 := by norm_num [envQ]
example : Poly.eval exR.A envQ.x ≠ 0 := by norm_num [exR, envQ, Poly.eval]

/-- error branch: with a delay the method has no result -/
theorem recippartfrac_delay (R : RF K) (Q : List K) (terms : List (K × K × Nat)) (env : Env K) (σ : K)
    (hd : R.delay ≠ 0) : recippartfrac σ recipIn recipOut R Q terms env = none := by
  simp [recippartfrac, hd]
example : exQ.delay ≠ 0 := by norm_num [exQ]

/-! ## 8. `rationalize_denominator` (complex coefficients, real variable ω or f) -/

/-- **rationalize_denominator_value**: `Nnew = N·conj(D)`, `Dnew = (Re D)² + (Im D)²` (a REAL polynomial, second
    claim); the quotient `q = Nnew/Dnew` satisfies `q · D = N` in complex arithmetic on pairs, at every real point where
    `|D|² ≠ 0`.  Attribute names, exponents and the operator are read from the source. -/
theorem rationalize_denominator_value (N D : CP K) (x : K)
    (h : Poly.eval D.re x ^ 2 + Poly.eval D.im x ^ 2 ≠ 0) :
    ∃ r, rationalize rdMult rdParts rdPows rdOp rdReturn N D = some r ∧
      Poly.eval r.2 x = Poly.eval D.re x ^ 2 + Poly.eval D.im x ^ 2 ∧
      cmul (rationalizeValue r x) (D.eval x) = N.eval x := by
  refine ⟨(CP.mul N D.conj, Poly.add (Poly.pow D.re 2) (Poly.pow D.im 2)), rfl, ?_, ?_⟩
  · simp only [eval_add, eval_pow]
  · have hd : Poly.eval (Poly.add (Poly.pow D.re 2) (Poly.pow D.im 2)) x =
        Poly.eval D.re x ^ 2 + Poly.eval D.im x ^ 2 := by simp only [eval_add, eval_pow]
    simp only [rationalizeValue, cmul, CP.eval, CP.mul, CP.conj, hd, eval_sub, eval_add, eval_mul, eval_neg]
    ext
    · simp only; field_simp; ring
    · simp only; field_simp; ring
/-- `D(ω) = 4 − ω² + 2jω` at `ω = 2` -/
example : Poly.eval ([4, 0, -1] : List ℚ) 2 ^ 2 + Poly.eval ([0, 2] : List ℚ) 2 ^ 2 ≠ 0 := by norm_num [Poly.eval]

/-! ## 9. Multiplicity dictionaries of `poles()` / `zeros()` -/

/-- **poles_dict_value**: the merging loop (`polesdict[key] += pole.n`) keeps the product `Π (x − r)^n` and the
    total multiplicity, and its keys are distinct (it is a dictionary). -/
theorem poles_dict_value (l : List (K × Nat)) :
    ∃ d, mergeRoots polesMerge l = some d ∧
      (∀ x, (d.map (fun rn => (x - rn.1) ^ rn.2)).prod = (l.map (fun rn => (x - rn.1) ^ rn.2)).prod) ∧
      (d.map (fun rn => rn.2)).sum = (l.map (fun rn => rn.2)).sum ∧ (d.map (fun rn => rn.1)).Nodup := by
  refine ⟨_, rfl, fun x => ?_, ?_, ?_⟩
  · exact ((foldl_addRoot l [] x).1.trans (mul_one _) : rootsValue _ x = rootsValue l x)
  · rw [(foldl_addRoot l [] 0).2.1]; simp
  · exact (foldl_addRoot l [] 0).2.2 (by simp)

/-- **poles_dict_sound**: merging a table that passes `rootsCheck` gives a dictionary that still factorises the
    polynomial and whose multiplicities add up to the degree. -/
theorem poles_dict_sound (A : List K) (l : List (K × Nat)) (h : rootsCheck A l = true) (hA : lc A ≠ 0) :
    ∃ d, mergeRoots polesMerge l = some d ∧
      (∀ x, Poly.eval A x = lc A * (d.map (fun rn => (x - rn.1) ^ rn.2)).prod) ∧
      (d.map (fun rn => rn.2)).sum = degree A ∧ (d.map (fun rn => rn.1)).Nodup := by
  obtain ⟨d, h1, h2, h3, h4⟩ := poles_dict_value l
  exact ⟨d, h1, fun x => (h2 x).symm ▸ rootsCheck_eval h x, h3.symm ▸ rootsCheck_degree h hA, h4⟩
example : rootsCheck ([2, 5, 4, 1] : List ℚ) [(-1, 1), (-2, 1), (-1, 1)] = true := by decide +kernel
example : lc ([2, 5, 4, 1] : List ℚ) ≠ 0 := by decide +kernel

/-- **roots_aslist_value**: the `aslist=True` form repeats every root by its multiplicity: same product, and the
    length is the total multiplicity. -/
theorem roots_aslist_value (l : List (K × Nat)) :
    ∃ rs, rootsAsList listRepeat l = some rs ∧
      (∀ x, (rs.map (fun r => x - r)).prod = (l.map (fun rn => (x - rn.1) ^ rn.2)).prod) ∧
      rs.length = (l.map (fun rn => rn.2)).sum := by
  refine ⟨_, rfl, fun x => ?_, ?_⟩
  · induction l with
    | nil => simp
    | cons rn rest ih =>
      obtain ⟨r, n⟩ := rn
      simp only [List.flatMap_cons, List.map_append, List.prod_append, ih, List.map_cons,
        List.prod_cons, List.map_replicate, List.prod_replicate]
  · induction l with
    | nil => simp
    | cons rn rest ih =>
      obtain ⟨r, n⟩ := rn
      simp only [List.flatMap_cons, List.length_append, List.length_replicate, ih, List.map_cons, List.sum_cons]

end Lcapy.C11b
