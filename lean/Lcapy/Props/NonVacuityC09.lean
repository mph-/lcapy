/-
  Non-vacuity witnesses for Props/C09.lean.
  Every theorem of Props/C09.lean that has hypotheses is APPLIED here to a concrete, non-trivial input with all
  hypotheses proved: section (A) over ℂ with the true exponential, section (B) over the ordered field ℝ with `Real.exp`
  (over ℚ the only `IsExp` is the constant 1, see the remark below), the anchors at concrete points.
-/
import Lcapy.Props.C09
namespace Lcapy.NonVacuity.C09
open Lcapy.Laplace Lcapy.C09
attribute [local instance] Classical.propDecidable

/-! ### (A) transform theorems, over ℂ with `Complex.exp` -/

/-- `2 t e^{−3t} u(t) + δ(t)` -/
def fC : ExpPoly ℂ := [Term.ep 2 1 (-3) 0, Term.dl 1 0 0]
/-- `e^{−t} u(t − 1)` -/
def gC : ExpPoly ℂ := [Term.ep 1 0 (-1) 1]

theorem nonpole_fC : NonPole fC 1 := by
  intro t ht; simp [fC] at ht; rcases ht with rfl | rfl <;> norm_num
theorem nonpole_gC : NonPole gC 1 := by
  intro t ht; simp [gC] at ht; subst ht; norm_num

example := lt_delay Complex.exp isExp_cexp 2 1 fC
example := lt_exp_weight Complex.exp isExp_cexp 5 1 fC
example := lt_scale Complex.exp (3 : ℂ) 1 (by norm_num) fC
example := lt_deriv Complex.exp isExp_cexp 1 (⟨[(5, 0, -1)], fC⟩ : Signal ℂ) nonpole_fC
example := lt_deriv_causal Complex.exp 1 fC nonpole_fC
example := lt_integral Complex.exp isExp_cexp 1 one_ne_zero fC nonpole_fC
example := lt_convolution Complex.exp isExp_cexp 1 fC gC nonpole_fC nonpole_gC
example := lt_delta_at_origin Complex.exp isExp_cexp 1

-- A map E : ℚ → ℚ with E (x+y) = E x * E y, E 0 = 1 is the constant 1 (`NonVacuity.C02.isExp_rat_trivial`).  So the adjacent ℚ example of Props/C09.lean (`fun _ => 1`) is the ONLY rational
-- model of `IsExp`; the delay statements are exercised here over ℝ and ℂ with the true exponential.

/-! ### (B) branches of `LaplaceTransformer.term`, over ℝ with `Real.exp` -/

theorem isExp_rexp : IsExp Real.exp := ⟨Real.exp_add, Real.exp_zero⟩

/-- `s = 2`; `x(t) = 5 e^{−t}` for t < 0 and `e^{−3t}` for t ≥ 0; `y(t) = 2 e^{−t} u(t)`; initial conditions kept -/
noncomputable def envR : Env ℝ :=
  { s := 2, E := Real.exp, J := 0, xsig := ⟨[(5, 0, -1)], [Term.ep 1 0 (-3) 0]⟩, ysig := [Term.ep 2 0 (-1) 0], zic := false }
/-- the same with `zero_initial_conditions=True` and `x` causal -/
noncomputable def envZ : Env ℝ :=
  { s := 2, E := Real.exp, J := 0, xsig := ⟨[], [Term.ep 1 0 (-3) 0]⟩, ysig := [Term.ep 2 0 (-1) 0], zic := true }

theorem hxR : NonPole envR.xsig.post envR.s := by
  intro t ht; simp [envR] at ht; subst ht; norm_num [envR]
theorem hyR : NonPole envR.ysig envR.s := by
  intro t ht; simp [envR] at ht; subst ht; norm_num [envR]
theorem hxZ : NonPole envZ.xsig.post envZ.s := by
  intro t ht; simp [envZ] at ht; subst ht; norm_num [envZ]
theorem hxZ3 : NonPole envZ.xsig.post (envZ.s / 3) := by
  intro t ht; simp [envZ] at ht; subst ht; norm_num [envZ]
theorem hxR3 : NonPole envR.xsig.post (envR.s / 3) := by
  intro t ht; simp [envR] at ht; subst ht; norm_num [envR]
theorem hsR : envR.s ≠ 0 := by norm_num [envR]

example := const_entry envR isExp_rexp 7
example := exp_entry envR isExp_rexp 7 (-4) (by norm_num)
example := function_entry_rect envR isExp_rexp 3 (by norm_num) hsR
example := function_entry_ramp envR isExp_rexp 3 (by norm_num) hsR
example := function_entry_tri envR isExp_rexp 3 (by norm_num) hsR
example := function_entry_rampstep envR isExp_rexp 3 (by norm_num) hsR
example := function_entries_from_unit envR isExp_rexp 3 (by norm_num) hsR
example := func_entry envR isExp_rexp 7 3 (-2) (by norm_num) (by norm_num)
example := deriv_undef_entry envR isExp_rexp hxR rfl 7 2
example := deriv_undef_entry_zic envZ hxZ rfl rfl 7 2
example := integral_entry envR isExp_rexp 7 hsR hxR
example := conv_entry envR isExp_rexp 7 hxR hyR
example := conv_exp_entry envR isExp_rexp 7 (-4) (by norm_num [envR]) hxR
example := deriv_undef_at_spec envR isExp_rexp 7 3 (-2) 2 (by norm_num) (by norm_num) hxR3
example := deriv_undef_at_entry envZ isExp_rexp deriv_undef_applies_shift rfl 7 3 (-2) 2 (by norm_num) (by norm_num) hxZ3
example := deriv_undef_at_plain_entry envZ isExp_rexp rfl 7 2 hxZ

/-- sifting at τ = −b/a = 1/2 where `x` (one undelayed exponential) is continuous -/
theorem hcontR : contAt envR.xsig.post (-((-1 : ℝ) / 2)) = true := by
  simp [contAt, envR]
example := delta_undef_spec envR 7 2 (-1) (by norm_num) hcontR
example := delta_undef_entry envR delta_undef_sifts 7 2 (-1) (by norm_num) hcontR
example := delta_undef_before_origin_spec envR 7 2 1 (by norm_num)

example := window_pointwise Real.exp Real.exp_zero 7 1 3 2 (by norm_num)
example := reversed_step_entry envR isExp_rexp 7 (-2) 3 (by norm_num) (by norm_num) hsR

/-- `clip_step_sound`: a forward step that is already on at t = 0, next to a smooth factor -/
theorem hguard : Gen.clipGuard (2 : ℝ) (1 / 2) = true := by
  simp only [Gen.clipGuard, Bool.and_eq_true, decide_eq_true_eq]; constructor <;> norm_num
theorem hnodelta : NoDeltaAtoms ([Atom.exp (-1), Atom.tpow 2] : List (Atom ℝ)) := by
  simp [NoDeltaAtoms, deltaSel]
example := clip_step_sound Real.exp 0 7 2 (1 / 2) [Atom.exp (-1), Atom.tpow 2] hguard hnodelta

/-! ### (C) anchors -/
example := C09.anchor_real 2 3 (-1) 1 (by norm_num)
example := C09.anchor_complex_k0 (-1 + 2 * Complex.I) 1 (by simp)
example := C09.anchor_complex 3 (-1 + 2 * Complex.I) 1 (by simp)
example := C09.lt_term_is_integral 2 1 (-1 + 2 * Complex.I) 3 1 (by simp) (by simp) (by simp)
example := C09.anchor_damped_sin 1 2 3 (by norm_num)
example := C09.anchor_damped_cos 1 2 3 (by norm_num)

theorem regular_fR : Regular ([Term.ep 2 1 (-3 + 4 * Complex.I) 0, Term.ep 1 0 (-1) 1] : ExpPoly ℂ) := by
  constructor <;> (intro t ht; simp at ht; rcases ht with rfl | rfl <;> simp [Term.delayOf])
example := C09.smooth_factor_pointwise (Atom.trig true 2 1) _ regular_fR

-- `sin_cos_entry` / `sin_cos_entry_beta` over ℂ with Mathlib's partial order on ℂ: `3 e^{−t} cos(3t + 1) u(t − 2)` at s = 2
section
open scoped ComplexOrder
noncomputable def envC : Env ℂ := cenv 2
theorem h1C : envC.s - (-1) - envC.J * 3 ≠ 0 := by
  intro h; have := congrArg Complex.re h; simp [envC, cenv] at this; norm_num at this
theorem h2C : envC.s - (-1) + envC.J * 3 ≠ 0 := by
  intro h; have := congrArg Complex.re h; simp [envC, cenv] at this; norm_num at this
example := sin_cos_entry envC isExp_cexp (by simp [envC, cenv]) zero_le_one two_ne_zero 3 (-1) 3 1 2 true h1C h2C
example := sin_cos_entry_beta envC isExp_cexp (by simp [envC, cenv]) zero_le_one two_ne_zero 3 (-1) 5 3 1 2 false h1C h2C
example := C09.sin_cos_is_integral 2 3 (-1) 3 1 2 true (by norm_num)
end

end Lcapy.NonVacuity.C09
