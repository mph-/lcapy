/-
  C06: the printer with the proposed repairs of the findings C06-e / C06-a / C06-b
  (`Model/Parser.lean`: `argFormatC`, `netTokensC`, `printCptC`, switched by `PrinterCfg`; the flags of
  the checked-out source are extracted by the translator).  What each repair buys, as theorems.
-/
import Lcapy.Props.C06
namespace Lcapy.C06
open Lcapy.Parser Lcapy.Spec.Netlist

/-- the checked-out `_arg_format` does not (yet) brace a value because it contains `=` (finding C06-j); pinned:
    breaks loudly when that repair lands, like `tie_theCfg` -/
theorem printer_braces_equals_in_source : Gen.Grammar.printerBracesEquals = false := by decide

theorem argFormatC_eq0 (cfg : PrinterCfg) (ds : List Char) (kws : List Str) (v : Str) :
    argFormatC cfg ds kws v = argFormatC0 cfg ds kws v := by
  simp [argFormatC, printer_braces_equals_in_source]

theorem argFormatC_current (ds : List Char) (kws : List Str) (v : Str) :
    argFormatC ⟨false, false, false⟩ ds kws v = argFormat ds v := by
  rw [argFormatC_eq0]
  unfold argFormatC0 argFormat
  by_cases h : v.head? = some '{' <;> simp [h]

theorem fmtArgsC_current (ds : List Char) (kws : List Str) (a : List (Option Str)) :
    fmtArgsC ⟨false, false, false⟩ ds kws a = fmtArgs ds a := by
  induction a with
  | nil => rfl
  | cons x rest ih =>
    cases rest with
    | nil => cases x <;> simp [fmtArgsC, fmtArgs, argFormatC_current]
    | cons y r => cases x <;> simp [fmtArgsC, fmtArgs, argFormatC_current, ih]

/-- With no repair switched on, the configurable printer is the printer of the
    current code -- the one all other theorems are about. -/
theorem printCptC_current (g : Grammar) (c : Cpt) : printCptC ⟨false, false, false⟩ g c = printCpt g c := by
  unfold printCptC printCpt netTokensC netTokens
  simp [fmtArgsC_current]

/-- REMARK ABOUT THE PROPOSED PATCH fix-e (not a claim about /repo: neither the source nor the driver runs this
    configuration, see `tie_theCfg`).  After the repair, `Arg.assign` reads back what
    `_arg_format` printed for EVERY value: the hypothesis "non-empty, not starting with `{` or `\"`" of
    `arg_format_roundtrip` is gone. -/
theorem arg_format_fixed_unquote (cfg : PrinterCfg) (hE : cfg.fixE = true) (ds : List Char) (kws : List Str) (v : Str) :
    unquote (argFormatC cfg ds kws v) = v := by
  have hbr : unquote ('{' :: (v ++ ['}'])) = v := by simp [unquote]
  rw [argFormatC_eq0]
  unfold argFormatC0
  simp only [hE, Bool.true_and, Bool.not_true, Bool.false_and, Bool.false_eq_true, ↓reduceIte]
  split
  · exact hbr
  · rename_i h
    simp only [Bool.or_eq_true, beq_iff_eq, not_or] at h
    obtain ⟨⟨⟨hne, h1⟩, h2⟩, _⟩ := h
    have hplain : unquote v = v := by
      cases v with
      | nil => rfl
      | cons a t =>
        have ha1 : a ≠ '{' := by intro e; subst e; simp at h1
        have ha2 : a ≠ '"' := by intro e; subst e; simp at h2
        simp [unquote, ha1, ha2]
    split
    · exact hbr
    · split
      · exact hbr
      · exact hplain

example : argFormatC ⟨true, true, true⟩ Gen.Grammar.delimiters [] "{a}".toList = "{{a}}".toList
    ∧ argFormatC ⟨true, true, true⟩ Gen.Grammar.delimiters [] [] = "{}".toList
    ∧ argFormatC ⟨true, true, true⟩ Gen.Grammar.delimiters ["s".toList] "S".toList = "{S}".toList := by decide

/-- REMARK ABOUT THE PROPOSED PATCH fix-a (not a claim about /repo).  After the repair, a printed value is never spelt like a
    keyword of the component type, so (`noMatch`) it cannot select a different rule: the hypothesis
    "no value equals a keyword" of the line-level round trip is gone for values. -/
theorem arg_format_fixed_not_keyword (cfg : PrinterCfg) (hA : cfg.fixA = true) (ds : List Char) (kws : List Str)
    (hk : ∀ k ∈ kws, k.head? ≠ some '{') (v : Str) :
    kws.contains (lower (argFormatC cfg ds kws v)) = false := by
  have hbr : ∀ x : Str, kws.contains (lower ('{' :: x)) = false := by
    intro x
    rw [show lower ('{' :: x) = '{' :: lower x by simp [lower]]
    cases hc : kws.contains ('{' :: lower x) with
    | false => rfl
    | true =>
      have := hk _ (by simpa using hc)
      simp at this
  rw [argFormatC_eq0]
  unfold argFormatC0
  simp only [hA, Bool.true_and]
  split
  · exact hbr _
  · split
    · rename_i h
      simp only [Bool.and_eq_true, beq_iff_eq] at h
      cases v with
      | nil => simp at h
      | cons a t =>
        have : a = '{' := by simpa using h.2
        subst this; exact hbr t
    · split
      · exact hbr _
      · rename_i h3
        split
        · exact hbr _
        · simpa using h3

/-- REMARK ABOUT THE PROPOSED PATCH fix-b (not a claim about /repo; a propositional consequence of the guard that
    `netTokensC` evaluates, stated on a copy of that expression).  After the repair the printer omits an argument only if the rule that
    the printed name and keyword select has `name` as the default of its first argument (or has no
    argument at all): the hypothesis "the elided argument's default is the name" is a property of the
    printer, no longer of the input. -/
theorem elision_fixed (cfg : PrinterCfg) (hB : cfg.fixB = true) (g : Grammar) (relname kw : Str) (fa : List Str) :
    (if fa.length == 1 && fa.head? == some relname && (!cfg.fixB || defaultIsName g relname kw) then [] else fa) ≠ fa →
    defaultIsName g relname kw = true := by
  intro h
  simp only [hB, Bool.not_true, Bool.false_or] at h
  by_cases hd : defaultIsName g relname kw = true
  · exact hd
  · simp [hd] at h

/-- HELPER (the first branch of the definition of `netSubs`; the claim about the checked-out source is
    `netsubs_source_is_printCpt` below).  Since fix 8b2a96c `Cpt._netsubs()` (no substitution) prints through `_netmake1`: the
    second printer of the library IS the first one, so every print → parse theorem (`line_roundtrip_partial*`,
    `netlist_roundtrip_partial`, idempotence) holds for `subs` / `rename_nodes` output as well -- and it inherits
    exactly the printer's known findings, no others. -/
theorem netsubs_is_print (cfg : PrinterCfg) (g : Grammar) (c : Cpt) : netSubs true cfg g c = printCptC cfg g c := by
  simp [netSubs]

/-- the checked-out source delegates (extracted by the translator; breaks if `_netsubs` gets its own loop again) -/
theorem netsubs_delegates_in_source : Gen.Grammar.netsubsDelegates = true := by decide

/-- The checked-out source contains none of the three proposed printer repairs (flags extracted
    by the translator from `_arg_format` / `_netmake1`).  Breaks loudly the day one of them lands in /repo: the
    round-trip theorems are about `printCpt`, and must then be restated for the repaired printer. -/
theorem tie_theCfg : theCfg = ⟨false, false, false⟩ := by decide

/-- The printer the driver runs (and the correspondence compares with the real
    `Cpt.__str__`) is the `printCpt` that `line_roundtrip*` / `netlist_roundtrip*` are about. -/
theorem tie_driver_printer (c : Cpt) : printCptC theCfg theGrammar c = printCpt theGrammar c := by
  rw [tie_theCfg]; exact printCptC_current theGrammar c

/-- the same for the netlist printer of `c06.rt` -/
theorem tie_driver_netlist_printer (s : NState) : printNetlistC theCfg theGrammar s = printNetlist theGrammar s := by
  have : printCptC theCfg theGrammar = printCpt theGrammar := funext tie_driver_printer
  simp [printNetlistC, printNetlist, this]

/-- For the checked-out source, `Cpt._netsubs()` with no substitution (what
    the driver's `c06.netsubs` computes and the correspondence compares with the real `_netsubs`) is the
    `printCpt` of the round-trip theorems: `subs` / `rename_nodes` output inherits them, and inherits exactly
    the printer's known findings. -/
theorem netsubs_source_is_printCpt (c : Cpt) :
    netSubs Gen.Grammar.netsubsDelegates theCfg theGrammar c = printCpt theGrammar c := by
  rw [netsubs_delegates_in_source, netsubs_is_print, tie_driver_printer]

/-- what was wrong with the legacy loop: a keyword at position 0 was
    written after the nodes, and an undefined non-final argument was dropped -/
example : (netSubs false ⟨false, false, false⟩ theGrammar
      { classname := "SPpp".toList, name := "SP1".toList, ctype := "SP".toList, cid := "1".toList,
        nodes := ["1".toList, "2".toList, "3".toList], args := [], kwpos := some 0, kw := "pp".toList, opts := [], string := [] })
      = some "SP1 1 2 3 pp".toList
    ∧ (netSubs false ⟨false, false, false⟩ theGrammar
      { classname := "Vac".toList, name := "V1".toList, ctype := "V".toList, cid := "1".toList,
        nodes := ["1".toList, "0".toList], args := [some "V1".toList, none, some "3".toList], kwpos := some 2, kw := "ac".toList,
        opts := [], string := [] })
      = some "V1 1 0 ac V1 3".toList := by decide +kernel

/-- On every value inside the hypotheses of the existing theorems (`okValue`,
    no `=`, not spelt like a keyword) all repairs print exactly what the current code prints. -/
theorem fixes_change_nothing_else (cfg : PrinterCfg) (ds : List Char) (kws : List Str) (v : Str)
    (hv : okValue ds v = true) (heq : v.contains '=' = false) (hk : kws.contains (lower v) = false) :
    argFormatC cfg ds kws v = argFormat ds v := by
  obtain ⟨hne, h1, h2, -⟩ := (okValue_iff ds v).mp hv
  have heq' : ¬ ('=' ∈ v) := by simpa using heq
  have hk' : ¬ (lower v ∈ kws) := by simpa using hk
  rw [argFormatC_eq0]
  unfold argFormatC0 argFormat
  simp [hne, h1, h2, heq', hk']

example : okValue Gen.Grammar.delimiters "f(x, y) + 1".toList = true := by decide

end Lcapy.C06
