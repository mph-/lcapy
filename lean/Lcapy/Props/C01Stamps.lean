/-
  PROPERTY C01, static tie to the source: the `_stamp` methods AS WRITTEN in lcapy/mnacpts.py.

  `Lcapy/Generated/Stamps.lean` is regenerated on every run by harness/translate/tx_stamps.py from the
  source text of mnacpts.py: one definition `Gen.Stamps.<Class>` per class with a `_stamp` method, holding
  every matrix update `mna._G/_B/_C/_D/_Is/_Es[..] op= value` with its operator, guards, branch conditions
  (`mna.kind`, `has_ic`, kind of the controlling component) and value expression.

  For every class and every branch the theorems below say that the GENERATED stamp and the hand model's
  `MNA.stamp kind s (ctor …)` give every row the same residual for every assignment of the unknowns
  (`SameRes`), that no `_stamp` assigns (`=`) instead of accumulating (`all_accumulate`), and that every entry
  is guarded by exactly the `>= 0` tests of the node indices it uses (`guards_ok`; Python index −1 would write
  the LAST row).  `mna_iff_laws_source` composes them with `mna_iff_laws`: the system assembled from the
  stamps as written in the source is solved exactly by the assignments that obey Kirchhoff's current law
  and every component's defining relation -- for every netlist of any size, every kind, every point s.

  A class the translator could not read has `Gen.Stamps.parsed_<Class> = false`; its theorem then holds
  vacuously and `srcStamp` uses the hand model for it (that class is tied by the correspondence only).
  The values of the opaque atoms (`self.Y.sympy`, `self.Voc.sympy`, …) are interpreted as the hand model
  interprets them (1/R, s·C, −L·i0, …; `eps` by its limit 0); that reading is validated by the correspondence.
  Only property theorems (and the definitions they are stated with) live here.
-/
import Lcapy.Props.C01
import Lcapy.Proofs.MNAStamps
import Lcapy.Proofs.Witness
namespace Lcapy.C01
open Lcapy.MNA Ix
open Lcapy.Gen.Stamps (SrcKind)
variable {K : Type} [Field K]

/-- the analysis kind of the spec for each value of `mna.kind` (phasor analysis is Laplace analysis at s = jω) -/
def kindOf : SrcKind → Kind
  | .dc => .dc | .s => .lap | .ivp => .ivp | .ac => .lap | .time => .time

set_option linter.unusedVariables false

/-- both stamps are explicit entry lists: write every row sum as a sum of indicator multiples and compare -/
macro "stamp_eq" : tactic => `(tactic|
  (intro x r
   simp only [residual, lhsSum, rhsSum, stamp, halfK, Stamp.append, branchPattern, admPattern, kindOf, capY, indZ,
     icFlux, Option.isSome, Option.getD, ite_eq_indic, List.cons_append, List.nil_append, List.map_nil, reduceCtorEq, and_true,
     true_and, and_false, false_and, or_false, false_or, or_true, true_or, and_self, or_self, ↓reduceIte] <;> ring))

/-- a class that was not parsed has nothing to prove; otherwise compare the entry lists -/
macro "stamp_thm" h:ident d:ident : tactic => `(tactic|
  first
  | exact absurd $h (by decide)
  | (unfold $d; stamp_eq))

/-- **all_accumulate**: `Gen.Stamps.updates` lists EVERY matrix update of every parsed `_stamp` method with its operator as
    read from the source; the Boolean is COMPUTED here, by the kernel, from that list: none of them is a plain assignment `=`
    (an assignment silently discards what other components stamped before: finding F26).  (What is trusted is that the
    reader lists the updates faithfully -- the same trust as for the generated stamp definitions.) -/
theorem all_accumulate : Gen.Stamps.allAccumulate = true := by decide

theorem all_accumulate_each : ∀ u ∈ Gen.Stamps.updates, u.op ≠ Gen.Stamps.Op.assign := by decide

/-- **guards_ok**: computed from the same list: every update is enclosed by exactly the `>= 0` tests of the node-index
    variables it uses (ground has index −1, which Python would read as the LAST row/column; an extra test would drop an
    entry), and every block is indexed with indices of the right sort (G[node,node], B[node,br], C[br,node], D[br,br],
    Is[node], Es[br]).  The generated stamp definitions themselves carry no guards: the model handles ground by `ground`. -/
theorem guards_ok : Gen.Stamps.guardsOk = true := by decide

theorem guards_ok_each : ∀ u ∈ Gen.Stamps.updates, u.used = u.guards ∧ u.idx = u.blk.sorts := by decide

/-- **delegations_sound**: `TPB`, `TPG`, `TPH` stamp through `TPA._stamp` and `TPZ` through `TPY._stamp`
    (with the converted parameters, see Props/C01TwoPort.lean) whenever the reader recognised the delegation. -/
theorem delegations_sound :
    ∀ d ∈ Gen.Stamps.delegations, d ∈ [("TPB", "TPA"), ("TPG", "TPA"), ("TPH", "TPA"), ("TPZ", "TPY")] := by decide

theorem stamp_AM (h : Gen.Stamps.parsed_AM = true) (sk : SrcKind) (s : K) (n1 n2 m : Nat) :
    SameRes (Gen.Stamps.AM sk n1 n2 m) (stamp (kindOf sk) s (.AM n1 n2 m)) := by
  stamp_thm h Gen.Stamps.AM

/-- `RC._stamp` for a resistor: `self.Y.sympy` = 1/R -/
theorem stamp_RC_R (h : Gen.Stamps.parsed_RC = true) (sk : SrcKind) (s : K) (n1 n2 : Nat) (r eps isc : K) :
    SameRes (Gen.Stamps.RC sk false false n1 n2 eps (1 / r) isc) (stamp (kindOf sk) s (.R n1 n2 r)) := by
  first
  | exact absurd h (by decide)
  | (unfold Gen.Stamps.RC; cases sk <;> stamp_eq)

/-- `RC._stamp` for an admittance -/
theorem stamp_RC_Y (h : Gen.Stamps.parsed_RC = true) (sk : SrcKind) (s : K) (n1 n2 : Nat) (y eps isc : K) :
    SameRes (Gen.Stamps.RC sk false false n1 n2 eps y isc) (stamp (kindOf sk) s (.Y n1 n2 y)) := by
  first
  | exact absurd h (by decide)
  | (unfold Gen.Stamps.RC; cases sk <;> stamp_eq)

/-- `RC._stamp` for a capacitor, all kinds, with and without an initial voltage: `self.Y.sympy` = s·C,
    `eps` read by its limit 0 (dc), `self.Isc.sympy` = C·v0 -/
theorem stamp_RC_C (h : Gen.Stamps.parsed_RC = true) (sk : SrcKind) (s : K) (n1 n2 : Nat) (c : K) (v0 : Option K) :
    SameRes (Gen.Stamps.RC sk true v0.isSome n1 n2 0 (capY (kindOf sk) s c) (c * v0.getD 0))
      (stamp (kindOf sk) s (.Cap n1 n2 c v0)) := by
  first
  | exact absurd h (by decide)
  | (unfold Gen.Stamps.RC; cases sk <;> cases v0 <;> stamp_eq)

/-- `VCVS._stamp` with the optional common-mode gain present -/
theorem stamp_VCVS (h : Gen.Stamps.parsed_VCVS = true) (sk : SrcKind) (s : K) (n1 n2 n3 n4 m : Nat) (Ad Ac : K) :
    SameRes (Gen.Stamps.VCVS sk true n1 n2 n3 n4 m Ad Ac) (stamp (kindOf sk) s (.E n1 n2 n3 n4 m Ad Ac)) := by
  stamp_thm h Gen.Stamps.VCVS

/-- `VCVS._stamp` without it (`Ac = 0`) -/
theorem stamp_VCVS_noAc (h : Gen.Stamps.parsed_VCVS = true) (sk : SrcKind) (s : K) (n1 n2 n3 n4 m : Nat) (Ad Ac : K) :
    SameRes (Gen.Stamps.VCVS sk false n1 n2 n3 n4 m Ad Ac) (stamp (kindOf sk) s (.E n1 n2 n3 n4 m Ad 0)) := by
  stamp_thm h Gen.Stamps.VCVS

theorem stamp_CCCS (h : Gen.Stamps.parsed_CCCS = true) (sk : SrcKind) (s : K) (n1 n2 mc : Nat) (f : K) :
    SameRes (Gen.Stamps.CCCS sk n1 n2 mc f) (stamp (kindOf sk) s (.F n1 n2 mc f)) := by
  stamp_thm h Gen.Stamps.CCCS

theorem stamp_VCCS (h : Gen.Stamps.parsed_VCCS = true) (sk : SrcKind) (s : K) (n1 n2 n3 n4 : Nat) (g : K) :
    SameRes (Gen.Stamps.VCCS sk n1 n2 n3 n4 g) (stamp (kindOf sk) s (.G n1 n2 n3 n4 g)) := by
  stamp_thm h Gen.Stamps.VCCS

/-- `GY._stamp`: `m1 = branch_index(name + 'X')` is the input branch, `m2` the component's own branch -/
theorem stamp_GY (h : Gen.Stamps.parsed_GY = true) (sk : SrcKind) (s : K) (n1 n2 n3 n4 m1 m2 : Nat) (r : K) :
    SameRes (Gen.Stamps.GY sk n1 n2 n3 n4 m1 m2 r) (stamp (kindOf sk) s (.GY n1 n2 n3 n4 m1 m2 r)) := by
  stamp_thm h Gen.Stamps.GY

/-- `CCVS._stamp`, controlling component is a voltage source or owns a branch current -/
theorem stamp_CCVS_branch (h : Gen.Stamps.parsed_CCVS = true) (sk : SrcKind) (s : K) (isV needs isC hasIc : Bool)
    (hb : (isV || needs) = true) (n1 n2 m mc c0 c1 : Nat) (hh eps yc iscc : K) :
    SameRes (Gen.Stamps.CCVS sk isV needs isC hasIc n1 n2 m mc c0 c1 hh eps yc iscc)
      (stamp (kindOf sk) s (.H n1 n2 m mc hh)) := by
  first
  | exact absurd h (by decide)
  | (unfold Gen.Stamps.CCVS; cases isV <;> cases needs <;> simp at hb <;> stamp_eq)

/-- `CCVS._stamp`, controlling component is an R, C or Y: the extra row defines the control current
    `Ic = Y·V(c0,c1) − Isc` (`Y = eps → 0` for a capacitor at dc; `Isc` only in an initial-value problem with
    an explicit initial condition) -/
theorem stamp_CCVS_RC (h : Gen.Stamps.parsed_CCVS = true) (sk : SrcKind) (s : K) (isC hasIc : Bool)
    (n1 n2 m mc c0 c1 : Nat) (hh yc iscc : K) :
    SameRes (Gen.Stamps.CCVS sk false false isC hasIc n1 n2 m mc c0 c1 hh 0 yc iscc)
      (stamp (kindOf sk) s (.HY n1 n2 m c0 c1 mc
        (if isC = true ∧ sk = .dc then 0 else yc) (if sk = .ivp ∧ hasIc = true then iscc else 0) hh)) := by
  first
  | exact absurd h (by decide)
  | (unfold Gen.Stamps.CCVS; cases sk <;> cases isC <;> cases hasIc <;> stamp_eq)

theorem stamp_I (h : Gen.Stamps.parsed_I = true) (sk : SrcKind) (s : K) (n1 n2 : Nat) (i : K) :
    SameRes (Gen.Stamps.I sk n1 n2 i) (stamp (kindOf sk) s (.I n1 n2 i)) := by
  stamp_thm h Gen.Stamps.I

/-- `K._stamp`: the two sides of a coupling, with `sym.sqrt(ZL1·ZL2/s²)` = √(L1·L2) =: r and, in a phasor
    kind, `sym.sqrt(ZL1·ZL2)` = s·r (s = jω); M = k·r.  (`K._stamp` refuses the time kind.)
    ONE BRANCH of the square root only: `sqrt((jω)²·L1·L2) = jω·r` is the principal value for ω > 0; for ω < 0 SymPy's
    principal root is −jω·r and the code would stamp the coupling with the opposite sign -- that case is outside this
    theorem (the generators only draw ω > 0; the value is tied by the correspondence). -/
theorem stamp_K (h : Gen.Stamps.parsed_K = true) (sk : SrcKind) (hsk : sk ≠ .time) (s : K) (ic1 ic2 : Bool)
    (m1 m2 : Nat) (k r i01 i02 : K) :
    SameRes (Gen.Stamps.K sk ic1 ic2 m1 m2 k r (s * r) s i01 i02)
      ((halfK (kindOf sk) s m1 (m2, k * r, if ic2 = true then some i02 else none)).append
       (halfK (kindOf sk) s m2 (m1, k * r, if ic1 = true then some i01 else none))) := by
  first
  | exact absurd h (by decide)
  | (unfold Gen.Stamps.K; cases sk <;> cases ic1 <;> cases ic2 <;> first | exact absurd rfl hsk | stamp_eq)

/-- `L._stamp` (without couplings), all kinds, with and without an initial current:
    `self.Z.sympy` = s·L, `self.Voc.sympy` = −L·i0 -/
theorem stamp_L (h : Gen.Stamps.parsed_L = true) (sk : SrcKind) (s : K) (n1 n2 m : Nat) (l : K) (i0 : Option K) :
    SameRes (Gen.Stamps.L sk i0.isSome n1 n2 m (indZ (kindOf sk) s l) (-(l * i0.getD 0)))
      (stamp (kindOf sk) s (.Ind n1 n2 m l i0 [])) := by
  first
  | exact absurd h (by decide)
  | (unfold Gen.Stamps.L; cases sk <;> cases i0 <;> stamp_eq)

theorem stamp_SPpp (h : Gen.Stamps.parsed_SPpp = true) (sk : SrcKind) (s : K) (a b o m : Nat) :
    SameRes (Gen.Stamps.SPpp sk a b o m) (stamp (kindOf sk) s (.SP a b o 0 m 1 1 0)) := by
  stamp_thm h Gen.Stamps.SPpp

theorem stamp_SPpm (h : Gen.Stamps.parsed_SPpm = true) (sk : SrcKind) (s : K) (a b o m : Nat) :
    SameRes (Gen.Stamps.SPpm sk a b o m) (stamp (kindOf sk) s (.SP a b o 0 m 1 (-1) 0)) := by
  stamp_thm h Gen.Stamps.SPpm

theorem stamp_SPppp (h : Gen.Stamps.parsed_SPppp = true) (sk : SrcKind) (s : K) (a b o d m : Nat) :
    SameRes (Gen.Stamps.SPppp sk a b o d m) (stamp (kindOf sk) s (.SP a b o d m 1 1 1)) := by
  stamp_thm h Gen.Stamps.SPppp

theorem stamp_SPpmm (h : Gen.Stamps.parsed_SPpmm = true) (sk : SrcKind) (s : K) (a b o d m : Nat) :
    SameRes (Gen.Stamps.SPpmm sk a b o d m) (stamp (kindOf sk) s (.SP a b o d m 1 (-1) (-1))) := by
  stamp_thm h Gen.Stamps.SPpmm

theorem stamp_SPppm (h : Gen.Stamps.parsed_SPppm = true) (sk : SrcKind) (s : K) (a b o d m : Nat) :
    SameRes (Gen.Stamps.SPppm sk a b o d m) (stamp (kindOf sk) s (.SP a b o d m 1 1 (-1))) := by
  stamp_thm h Gen.Stamps.SPppm

theorem stamp_TF (h : Gen.Stamps.parsed_TF = true) (sk : SrcKind) (s : K) (n1 n2 n3 n4 m : Nat) (a : K) :
    SameRes (Gen.Stamps.TF sk n1 n2 n3 n4 m a) (stamp (kindOf sk) s (.TF n1 n2 n3 n4 m a)) := by
  stamp_thm h Gen.Stamps.TF

/-- `TPA._stamp` (also reached by `TPB/TPG/TPH._stamp`, see `delegations_sound`) -/
theorem stamp_TPA (h : Gen.Stamps.parsed_TPA = true) (sk : SrcKind) (s : K) (n1 n2 n3 n4 m : Nat) (a11 a12 a21 a22 : K) :
    SameRes (Gen.Stamps.TPA sk n1 n2 n3 n4 m a11 a12 a21 a22) (stamp (kindOf sk) s (.TPA n1 n2 n3 n4 m a11 a12 a21 a22)) := by
  stamp_thm h Gen.Stamps.TPA

/-- `TPY._stamp` (also reached by `TPZ._stamp`) -/
theorem stamp_TPY (h : Gen.Stamps.parsed_TPY = true) (sk : SrcKind) (s : K) (n1 n2 n3 n4 : Nat) (y11 y12 y21 y22 : K) :
    SameRes (Gen.Stamps.TPY sk n1 n2 n3 n4 y11 y12 y21 y22) (stamp (kindOf sk) s (.TPY n1 n2 n3 n4 y11 y12 y21 y22)) := by
  stamp_thm h Gen.Stamps.TPY

theorem stamp_TR (h : Gen.Stamps.parsed_TR = true) (sk : SrcKind) (s : K) (n1 n2 m : Nat) (a : K) :
    SameRes (Gen.Stamps.TR sk n1 n2 m a) (stamp (kindOf sk) s (.TR n1 n2 m a)) := by
  stamp_thm h Gen.Stamps.TR

theorem stamp_V (h : Gen.Stamps.parsed_V = true) (sk : SrcKind) (s : K) (n1 n2 m : Nat) (v : K) :
    SameRes (Gen.Stamps.V sk n1 n2 m v) (stamp (kindOf sk) s (.V n1 n2 m v)) := by
  stamp_thm h Gen.Stamps.V

/-! ### composition: the system assembled from the stamps as written in the source -/

inductive SPKind where
  | pp | pm | ppp | pmm | ppm
deriving DecidableEq, Repr

/-- a netlist line as the `_stamp` methods see it: a component of the hand model's vocabulary, or one of the
    source forms that the hand model represents by a more general constructor -/
inductive Src (K : Type) where
  | cpt (c : Cpt K)                        -- R C L V I E(with Ac) G F H TF GY AM TR Y O/P TPA TPY (`.SP` / `.HY` given this way keep the hand stamp)
  | eNoAc (n1 n2 n3 n4 m : Nat) (Ad : K)   -- `E` without the optional common-mode gain
  | sp (kw : SPKind) (a b o d m : Nat)     -- the five summing-point classes (`d` is not used by pp / pm)
  | hy (isC hasIc : Bool) (n1 n2 m c0 c1 mc : Nat) (yc iscc h : K)
      -- CCVS controlled by an R / C / Y between c0 and c1 with admittance `yc = ccpt.Y` and `iscc = ccpt.Isc`

/-- the hand-model component of a source line -/
def toCpt (sk : SrcKind) : Src K → Cpt K
  | .cpt c => c
  | .eNoAc n1 n2 n3 n4 m Ad => .E n1 n2 n3 n4 m Ad 0
  | .sp .pp a b o _ m => .SP a b o 0 m 1 1 0
  | .sp .pm a b o _ m => .SP a b o 0 m 1 (-1) 0
  | .sp .ppp a b o d m => .SP a b o d m 1 1 1
  | .sp .pmm a b o d m => .SP a b o d m 1 (-1) (-1)
  | .sp .ppm a b o d m => .SP a b o d m 1 1 (-1)
  | .hy isC hasIc n1 n2 m c0 c1 mc yc iscc h =>
      .HY n1 n2 m c0 c1 mc (if isC = true ∧ sk = .dc then 0 else yc) (if sk = .ivp ∧ hasIc = true then iscc else 0) h

open Lcapy.Gen.Stamps in
/-- the stamp of a source line: the GENERATED definition of its class (the hand model's when the class was
    not parsed); an inductor carries the halves of the `K` lines that name it (`stamp_K`) -/
def srcStamp (sk : SrcKind) (s : K) : Src K → Stamp K
  | .cpt (.R n1 n2 r) => pick parsed_RC (RC sk false false n1 n2 0 (1 / r) 0) (stamp (kindOf sk) s (.R n1 n2 r))
  | .cpt (.Y n1 n2 y) => pick parsed_RC (RC sk false false n1 n2 0 y 0) (stamp (kindOf sk) s (.Y n1 n2 y))
  | .cpt (.Cap n1 n2 c v0) =>
      pick parsed_RC (RC sk true v0.isSome n1 n2 0 (capY (kindOf sk) s c) (c * v0.getD 0)) (stamp (kindOf sk) s (.Cap n1 n2 c v0))
  | .cpt (.Ind n1 n2 m l i0 coup) =>
      (pick parsed_L (Gen.Stamps.L sk i0.isSome n1 n2 m (indZ (kindOf sk) s l) (-(l * i0.getD 0)))
        (stamp (kindOf sk) s (.Ind n1 n2 m l i0 []))).append (halfKs (kindOf sk) s m coup)
  | .cpt (.V n1 n2 m v) => pick parsed_V (Gen.Stamps.V sk n1 n2 m v) (stamp (kindOf sk) s (.V n1 n2 m v))
  | .cpt (.I n1 n2 i) => pick parsed_I (Gen.Stamps.I sk n1 n2 i) (stamp (kindOf sk) s (.I n1 n2 i))
  | .cpt (.E n1 n2 n3 n4 m Ad Ac) => pick parsed_VCVS (VCVS sk true n1 n2 n3 n4 m Ad Ac) (stamp (kindOf sk) s (.E n1 n2 n3 n4 m Ad Ac))
  | .cpt (.G n1 n2 n3 n4 g) => pick parsed_VCCS (VCCS sk n1 n2 n3 n4 g) (stamp (kindOf sk) s (.G n1 n2 n3 n4 g))
  | .cpt (.F n1 n2 mc f) => pick parsed_CCCS (CCCS sk n1 n2 mc f) (stamp (kindOf sk) s (.F n1 n2 mc f))
  | .cpt (.H n1 n2 m mc h) =>
      pick parsed_CCVS (CCVS sk true true false false n1 n2 m mc 0 0 h 0 0 0) (stamp (kindOf sk) s (.H n1 n2 m mc h))
  | .cpt (.TF n1 n2 n3 n4 m a) => pick parsed_TF (TF sk n1 n2 n3 n4 m a) (stamp (kindOf sk) s (.TF n1 n2 n3 n4 m a))
  | .cpt (.GY n1 n2 n3 n4 m1 m2 r) => pick parsed_GY (GY sk n1 n2 n3 n4 m1 m2 r) (stamp (kindOf sk) s (.GY n1 n2 n3 n4 m1 m2 r))
  | .cpt (.AM n1 n2 m) => pick parsed_AM (AM sk n1 n2 m) (stamp (kindOf sk) s (.AM n1 n2 m))
  | .cpt (.TR n1 n2 m a) => pick parsed_TR (TR sk n1 n2 m a) (stamp (kindOf sk) s (.TR n1 n2 m a))
  | .cpt (.TPA n1 n2 n3 n4 m a11 a12 a21 a22) =>
      pick parsed_TPA (TPA sk n1 n2 n3 n4 m a11 a12 a21 a22) (stamp (kindOf sk) s (.TPA n1 n2 n3 n4 m a11 a12 a21 a22))
  | .cpt (.TPY n1 n2 n3 n4 y11 y12 y21 y22) =>
      pick parsed_TPY (TPY sk n1 n2 n3 n4 y11 y12 y21 y22) (stamp (kindOf sk) s (.TPY n1 n2 n3 n4 y11 y12 y21 y22))
  | .cpt c => stamp (kindOf sk) s c          -- Open (`Dummy._stamp` does nothing); `.SP` / `.HY` in hand-model form
  | .eNoAc n1 n2 n3 n4 m Ad => pick parsed_VCVS (VCVS sk false n1 n2 n3 n4 m Ad 0) (stamp (kindOf sk) s (.E n1 n2 n3 n4 m Ad 0))
  | .sp .pp a b o _ m => pick parsed_SPpp (SPpp sk a b o m) (stamp (kindOf sk) s (.SP a b o 0 m 1 1 0))
  | .sp .pm a b o _ m => pick parsed_SPpm (SPpm sk a b o m) (stamp (kindOf sk) s (.SP a b o 0 m 1 (-1) 0))
  | .sp .ppp a b o d m => pick parsed_SPppp (SPppp sk a b o d m) (stamp (kindOf sk) s (.SP a b o d m 1 1 1))
  | .sp .pmm a b o d m => pick parsed_SPpmm (SPpmm sk a b o d m) (stamp (kindOf sk) s (.SP a b o d m 1 (-1) (-1)))
  | .sp .ppm a b o d m => pick parsed_SPppm (SPppm sk a b o d m) (stamp (kindOf sk) s (.SP a b o d m 1 1 (-1)))
  | .hy isC hasIc n1 n2 m c0 c1 mc yc iscc h =>
      pick parsed_CCVS (CCVS sk false false isC hasIc n1 n2 m mc c0 c1 h 0 yc iscc)
        (stamp (kindOf sk) s (toCpt sk (.hy isC hasIc n1 n2 m c0 c1 mc yc iscc h)))

/-- **src_stamp_same**: every source line stamps the same rows as its hand-model component. -/
theorem src_stamp_same (sk : SrcKind) (s : K) (c : Src K) :
    SameRes (srcStamp sk s c) (stamp (kindOf sk) s (toCpt sk c)) := by
  cases c with
  | cpt c =>
    cases c with
    | R n1 n2 r => exact pick_sameRes (fun hp => stamp_RC_R hp sk s n1 n2 r 0 0)
    | Y n1 n2 y => exact pick_sameRes (fun hp => stamp_RC_Y hp sk s n1 n2 y 0 0)
    | Cap n1 n2 c v0 => exact pick_sameRes (fun hp => stamp_RC_C hp sk s n1 n2 c v0)
    | Ind n1 n2 m l i0 coup =>
      intro x r
      show _ = residual (stamp (kindOf sk) s (.Ind n1 n2 m l i0 coup)) x r
      rw [ind_split (kindOf sk) s n1 n2 m l i0 coup x r]
      exact SameRes.append (pick_sameRes (fun hp => stamp_L hp sk s n1 n2 m l i0)) (SameRes.refl _) x r
    | V n1 n2 m v => exact pick_sameRes (fun hp => stamp_V hp sk s n1 n2 m v)
    | I n1 n2 i => exact pick_sameRes (fun hp => stamp_I hp sk s n1 n2 i)
    | E n1 n2 n3 n4 m Ad Ac => exact pick_sameRes (fun hp => stamp_VCVS hp sk s n1 n2 n3 n4 m Ad Ac)
    | G n1 n2 n3 n4 g => exact pick_sameRes (fun hp => stamp_VCCS hp sk s n1 n2 n3 n4 g)
    | F n1 n2 mc f => exact pick_sameRes (fun hp => stamp_CCCS hp sk s n1 n2 mc f)
    | H n1 n2 m mc h => exact pick_sameRes (fun hp => stamp_CCVS_branch hp sk s true true false false rfl n1 n2 m mc 0 0 h 0 0 0)
    | TF n1 n2 n3 n4 m a => exact pick_sameRes (fun hp => stamp_TF hp sk s n1 n2 n3 n4 m a)
    | GY n1 n2 n3 n4 m1 m2 r => exact pick_sameRes (fun hp => stamp_GY hp sk s n1 n2 n3 n4 m1 m2 r)
    | AM n1 n2 m => exact pick_sameRes (fun hp => stamp_AM hp sk s n1 n2 m)
    | TR n1 n2 m a => exact pick_sameRes (fun hp => stamp_TR hp sk s n1 n2 m a)
    | TPA n1 n2 n3 n4 m a11 a12 a21 a22 => exact pick_sameRes (fun hp => stamp_TPA hp sk s n1 n2 n3 n4 m a11 a12 a21 a22)
    | TPY n1 n2 n3 n4 y11 y12 y21 y22 => exact pick_sameRes (fun hp => stamp_TPY hp sk s n1 n2 n3 n4 y11 y12 y21 y22)
    | Open n1 n2 => exact SameRes.refl _
    | SP n1 n2 n3 n4 m c1 c2 c4 => exact SameRes.refl _
    | HY n1 n2 m n3 n4 mc y isc h => exact SameRes.refl _
  | eNoAc n1 n2 n3 n4 m Ad => exact pick_sameRes (fun hp => stamp_VCVS_noAc hp sk s n1 n2 n3 n4 m Ad 0)
  | sp kw a b o d m =>
    cases kw
    · exact pick_sameRes (fun hp => stamp_SPpp hp sk s a b o m)
    · exact pick_sameRes (fun hp => stamp_SPpm hp sk s a b o m)
    · exact pick_sameRes (fun hp => stamp_SPppp hp sk s a b o d m)
    · exact pick_sameRes (fun hp => stamp_SPpmm hp sk s a b o d m)
    · exact pick_sameRes (fun hp => stamp_SPppm hp sk s a b o d m)
  | hy isC hasIc n1 n2 m c0 c1 mc yc iscc h =>
    exact pick_sameRes (fun hp => stamp_CCVS_RC hp sk s isC hasIc n1 n2 m mc c0 c1 h yc iscc)

/-- the system assembled from the stamps as written in the source -/
def srcStampAll (sk : SrcKind) (s : K) (cs : List (Src K)) : Stamp K :=
  cs.foldr (fun c acc => (srcStamp sk s c).append acc) {}

def SolvesSrc (sk : SrcKind) (s : K) (cs : List (Src K)) (x : Ix → K) : Prop :=
  ∀ r, r ≠ node 0 → residual (srcStampAll sk s cs) x r = 0

/-- **src_solves_iff**: the source-level system and the hand model's system have the same solutions. -/
theorem src_solves_iff (sk : SrcKind) (s : K) (cs : List (Src K)) (x : Ix → K) :
    SolvesSrc sk s cs x ↔ Solves (kindOf sk) s (cs.map (toCpt sk)) x := by
  have key : ∀ r, residual (srcStampAll sk s cs) x r = residual (stampAll (kindOf sk) s (cs.map (toCpt sk))) x r := by
    intro r
    rw [srcStampAll, residual_foldr_append, residual_stampAll, List.map_map]
    congr 1
    apply List.map_congr_left
    intro c _
    exact src_stamp_same sk s c x r
  constructor
  · intro h r hr; rw [← key r]; exact h r hr
  · intro h r hr; rw [key r]; exact h r hr

/-- **mna_iff_laws_source**: the `_stamp` methods as they are written in lcapy/mnacpts.py only accumulate
    (`+=`/`-=`), guard every node index against ground, and -- for every netlist of ANY size whose branch
    currents are owned once, in every analysis kind (dc, s, ivp, phasor, time), at every point s -- assemble a
    system that is solved exactly by the assignments obeying Kirchhoff's current law at every non-ground node
    and the defining relation of every component. -/
theorem mna_iff_laws_source :
    Gen.Stamps.allAccumulate = true ∧ Gen.Stamps.guardsOk = true ∧
    ∀ (sk : SrcKind) (s : K) (cs : List (Src K)) (x : Ix → K), WF (cs.map (toCpt sk)) →
      (SolvesSrc sk s cs x ↔ Laws (kindOf sk) s (cs.map (toCpt sk)) x) := by
  refine ⟨all_accumulate, guards_ok, ?_⟩
  intro sk s cs x hwf
  rw [src_solves_iff]
  exact mna_iff_laws (kindOf sk) s _ x hwf

/-! ### Non-vacuity: an initial-value circuit in source form, its exact solution solves the source-level system -/

def exSrc : List (Src ℚ) := [.cpt (.V 1 0 0 3), .cpt (.R 1 2 3), .cpt (.Ind 2 0 1 2 (some 1) [])]

example : WF (exSrc.map (toCpt .ivp)) := by unfold WF; decide

example : SolvesSrc .ivp 2 exSrc (fun i => match i with
    | node 1 => 3 | node 2 => 6/7 | br 0 => -5/7 | br 1 => 5/7 | _ => 0) :=
  (mna_iff_laws_source.2.2 .ivp 2 exSrc _ (by unfold WF; decide)).mpr
    (laws_of_range 3 (by decide) (by decide +kernel) (by decide +kernel))

end Lcapy.C01
