/-
  C17 -- the `limit` fallbacks of `Expr.evaluate`'s inner `func` (lcapy/expr.py) at a zero of a denominator:

      try:    result = func1(arg)
      except ZeroDivisionError:  result = complex(expr.limit(var, arg))        -- scalar call (Python float)
      if np.isnan(result):       result = complex(expr.limit(var, arg))        -- array element, 0/0
      if np.isinf(result):       result = complex(sym.simplify(expr).limit(var, arg))   -- array element, c/0

  Model: Model/EvalLimit.lean (`evalRatfun`), for a rational function p(t)/q(t) over `Rat`.
  All theorems hold for ALL coefficient lists and ALL rational points (no sampling):
    * which branch applies (`fallback_path`),
    * the number a fallback returns is the continuous extension: the value at x of a fraction that coincides with
      p/q at every other point (`fallback_value_is_continuous_extension`),
    * regular points never leave the direct path (`regular_point_direct`),
    * scalar and array evaluation return the same outcome also at the fallback points (`scalar_array_agree_at_fallback`),
    * the special-function table needs no fallback at its removable (sinc-like) points.
-/
import Lcapy.Proofs.EvalLimitBase
import Lcapy.Props.C17

namespace Lcapy.C17
open Lcapy.DT (peval)
open Lcapy.EvalLimit
open Lcapy.Evaluate
open Lcapy.Spec.SpecialFn (Fn spec disc inDomain)

/-! ### synthetic division by (t - a) -/

/-- `divLin` is division with remainder by `(t - a)`, as an identity of functions of t -/
theorem divLin_spec (p : List Rat) (a t : Rat) :
    peval p t = (t - a) * peval (divLin p a).1 t + (divLin p a).2 :=
  divLin_eval p a t

/-- remainder theorem: the remainder is p(a) -/
theorem divLin_rem (p : List Rat) (a : Rat) : (divLin p a).2 = peval p a :=
  divLin_rem_eq p a

/-! ### cancelling the common power of (t - a) does not change the function -/

/-- cross-multiplied form (it holds at t = a too; the hypothesis is kept for the reading
"the same function away from a") -/
theorem cancelAt_value (n : Nat) (p q : List Rat) (a t : Rat) (_ht : t ≠ a) :
    peval p t * peval (cancelAt n p q a).2 t = peval (cancelAt n p q a).1 t * peval q t := by
  induction n generalizing p q with
  | zero => rfl
  | succ n ih =>
    rw [cancelAt_succ]
    split_ifs with hc
    · obtain ⟨hp, hq, _⟩ := hc
      have h := ih (divLin p a).1 (divLin q a).1
      rw [divLin_exact p a t hp, divLin_exact q a t hq]
      linear_combination (t - a) * h
    · rfl

/-- p and q lose the SAME power of (t - a) -/
theorem cancelAt_common_power (n : Nat) (p q : List Rat) (a t : Rat) :
    ∃ k : Nat, peval p t = (t - a) ^ k * peval (cancelAt n p q a).1 t ∧
      peval q t = (t - a) ^ k * peval (cancelAt n p q a).2 t := by
  induction n generalizing p q with
  | zero => exact ⟨0, by rw [cancelAt_zero, pow_zero, one_mul, one_mul]; exact ⟨rfl, rfl⟩⟩
  | succ n ih =>
    rw [cancelAt_succ]
    split_ifs with hc
    · obtain ⟨hp, hq, _⟩ := hc
      obtain ⟨k, hk1, hk2⟩ := ih (divLin p a).1 (divLin q a).1
      exact ⟨k + 1, by rw [divLin_exact p a t hp, hk1]; ring, by rw [divLin_exact q a t hq, hk2]; ring⟩
    · exact ⟨0, by rw [pow_zero, one_mul, one_mul]; exact ⟨rfl, rfl⟩⟩

/-- the cancelled denominator is a factor of q: it cannot vanish where q does not -/
theorem cancelAt_den_nonzero (n : Nat) (p q : List Rat) (a t : Rat) (hq : peval q t ≠ 0) :
    peval (cancelAt n p q a).2 t ≠ 0 := by
  obtain ⟨k, _, hk⟩ := cancelAt_common_power n p q a t
  intro h0
  apply hq
  rw [hk, h0, mul_zero]

/-- quotient form: p/q and the cancelled fraction p'/q' are the same function wherever p/q is defined -/
theorem cancelAt_value_div (n : Nat) (p q : List Rat) (a t : Rat) (ht : t ≠ a) (hq : peval q t ≠ 0) :
    peval p t / peval q t = peval (cancelAt n p q a).1 t / peval (cancelAt n p q a).2 t := by
  have hq' := cancelAt_den_nonzero n p q a t hq
  rw [div_eq_div_iff hq hq']
  exact cancelAt_value n p q a t ht

/-! ### which fallback applies -/

/-- the four paths are exhaustive and each one is reachable only as described: the path is a function of
(`pyFloat`, q(x) = 0, p(x) = 0) -/
theorem fallback_path_cases (pyFloat : Bool) (p q : List Rat) (x : Rat) :
    (evalRatfun pyFloat p q x).1 =
      if peval q x ≠ 0 then .direct else if pyFloat then .zeroDivLimit
      else if peval p x = 0 then .nanLimit else .infSimplifyLimit := by
  unfold evalRatfun
  split_ifs <;> rfl

/-- the direct path exactly at the regular points; at a zero of the denominator a scalar call always
takes the `ZeroDivisionError` limit, an array element takes the `isnan` limit exactly for 0/0 and the `isinf`
(simplify, then limit) branch exactly for c/0 -/
theorem fallback_path (pyFloat : Bool) (p q : List Rat) (x : Rat) :
    ((evalRatfun pyFloat p q x).1 = .direct ↔ peval q x ≠ 0) ∧
    (pyFloat = true → peval q x = 0 → (evalRatfun pyFloat p q x).1 = .zeroDivLimit) ∧
    (pyFloat = false → peval q x = 0 →
      ((evalRatfun pyFloat p q x).1 = .nanLimit ↔ peval p x = 0) ∧
      ((evalRatfun pyFloat p q x).1 = .infSimplifyLimit ↔ peval p x ≠ 0)) := by
  rw [fallback_path_cases]
  refine ⟨?_, ?_, ?_⟩
  · split_ifs <;> simp_all
  · rintro rfl hq
    simp [hq]
  · rintro rfl hq
    by_cases hp : peval p x = 0 <;> simp [hq, hp]

/-! ### what a fallback returns -/

/-- a number returned at a zero of the denominator is the value AT x of a
fraction p'/q' (q'(x) ≠ 0) that coincides with p/q at every other point where p/q is defined -- the continuous
extension, i.e. exact substitution into the cancelled (simplified) symbolic expression. -/
theorem fallback_value_is_continuous_extension (pyFloat : Bool) (p q : List Rat) (x v : Rat)
    (hq : peval q x = 0) (h : (evalRatfun pyFloat p q x).2 = .val v) :
    ∃ p' q' : List Rat, peval q' x ≠ 0 ∧ v = peval p' x / peval q' x ∧
      ∀ t, t ≠ x → peval q t ≠ 0 → peval p t / peval q t = peval p' t / peval q' t := by
  have hl : limitAt p q x = some v := by
    cases pyFloat
    · by_cases hp : peval p x = 0
      · rw [evalRatfun_array_nan p q x hq hp] at h
        exact (outOfLimit_eq_val _ v).mp h
      · rw [evalRatfun_array_inf p q x hq hp] at h
        cases h
    · rw [evalRatfun_scalar_zero p q x hq] at h
      exact (outOfLimit_eq_val _ v).mp h
  obtain ⟨h1, h2⟩ := (limitAt_eq_some p q x v).mp hl
  exact ⟨(cancelAt q.length p q x).1, (cancelAt q.length p q x).2, h1, h2,
    fun t ht hqt => cancelAt_value_div q.length p q x t ht hqt⟩

/-- a returned number at a zero of the denominator means the singularity was removable: the numerator vanishes too
(on both routes) -/
theorem fallback_value_needs_common_zero (pyFloat : Bool) (p q : List Rat) (x v : Rat)
    (hq : peval q x = 0) (h : (evalRatfun pyFloat p q x).2 = .val v) : peval p x = 0 := by
  by_contra hp
  cases pyFloat
  · rw [evalRatfun_array_inf p q x hq hp] at h
    cases h
  · rw [evalRatfun_scalar_zero p q x hq, limitAt_pole p q x hp hq] at h
    cases h

/-- where the denominator does not vanish no fallback is entered and the result is p(x)/q(x) -/
theorem regular_point_direct (pyFloat : Bool) (p q : List Rat) (x : Rat) (hq : peval q x ≠ 0) :
    evalRatfun pyFloat p q x = (.direct, .val (peval p x / peval q x)) :=
  evalRatfun_regular pyFloat p q x hq

/-- at a regular point SymPy's limit would have given the same number: the fallbacks extend the direct path -/
theorem regular_point_limit (p q : List Rat) (x : Rat) (hq : peval q x ≠ 0) :
    outOfLimit (limitAt p q x) = .val (peval p x / peval q x) := by
  rw [limitAt_regular p q x hq]
  rfl

/-! ### scalar call versus array element -/

/-- the outcomes (not the paths) of the scalar and of the array route coincide at EVERY point -/
theorem scalar_array_same_outcome (p q : List Rat) (x : Rat) :
    (evalRatfun true p q x).2 = (evalRatfun false p q x).2 := by
  by_cases hq : peval q x = 0
  · by_cases hp : peval p x = 0
    · rw [evalRatfun_scalar_zero p q x hq, evalRatfun_array_nan p q x hq hp]
    · rw [evalRatfun_scalar_zero p q x hq, evalRatfun_array_inf p q x hq hp, limitAt_pole p q x hp hq]
      rfl
  · rw [evalRatfun_regular true p q x hq, evalRatfun_regular false p q x hq]

/-- array evaluation agrees element-wise with scalar evaluation also at the fallback
points, although through different branches -/
theorem scalar_array_agree_at_fallback (p q : List Rat) (x v : Rat) :
    (evalRatfun true p q x).2 = .val v ↔ (evalRatfun false p q x).2 = .val v := by
  rw [scalar_array_same_outcome]

/-- ... while the paths differ at every zero of the denominator -/
theorem scalar_array_paths_differ (p q : List Rat) (x : Rat) (hq : peval q x = 0) :
    (evalRatfun true p q x).1 ≠ (evalRatfun false p q x).1 := by
  rw [fallback_path_cases, fallback_path_cases]
  by_cases hp : peval p x = 0 <;> simp [hq, hp]

/-! ### the special-function table at its removable (sinc-like 0/0) points: no fallback needed -/

/-- the numeric definitions branch explicitly at 0, and so does exact substitution: both give the limit 1 -/
theorem table_removable_points :
    numericDef .sincn 0 = some 1 ∧ symbolicDef .sincn 0 = some 1 ∧
    numericDef .sincu 0 = some 1 ∧ symbolicDef .sincu 0 = some 1 ∧
    numericDef .sinc 0 = some 1 ∧ symbolicDef .sinc 0 = some 1 := by
  decide +kernel

/-- psinc(M, ·) at EVERY integer n (all of them are 0/0 points of sin(M pi t)/(M sin(pi t))): both paths return the
documented limit, which is a number -/
theorem table_removable_psinc (m n : Int) (hm : 0 < m) :
    numericDef (.psinc (m : Rat)) (n : Rat) = spec (.psinc (m : Rat)) (n : Rat) ∧
    symbolicDef (.psinc (m : Rat)) (n : Rat) = spec (.psinc (m : Rat)) (n : Rat) ∧
    (spec (.psinc (m : Rat)) (n : Rat)).isSome := by
  have hdom : inDomain (.psinc (m : Rat)) = true := by
    simp only [inDomain, Bool.and_eq_true, decide_eq_true_eq, specIsInt_iff]
    exact ⟨Rat.den_intCast m, by exact_mod_cast hm⟩
  obtain ⟨h1, h2⟩ := agree_psinc (m : Rat) (n : Rat) hdom
  refine ⟨h1, h2, ?_⟩
  rw [spec_psinc_int m n hm]
  rfl

/-! ### non-vacuity -/

-- (t² - 1)/(t - 1) at 1: removable, value 2, through different branches
example : evalRatfun true [-1, 0, 1] [-1, 1] 1 = (.zeroDivLimit, .val 2) := by decide +kernel
example : evalRatfun false [-1, 0, 1] [-1, 1] 1 = (.nanLimit, .val 2) := by decide +kernel
-- (t² + 1)/(t - 1) at 1: a pole; the array route goes through simplify + limit, both return inf
example : evalRatfun false [1, 0, 1] [-1, 1] 1 = (.infSimplifyLimit, .other) := by decide +kernel
example : evalRatfun true [1, 0, 1] [-1, 1] 1 = (.zeroDivLimit, .other) := by decide +kernel
-- (t - 1)²/(t - 1)³ at 1: 0/0, but a pole is left after cancelling
example : evalRatfun true [1, -2, 1] [-1, 3, -3, 1] 1 = (.zeroDivLimit, .other) := by decide +kernel
example : evalRatfun false [1, -2, 1] [-1, 3, -3, 1] 1 = (.nanLimit, .other) := by decide +kernel
-- double root: (t - 1)² (t + 2)/(t - 1)² = (2 - 3 t + t³)/(1 - 2 t + t²) at 1 gives 3
example : evalRatfun true [2, -3, 0, 1] [1, -2, 1] 1 = (.zeroDivLimit, .val 3) := by decide +kernel
example : evalRatfun false [2, -3, 0, 1] [1, -2, 1] 1 = (.nanLimit, .val 3) := by decide +kernel
example : cancelAt 3 [2, -3, 0, 1] [1, -2, 1] 1 = ([2, 1, 0, 0], [1, 0, 0]) := by decide +kernel
-- a regular point of the same fraction, and a non-integer rational point
example : evalRatfun true [-1, 0, 1] [-1, 1] 3 = (.direct, .val 4) := by decide +kernel
example : evalRatfun false [-1, 0, 1] [-1, 1] (1/2) = (.direct, .val (3/2)) := by decide +kernel
-- the hypotheses of `fallback_value_is_continuous_extension` are satisfiable, and its conclusion is not trivial
example : peval [-1, 1] (1 : Rat) = 0 ∧ (evalRatfun true [-1, 0, 1] [-1, 1] 1).2 = .val 2 := by decide +kernel
-- synthetic division: t² - 1 = (t - 1)(t + 1) + 0, t² + 1 = (t - 1)(t + 1) + 2
example : divLin [-1, 0, 1] 1 = ([1, 1, 0], 0) ∧ divLin [1, 0, 1] 1 = ([1, 1, 0], 2) := by decide +kernel
-- degenerate denominators: the zero polynomial and the empty list never produce a number
example : evalRatfun true [0, 0] [0, 0] 1 = (.zeroDivLimit, .other) ∧ evalRatfun false [] [] 0 = (.nanLimit, .other) := by
  decide +kernel
-- constant-zero denominator of length 1 (`q.length > 1` guard): nothing cancelled, no number
example : evalRatfun true [0, 1] [0] 0 = (.zeroDivLimit, .other) := by decide +kernel

end Lcapy.C17
