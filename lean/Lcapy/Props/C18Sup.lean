/-
  PROPERTY C18, part 3 -- the operators of Superposition (the class of every node
  voltage and branch current of circuit analysis) and of phasors with equal / unequal angular frequency.

  `supTables` (decomposition keys of classmap.py, the `_mul`/`_div` tables of SuperpositionVoltage /
  SuperpositionCurrent, structural flags of Superposition.__add__ and
  PhasorExpression._compatible_phasors) is REGENERATED from /repo/lcapy on every run
  (Lcapy/Generated/QuantitiesSup.lean); the model is Lcapy/Model/QuantitiesSup.lean.
-/
import Lcapy.Generated.Quantities
import Lcapy.Generated.QuantitiesSup
import Lcapy.Proofs.QuantitiesBase
import Lcapy.Props.C18
namespace Lcapy.C18
open Lcapy.Dim Lcapy.QModel Lcapy.QSup Lcapy.Gen.Q Lcapy.Gen.QSup Lcapy.QBase

/-! ## 1. structure of the code (read by the translator on every run) -/

/-- `Superposition.__add__` tests `x.quantity != self.quantity` in a statement of the function body
    (a test moved inside the preceding `try: ... except: pass` is swallowed) -/
theorem flag_sup_add_checks_quantity : supTables.flags.supAddChecksQuantity = true := by decide
theorem flag_sup_add_coerces_undefined : supTables.flags.supAddCoercesUndefined = true := by decide
theorem flag_sup_sub_is_add_neg : supTables.flags.supSubIsAddNeg = true := by decide
theorem flag_sup_eq_through_sub : supTables.flags.supEqThroughSub = true := by decide
/-- `_compatible_phasors`: domain test first, equal omega accepted, everything else raises -/
theorem flag_phasor_omega_checked : supTables.flags.phasorOmegaChecked = true := by decide
theorem flag_phasor_zero_escapes : supTables.flags.phasorZeroEscapes = true := by decide

/-- `is_undefined` is False for every class with a defined quantity (so `__add__` never re-labels
    a typed operand; false for the squared immittances before the fix of finding C18-F28) -/
theorem defined_quantities_not_undefined_flag :
    ∀ q ∈ Quantity.all, q.isDefined = true → isUndefinedFlag tables q = false := by decide +kernel

/-- the decomposition keys: time-like domains go under 't', Laplace under 's', the two Fourier
    domains under their own keys; no other domain has a key (such operands are refused) -/
theorem sup_keys :
    keyOf supTables .time = some "t" ∧ keyOf supTables .constantTime = some "t" ∧
    keyOf supTables .constant = some "t" ∧ keyOf supTables .laplace = some "s" ∧
    keyOf supTables .fourier = some "f" ∧ keyOf supTables .angularFourier = some "omega" ∧
    (∀ d ∈ [Domain.frequencyResponse, .angularFrequencyResponse, .discreteTime, .discreteFourier, .Z,
            .normFourier, .normAngularFourier, .phasorRatio], keyOf supTables d = none) := by decide +kernel

/-! ## 2. `+`, `-`, `==` of a Superposition -/

variable (T : Tables) (S : SupTables)

/-- ALL operands: an expression of a defined quantity other than the Superposition's is refused
    ('Incompatible quantities'), whatever its domain, units, value and the components present -/
theorem sup_add_refuses_quantities (hf : S.flags.supAddChecksQuantity = true) (qS : Quantity)
    (x : Opd) (hu : isUndefinedFlag T x.q = false) (hne : x.q ≠ qS) :
    supAdd T S qS (.ex x) = .err .quantities := by
  simp [supAdd, coercedQ, hu, hf, hne]

/-- ... and so is a Superposition of the other quantity (SuperpositionVoltage + SuperpositionCurrent) -/
theorem sup_add_refuses_superposition (hf : S.flags.supAddChecksQuantity = true) (qS q : Quantity)
    (hne : q ≠ qS) : supAdd T S qS (.sup q) = .err .quantities := by
  simp [supAdd, hf, hne]

/-- the instance for the code as it is now: every defined quantity -/
theorem sup_add_refuses_quantities_now (qS : Quantity) (x : Opd) (hd : x.q.isDefined = true)
    (hne : x.q ≠ qS) : supAdd tables supTables qS (.ex x) = .err .quantities :=
  sup_add_refuses_quantities tables supTables flag_sup_add_checks_quantity qS x
    (defined_quantities_not_undefined_flag x.q (quantity_mem_all x.q) hd) hne

/-- ALL tables, ALL operands: IF `__sub__` is `self + (-x)` and `__eq__` goes through `(self - x)`
    (the two structural flags the translator reads from superposition.py) and `__add__` tests the
    quantities, an operand of another defined quantity is refused by `-` and the comparison raises,
    i.e. is never "equal" -/
theorem sup_sub_eq_refuses (hadd : S.flags.supAddChecksQuantity = true)
    (hsub : S.flags.supSubIsAddNeg = true) (heq : S.flags.supEqThroughSub = true)
    (qS : Quantity) (x : Opd) (hu : isUndefinedFlag T x.q = false) (hne : x.q ≠ qS) :
    supSub T S qS (.ex x) = .err .quantities ∧ supEqCompares T S qS (.ex x) = false := by
  have h := sup_add_refuses_quantities T S hadd qS x hu hne
  have h2 : supSub T S qS (.ex x) = .err .quantities := by simp [supSub, hsub, h]
  exact ⟨h2, by simp [supEqCompares, heq, h2]⟩

/-- the instance for the code as it is now (all three flags hold) -/
theorem sup_sub_eq_refuse (qS : Quantity) (x : Opd) (hd : x.q.isDefined = true) (hne : x.q ≠ qS) :
    supSub tables supTables qS (.ex x) = .err .quantities ∧
    supEqCompares tables supTables qS (.ex x) = false :=
  sup_sub_eq_refuses tables supTables flag_sup_add_checks_quantity flag_sup_sub_is_add_neg
    flag_sup_eq_through_sub qS x
    (defined_quantities_not_undefined_flag x.q (quantity_mem_all x.q) hd) hne

/-- an accepted sum is a Superposition of the SAME quantity, and whatever is stored carries it -/
theorem sup_add_keeps_quantity (hf : S.flags.supAddChecksQuantity = true) (qS : Quantity) (a : SupArg)
    (q : Quantity) (st : Option (String × Domain × Quantity)) (h : supAdd T S qS a = .sup q st) :
    q = qS ∧ ∀ k d q', st = some (k, d, q') → q' = qS := by
  cases a with
  | number =>
    simp only [supAdd] at h
    split at h
    · simp only [SupOutcome.sup.injEq] at h
      obtain ⟨rfl, rfl⟩ := h
      exact ⟨rfl, by intro k d q' e; simp at e; exact e.2.2.symm⟩
    · cases h
  | sup q0 =>
    simp only [supAdd] at h
    split at h
    · cases h
    · simp only [SupOutcome.sup.injEq] at h
      obtain ⟨rfl, rfl⟩ := h
      exact ⟨rfl, by intro k d q' e; cases e⟩
  | ex x =>
    simp only [supAdd, hf, Bool.true_and] at h
    split at h
    · cases h
    · rename_i hq
      have hxq : coercedQ T S qS x = qS := by simpa using hq
      split at h
      · simp only [SupOutcome.sup.injEq] at h
        obtain ⟨rfl, rfl⟩ := h
        exact ⟨rfl, by intro k d q' e; cases e⟩
      · split at h
        · simp only [SupOutcome.sup.injEq] at h
          obtain ⟨rfl, rfl⟩ := h
          exact ⟨rfl, by intro k d q' e; simp at e; rw [← e.2.2]; exact hxq⟩
        · split at h
          · simp only [SupOutcome.sup.injEq] at h
            obtain ⟨rfl, rfl⟩ := h
            exact ⟨rfl, by intro k d q' e; simp at e; rw [← e.2.2]; exact hxq⟩
          · cases h

/-- non-vacuity: a Laplace-domain voltage is accepted by a SuperpositionVoltage and stored under 's';
    an untyped time-domain expression is coerced to the Superposition's quantity -/
theorem witness_sup_add :
    supAdd tables supTables .voltage (.ex ⟨.laplace, .voltage, ⟨1, 0, 0, 0, 0, -1, 0, 0⟩, false, false, false⟩) =
      .sup .voltage (some ("s", .laplace, .voltage)) ∧
    supAdd tables supTables .current (.ex ⟨.time, .undefined, U.one, false, false, false⟩) =
      .sup .current (some ("t", .time, .current)) ∧
    supAdd tables supTables .voltage (.ex ⟨.laplace, .current, ⟨0, 1, 0, 0, 0, -1, 0, 0⟩, false, false, false⟩) =
      .err .quantities ∧
    supAdd tables supTables .voltage (.ex ⟨.discreteTime, .voltage, ⟨1, 0, 0, 0, 0, 0, 0, 0⟩, false, false, false⟩) =
      .err .kind := by decide +kernel

/-! ## 3. `*`, `/` of a Superposition: Ohm's law component by component -/

/-- the `_mul`/`_div` tables are dimensionally right and agree with the quantity tables of `Expr`:
    voltage * admittance = voltage / impedance = current, current * impedance = current / admittance =
    voltage, and the demanded divisor is the reciprocal of the demanded multiplier -/
theorem sup_mul_table_sound :
    ∀ r ∈ supMulTable,
      mulLookup tables r.q r.mulNeed = some r.result ∧ divLookup tables r.q r.divNeed = some r.result ∧
      dimQ r.result = addVA (dimQ r.q) (dimQ r.mulNeed) ∧
      dimQ r.result = subVA (dimQ r.q) (dimQ r.divNeed) ∧
      divLookup tables .undefined r.divNeed = some r.mulNeed ∧
      r.refusesSup = true ∧ r.refusesTime = true := by decide +kernel

theorem sup_mul_table_complete :
    (supMulTable.map (fun r => r.q)) = [.voltage, .current] ∧
    ∀ r ∈ supMulTable, r.rows.map (fun p => p.1) = [.dc, .ac, .n, .s, .t] := by decide +kernel

/-- ALL operands: anything but the demanded immittance is refused with a TypeError -/
theorem sup_mul_refuses (qS : Quantity) (r : SupMulRow) (hr : mulRow S qS = some r) (x : Opd)
    (hne : x.q ≠ r.mulNeed) : supMul S qS (.ex x) = .err .type := by
  simp [supMul, hr, hne]

theorem sup_div_refuses (qS : Quantity) (r : SupMulRow) (hr : mulRow S qS = some r) (x : Opd)
    (hne : x.q ≠ r.divNeed) : supDiv S qS (.ex x) = .err .type := by
  simp [supDiv, hr, hne]

/-- an accepted product / quotient is a Superposition of the table's result quantity -/
theorem sup_mul_result (qS : Quantity) (r : SupMulRow) (hr : mulRow S qS = some r) (x : Opd)
    (q : Quantity) (st : Option (String × Domain × Quantity)) (h : supMul S qS (.ex x) = .sup q st) :
    q = r.result := by
  simp only [supMul, hr] at h
  split at h
  · cases h
  · split at h
    · cases h
    · simp only [SupOutcome.sup.injEq] at h; exact h.1.symm

/-- ALL operands, every key: the per-key product `obj[key] * multiplier` is a product of `Expr`s, so
    (theorem `mul_consistent`) its units are the product of the component's and the multiplier's
    units and its quantity has the dimension of the product -/
theorem sup_mul_component_consistent (qS : Quantity) (hq : qS = .voltage ∨ qS = .current) (cu : U)
    (k : Kind) (f : ArgForm) (x : Opd) (d : Domain) (q : Quantity) (u : U)
    (h : supMulComponent tables qS cu k f x = .ok d q u)
    (hc : (dimU cu).va = dimQ qS) (hx : (dimU x.units).va = dimQ x.q) :
    (dimU u).va = dimQ q ∧ dimU u = dimU cu + dimU x.units ∧ dimQ q = addVA (dimQ qS) (dimQ x.q) := by
  unfold supMulComponent at h
  have hg : genericPair ⟨kindDomain k, qS, cu, false, k == .dc, k == .dc⟩
      { x with dom := argDomain tables f x.dom, unch := (f == .atZero || f == .atJOmega0 || x.unch),
               const := (f == .atZero || f == .atJOmega0 || x.const) } = false := by
    rcases hq with rfl | rfl <;> simp [genericPair]
  have h1 := mul_consistent _ _ d q u h hg hc hx
  have h2 := mul_quantity_dimension tables mul_dim _ _ d q u h hg
  exact ⟨h1.1, h1.2, h2⟩

/-- is the per-key product formed, in domain `d`, with quantity `q`? -/
def formedAs (o : Outcome) (d : Domain) (q : Quantity) : Bool :=
  match o with
  | .ok d' q' _ => d' == d && q' == q
  | .err _ => false

/-- non-vacuity, complete over the generated table: for every Superposition class, every key but the
    noise key (findings C18-F22, C18-F22b) and the 't' key, and an immittance of the demanded quantity given in
    the Laplace domain with its class units, the per-key product IS formed, in the component's domain,
    with the result quantity; under the 't' key a time-varying component takes a CONSTANT immittance -/
theorem sup_mul_components_formed :
    ∀ r ∈ supMulTable, ∀ p ∈ r.rows,
      (p.1 ≠ .n → p.1 ≠ .t →
        formedAs (supMulComponent tables r.q (defaultUnits tables (kindDomain p.1) r.q) p.1 p.2
          ⟨.laplace, r.mulNeed, defaultUnits tables .laplace r.mulNeed, false, false, false⟩)
          (kindDomain p.1) r.result = true) ∧
      (p.1 = .t →
        formedAs (supMulComponent tables r.q (defaultUnits tables .time r.q) .t p.2
          ⟨.constantFrequencyResponse, r.mulNeed, defaultUnits tables .constantFrequencyResponse r.mulNeed,
           false, true, true⟩) .time r.result = true) := by
  decide +kernel

/-! ## 4. phasors: equal angular frequency combines, unequal is refused -/

/-- ALL operands: two non-zero phasors (or two phasor ratios) with different angular frequencies can
    not be multiplied ... -/
theorem ph_unequal_omega_mul_refused (hf : S.flags.phasorOmegaChecked = true) (a x : POpd)
    (hd : isPh a.opd.dom = true) (hsame : x.opd.dom = a.opd.dom) (hx : x.omega ≠ .none)
    (hne : a.omega ≠ x.omega) (hz : a.opd.zero = false ∧ x.opd.zero = false)
    (hc : isConst T a.opd.dom = false)
    (hco : (coerceImmittance T x.opd true) = x.opd) :
    phMul T S a x = .err .omega := by
  simp [phMul, hd, hco, phMulCompat, hc, compatPh, hsame, hx, hne, hz.1, hz.2, hf]

/-- ... nor divided ... -/
theorem ph_unequal_omega_div_refused (hf : S.flags.phasorOmegaChecked = true) (a x : POpd)
    (hd : isPh a.opd.dom = true) (hsame : x.opd.dom = a.opd.dom) (hx : x.omega ≠ .none)
    (hne : a.omega ≠ x.omega) (hz : a.opd.zero = false ∧ x.opd.zero = false)
    (hc : isConst T a.opd.dom = false) (hr : reflectedDiv a.opd x.opd = false)
    (hco : (coerceImmittance T x.opd T.flags.divRestoresUnits) = x.opd) :
    phDiv T S a x = .err .omega := by
  simp [phDiv, hd, hr, hco, phDivCompat, hc, compatPh, hsame, hx, hne, hz.1, hz.2, hf]

/-- ... nor added / subtracted (under every setting that lets them pass the units test) -/
theorem ph_unequal_omega_add_refused (hf : S.flags.phasorOmegaChecked = true) (c : Cfg) (a x : POpd)
    (hd : isPh a.opd.dom = true) (hsame : x.opd.dom = a.opd.dom) (hx : x.omega ≠ .none)
    (hne : a.omega ≠ x.omega) (hz : a.opd.zero = false ∧ x.opd.zero = false)
    (hu : unitsClash T c a.opd x.opd = false) :
    phAdd T S c a x = .err .omega := by
  simp [phAdd, hd, hsame, hu, compatPh, hx, hne, hz.1, hz.2, hf]

/-- with EQUAL angular frequencies (or a constant-domain operand, e.g. an impedance evaluated at
    j omega0) a phasor product is the `Expr` product: all theorems of section 2 of Props/C18 apply,
    in particular the units multiply and the dimensions add -/
theorem ph_equal_omega_mul (a x : POpd) (hd : isPh a.opd.dom = true)
    (h : a.omega = x.omega ∨ isConst T (coerceImmittance T x.opd true).dom = true)
    (hsame : (coerceImmittance T x.opd true).dom = a.opd.dom ∨
             isConst T (coerceImmittance T x.opd true).dom = true) :
    phMul T S a x = liftP (resOmega a x) (mulM T a.opd x.opd) := by
  rcases hsame with hs | hs
  · rcases h with h | h
    · by_cases hc : isConst T a.opd.dom = true
      · simp [phMul, hd, phMulCompat, hc]
      · by_cases hxo : x.omega = .none
        · simp [phMul, hd, phMulCompat, hc, compatPh, hs, hxo]
        · simp [phMul, hd, phMulCompat, hc, compatPh, hs, hxo, h]
    · simp [phMul, hd, phMulCompat, h]
  · simp [phMul, hd, phMulCompat, hs]

theorem ph_mul_consistent (a x : POpd) (d : Domain) (q : Quantity) (u : U) (om : Om)
    (h : phMul tables supTables a x = .ok d q u om) (hg : genericPair a.opd x.opd = false)
    (ha : (dimU a.opd.units).va = dimQ a.opd.q) (hx : (dimU x.opd.units).va = dimQ x.opd.q) :
    (dimU u).va = dimQ q ∧ dimU u = dimU a.opd.units + dimU x.opd.units := by
  have key : ∀ o, liftP (resOmega a x) o = .ok d q u om → o = .ok d q u := by
    intro o ho; cases o with
    | ok d' q' u' => simp [liftP] at ho; obtain ⟨rfl, rfl, rfl, _⟩ := ho; rfl
    | err e => simp [liftP] at ho
  unfold phMul at h
  split at h
  · exact mul_consistent a.opd x.opd d q u (key _ h) hg ha hx
  · split at h
    · cases h
    · cases h
    · exact mul_consistent a.opd x.opd d q u (key _ h) hg ha hx

/-- witnesses on the generated tables: V(omega=3) * Y(j3) is a phasor current [V S] at omega = 3;
    V(3) * V(5), V(3) + V(5), V(3) / I(5) are refused; V(3) / I(3) is a phasor-ratio impedance -/
theorem witness_phasors :
    phMul tables supTables ⟨⟨.phasor, .voltage, ⟨1, 0, 0, 0, 0, 0, 0, 0⟩, false, true, true⟩, .num 3⟩
      ⟨⟨.constantFrequencyResponse, .admittance, ⟨0, 0, 0, 1, 0, 0, 0, 0⟩, false, true, true⟩, .none⟩ =
      .ok .phasor .current ⟨1, 0, 0, 1, 0, 0, 0, 0⟩ (.num 3) ∧
    phMul tables supTables ⟨⟨.phasor, .voltage, ⟨1, 0, 0, 0, 0, 0, 0, 0⟩, false, true, true⟩, .num 3⟩
      ⟨⟨.phasor, .voltage, ⟨1, 0, 0, 0, 0, 0, 0, 0⟩, false, true, true⟩, .num 5⟩ = .err .omega ∧
    phAdd tables supTables ⟨true, true, false⟩ ⟨⟨.phasor, .voltage, ⟨1, 0, 0, 0, 0, 0, 0, 0⟩, false, true, true⟩, .num 3⟩
      ⟨⟨.phasor, .voltage, ⟨1, 0, 0, 0, 0, 0, 0, 0⟩, false, true, true⟩, .num 5⟩ = .err .omega ∧
    phDiv tables supTables ⟨⟨.phasor, .voltage, ⟨1, 0, 0, 0, 0, 0, 0, 0⟩, false, true, true⟩, .num 3⟩
      ⟨⟨.phasor, .current, ⟨0, 1, 0, 0, 0, 0, 0, 0⟩, false, true, true⟩, .num 5⟩ = .err .omega ∧
    phDiv tables supTables ⟨⟨.phasor, .voltage, ⟨1, 0, 0, 0, 0, 0, 0, 0⟩, false, true, true⟩, .num 3⟩
      ⟨⟨.phasor, .current, ⟨0, 1, 0, 0, 0, 0, 0, 0⟩, false, true, true⟩, .num 3⟩ =
      .ok .phasorRatio .impedance ⟨1, -1, 0, 0, 0, 0, 0, 0⟩ (.num 3) ∧
    phAdd tables supTables ⟨true, true, false⟩ ⟨⟨.phasor, .voltage, ⟨1, 0, 0, 0, 0, 0, 0, 0⟩, false, true, true⟩, .num 3⟩
      ⟨⟨.phasor, .voltage, ⟨1, 0, 0, 0, 0, 0, 0, 0⟩, false, true, true⟩, .num 3⟩ =
      .ok .phasor .voltage ⟨1, 0, 0, 0, 0, 0, 0, 0⟩ (.num 3) := by decide +kernel

end Lcapy.C18
