/-
  Machine-checked NON-VACUITY witnesses for Props/C20.lean, C20Placer.lean and
  C20Shapes.lean.  Running example: the netlist
      V1 1 0; down      R1 1 2; right=2      C1 2 0_2; down      W1 0 0_2; right=2
  with node spacing 2 and the layout  1 = (0,2), 0 = (0,0), 2 = (4,2), 0_2 = (4,0);  the diamond DAG of the Props files.
-/
import Lcapy.Props.C20
import Lcapy.Props.C20Placer
import Lcapy.Props.C20Shapes
set_option linter.defProp false
namespace Lcapy.NonVacuity.C20
open Lcapy.Layout Lcapy.Placer Lcapy.C20

/-! ## the netlist, resolved by the model of the code -/

def nl : Netlist :=
  ⟨2, [⟨"V1", "V", "V", ["1", "0"], [("down", "")]⟩, ⟨"R1", "R", "R", ["1", "2"], [("right", "2")]⟩,
       ⟨"C1", "C", "C", ["2", "0_2"], [("down", "")]⟩, ⟨"W1", "W", "W", ["0", "0_2"], [("right", "2")]⟩], [], []⟩

def rs : List Resolved :=
  [⟨"V1", "V", [("1", (0, 1/2)), ("0", (0, -1/2))], -90, 1, true, false, true⟩,
   ⟨"R1", "R", [("1", (-1/2, 0)), ("2", (1/2, 0))], 0, 2, true, false, true⟩,
   ⟨"C1", "C", [("2", (0, 1/2)), ("0_2", (0, -1/2))], -90, 1, true, false, true⟩,
   ⟨"W1", "W", [("0", (-1/2, 0)), ("0_2", (1/2, 0))], 0, 2, true, false, true⟩]

def lay : Layout := [("1", (0, 2)), ("0", (0, 0)), ("2", (4, 2)), ("0_2", (4, 0))]
def nodes4 : List String := ["1", "0", "2", "0_2"]

/-- the model of the code resolves the netlist (pins rotated, sizes read), with exactly the elements `rs` -/
theorem nl_resolves : (match resolveAll rotCode nl with
    | .ok x => x.2.map (fun r => (r.name, r.pins, r.angle, r.size, r.stretch, r.skip, r.onePort)) ==
        rs.map (fun r => (r.name, r.pins, r.angle, r.size, r.stretch, r.skip, r.onePort))
    | .error _ => false) = true := by decide +kernel

theorem nv_resolve_all_agrees : ∃ x, resolveAll rotCode nl = .ok x ∧ resolveAll rotExact nl = .ok x := by
  cases h : resolveAll rotCode nl with
  | error m => have := nl_resolves; rw [h] at this; cases this
  | ok x => exact ⟨x, rfl, resolve_all_agrees nl x h⟩

theorem nv_resolve_all_agreesP : ∃ x, resolveAll (rotCodeP nl.rots) nl = .ok x ∧ resolveAll (rotMeanP nl.rots) nl = .ok x := by
  obtain ⟨x, hx, _⟩ := nv_resolve_all_agrees
  have hP := resolveAll_mono (rot2 := rotCodeP nl.rots) (fun a v w h => by simp [rotCodeP, h]) nl x hx
  exact ⟨x, hP, resolve_all_agreesP nl x hP⟩

/-! ## Props/C20.lean -/

theorem rs_sizeOk : ∀ r ∈ rs, r.sizeOk 2 = true := by decide +kernel

theorem spec_items : rs.filterMap (Resolved.item 2) =
    [.hint ⟨"1", "0", .down, 2, false⟩, .hint ⟨"1", "2", .right, 4, false⟩, .hint ⟨"2", "0_2", .down, 2, false⟩,
     .hint ⟨"0", "0_2", .right, 4, false⟩] := by decide +kernel

theorem lay_checks : checkPos ⟨nodes4, rs.filterMap (Resolved.item 2)⟩ lay = true := by decide +kernel

def nv_check_sound := check_sound ⟨nodes4, rs.filterMap (Resolved.item 2)⟩ lay lay_checks
def nv_check_complete := check_complete ⟨nodes4, rs.filterMap (Resolved.item 2)⟩ lay nv_check_sound

/-- three pins of a body on one axis (values 5/4, -5/4, -5/4), stretchy, size 1 -/
def nv_constraints_pairwise :=
  constraints_pairwise 2 1 true (fun n => if n = "o" then 5 else 0) [(5/4, "o"), (-5/4, "p"), (-5/4, "m")] (by norm_num)

def nv_constraints_match_hints :=
  constraints_match_hints 2 lay ⟨"R1", "R", [("1", (-1/2, 0)), ("2", (1/2, 0))], 0, 2, true, false, true⟩ (by norm_num) rfl
    (by decide +kernel) (.hint ⟨"1", "2", .right, 4, false⟩) (by decide +kernel)

/-- a multi-pin rigid body -/
theorem nv_constraints_match_hints_body : ∃ it,
    Resolved.item 2 ⟨"E1", "Eopamp", [("o", (5/4, 0)), ("p", (-5/4, 1/2)), ("m", (-5/4, -1/2))], 0, 1, false, false, false⟩ = some it ∧
    ((Resolved.graphs ⟨"E1", "Eopamp", [("o", (5/4, 0)), ("p", (-5/4, 1/2)), ("m", (-5/4, -1/2))], 0, 1, false, false, false⟩).Sat 2
        [("o", (5, 0)), ("p", (0, 1)), ("m", (0, -1))] ↔ it.Sat [("o", (5, 0)), ("p", (0, 1)), ("m", (0, -1))]) := by
  obtain ⟨it, h⟩ := Option.isSome_iff_exists.1 (by decide +kernel : (Resolved.item 2
    ⟨"E1", "Eopamp", [("o", (5/4, 0)), ("p", (-5/4, 1/2)), ("m", (-5/4, -1/2))], 0, 1, false, false, false⟩).isSome = true)
  exact ⟨it, h, constraints_match_hints 2 _ _ (by norm_num) rfl (by decide +kernel) it h⟩

def nv_constraints_match_hints_all := constraints_match_hints_all 2 lay (by norm_num) rs rs_sizeOk
def nv_checkPos_iff_graphs := checkPos_iff_graphs 2 lay (by norm_num) nodes4 rs rs_sizeOk
/-- ... and its left-hand side is TRUE for the layout (so the graphs hold) -/
theorem nv_graphs_hold : (makeGraphs rs).Sat 2 lay := ((checkPos_iff_graphs 2 lay (by norm_num) nodes4 rs rs_sizeOk).1 lay_checks).2

def nv_one_port_item :=
  one_port_item 2 ⟨"V1", "V", [("1", (0, 1/2)), ("0", (0, -1/2))], -90, 1, true, false, true⟩ "1" "0" (0, 1/2) (0, -1/2) rfl rfl
    (by decide +kernel) (by decide +kernel)

def nv_one_port_spec_item :=
  one_port_spec_item 2 ⟨"V1", "V", [("1", (0, 1/2)), ("0", (0, -1/2))], -90, 1, true, false, true⟩ "1" "0" (0, 1/2) (0, -1/2) rfl rfl
    rfl (by decide +kernel) (by decide +kernel)

def nv_rotCode_agrees := rotCode_agrees (-90) (1/2, 0) (0, -1/2) (by decide +kernel)

def diamondE : List WEdge := [⟨"a", "b", 1⟩, ⟨"b", "d", 1⟩, ⟨"a", "c", 3⟩, ⟨"c", "d", 2⟩]
def order : List String := ["d", "c", "b", "a"]

theorem order_revTopo : RevTopo diamondE order := (revTopo_check diamondE order).1 (by decide +kernel)

def nv_longest_path_feasible := longest_path_feasible diamondE order (by decide) order_revTopo

def chainE : List WEdge := [⟨"a", "b", 2⟩, ⟨"b", "c", 1⟩]
theorem chain_revTopo : RevTopo chainE ["c", "b", "a"] := (revTopo_check _ _).1 (by decide +kernel)

def nv_fixed_edges_exact_partial :=
  fixed_edges_exact_partial chainE ["c", "b", "a"] (by decide) chain_revTopo ⟨"a", "b", 2⟩ (by decide) (by decide) (by decide)
    (by norm_num) (by decide +kernel)

def nv_fixed_chain_exact_partial :=
  fixed_chain_exact_partial chainE ["c", "b", "a"] (by decide) chain_revTopo chainE "a" ⟨rfl, rfl, trivial⟩ (by
    intro e he
    simp only [chainE, List.mem_cons, List.mem_nil_iff, or_false] at he
    rcases he with rfl | rfl
    · exact ⟨by decide, by decide, by decide, by norm_num, by decide +kernel⟩
    · exact ⟨by decide, by decide, by decide, by norm_num, by decide +kernel⟩)

/-! ## Props/C20Placer.lean -/

theorem diamond_solves : (match solve diamond with
    | .ok s => s.certified && s.conflicts.isEmpty
    | .error _ => false) = true := by
  have := diamond_solved
  cases h : solve diamond with
  | error m => rw [h] at this; cases this
  | ok s =>
    rw [h] at this
    simp only [Bool.and_eq_true] at this
    exact Bool.and_eq_true_iff.2 this.1.1

theorem nv_solve_sat : ∃ s, solve diamond = .ok s ∧ ∀ x ∈ diamond, ∀ e ∈ x.fedges, SatE s.pos e := by
  cases h : solve diamond with
  | error m => have := diamond_solves; rw [h] at this; cases this
  | ok s =>
    have hc : s.conflicts = [] := by
      have := diamond_solves; rw [h] at this
      simp only [Bool.and_eq_true, List.isEmpty_iff] at this
      exact this.2
    exact ⟨s, rfl, solve_sat diamond s h hc (by decide +kernel) (by decide +kernel)⟩

def posD : Pos := [("a", 0), ("b", 5/2), ("c", 3), ("d", 5)]

theorem nv_solve_conflicts_iff : checkPositions diamond posD = [] ∧ ∀ x ∈ diamond, ∀ e ∈ x.fedges, SatE posD e :=
  ⟨by decide +kernel, (solve_conflicts_iff diamond posD).1 (by decide +kernel)⟩

def nv_prune_sound :=
  prune_sound [⟨"0", "a", "b", 2, false⟩, ⟨"1", "a", "b", 1, true⟩] [("a", 0), ("b", 2)] (by decide +kernel) (by decide +kernel)
    (by
      intro b hb
      have : b = ⟨"0", "a", "b", 2, false⟩ := by
        have hp : pruneList [⟨"0", "a", "b", 2, false⟩, ⟨"1", "a", "b", 1, true⟩] = [⟨"0", "a", "b", 2, false⟩] := by
          decide +kernel
        rw [hp] at hb; simpa using hb
      subst this
      exact ⟨0, 2, by decide +kernel, by decide +kernel, by norm_num⟩)

theorem diamond_lp : (match longestPathCert (addStartNodes (prune diamond)) [] "start" "end" with
    | .ok (p, c) => c && decide (pathDist p = 5)
    | .error _ => false) = true := diamond_certified

theorem nv_longest_path_maximal : ∃ p, longestPathCert (addStartNodes (prune diamond)) [] "start" "end" = .ok (p, true) ∧
    IsChain (addStartNodes (prune diamond)) [] "start" "end" "start" p ∧ pathDist p = 5 ∧
    ∀ q, IsChain (addStartNodes (prune diamond)) [] "start" "end" "start" q → pathDist q ≤ pathDist p := by
  cases h : longestPathCert (addStartNodes (prune diamond)) [] "start" "end" with
  | error m => have := diamond_lp; rw [h] at this; cases this
  | ok pc =>
    obtain ⟨p, c⟩ := pc
    have hk := diamond_lp
    rw [h] at hk
    simp only [Bool.and_eq_true, decide_eq_true_eq] at hk
    obtain ⟨rfl, hd⟩ := hk
    obtain ⟨h1, h2⟩ := longest_path_maximal _ _ _ _ p h
    exact ⟨p, rfl, h1, hd, h2⟩

def pathAB : List GE := [⟨"0", "a", "b", 1, true⟩, ⟨"1", "b", "d", 1, true⟩]

theorem nv_assign_longest_exact : ∃ st', assignLongest pathAB ⟨[], ["a", "b", "d"]⟩ = .ok st' ∧
    ∀ e ∈ pathAB, ∃ a, aget st'.pos e.src = some a ∧ aget st'.pos e.dst = some (a + e.size) := by
  obtain ⟨st', h⟩ := exists_ok_of_toBool
    (by decide +kernel : (assignLongest pathAB ⟨[], ["a", "b", "d"]⟩).toBool = true)
  exact ⟨st', h, assign_longest_exact pathAB ⟨rfl, trivial⟩ _ st' h⟩

/-- gnode `b` reached through a FIXED edge of size 2 from `a` (placed at 1), with another stretchy edge entering it -/
def gFix : PGraph :=
  [⟨"a", [⟨"0", "a", "b", 2, false⟩], []⟩, ⟨"c", [⟨"1", "c", "b", 1, true⟩], []⟩,
   ⟨"b", [], [⟨"0", "b", "a", 2, false⟩, ⟨"1", "b", "c", 1, true⟩]⟩]

def nv_assign_fixed_exact := assign_fixed_exact gFix [("a", 1), ("c", 0)] "b" 3 (by decide +kernel)

theorem nv_walk_end : ∃ x' st', walkAssign (fun e => e.dst) (3/2) pathAB 0 ⟨[("a", 0)], ["b", "d"]⟩ = .ok (x', st') ∧
    x' = 0 + pathDist pathAB + (pathStretches pathAB : Rat) * (3/2) := by
  obtain ⟨r, h⟩ := exists_ok_of_toBool
    (by decide +kernel : (walkAssign (fun e => e.dst) (3/2) pathAB 0 ⟨[("a", 0)], ["b", "d"]⟩).toBool = true)
  exact ⟨r.1, r.2, h, walk_end _ _ _ _ _ r.1 r.2 h⟩

def nv_even_split_closes_iff := even_split_closes_iff 0 5 5 2 2 2 (by decide)
def nv_even_split_tight := even_split_tight 0 5 2 2 (by decide)
def nv_even_split_overshoots_iff := even_split_overshoots_iff 0 5 4 2 1 3 (by decide)
def nv_even_split_misses := even_split_misses 0 5 4 2 2 (by decide) (by norm_num)

/-! ## Props/C20Shapes.lean, Proofs/LayoutShapes.lean -/

theorem nv_ptype_mirror_reversed : ∃ row, lookupRow "Qpnp" = some row ∧
    pinsOf row ⟨"Q1", "Q", "Qpnp", ["1", "2", "3"], [("mirror", "")]⟩ 1 1 = variant row "normal_pins" := by
  obtain ⟨row, h, hr⟩ := Option.map_eq_some_iff.1
    (by decide +kernel : (lookupRow "Qpnp").map (·.pinsRule) = some "transistor")
  exact ⟨row, h, ptype_mirror_reversed row _ hr (by decide +kernel) (by decide +kernel) (by decide +kernel)
    (by decide +kernel)⟩

def nv_rot_param_isometry :=
  rot_param_isometry [(mkR 5313 100, 3/5, 4/5)] (mkR 5313 100) (3/5) (4/5) (1/2, 0) (3/10, 2/5) (by norm_num) (by decide +kernel)
    (by decide +kernel)

def nv_rotCodeP_agrees :=
  rotCodeP_agrees [(mkR 5313 100, 3/5, 4/5)] (mkR 5313 100) (1/2, 0) (3/10, 2/5) (by decide +kernel)

theorem nv_size_option_wins : ∃ row, lookupRow "R" = some row ∧
    Elt.size ⟨"R1", "R", "R", ["1", "2"], [("right", "3"), ("size", "1.5")]⟩ row = some (3/2 * row.shapeScale) := by
  obtain ⟨row, h⟩ := Option.isSome_iff_exists.1 (by decide +kernel : (lookupRow "R").isSome = true)
  exact ⟨row, h, size_option_wins _ row "1.5" (3/2) (by decide +kernel) (by decide +kernel) (by decide) (by decide +kernel)⟩

theorem nv_size_default : ∃ row, lookupRow "Eopamp" = some row ∧
    Elt.size ⟨"E1", "E", "Eopamp", ["1", "0", "2", "3"], [("mirror", "")]⟩ row = some (row.defaultWidth * row.shapeScale) := by
  obtain ⟨row, h⟩ := Option.isSome_iff_exists.1 (by decide +kernel : (lookupRow "Eopamp").isSome = true)
  exact ⟨row, h, size_default _ row (by decide +kernel) (by decide +kernel) (by decide +kernel) (by decide +kernel)
    (by decide +kernel)⟩

def nv_split_noop (st : SplitSt) :=
  split_noop st ⟨"R1", "R", "R", ["1", "2"], [("right", "2")]⟩ (by decide +kernel)

end Lcapy.NonVacuity.C20
