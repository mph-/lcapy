/-
  C16 -- results depend only on the circuit, not on history or environment.

  All theorems are about the executable model `Lcapy.Cache` (Model/Cache.lean), whose
  configuration (`Config`: memoised members, what `_invalidate` clears, which mutators call it,
  whether an overridden component is detached, ...) is GENERATED from lcapy's source text.
  They are stated for an arbitrary configuration and an arbitrary set `G` of memo slots, with the
  decidable side conditions `CfgOK cfg G` on the configuration; `Props/C16Tables.lean` and
  `Props/C16Full.lean` instantiate them at the generated configuration (by `decide`).

  History = any finite list of operations (no length bound; induction over the list) on any
  number of interleaved instances: new, add, remove, override, queries, derived circuits.
-/
import Lcapy.Spec.Cache
import Lcapy.Proofs.CacheIso
import Lcapy.Proofs.CachePure
import Lcapy.Proofs.CacheAux
namespace Lcapy.C16
open Lcapy.Cache

theorem inv_init (cfg : Config) (G : String → Bool) : Inv cfg G World.empty := inv_empty

/-- every admissible step that raises no exception preserves the invariant
    (node counters = incidence counters; every live memo of `G` is up to date and clean) -/
theorem inv_step (cfg : Config) (G : String → Bool) (hc : CfgOK cfg G) (w : World) (h : Inv cfg G w) (op : Op)
    (hadm : op.admissible cfg w) (hok : (step cfg w op).2 = true) : Inv cfg G (step cfg w op).1 :=
  Cache.inv_step hc h op hadm hok

theorem inv_run (cfg : Config) (G : String → Bool) (hc : CfgOK cfg G) (ops : List Op) (hr : RunOK cfg World.empty ops) :
    Inv cfg G (run cfg World.empty ops) :=
  Cache.inv_run hc ops inv_empty hr

/-- a small configuration with one slot of each of two kinds, used by the non-vacuity examples -/
def exCfg2 : Config where
  memoised := [("a", .cprop), ("b", .lru)]
  cleared := ["a", "b"]
  addInvalidates := true
  addMultiInvalidates := true
  removeInvalidates := true
  initInvalidates := true
  overrideDetaches := true
  keepConnectedNode := true
  deps := [("b", ["a"])]
  reads := [("q", ["a", "b"])]
  spawns := ["b"]

/-- the invariant is not vacuous: a concrete world with live memos satisfies it after a history -/
example : let cfg : Config := exCfg2
    RunOK cfg World.empty [.new, .add 0 ⟨"R1", "R", ["1", "0"], "1"⟩, .query 0 "q", .add 0 ⟨"R1", "R", ["1", "2"], "5"⟩,
      .add 0 ⟨"E1", "E", ["3", "0", "2", "0"], "10"⟩, .query 0 "q", .remove 0 "E1",
      .query 0 "q", .remove 0 "R1", .derive 0 "q" [⟨"C1", "C", ["1", "0"], "1"⟩]] := by
  intro cfg
  simp only [RunOK, Op.admissible, uniqueNames]
  decide +kernel

/-! ## refinement: a query after any history = the same query on a freshly built circuit -/

/-- For the slots of `G`: after ANY admissible exception-free history, on ANY instance, the memo
    layer hands a query exactly the provenance it hands the same query in a fresh process that
    built the circuit from the current elements; and every observation that is a function of the
    elements and of the node counters (`is_dangling`, `remove_dangling`, `unconnected_nodes`, ...)
    coincides with the one on the fresh circuit. -/
theorem inv_implies_fresh (cfg : Config) (G : String → Bool) (hc : CfgOK cfg G) (w : World) (hinv : Inv cfg G w)
    (i : Nat) (inst : Inst) (hi : w.insts[i]? = some inst) :
    (∀ q, (∀ d ∈ cfg.readsOf q, G d = true) → answer cfg w i q = answer cfg (build inst.elts) 0 q) ∧
    (∀ {α : Type} (f : List Elt → (String → Nat) → (String → Nat) → α),
      structural f inst = structural f ⟨inst.elts, buildTab inst.elts, []⟩) := by
  obtain ⟨htab, hu⟩ := hinv.tab i inst hi
  refine ⟨?_, ?_⟩
  · intro q hq
    have h1 := (query_spec hc hinv i q).2 inst hi hq
    have h2 := (query_spec hc (inv_build (cfg := cfg) (G := G) inst.elts hu) 0 q).2
      ⟨inst.elts, buildTab inst.elts, []⟩ (by simp [build]) hq
    simp only [answer]
    rw [h1, h2]
  · intro α f
    have hc1 : countOf inst.tab = countOf (buildTab inst.elts) := by
      funext n; rw [(htab n).1, (buildTab_ent _ n).1]
    have hd1 : degOf inst.tab = degOf (buildTab inst.elts) := by
      funext n; rw [(htab n).2, (buildTab_ent _ n).2]
    simp only [structural, hc1, hd1]

theorem fresh_refinement_on (cfg : Config) (G : String → Bool) (hc : CfgOK cfg G)
    (ops : List Op) (hr : RunOK cfg World.empty ops)
    (i : Nat) (inst : Inst) (hi : (run cfg World.empty ops).insts[i]? = some inst) :
    (∀ q, (∀ d ∈ cfg.readsOf q, G d = true) →
      answer cfg (run cfg World.empty ops) i q = answer cfg (build inst.elts) 0 q) ∧
    (∀ {α : Type} (f : List Elt → (String → Nat) → (String → Nat) → α),
      structural f inst = structural f ⟨inst.elts, buildTab inst.elts, []⟩) :=
  inv_implies_fresh cfg G hc _ (Cache.inv_run hc ops (inv_empty (cfg := cfg) (G := G)) hr) i inst hi

/-- what a query observes: the provenance of every memo slot it reads AND the element dictionary it is asked on (so the
    observation of a query that reads no memo slot at all -- `cpts`, `netlist`, `copy`, `Isc` (which works on a killed
    copy), ... -- is not empty: it is the elements; what such a query computes from them and from the node table is the
    `structural` half of the refinement theorems) -/
def observation (cfg : Config) (w : World) (i : Nat) (q : String) : Prov × List Elt := (answer cfg w i q, eltsOf w i)

/-- FULL PROPERTY.  If `_invalidate` clears every memoised member, `add` (for a single line AND for
    a multi-line string) and `remove` call it,
    overriding a name detaches the old component, `remove` and the override detach the component from
    EVERY node it has (components of any arity), and no read-only member mutates a cached object, then for every history of public operations that
    raises no exception, every query on every instance answers as on a freshly built circuit.
    (The eight hypotheses are decidable facts about the generated configuration; they are
    instantiated in Props/C16Full.lean, which builds iff lcapy's source satisfies them.) -/
theorem fresh_refinement (cfg : Config)
    (hclr : ∀ p ∈ cfg.memoised, cfg.isCleared p.1 = true)
    (hadd : cfg.addInvalidates = true) (hmulti : cfg.addMultiInvalidates = true)
    (hrem : cfg.removeInvalidates = true) (hdet : cfg.overrideDetaches = true)
    (hrsel : cfg.removeSel = .all) (hosel : cfg.overrideSel = .all) (hdmg : cfg.damages = [])
    (ops : List Op) (hpub : ∀ op ∈ ops, op.isPublic) (hok : NoRaise cfg World.empty ops)
    (i : Nat) (inst : Inst) (hi : (run cfg World.empty ops).insts[i]? = some inst) :
    (∀ q, answer cfg (run cfg World.empty ops) i q = answer cfg (build inst.elts) 0 q) ∧
    (∀ {α : Type} (f : List Elt → (String → Nat) → (String → Nat) → α),
      structural f inst = structural f ⟨inst.elts, buildTab inst.elts, []⟩) := by
  obtain ⟨h1, h2⟩ := fresh_refinement_on cfg (fun _ => true) (cfgOK_all hclr hdmg) ops
    (runOK_of_flags cfg hadd hmulti hrem hdet hrsel hosel ops _ hpub hok) i inst hi
  exact ⟨fun q => h1 q (fun _ _ => rfl), h2⟩

/-- a small configuration with a slot of every kind, used by the non-vacuity examples -/
def exCfg3 : Config where
  memoised := [("a", .cprop), ("b", .lru), ("c", .hasattr)]
  cleared := ["a", "b", "c"]
  addInvalidates := true
  addMultiInvalidates := true
  removeInvalidates := true
  initInvalidates := true
  overrideDetaches := true
  keepConnectedNode := true
  deps := [("b", ["a", "c"])]
  reads := [("q", ["a", "c", "b"])]
  spawns := ["b"]

/-- the same with the non-empty observation: provenance of the slots read together with the elements -/
theorem fresh_refinement_observation (cfg : Config)
    (hclr : ∀ p ∈ cfg.memoised, cfg.isCleared p.1 = true)
    (hadd : cfg.addInvalidates = true) (hmulti : cfg.addMultiInvalidates = true)
    (hrem : cfg.removeInvalidates = true) (hdet : cfg.overrideDetaches = true)
    (hrsel : cfg.removeSel = .all) (hosel : cfg.overrideSel = .all) (hdmg : cfg.damages = [])
    (ops : List Op) (hpub : ∀ op ∈ ops, op.isPublic) (hok : NoRaise cfg World.empty ops)
    (i : Nat) (inst : Inst) (hi : (run cfg World.empty ops).insts[i]? = some inst) (q : String) :
    observation cfg (run cfg World.empty ops) i q = observation cfg (build inst.elts) 0 q ∧
    (observation cfg (run cfg World.empty ops) i q).2 = inst.elts := by
  have h := (fresh_refinement cfg hclr hadd hmulti hrem hdet hrsel hosel hdmg ops hpub hok i inst hi).1 q
  simp [observation, h, eltsOf, hi, build]

/-- the hypotheses of `fresh_refinement` are satisfiable by a configuration with live memo slots of
    every kind and a history with an override, queries, a removal, a failing-free copy and work on
    the copy -/
example : let cfg : Config := exCfg3
    let ops : List Op := [.new, .add 0 ⟨"R1", "R", ["1", "0"], "1"⟩, .query 0 "q", .add 0 ⟨"R1", "R", ["1", "2"], "5"⟩,
      .query 0 "q", .derive 0 "q" [⟨"R1", "R", ["1", "2"], "5"⟩], .add 1 ⟨"C1", "C", ["2", "0"], "1"⟩, .query 1 "q",
      .remove 0 "R1", .addLines 0 [⟨"R3", "R", ["2", "3"], "1"⟩, ⟨"TF1", "TF", ["3", "0", "4", "0"], "3"⟩]]
    (∀ p ∈ cfg.memoised, cfg.isCleared p.1 = true) ∧ (∀ op ∈ ops, op.isPublic) ∧ NoRaise cfg World.empty ops ∧
    (run cfg World.empty ops).insts.length = 2 := by
  intro cfg ops
  refine ⟨by decide +kernel, ?_, ?_, by decide +kernel⟩
  · intro op hop
    simp only [ops, List.mem_cons, List.mem_nil_iff, or_false] at hop
    rcases hop with h | h | h | h | h | h | h | h | h | h <;> subst h <;> simp [Op.isPublic, uniqueNames]
  · simp only [NoRaise, ops]; decide +kernel

set_option linter.unusedVariables false in
/-- PARTIAL (what holds of a code base whose `_invalidate` misses some slots and/or whose
    `_cpt_add` does not detach an overridden component): excluded are (1) the queries that read a
    slot outside `G` -- `G` must avoid the uncleared slots and everything computed from them --
    and (2) histories containing an `add` over an existing name. -/
theorem fresh_refinement_partial (cfg : Config) (G : String → Bool) (hG : cfgOKb cfg G = true)
    (hadd : cfg.addInvalidates = true) (hrem : cfg.removeInvalidates = true)
    (ops : List Op) (hr : RunOK cfg World.empty ops)
    (i : Nat) (inst : Inst) (hi : (run cfg World.empty ops).insts[i]? = some inst)
    (q : String) (hq : ∀ d ∈ cfg.readsOf q, G d = true) :
    answer cfg (run cfg World.empty ops) i q = answer cfg (build inst.elts) 0 q := by
  have hc : CfgOK cfg G := by
    simp only [cfgOKb, Bool.and_eq_true, List.all_eq_true] at hG
    refine ⟨?_, ?_, ?_⟩
    · intro s hs hk
      cases hk' : cfg.kindOf s with
      | none => simp [hk'] at hk
      | some k =>
        have := hG.1.1 (s, k) (lookup_mem _ _ _ hk')
        simpa [hs] using this
    · intro s hs d hd
      unfold Config.depsOf at hd
      cases hl : cfg.deps.lookup s with
      | none => simp [hl] at hd
      | some ds =>
        have := hG.1.2 (s, ds) (lookup_mem _ _ _ hl)
        simp [hl] at hd
        simp [hs] at this
        exact this d hd
    · intro p hp
      have := hG.2 p hp
      simpa using this
  exact (fresh_refinement_on cfg G hc ops hr i inst hi).1 q hq

/-- an operation aimed at another instance (mutation, query, derivation) leaves this instance's
    elements, node table and per-instance memo slots exactly as they were.
    MODEL-STRUCTURAL: this holds of EVERY configuration because every operation of the model only does
    `insts.set i`; the model has no sharing between instances that could be violated.  For lcapy, "modifying a copy
    never changes the original" rests on the correspondence stream (copies / derived circuits are mutated afterwards and
    the source is compared with a fresh rebuild after every operation on ANY instance), on the `source-changed` oracle,
    and on the code-side tables of Props/C16Tables.lean (`shared_cached_objects_not_mutated`) and
    Props/C16PureCode.lean (`read_only_members_write_only_memo_state_partial`). -/
theorem copy_isolated (cfg : Config) (w : World) (op : Op) (k : Nat) (hk : k < w.insts.length)
    (ht : op.target ≠ some k) : (step cfg w op).1.insts[k]? = w.insts[k]? := by
  cases op with
  | new => exact newInst_other _ _ hk
  | add i e => exact add_other _ _ _ _ (fun h => ht (by simp [Op.target, h]))
  | addRaw i e => exact addRaw_other _ _ _ _ (fun h => ht (by simp [Op.target, h]))
  | addLines i es => exact addLines_other _ _ _ _ (fun h => ht (by simp [Op.target, h]))
  | remove i nm => exact remove_other _ _ _ _ (fun h => ht (by simp [Op.target, h]))
  | query i q => exact query_other _ _ _ _ (fun h => ht (by simp [Op.target, h]))
  | derive i pre es => exact derive_other _ _ _ _ _ (fun h => ht (by simp [Op.target, h])) hk
  | addFail i es e late => exact addFail_other _ _ _ _ _ _ (fun h => ht (by simp [Op.target, h]))

/-- deriving a circuit (copy, subs, kill, select, simplify, ...) leaves the source's elements and
    node table unchanged, whatever is later done to the derived instance (by `copy_isolated`).
    MODEL-STRUCTURAL (see `copy_isolated`): in the model a derived instance is built from an INPUT list of elements. -/
theorem derive_keeps_source (cfg : Config) (w : World) (i : Nat) (pre : String) (es : List Elt)
    (hi : i < w.insts.length) :
    ((step cfg w (.derive i pre es)).1.insts[i]?).map (fun x : Inst => (x.elts, x.tab)) =
      (w.insts[i]?).map (fun x : Inst => (x.elts, x.tab)) :=
  derive_source _ _ _ _ hi

/-- error branch: removing an unknown name is rejected before anything is touched -/
theorem remove_unknown_atomic (cfg : Config) (w : World) (i : Nat) (nm : String) (inst : Inst)
    (hi : w.insts[i]? = some inst) (hn : findElt inst.elts nm = none) :
    remove cfg w i nm = (w, false) := by
  simp [remove, hi, hn]

/-- error branch: when `Node.remove` deletes a node only if no connection remains, removing a
    known component never stops half way (cf. `failed_remove_corrupts` for the unguarded code) -/
theorem remove_known_completes (cfg : Config) (hk : cfg.keepConnectedNode = true) (w : World) (i : Nat)
    (nm : String) (inst : Inst) (e : Elt) (hi : w.insts[i]? = some inst) (he : findElt inst.elts nm = some e) :
    (remove cfg w i nm).2 = true := by
  rw [remove_eq, actOn_flag hi]
  obtain ⟨t', ht'⟩ := detachAll_total (cfg.removeSel.pick e.nodes) inst.tab e.counted
  simp [he, hk, ht']

/-- a transform answered through the memo table = the transform computed without it, for every
    request stream (transforms and `clear_cache()` interleaved), PROVIDED the key determines the
    result -/
theorem memo_transparent {A K R : Type} [DecidableEq K] (key : A → K) (f : A → R)
    (hkey : ∀ a b, key a = key b → f a = f b) (rs : List (TCache.Req A)) :
    TCache.runT key f [] rs = rs.map (TCache.uncached f) :=
  TCache.runT_eq key f hkey rs [] (by intro p hp; cases hp)

/-- the proviso is necessary: two arguments with the same key and different results are told apart -/
theorem memo_needs_key {A K R : Type} [DecidableEq K] (key : A → K) (f : A → R) (a b : A)
    (hk : key a = key b) (hf : f a ≠ f b) :
    TCache.runT key f [] [.tr a, .tr b] ≠ [TCache.Req.tr a, .tr b].map (TCache.uncached f) := by
  simp [TCache.runT, TCache.stepT, TCache.lookup, TCache.uncached, hk]
  exact hf

example : ∃ (key : Nat × Bool → Nat) (f : Nat × Bool → Nat), ∀ a b, key a = key b → f a = f b :=
  ⟨fun p => p.1, fun p => p.1 * 2, fun a b h => by simp [h]⟩

/-! ## iteration order of sets in `simplify` -/

/-- the combined value does not depend on the order in which the group is iterated -/
theorem perm_invariant_partial {g h : List Combine.Cpt} (p : g.Perm h) : Combine.total g = Combine.total h := by
  unfold Combine.total
  induction p with
  | nil => rfl
  | cons x _ ih => simp [List.map] at ih ⊢; omega
  | swap x y l => simp [List.map, List.foldr]; omega
  | trans _ _ ih1 ih2 => exact ih1.trans ih2

/-- ... but the netlist does (F7): the first name of the iteration hosts the combined component.
    `perm_invariant` at full strength (`combineSeries n g = combineSeries n h` for `g ~ h`) is FALSE
    of the code; witness: -/
theorem perm_invariant_fails :
    ∃ g h : List Combine.Cpt, g.Perm h ∧ Combine.combineSeries "Rt1" g ≠ Combine.combineSeries "Rt1" h :=
  ⟨[⟨"R1", "1", "2", 1⟩, ⟨"R2", "2", "0", 2⟩], [⟨"R2", "2", "0", 2⟩, ⟨"R1", "1", "2", 1⟩],
   List.Perm.swap _ _ _, by decide +kernel⟩

/-! ## witnesses: what goes wrong when a side condition of `fresh_refinement` fails
    (configuration frozen at the state of lcapy in which F14 was found) -/

/-- lcapy's configuration when F14 was found, restricted to three slots -/
def cfgF14 : Config where
  memoised := [("_components", .hasattr), ("analyse", .lru), ("node_list", .cprop)]
  cleared := ["analyse", "node_list"]
  addInvalidates := true
  addMultiInvalidates := true
  removeInvalidates := true
  initInvalidates := true
  overrideDetaches := false
  keepConnectedNode := false
  deps := [("analyse", ["_components"])]
  reads := [("capacitors", ["_components"]), ("has_dc", ["_components", "analyse"]), ("node_list", ["node_list"])]
  spawns := []

def V1 : Elt := ⟨"V1", "V", ["1", "0"], "5"⟩
def R1 : Elt := ⟨"R1", "R", ["1", "2"], "1"⟩
def R2 : Elt := ⟨"R2", "R", ["2", "0"], "2"⟩
def C1 : Elt := ⟨"C1", "C", ["2", "0"], "1"⟩
def R1' : Elt := ⟨"R1", "R", ["1", "3"], "5"⟩
def O1 : Elt := ⟨"O1", "O", ["2", "0"], ""⟩

/-- F14a: `_components` is not cleared: after `cct.capacitors; cct.add('C1 2 0 1')` the list is
    the one computed before the add -/
theorem f14_stale_components :
    let ops : List Op := [.new, .add 0 V1, .add 0 R1, .add 0 R2, .query 0 "capacitors", .add 0 C1]
    answer cfgF14 (run cfgF14 World.empty ops) 0 "capacitors" ≠
      answer cfgF14 (build (eltsOf (run cfgF14 World.empty ops) 0)) 0 "capacitors" := by decide +kernel

/-- F14b: overriding `R1 1 2 1` by `R1 1 3 5` leaves the old R1 counted on node 2 -/
theorem f14_override_keeps_old_attachment :
    let ops : List Op := [.new, .add 0 V1, .add 0 R1, .add 0 R2, .add 0 R1']
    let inst : Inst := ((run cfgF14 World.empty ops).insts[0]?).getD (⟨[], [], []⟩ : Inst)
    countOf inst.tab "2" = 2 ∧ countOf (buildTab inst.elts) "2" = 1 ∧
    cptDangling inst.tab R2 = false ∧ cptDangling (buildTab inst.elts) R2 = true := by decide +kernel

/-- a `remove` that raises half way (`Nodes._delete` refuses because an open-circuit component is
    still connected) leaves the counters of the already visited nodes decremented although the
    component stays in the netlist -/
theorem failed_remove_corrupts :
    let ops : List Op := [.new, .add 0 V1, .add 0 R1, .add 0 O1]
    let w := run cfgF14 World.empty ops
    (step cfgF14 w (.remove 0 "R1")).2 = false ∧
    eltsOf (step cfgF14 w (.remove 0 "R1")).1 0 = eltsOf w 0 ∧
    countOf (((step cfgF14 w (.remove 0 "R1")).1.insts[0]?).getD (⟨[], [], []⟩ : Inst)).tab "1" = 1 ∧
    countOf (buildTab (eltsOf w 0)) "1" = 2 := by decide +kernel

/-- why `_add` is not a public operation: applied to an instance with a live memo it leaves the
    memo stale even for a slot that `_invalidate` would clear -/
theorem addRaw_on_live_memo_is_stale :
    let ops : List Op := [.new, .add 0 V1, .query 0 "node_list", .addRaw 0 R1]
    answer cfgF14 (run cfgF14 World.empty ops) 0 "node_list" ≠
      answer cfgF14 (build (eltsOf (run cfgF14 World.empty ops) 0)) 0 "node_list" := by decide +kernel

/-- why the `_invalidate()` in `add` must not depend on the component `_add` returns: for a
    multi-line string `_add` returns None, and without the invalidate the memo of a slot that
    `_invalidate` would clear stays stale -/
theorem multiline_add_without_invalidate_is_stale :
    let cfg : Config := { cfgF14 with addMultiInvalidates := false }
    let ops : List Op := [.new, .add 0 V1, .add 0 R1, .add 0 R2, .query 0 "node_list",
      .addLines 0 [⟨"R3", "R", ["2", "3"], "1"⟩, ⟨"R4", "R", ["3", "0"], "3"⟩]]
    answer cfg (run cfg World.empty ops) 0 "node_list" ≠
      answer cfg (build (eltsOf (run cfg World.empty ops) 0)) 0 "node_list" := by decide +kernel

end Lcapy.C16
