/-
  C12 -- Fourier-family transforms agree with their definitions and with each other.

  Objects (Spec/Fourier.lean): the class `E` of finite sums  c·e^{j2πph}·e^{j2πθx}·K(ax+b)  (K: constants, deltas and their
  derivatives, powers, 1/x, 1/x², signum, step, |x|, ramp, rect, tri, sinc, sinc², Gaussian, one-sided polynomial-weighted
  decaying exponentials, their spectra (α+j2πx)^{-n}), closed under the formal bilateral transform `ft`; π is an
  indeterminate (`pi : Rat` universally quantified).  The code is represented by `Gen.table` / `Gen.conversions`
  (regenerated from lcapy's source on every run) and by `Model.modelTerm` (the dispatch of `FourierTransformer.term`).
-/
import Lcapy.Spec.Fourier
import Lcapy.Spec.FourierExec
import Lcapy.Model.Fourier
import Lcapy.Generated.FourierTable
import Lcapy.Proofs.Fourier
import Lcapy.Proofs.FourierAnchors
import Lcapy.Proofs.LaplaceIntegral
namespace Lcapy.C12
open Lcapy.Fourier

/-! ## the table of the code -/

/-- every recognised branch of `FourierTransformer.term` returns, in the forward direction, the spec's formal pair -/
theorem ft_table_forward : ∀ e ∈ Gen.table, entryForwardOk e = true := by decide

/-- `inverseEntry e = reflect (forwardEntry e)` for every generated table branch of `FourierTransformer.term`
    (F12 -- the `other == Heaviside(t)` branch wrote `f` where `sf` is meant -- is fixed in the source) -/
theorem ft_table_inverse : ∀ e ∈ Gen.table, entryInverseOk e = true := by decide

/-- why: a branch is reflection-consistent exactly when every sub-expression that is not an even atom is written with `sf` -/
theorem ft_table_inverse_iff_sf :
    ∀ e ∈ Gen.table, (entryInverseOk e = true ↔
      e.terms.all (fun g => g.useSf || g.k.parity == some true || (g.reN == 0 && g.imN == 0)) = true) := by decide

/-- the structural check means what it says on the class `E`: equal sign-canonical terms -/
theorem ft_table_inverse_sound (pi : Rat) (g : GTerm) (h : g.canon true = g.canonReflected false) :
    canonT (g.toTerm pi true) = canonT (reflectT (g.toTerm pi false)) := by
  obtain ⟨reN, imN, den, piPow, k, useSf, scN, scD, scPi⟩ := g
  cases useSf
  · -- raw `f`
    simp only [GTerm.canon, GTerm.canonReflected, Bool.false_and, Bool.not_false] at h
    cases hp : k.parity with
    | none => simp [hp] at h
    | some par =>
      cases par
      · -- odd atom: the coefficient must vanish
        simp only [hp, Prod.mk.injEq, and_true, GTerm.mk.injEq] at h
        have hre : reN = 0 := by have := h.1; simp at this; omega
        have him : imN = 0 := by have := h.2; simp at this; omega
        subst hre; subst him
        simp [canonT, GTerm.toTerm, reflectT, hp, GTerm.coef, CQ.smul, rabs_neg]
      · simp [canonT, GTerm.toTerm, reflectT, hp, rabs_neg]
  · simp [GTerm.toTerm, reflectT]

/-- the two parametrised branches (`exp(c1 t + c0)·u(t)` and `1/(c1 t + c0)`) use `sf` throughout -/
theorem ft_param_entries_use_sf : Gen.expuUsesSf = some true ∧ Gen.cpoleUsesSf = some true := by decide

example : entryInverseOk ⟨.step, "x", [⟨0, -1, 2, -1, .inv1, false, 1, 1, 0⟩]⟩ = false := by decide

/-! ## transform laws on the class (all signals, structural induction on the sum) -/

theorem ft_linear_add (pi : Rat) (x y : E) : ft pi (x ++ y) = ft pi x ++ ft pi y := by
  simp [ft, List.flatMap_append]
theorem ft_linear_smul (pi : Rat) (q : CQ) (x : E) : ft pi (smulE q x) = smulE q (ft pi x) := by
  induction x with
  | nil => rfl
  | cons t x ih =>
    simp only [ft, smulE, List.map_cons, List.flatMap_cons, List.map_append] at ih ⊢
    rw [ftTerm_smul pi q t, ih]

/-- x(t − τ)  ⟷  e^{−j2πfτ} X(f) -/
theorem ft_shift (pi tau : Rat) (x : E) (h : WF x) : ft pi (shiftE tau x) = modE (-tau) (ft pi x) := by
  induction x with
  | nil => rfl
  | cons t x ih =>
    have ih := ih h.tail
    simp only [ft, shiftE, modE, List.map_cons, List.flatMap_cons, List.map_append] at ih ⊢
    rw [ftTerm_shift pi tau t h.head, ih]
/-- e^{j2πνt} x(t)  ⟷  X(f − ν) -/
theorem ft_modulate (pi nu : Rat) (x : E) (h : WF x) : ft pi (modE nu x) = shiftE nu (ft pi x) := by
  induction x with
  | nil => rfl
  | cons t x ih =>
    have ih := ih h.tail
    simp only [ft, shiftE, modE, List.map_cons, List.flatMap_cons, List.map_append] at ih ⊢
    rw [ftTerm_mod pi nu t h.head, ih]
/-- x(σt)  ⟷  X(f/σ)/|σ| -/
theorem ft_scale (pi s : Rat) (hs : s ≠ 0) (x : E) (h : WF x) :
    ft pi (scaleE s x) = smulE (CQ.ofRat (1 / rabs s)) (scaleE (1 / s) (ft pi x)) := by
  induction x with
  | nil => rfl
  | cons t x ih =>
    have ih := ih h.tail
    simp only [ft, scaleE, smulE, List.map_cons, List.flatMap_cons, List.map_append, List.map_map] at ih ⊢
    rw [ftTerm_scale pi s t h.head hs, ih]
    simp [Function.comp]

/-- the two laws compose: x(at + b)  ⟷  e^{j2π(b/a)f} X(f/a)/|a|  -- the delay of a scaled and shifted signal is b/a, not b -/
theorem ft_scale_shift (pi a b : Rat) (ha : a ≠ 0) (x : E) (h : WF x) :
    ft pi (scaleE a (shiftE (-b) x)) = smulE (CQ.ofRat (1 / rabs a)) (scaleE (1 / a) (modE b (ft pi x))) := by
  have hw : WF (shiftE (-b) x) := by
    intro t ht
    simp only [shiftE, List.mem_map] at ht
    obtain ⟨u, hu, rfl⟩ := ht
    exact h u hu
  rw [ft_scale pi a ha _ hw, ft_shift pi (-b) x h, neg_neg]

/-- ... and the phase it produces on a term: modulation b/a -/
example : (ft 3 (scaleE 2 (shiftE 1 [⟨1, 0, 0, .rect, 1, 0⟩]))).map (·.th) = [-1 / 2] := by
  simp [ft, ftTerm, ftKind, scaleE, shiftE, scaleT, shiftT]

example : WF [⟨1, 0, 2, .rect, 2, -1⟩, ⟨⟨0, 1⟩, 0, 0, .expu 1 ⟨3, 0⟩, -1, 0⟩] := by
  intro t ht; simp at ht; rcases ht with rfl | rfl <;> decide

/-- the same laws for the inverse transform (reflection commutes with the operations up to the expected signs) -/
theorem ift_shift (pi tau : Rat) (x : E) (h : WF x) : ift pi (shiftE tau x) = modE tau (ift pi x) := by
  simp only [ift, ft_shift pi tau x h, reflectE, modE, List.map_map]
  apply List.map_congr_left; intro t _; simp [Function.comp, reflectT, modT]; ring

/-! ## the model of `term` refines the formal transform -/

/-- the similarity and shift statements of `term`, as read from the source by the translator, are the theorems:
    `self.term(expr2, t, f/scale)/abs(scale)` and `exp(I*2*pi*sf/scale*shift)` (the delay of x(at+b) is b/a) -/
theorem similarity_code_is_theorem :
    Gen.similarity = some (-1, 1) ∧ Gen.shiftPhase = some (true, -1, 1) ∧ Gen.theoremCodeAsModelled = true := by decide

/-- forward direction: for an atom handled by a table branch, what the code computes (table value, then
    `similarity_shift` with `f/scale`, `/|scale|` and the phase factor, then the modulation substitution) is the
    spec transform of  c·e^{j2πθt}·K(at+b), provided the branch returns the spec's pair -/
theorem model_forward_refines (pi : Rat) (t : Term) (e : GEntry) (ha : t.a ≠ 0)
    (hk : ∀ al, t.k ≠ .cpole 1 al) (hk' : ∀ al, t.k ≠ .expu 0 al) (h1 : t.k ≠ .one) (h2 : t.k ≠ .ramp) (h3 : t.k ≠ .inv1)
    (h4 : t.k ≠ .inv2) (h5 : ∀ al, t.k ≠ .trap al) (hl : Model.lookup t.k 0 = some e)
    (hpair : entryE pi false e.terms = (ftKind pi t.k).map fun p => ⟨p.q, 0, 0, p.k, p.s, 0⟩) :
    Model.modelTerm pi false 0 t = some (ftTerm pi t) := by
  obtain ⟨c, ph, th, k, a, b⟩ := t
  refine modelTerm_simShift pi c ph th k a b _ similarity_code_is_theorem.1 similarity_code_is_theorem.2.1 ?_
  simp only at hk hk' h1 h2 h3 h4 h5 hl hpair
  rw [← hpair]
  -- every atom that is not excluded takes the table branch followed by `similarity_shift`
  have hgen : Model.otherTerm pi false 0 k a b = (Model.lookup k 0).bind fun e =>
      Model.simShift false a b (entryE pi false e.terms) := by
    cases k with
    | one => exact absurd rfl h1
    | ramp => exact absurd rfl h2
    | inv1 => exact absurd rfl h3
    | inv2 => exact absurd rfl h4
    | trap al => exact absurd rfl (h5 al)
    | expu n al =>
      cases n with
      | zero => exact absurd rfl (hk' al)
      | succ m => rfl
    | cpole n al =>
      cases n with
      | zero => rfl
      | succ m =>
        cases m with
        | zero => exact absurd rfl (hk al)
        | succ _ => rfl
    | _ => rfl
  rw [hgen, hl, Option.bind_some]

/-- every generated row is, term by term, the row of its atom in the spec's table (exact order; decided on the regenerated table) -/
theorem ft_table_rows_exact : ∀ e ∈ Gen.table, entryForwardExact e = true := by decide

/-- `model_forward_refines` with the table hypothesis DISCHARGED: for an atom handled by a generated table branch, the model of the
    code computes the spec transform `ftTerm` (defined from `ftKind`) of `c·e^{j2πθt}·K(at+b)` -/
theorem model_forward_refines_table (pi : Rat) (t : Term) (e : GEntry) (ha : t.a ≠ 0)
    (hk : ∀ al, t.k ≠ .cpole 1 al) (hk' : ∀ al, t.k ≠ .expu 0 al) (h1 : t.k ≠ .one) (h2 : t.k ≠ .ramp) (h3 : t.k ≠ .inv1)
    (h4 : t.k ≠ .inv2) (h5 : ∀ al, t.k ≠ .trap al) (hl : Model.lookup t.k 0 = some e) :
    Model.modelTerm pi false 0 t = some (ftTerm pi t) := by
  obtain ⟨hmem, hkind⟩ := lookup_mem t.k 0 e hl
  have hrow := table_row_is_ftKind pi e (ft_table_rows_exact e hmem)
  rw [hkind] at hrow
  exact model_forward_refines pi t e ha hk hk' h1 h2 h3 h4 h5 hl hrow

-- non-vacuity of model_forward_refines_table: a scaled, shifted, modulated rect with complex coefficient, every premise proved
example : Model.modelTerm (22 / 7) false 0 ⟨⟨2, 1⟩, 1 / 4, 3, .rect, 2, -1⟩ = some (ftTerm (22 / 7) ⟨⟨2, 1⟩, 1 / 4, 3, .rect, 2, -1⟩) := by
  cases h : Model.lookup Kind.rect 0 with
  | none => exact absurd h (by decide)
  | some e =>
    exact model_forward_refines_table (22 / 7) ⟨⟨2, 1⟩, 1 / 4, 3, .rect, 2, -1⟩ e (by decide) (by intro al; simp) (by intro al; simp)
      (by simp) (by simp) (by simp) (by simp) (by intro al; simp) h

/-- … and for the trapezoid: with the exponent `p` that the source writes (`α^p·sincn(f)·sincn(αf)`, GENERATED), the code computes
    `α^p` times the spec transform of every scaled / shifted / modulated trapezoid; `p = 0` is the pair (Props/C12Trap.lean) -/
theorem model_trap_refines (pi : Rat) (t : Term) (al : Rat) (p : Int) (ha : t.a ≠ 0) (hk : t.k = .trap al) (h : Gen.trapAlphaPow = some p) :
    Model.modelTerm pi false 0 t = some ((ftTerm pi t).map (smulT (CQ.ofRat (zpow al p)))) := by
  obtain ⟨c, ph, th, k, a, b⟩ := t
  subst hk
  rw [modelTerm_simShift pi c ph th _ a b [⟨CQ.ofRat (zpow al p), .sincp al, 1⟩] similarity_code_is_theorem.1
    similarity_code_is_theorem.2.1 (by simp only [Model.otherTerm, h, Option.bind_some, List.map_cons, List.map_nil])]
  simp only [ftTerm, ftKind, List.map_cons, List.map_nil, smulT, CQ.mul_one', mul_ofRat, CQ.mul_comm' (CQ.ofRat _),
    CQ.smul_smul, mul_comm]

/-! ## frequency variables -/

/-- every conversion row substitutes v_src = (k_src/k_dst)·v_dst, k_f = 1, k_ω = 2π, k_F = Δt, k_Ω = 2πΔt
    (the rows of normfexpr.py / normomegaexpr.py, findings F12d/F12e, are fixed in the source) -/
theorem norm_variants : ∀ c ∈ Gen.conversions, convOk c = true := by decide

/-- the f ↔ ω rows of the conversion table: ω = 2πf -/
theorem f_omega_table :
    ∀ c ∈ Gen.conversions, (c.src = .f ∨ c.src = .omega) → (c.dst = some .f ∨ c.dst = some .omega ∨ c.dst = none) →
      convOk c = true :=
  fun c hc _ _ => norm_variants c hc

/-- X_ω(ω) = X_f(ω/2π): the substitution factor of a correct f→ω row is 1/(2π), of a correct ω→f row 2π -/
theorem f_omega (pi dt : Rat) (c : GConv) (h : convOk c = true) (hr : c.returnsSelf = false) :
    (c.src = .f → c.dst = some .omega → Model.convFactor pi dt c = 1 / 2 * (1 / pi)) ∧
    (c.src = .omega → c.dst = some .f → Model.convFactor pi dt c = 2 * pi) ∧
    (c.src = .omega → c.dst = none → Model.convFactor pi dt c = 2 * pi) := by
  obtain ⟨src, dst, e2, epi, edt, rs⟩ := c
  subst hr
  simp only [convOk, Bool.false_eq_true, if_false, Bool.and_eq_true, beq_iff_eq] at h
  obtain ⟨⟨rfl, rfl⟩, rfl⟩ := h
  refine ⟨?_, ?_, ?_⟩ <;> (rintro rfl rfl; simp [Model.convFactor, monomial, Dom.expo, zpow])

/-- ... with the matching scaling of Dirac deltas: under v ↦ κ·v, δ^{(n)} at x* with weight w becomes δ^{(n)} at x*/κ with
    weight w/(|κ| κⁿ); for κ = 1/(2π), n = 0: δ(ω/2π − f₀) = 2π·δ(ω − 2πf₀) -/
theorem delta_scaling (kappa : Rat) (hk : kappa ≠ 0) (n : Nat) (t : Term) (ha : t.a ≠ 0) :
    deltaLoc (scaleT kappa t) = deltaLoc t / kappa ∧
    deltaWeight n (scaleT kappa t) = CQ.smul (1 / (rabs kappa * kappa ^ n)) (deltaWeight n t) := by
  have hk' := rabs_ne_zero hk
  have ha' := rabs_ne_zero ha
  constructor
  · simp only [deltaLoc, scaleT]; field_simp
  · simp only [deltaWeight, scaleT, CQ.smul_smul, rabs_mul]
    congr 1
    field_simp
    ring

/-- and the regular part is evaluated at the substituted point -/
theorem scale_argument (kappa x : Rat) (t : Term) : (scaleT kappa t).a * x + (scaleT kappa t).b = t.a * (kappa * x) + t.b := by
  simp [scaleT]; ring

/-- the rows from the time domain's result (`fexpr.py`) to all four variables are right, so x(f), x(ω), x(F), x(Ω) are consistent -/
theorem norm_variants_from_f : ∀ c ∈ Gen.conversions, c.src = .f → convOk c = true :=
  fun c hc _ => norm_variants c hc

/-- the conversion methods of the four classes (GENERATED rows) ARE the spec's re-expression `X_E(v) = X_D((k_D/k_E)·v)`,
    for every ordered pair of variables (16 pairs; π, Δt ≠ 0) -/
theorem model_conv_refines (pi dt : Rat) (hpi : pi ≠ 0) (hdt : dt ≠ 0) (d e : Dom) (g : E) :
    Model.modelConv pi dt d e g = some (convDom pi dt d e g) := by
  unfold Model.modelConv
  by_cases hde : d = e
  · subst hde; simp [convDom_self pi dt hpi hdt]
  · obtain ⟨c, hc, hx⟩ := findConv_ok d e hde
    rw [if_neg (by simpa using hde), hc, Option.bind_eq_bind, Option.bind_some, Model.convFactor, hx,
      monomial_sub pi dt hpi hdt]
    rfl

/-- conversions compose: D → E → F is D → F -/
theorem conv_compose (pi dt : Rat) (hpi : pi ≠ 0) (hdt : dt ≠ 0) (d e f : Dom) (g : E) :
    convDom pi dt e f (convDom pi dt d e g) = convDom pi dt d f g := convDom_comp pi dt hpi hdt d e f g

/-- f → ω → F → Ω → f through the code's conversion methods is the identity on the class -/
theorem conv_cycle_identity (pi dt : Rat) (hpi : pi ≠ 0) (hdt : dt ≠ 0) (g : E) :
    (Model.modelConv pi dt .f .omega g >>= Model.modelConv pi dt .omega .F >>= Model.modelConv pi dt .F .Omega
      >>= Model.modelConv pi dt .Omega .f) = some g := by
  simp only [model_conv_refines pi dt hpi hdt, Option.bind_eq_bind, Option.bind_some, convDom_comp pi dt hpi hdt,
    convDom_self pi dt hpi hdt]

/-- … and so is ANY chain of conversions d → e₁ → … → eₙ → d that returns to its starting variable -/
theorem conv_chain_identity (pi dt : Rat) (hpi : pi ≠ 0) (hdt : dt ≠ 0) (d : Dom) (path : List Dom) (g : E) :
    (path ++ [d]).foldl (fun (st : Dom × E) e => (e, convDom pi dt st.1 e st.2)) (d, g) = (d, g) := by
  have := convDom_chain_aux pi dt hpi hdt d g path d
  rwa [convDom_self pi dt hpi hdt] at this

/-- x(v_E) is x(v_D) re-expressed, and the inverse transform does not depend on the variable the spectrum is written in -/
theorem ft_dom_conv (pi dt : Rat) (hpi : pi ≠ 0) (hdt : dt ≠ 0) (d e : Dom) (x g : E) :
    convDom pi dt d e (ftDom pi dt d x) = ftDom pi dt e x ∧ iftDom pi dt e (convDom pi dt d e g) = iftDom pi dt d g := by
  have hd := Dom.k_ne_zero pi dt hpi hdt d
  have he := Dom.k_ne_zero pi dt hpi hdt e
  constructor
  · simp only [convDom, ftDom, scaleE_scaleE]; congr 1; field_simp
  · simp only [convDom, iftDom, scaleE_scaleE]; congr 2; field_simp

example : (22 / 7 : Rat) ≠ 0 ∧ (3 / 2 : Rat) ≠ 0 := by norm_num

/-! ## Laplace transform on the jω axis -/

/-- FORMAL identity (term algebra; no analysis, no stability hypothesis): for a causal ExpPoly  Σ c·t^k e^{−αt}u(t)  the rational part of
    the spec spectrum at f is C09's formal unilateral Laplace transform `Lcapy.Laplace.L` (Spec/Signal.lean) of the same signal at
    s = j·2πf.  (`laplaceAt`, the formula the driver uses for the Laplace route, IS that `L`: `laplaceAt_is_L`.)  The code's guard of
    the shortcut (`sexpr.fourier`: causal and stable, else through the time domain) is not modelled; it is exercised by the
    `laplace-route` stream of the harness incl. poles ON the imaginary axis. -/
theorem fourier_is_laplace_on_jw_formal (pi f : Rat) (x : List EPTerm) :
    ratValue pi f (ft pi (x.map EPTerm.toTerm)) =
      Lcapy.Laplace.L (fun _ => (1 : CQ)) (x.map EPTerm.toLaplace) ⟨0, 2 * pi * f⟩ := by
  rw [← laplaceAt_is_L]; exact fourier_laplace_aux pi f x

/-- ANALYTIC statement, where stability is USED: for `Re α > 0` (pole in the open left half plane: absolutely integrable) and every
    order k the Fourier integral of `t^k e^{−αt}u(t)` exists and is the Laplace integral on the jω axis, `k!/(α + j2πf)^{k+1}`
    — the pair `expu k α ⟷ k!·cpole (k+1) α` of the table -/
theorem fourier_is_laplace_on_jw (k : ℕ) (al : ℂ) (f : ℝ) (hstable : 0 < al.re) :
    ∫ t : ℝ in Set.Ioi (0 : ℝ), (t : ℂ) ^ k * Complex.exp (-al * t) * Complex.exp (-((2 * Real.pi * f : ℝ) * Complex.I * t))
      = (k.factorial : ℂ) / ((2 * Real.pi * f : ℝ) * Complex.I + al) ^ (k + 1) := by
  have h := Lcapy.Laplace.anchor_complex k (-al) ((2 * Real.pi * f : ℝ) * Complex.I) (by simpa using hstable)
  rw [sub_neg_eq_add] at h
  exact h

example : 0 < ((3 : ℂ) + 4 * Complex.I).re := by simp

/-! ## inverse ∘ forward -/

/-- ph, θ, argument bookkeeping of a double transform: F{F{c e^{j2πph} e^{j2πθx} K(ax+b)}} has every term of the form
    c·q_p·q_r · e^{j2πph} e^{−j2πθx} K_r(σ(ax − b)),  σ = s_r/s_p,  (p, r) ranging over the pair table and the pair table of K_p -/
theorem ft_ft_term (pi : Rat) (t : Term) (ha : t.a ≠ 0) (hs : ∀ p ∈ ftKind pi t.k, p.s = 1 ∨ p.s = -1) :
    ft pi (ftTerm pi t) =
      (ftKind pi t.k).flatMap fun p => (ftKind pi p.k).map fun r =>
        ⟨CQ.smul (1 / rabs (p.s / t.a)) (CQ.smul (1 / rabs t.a) (t.c * p.q) * r.q), t.ph, -t.th, r.k, r.s / p.s * t.a,
          -(r.s / p.s * t.b)⟩ := by
  obtain ⟨c, ph, th, k, a, b⟩ := t
  simp only at ha hs ⊢
  simp only [ft, ftTerm]
  generalize ftKind pi k = l at hs
  induction l with
  | nil => rfl
  | cons p l ih =>
    have hp : p.s ≠ 0 := by
      rcases hs p List.mem_cons_self with h | h <;> rw [h] <;> norm_num
    simp only [List.map_cons, List.flatMap_cons]
    rw [ih (fun q hq => hs q (List.mem_cons_of_mem _ hq))]
    congr 1
    apply List.map_congr_left
    intro r _
    apply Term.ext' <;> simp only
    all_goals (field_simp; try ring)

/-- the pair table is involutive up to reflection, F{F{K}}(y) = K(−y):
    even atoms with a closed structural image (rect, tri, sinc, sinc², Gaussian) return to themselves ... -/
theorem pair_table_involutive_even (pi : Rat) (k : Kind) (hk : k = .rect ∨ k = .tri ∨ k = .sinc ∨ k = .sinc2 ∨ k = .gauss) :
    ftftPairs pi k = [(1, k, 1)] ∧ k.parity = some true := by
  rcases hk with rfl | rfl | rfl | rfl | rfl <;>
    exact ⟨(ftftPairs_single pi rfl rfl).trans (by rw [CQ.one_mul', div_one]), rfl⟩

/-- ... and t^n e^{−αt}u(t) ⟷ n!/(α+j2πf)^{n+1} return to their reflection with coefficient n!·(1/n!) = 1 -/
theorem pair_table_involutive_exp (pi : Rat) (n : Nat) (al : CQ) :
    ftftPairs pi (.expu n al) = [(1, .expu n al, -1)] ∧ ftftPairs pi (.cpole (n + 1) al) = [(1, .cpole (n + 1) al, -1)] := by
  have h := ofRat_mul_inv _ (fact_pos' n)
  constructor
  · rw [ftftPairs_single pi rfl rfl, h, div_one]
  · rw [ftftPairs_single pi rfl rfl, CQ.mul_comm', h, one_div_neg_one_eq_neg_one]

/-- the pairs for constants, steps, signum, powers, 1/x, |x| and deltas are *formal*
    generalised-function pairs (no integral exists); what is proved about them is their mutual consistency:
    each is reflection-consistent in the code's table (`ft_table_inverse`), equal to the spec's pair
    (`ft_table_forward`), and the spec's pairs are related by duality in the evaluable cases below
    (F{F{sgn}} = sgn(−·), F{F{|·|}} = |·|, F{F{1/x}} = 1/(−x), F{F{1/x²}} = 1/x²). -/
theorem ft_generalised_partial (pi : Rat) (hpi : pi ≠ 0) :
    (⟨0, -1 / pi⟩ : CQ) * ⟨0, -pi⟩ = CQ.ofRat (-1) ∧                       -- sgn → 1/x → sgn : coefficient −1 (odd atom: sgn(−y))
    CQ.ofRat (-1 / (2 * pi * pi)) * CQ.ofRat (-2 * pi * pi) = 1 ∧            -- |x| → 1/x² → |x| : coefficient +1 (even atoms)
    (⟨0, -pi⟩ : CQ) * ⟨0, -1 / pi⟩ = CQ.ofRat (-1) ∧
    CQ.ofRat (-2 * pi * pi) * CQ.ofRat (-1 / (2 * pi * pi)) = 1 := by
  refine ⟨?_, ?_, ?_, ?_⟩ <;> ext <;> simp [CQ.mul_re, CQ.mul_im, CQ.ofRat] <;> try (field_simp)
  all_goals rfl

/-- inverse ∘ forward = id on the part of the class with a closed structural image: for
    x = c·e^{j2πph}·e^{j2πθt}·K(at+b), K one of the atoms above, ift (ft x) is x itself up to the sign-canonical form
    (for the generalised-function atoms see `inverse_forward_id_generalised`) -/
theorem inverse_forward_id_partial (pi : Rat) (t : Term) (ha : t.a ≠ 0)
    (hk : t.k = .rect ∨ t.k = .tri ∨ t.k = .sinc ∨ t.k = .sinc2 ∨ t.k = .gauss) :
    (ift pi (ftTerm pi t)).map canonT = [canonT t] := by
  obtain ⟨c, ph, th, k, a, b⟩ := t
  rcases hk with rfl | rfl | rfl | rfl | rfl <;>
    exact inverse_forward_of_even pi c ph th _ a b ha 1 1 _ rfl rfl (CQ.one_mul' 1) rfl

/-- … on the trapezoid and its spectrum -/
theorem inverse_forward_id_trap (pi : Rat) (t : Term) (ha : t.a ≠ 0) (hk : (∃ al, t.k = .trap al) ∨ (∃ al, t.k = .sincp al)) :
    (ift pi (ftTerm pi t)).map canonT = [canonT t] := by
  obtain ⟨c, ph, th, k, a, b⟩ := t
  rcases hk with ⟨al, rfl⟩ | ⟨al, rfl⟩ <;>
    exact inverse_forward_of_even pi c ph th _ a b ha 1 1 _ rfl rfl (CQ.one_mul' 1) rfl

/-- … and on the generalised-function atoms `xⁿ, δ⁽ⁿ⁾, sign, 1/x, |x|, 1/x²` (any order n, any c, phase, modulation θ, scale a ≠ 0,
    shift b).  What the formal pairing means here: `ftKind` is a table of *asserted* pairs between atoms (no integral exists for
    them); the theorem says the table is closed under Fourier inversion as an identity of the term algebra over ℚ(j)[π, π⁻¹]
    (π an indeterminate ≠ 0): transforming twice and reflecting returns the SAME term (same coefficient, phase, modulation,
    argument), i.e. F⁻¹{F{x}} = x holds on the class by computation with the table rows and the shift/scale/modulation laws.
    It is a consistency (duality) statement about the pairs the code uses, not a statement about an integral. -/
theorem inverse_forward_id_generalised (pi : Rat) (hpi : pi ≠ 0) (t : Term) (ha : t.a ≠ 0)
    (hk : (∃ n, t.k = .pw n) ∨ (∃ n, t.k = .delta n) ∨ t.k = .sgn ∨ t.k = .inv1 ∨ t.k = .absx ∨ t.k = .inv2) :
    (ift pi (ftTerm pi t)).map canonT = [canonT t] := by
  obtain ⟨c, ph, th, k, a, b⟩ := t
  have hg := ft_generalised_partial pi hpi
  have hpd (n : Nat) := pw_delta_coeff pi hpi n
  rcases hk with ⟨n, rfl⟩ | ⟨n, rfl⟩ | rfl | rfl | rfl | rfl
  · rcases Nat.even_or_odd n with hn | hn
    · exact inverse_forward_of_even pi c ph th _ a b ha _ _ (.delta n) rfl rfl (by rw [hpd, hn.neg_one_pow]; rfl)
        (by simp [Kind.parity, Nat.even_iff.mp hn])
    · exact inverse_forward_of_odd pi c ph th _ a b ha _ _ (.delta n) rfl rfl (by rw [hpd, hn.neg_one_pow])
        (by simp [Kind.parity, Nat.odd_iff.mp hn])
  · rcases Nat.even_or_odd n with hn | hn
    · exact inverse_forward_of_even pi c ph th _ a b ha _ _ (.pw n) rfl rfl (by rw [CQ.mul_comm', hpd, hn.neg_one_pow]; rfl)
        (by simp [Kind.parity, Nat.even_iff.mp hn])
    · exact inverse_forward_of_odd pi c ph th _ a b ha _ _ (.pw n) rfl rfl (by rw [CQ.mul_comm', hpd, hn.neg_one_pow])
        (by simp [Kind.parity, Nat.odd_iff.mp hn])
  · exact inverse_forward_of_odd pi c ph th _ a b ha _ _ .inv1 rfl rfl hg.1 rfl
  · exact inverse_forward_of_odd pi c ph th _ a b ha _ _ .sgn rfl rfl hg.2.2.1 rfl
  · exact inverse_forward_of_even pi c ph th _ a b ha _ _ .inv2 rfl rfl hg.2.1 rfl
  · exact inverse_forward_of_even pi c ph th _ a b ha _ _ .absx rfl rfl hg.2.2.2 rfl

example : (⟨⟨2, 1⟩, 1 / 4, 3, .delta 2, -2, 1⟩ : Term).a ≠ 0 := by decide

/-- the trapezoid pair is involutive -/
theorem pair_table_involutive_trap (pi al : Rat) :
    ftftPairs pi (.trap al) = [(1, .trap al, 1)] ∧ ftftPairs pi (.sincp al) = [(1, .sincp al, 1)] :=
  ⟨(ftftPairs_single pi rfl rfl).trans (by rw [CQ.one_mul', div_one]),
    (ftftPairs_single pi rfl rfl).trans (by rw [CQ.one_mul', div_one])⟩

/-! ## anchors: where an integral exists the formal pair is the integral -/

/-- the rows of `ftKind` (the table that defines `ft`) to which the analytic anchors below refer.  NOTE: the class `E` has no
    denotation map into functions ℝ → ℂ; "equals the defining integral" is carried, for these rows only, by the free-standing Mathlib
    integrals `anchor_*` (and `fourier_is_laplace_on_jw` for every order k); all other rows are formal generalised-function pairs -/
theorem anchored_rows (pi : Rat) (k : Nat) (al : CQ) :
    ftKind pi .rect = [⟨1, .sinc, 1⟩] ∧ ftKind pi .tri = [⟨1, .sinc2, 1⟩] ∧ ftKind pi .gauss = [⟨1, .gauss, 1⟩] ∧
    ftKind pi (.expu k al) = [⟨CQ.ofRat (fact k), .cpole (k + 1) al, 1⟩] := ⟨rfl, rfl, rfl, rfl⟩

/-- ∫₀^∞ e^{−αt} e^{−j2πft} dt = 1/(α + j2πf)  for Re α > 0  (pair `expu 0 α ⟷ cpole 1 α`) -/
theorem anchor_one_sided_exponential (al : ℂ) (f : ℝ) (h : 0 < al.re) :
    ∫ t in Set.Ioi (0 : ℝ), Complex.exp (-al * t) * Complex.exp (-(2 * Real.pi * f * t) * Complex.I)
      = 1 / (al + 2 * Real.pi * f * Complex.I) := by
  have h0 := fourier_is_laplace_on_jw 0 al f h
  simp only [pow_zero, one_mul, Nat.factorial_zero, Nat.cast_one, zero_add, pow_one] at h0
  rw [show al + 2 * Real.pi * f * Complex.I = ((2 * Real.pi * f : ℝ) : ℂ) * Complex.I + al by push_cast; ring, ← h0]
  congr 1; ext t
  congr 2; push_cast; ring

/-- 𝓕{e^{−πt²}}(f) = e^{−πf²}  (pair `gauss ⟷ gauss`) -/
theorem anchor_gaussian :
    FourierTransform.fourier (fun t : ℝ => Complex.exp (-Real.pi * (t : ℂ) ^ 2)) = fun f : ℝ => Complex.exp (-Real.pi * (f : ℂ) ^ 2) := by
  have h := fourier_gaussian_pi (b := 1) (by simp)
  simpa using h

/-- rect ⟷ sinc:  ∫_{−1/2}^{1/2} e^{−j2πft} dt = sin(πf)/(πf)   (pair `rect ⟷ sinc`) -/
theorem anchor_rect_sinc (f : ℝ) (hf : f ≠ 0) :
    ∫ t in (-(1/2) : ℝ)..(1/2), Complex.exp (-((2 * Real.pi * f : ℝ) : ℂ) * Complex.I * t)
      = ((Real.sin (Real.pi * f) / (Real.pi * f) : ℝ) : ℂ) := by
  rw [integral_exp_mul_complex (Anchors.kernel_ne_zero f hf)]
  exact Anchors.sinc_kernel f hf

/-- tri ⟷ sinc²:  ∫_{−1}^{1} (1 − |t|) e^{−j2πft} dt = (sin(πf)/(πf))²   (pair `tri ⟷ sinc2`) -/
theorem anchor_tri_sinc2 (f : ℝ) (hf : f ≠ 0) :
    ∫ t in (-1 : ℝ)..1, ((1 - |t| : ℝ) : ℂ) * Complex.exp (-((2 * Real.pi * f : ℝ) : ℂ) * Complex.I * t)
      = (((Real.sin (Real.pi * f) / (Real.pi * f)) ^ 2 : ℝ) : ℂ) := by
  rw [Anchors.tri_exp _ (Anchors.kernel_ne_zero f hf), Complex.ofReal_pow, Anchors.sinc_kernel f hf]

/-- two-sided exponential: ∫ e^{−α|t|} e^{−j2πft} dt = 1/(α + j2πf) + 1/(α − j2πf) = 2α/(α² + (2πf)²), α > 0 — the sum of the pair
    `expu 0 α ⟷ cpole 1 α` and of its reflection, which is how the class represents e^{−α|t|} -/
theorem anchor_two_sided_exponential (al f : ℝ) (h : 0 < al) :
    ∫ t : ℝ, Complex.exp (-(al : ℂ) * ((|t| : ℝ) : ℂ)) * Complex.exp (-((2 * Real.pi * f : ℝ) : ℂ) * Complex.I * t)
      = 1 / ((al : ℂ) + ((2 * Real.pi * f : ℝ) : ℂ) * Complex.I) + 1 / ((al : ℂ) - ((2 * Real.pi * f : ℝ) : ℂ) * Complex.I) := by
  open Complex MeasureTheory intervalIntegral in
  set w : ℂ := ((2 * Real.pi * f : ℝ) : ℂ) with hw
  have hLre : 0 < ((al : ℂ) - w * Complex.I).re := by simp [hw]; exact h
  have hRre : (-((al : ℂ) + w * Complex.I)).re < 0 := by simp [hw]; exact h
  -- the integrand on each half line
  have eL : ∀ t ∈ Set.Iic (0 : ℝ), Complex.exp (-(al : ℂ) * ((|t| : ℝ) : ℂ)) * Complex.exp (-w * Complex.I * t)
      = Complex.exp (((al : ℂ) - w * Complex.I) * t) := by
    intro t ht
    rw [abs_of_nonpos ht, ← Complex.exp_add]; congr 1; push_cast; ring
  have eR : ∀ t ∈ Set.Ioi (0 : ℝ), Complex.exp (-(al : ℂ) * ((|t| : ℝ) : ℂ)) * Complex.exp (-w * Complex.I * t)
      = Complex.exp (-((al : ℂ) + w * Complex.I) * t) := by
    intro t ht
    rw [abs_of_pos ht, ← Complex.exp_add]; congr 1; ring
  have iL : IntegrableOn (fun t : ℝ => Complex.exp (-(al : ℂ) * ((|t| : ℝ) : ℂ)) * Complex.exp (-w * Complex.I * t)) (Set.Iic 0) :=
    (integrableOn_exp_mul_complex_Iic hLre 0).congr_fun (fun t ht => (eL t ht).symm) measurableSet_Iic
  have iR : IntegrableOn (fun t : ℝ => Complex.exp (-(al : ℂ) * ((|t| : ℝ) : ℂ)) * Complex.exp (-w * Complex.I * t)) (Set.Ioi 0) :=
    (integrableOn_exp_mul_complex_Ioi hRre 0).congr_fun (fun t ht => (eR t ht).symm) measurableSet_Ioi
  rw [← integral_Iic_add_Ioi iL iR, setIntegral_congr_fun measurableSet_Iic eL, setIntegral_congr_fun measurableSet_Ioi eR,
    integral_exp_mul_complex_Iic hLre, integral_exp_mul_complex_Ioi hRre]
  have h1 : (al : ℂ) + w * Complex.I ≠ 0 := Complex.ne_zero_of_re_pos (by simpa [hw] using h)
  have h2 : (al : ℂ) - w * Complex.I ≠ 0 := Complex.ne_zero_of_re_pos hLre
  simp only [ofReal_zero, mul_zero, Complex.exp_zero]
  field_simp
  ring

theorem anchor_two_sided_exponential_closed (al f : ℝ) (h : 0 < al) :
    ∫ t : ℝ, Complex.exp (-(al : ℂ) * ((|t| : ℝ) : ℂ)) * Complex.exp (-((2 * Real.pi * f : ℝ) : ℂ) * Complex.I * t)
      = ((2 * al / (al ^ 2 + (2 * Real.pi * f) ^ 2) : ℝ) : ℂ) := by
  rw [anchor_two_sided_exponential al f h]
  generalize 2 * Real.pi * f = v
  have h1 : (al : ℂ) + (v : ℂ) * Complex.I ≠ 0 := Complex.ne_zero_of_re_pos (by simpa using h)
  have h2 : (al : ℂ) - (v : ℂ) * Complex.I ≠ 0 := Complex.ne_zero_of_re_pos (by simpa using h)
  rw [div_add_div _ _ h1 h2, Complex.ofReal_div,
    div_eq_div_iff (mul_ne_zero h1 h2) (by exact_mod_cast (by positivity : al ^ 2 + v ^ 2 ≠ 0))]
  push_cast
  linear_combination (2 * (al : ℂ) * (v : ℂ) ^ 2) * Complex.I_sq

end Lcapy.C12
