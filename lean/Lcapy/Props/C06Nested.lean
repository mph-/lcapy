/-
  C06: nested braces and quotes.  A syntactic description of what the tokeniser keeps together: `Bal cl t` -- the
  text `t` is balanced when read inside a bracket whose closing character is `cl` (`}` or `"`): any nesting of
  `{…}` groups, `"…"` groups inside braces, `{…}` groups inside quotes, delimiters anywhere; `Tok t` -- a token at
  depth 0: plain non-delimiter characters and such groups.  The proof that they are tokens (`nested_atomic`,
  `split_join_nested`), and that they satisfy the value hypothesis `okValue` of the argument / line-level
  round-trip theorems.
-/
import Lcapy.Props.C06
namespace Lcapy.C06
open Lcapy.Parser Lcapy.Spec.Netlist

inductive Bal : Char → Str → Prop
  | nil (cl : Char) : Bal cl []
  | plain (cl c : Char) (t : Str) : c ≠ '{' → c ≠ '"' → c ≠ '}' → Bal cl t → Bal cl (c :: t)
  | rbraceInQuote (t : Str) : Bal '"' t → Bal '"' ('}' :: t)
  | brace (cl : Char) (a b : Str) : Bal '}' a → Bal cl b → Bal cl ('{' :: (a ++ '}' :: b))
  | quote (a b : Str) : Bal '"' a → Bal '}' b → Bal '}' ('"' :: (a ++ '"' :: b))

inductive Tok (ds : List Char) : Str → Prop
  | nil : Tok ds []
  | plain (c : Char) (t : Str) : ds.contains c = false → c ≠ '{' → c ≠ '"' → c ≠ '}' → Tok ds t → Tok ds (c :: t)
  | brace (a b : Str) : Bal '}' a → Tok ds b → Tok ds ('{' :: (a ++ '}' :: b))
  | quote (a b : Str) : Bal '"' a → Tok ds b → Tok ds ('"' :: (a ++ '"' :: b))

/-- inside a bracket (non-empty stack) with closing character `cl ∈ {'}', '"'}`, balanced text leaves the
    scanner where it was -/
theorem scan_bal (ds : List Char) {cl : Char} {t : Str} (h : Bal cl t) :
    (cl = '}' ∨ cl = '"') → ∀ (x : Option Char) (st : List (Option Char)),
      scan ds t (some cl, x :: st) = some (some cl, x :: st) := by
  induction h with
  | nil cl => intro _ x st; rfl
  | plain cl c t h1 h2 h3 _ ih =>
    intro hcl x st
    have hne : (some c == some cl) = false := by
      rcases hcl with rfl | rfl
      · simp [h3]
      · simp [h2]
    have : scanStep ds (some cl, x :: st) c = some (some cl, x :: st) := by
      simp [scanStep, hne, h1, h2]
    simp only [scan, this]
    exact ih hcl x st
  | rbraceInQuote t _ ih =>
    intro _ x st
    have : scanStep ds (some '"', x :: st) '}' = some (some '"', x :: st) := by simp [scanStep]
    simp only [scan, this]
    exact ih (Or.inr rfl) x st
  | brace cl a b _ _ iha ihb =>
    intro hcl x st
    have hne : (some '{' == some cl) = false := by rcases hcl with rfl | rfl <;> decide
    have h1 : scanStep ds (some cl, x :: st) '{' = some (some '}', some cl :: x :: st) := by
      simp [scanStep, hne]
    have h2 : scanStep ds (some '}', some cl :: x :: st) '}' = some (some cl, x :: st) := by simp [scanStep]
    simp only [scan, h1]
    rw [scan_append, iha (Or.inl rfl) (some cl) (x :: st)]
    simp only [Option.bind_some, scan, h2]
    exact ihb hcl x st
  | quote a b _ _ iha ihb =>
    intro _ x st
    have h1 : scanStep ds (some '}', x :: st) '"' = some (some '"', some '}' :: x :: st) := by simp [scanStep]
    have h2 : scanStep ds (some '"', some '}' :: x :: st) '"' = some (some '}', x :: st) := by simp [scanStep]
    simp only [scan, h1]
    rw [scan_append, iha (Or.inr rfl) (some '}') (x :: st)]
    simp only [Option.bind_some, scan, h2]
    exact ihb (Or.inl rfl) x st

theorem scan_tok (ds : List Char) (hb : ds.contains '{' = false) (hq : ds.contains '"' = false) {t : Str} (h : Tok ds t) :
    scan ds t (none, []) = some (none, []) := by
  have hb' : '{' ∉ ds := by simpa using hb
  have hq' : '"' ∉ ds := by simpa using hq
  induction h with
  | nil => rfl
  | plain c t h1 h2 h3 h4 _ ih =>
    have h1' : c ∉ ds := by simpa using h1
    have : scanStep ds (none, []) c = some (none, []) := by simp [scanStep, h1', h2, h3, h4]
    simp only [scan, this]; exact ih
  | brace a b ha _ ih =>
    have h1 : scanStep ds (none, []) '{' = some (some '}', [none]) := by simp [scanStep, hb']
    have h2 : scanStep ds (some '}', [none]) '}' = some (none, []) := by simp [scanStep]
    simp only [scan, h1]
    rw [scan_append, scan_bal ds ha (Or.inl rfl) none []]
    simp only [Option.bind_some, scan, h2]; exact ih
  | quote a b ha _ ih =>
    have h1 : scanStep ds (none, []) '"' = some (some '"', [none]) := by simp [scanStep, hq']
    have h2 : scanStep ds (some '"', [none]) '"' = some (none, []) := by simp [scanStep]
    simp only [scan, h1]
    rw [scan_append, scan_bal ds ha (Or.inr rfl) none []]
    simp only [Option.bind_some, scan, h2]; exact ih

/-- Every non-empty `Tok` -- plain characters and arbitrarily nested `{…}` / `"…"`
    groups with delimiters inside -- is one token for `split`; with `split_join`: a line of such tokens
    tokenises back to them. -/
theorem nested_atomic (ds : List Char) (hb : ds.contains '{' = false) (hq : ds.contains '"' = false) (t : Str)
    (hne : t ≠ []) (h : Tok ds t) : atomic ds t = true := by
  unfold atomic
  cases t with
  | nil => exact absurd rfl hne
  | cons a b => simp [scan_tok ds hb hq h]

theorem split_join_nested (ds : List Char) (hb : ds.contains '{' = false) (hq : ds.contains '"' = false)
    (hsp : ds.contains ' ' = true) (ts : List Str) (h : ∀ t ∈ ts, t ≠ [] ∧ Tok ds t) :
    split ds (joinWith [' '] ts) = some ts :=
  split_join ds ' ' (by intro e; rw [e] at hsp; simp at hsp) hsp ts (fun t ht => nested_atomic ds hb hq t (h t ht).1 (h t ht).2)

theorem tok_of_bal (ds : List Char) {cl : Char} {t : Str} (h : Bal cl t) :
    cl = '}' → (∀ c ∈ t, ds.contains c = false) → Tok ds t := by
  induction h with
  | nil cl => intro _ _; exact Tok.nil
  | plain cl c t h1 h2 h3 _ ih =>
    intro hcl hd
    exact Tok.plain c t (hd c (by simp)) h1 h2 h3 (ih hcl (fun x hx => hd x (by simp [hx])))
  | rbraceInQuote t _ _ => intro hcl; cases hcl
  | brace cl a b ha _ _ ihb =>
    intro hcl hd
    exact Tok.brace a b ha (ihb hcl (fun x hx => hd x (by simp [hx])))
  | quote a b ha _ _ ihb =>
    intro hcl hd
    exact Tok.quote a b ha (ihb hcl (fun x hx => hd x (by simp [hx])))

/-- A syntactic sufficient condition for the hypothesis of `arg_format_roundtrip` /
    `print_parse_args` / `line_roundtrip_partial`: a non-empty value that does not start with a bracket, has no
    `=`, and whose braces and quotes nest properly (`Bal '}'`), whatever delimiters it contains. -/
theorem okValue_of_nested (ds : List Char) (hb : ds.contains '{' = false) (hq : ds.contains '"' = false) (v : Str)
    (hne : v ≠ []) (h1 : v.head? ≠ some '{') (h2 : v.head? ≠ some '"') (heq : ∀ c ∈ v, c ≠ '=')
    (hbal : Bal '}' v) : okValue ds v = true := by
  have heq' : ∀ c ∈ v, ['='].contains c = false := by intro c hc; simp [heq c hc]
  have hsplit : ∀ x : Str, atomic ['='] x = true → split ['='] x = some [x] := by
    intro x hx
    have := split_join ['='] '=' (by simp) (by simp) [x] (by simpa using hx)
    simpa [joinWith] using this
  refine (okValue_iff ds v).mpr ⟨hne, h1, h2, ?_, hsplit _ ?_⟩
  · split
    · exact scan_bal ds hbal (Or.inl rfl) none []
    · rename_i hd
      apply scan_tok ds hb hq
      apply tok_of_bal ds hbal rfl
      intro c hc
      cases hcd : ds.contains c with
      | false => rfl
      | true => exact absurd (List.any_eq_true.mpr ⟨c, hc, hcd⟩) hd
  · rw [argFormat_eq ds v h1]
    split
    · exact nested_atomic ['='] (by decide) (by decide) _ (by simp) (Tok.brace v [] hbal Tok.nil)
    · exact nested_atomic ['='] (by decide) (by decide) v hne (tok_of_bal ['='] hbal rfl heq')

/-- Values with nested braces (`a{b{c}}d`), quoted strings and delimiters
    inside brackets are printed as one token and read back unchanged. -/
theorem arg_format_roundtrip_nested (ds : List Char) (hb : ds.contains '{' = false) (hq : ds.contains '"' = false)
    (v : Str) (hne : v ≠ []) (h1 : v.head? ≠ some '{') (h2 : v.head? ≠ some '"') (heq : ∀ c ∈ v, c ≠ '=')
    (hbal : Bal '}' v) :
    unquote (argFormat ds v) = v ∧ atomic ds (argFormat ds v) = true :=
  arg_format_roundtrip ds hb v (okValue_of_nested ds hb hq v hne h1 h2 heq hbal)

/-- `a{b, {c}} "p q"` is balanced -/
theorem balEx : Bal '}' "a{b, {c}} \"p q\"".toList :=
  Bal.plain _ 'a' _ (by decide) (by decide) (by decide)
    (Bal.brace _ "b, {c}".toList " \"p q\"".toList
      (Bal.plain _ 'b' _ (by decide) (by decide) (by decide) (Bal.plain _ ',' _ (by decide) (by decide) (by decide)
        (Bal.plain _ ' ' _ (by decide) (by decide) (by decide) (Bal.brace _ ['c'] []
          (Bal.plain _ 'c' _ (by decide) (by decide) (by decide) (Bal.nil _)) (Bal.nil _)))))
      (Bal.plain _ ' ' _ (by decide) (by decide) (by decide) (Bal.quote "p q".toList []
        (Bal.plain _ 'p' _ (by decide) (by decide) (by decide) (Bal.plain _ ' ' _ (by decide) (by decide) (by decide)
          (Bal.plain _ 'q' _ (by decide) (by decide) (by decide) (Bal.nil _)))) (Bal.nil _))))

/-- non-vacuity: `a{b, {c}} "p q"` is balanced -/
example : Bal '}' "a{b, {c}} \"p q\"".toList := balEx

example : okValue Gen.Grammar.delimiters "a{b, {c}} \"p q\"".toList = true := by decide

end Lcapy.C06
