/-
  Machine-checked NON-VACUITY witnesses for the theorems of Props/C05.lean and
  Props/C05CW.lean that carry hypotheses.  Every `nv_*` instantiates the audited theorem itself on a concrete,
  realistic input (real 2-4 component netlists / chains with orientation and initial conditions), so all of its
  hypotheses are proved to hold together; where the conclusion is worth seeing it is drawn.
  Also: `nv_simulates_discriminates` (the predicate `Simulates` rejects a wrong combined value) and the class-(e)
  finding `preserved_of_empty_solution` about the oracle predicate of Spec/Retained.lean.
  Nothing here weakens or replaces a property theorem.
-/
import Lcapy.Props.C05
import Lcapy.Props.C05CW
import Mathlib.Data.Complex.Basic
namespace Lcapy.NonVacuity.C05
open Lcapy.MNA Lcapy.Rewrite Lcapy.C05 Ix

/-! ## Part 1 of Props/C05.lean: value / IC / polarity rules -/

/-- `R1 1 2 3; R2 2 3 5; R3 3 0 2` (a chain of three): all hypotheses of `series_chain_R` hold and the
    theorem turns the one-element relation (20 V, 2 A through 10 Ω) into the chain relation -/
theorem nv_series_chain_R : chainRel Kind.dc (0 : ℚ) ([3, 5, 2].map TT.R) 20 2 :=
  (series_chain_R Kind.dc (0 : ℚ) [3, 5, 2] (by intro r hr; simp at hr; rcases hr with rfl | rfl | rfl <;> norm_num)
    (by norm_num [combineVal, sumVals]) 20 2).mpr (by norm_num [TT.rel, combineVal, sumVals])

theorem nv_series_chain_Z : chainRel Kind.lap (2 : ℚ) ([2, 3].map TT.Z) 10 2 :=
  (series_chain_Z Kind.lap (2 : ℚ) [2, 3] (by intro r hr; simp at hr; rcases hr with rfl | rfl <;> norm_num)
    (by norm_num [combineVal, sumVals]) 10 2).mpr (by norm_num [TT.rel, combineVal, sumVals])

theorem nv_series_chain_Y : chainRel Kind.lap (2 : ℚ) ([2, 3].map TT.Y) 5 6 :=
  (series_chain_Y Kind.lap (2 : ℚ) [2, 3] (by intro r hr; simp at hr; rcases hr with rfl | rfl <;> norm_num)
    (by norm_num [sumK]) 5 6).mpr (by norm_num [TT.rel, combineVal, recipSum, sumVals])

/-- `V1 1 2 5; V2 3 2 3` (opposite orientation): 2 V across the chain, any current -/
theorem nv_series_chain_V : chainRel Kind.dc (0 : ℚ) ([(true, (5 : ℚ)), (false, 3)].map (fun p => (TT.V p.2).orient p.1)) 2 7 :=
  (series_chain_V Kind.dc (0 : ℚ) [(true, 5), (false, 3)] 2 7).mpr (by norm_num [TT.rel, combineSrc, sumVals])

/-- `L1 1 2 2 3; L2 0 2 4 -3` (second one reversed, so its initial current is +3 along the chain) in the
    initial-value problem at s = 2: hypothesis `hI` holds with I0 = 3 -/
theorem nv_series_chain_L :
    chainRel Kind.ivp (2 : ℚ) ([(true, (2 : ℚ), some (3 : ℚ)), (false, 4, some (-3))].map (fun p => (TT.L p.2.1 p.2.2).orient p.1)) (-6) 1 :=
  (series_chain_L Kind.ivp (2 : ℚ) [(true, 2, some 3), (false, 4, some (-3))] 3
    (by intro p hp; simp at hp; rcases hp with rfl | rfl <;> norm_num [sgn, icv]) (-6) 1).mpr
    (by norm_num [TT.rel, combineVal, sumVals, icv])

/-- `C1 1 2 2 5; C2 0 2 3 1` at s = 2 (initial-value problem) -/
theorem nv_series_chain_C (v i : ℚ) :
    chainRel Kind.ivp (2 : ℚ) ([(true, (2 : ℚ), some (5 : ℚ)), (false, 3, some 1)].map (fun p => (TT.C p.2.1 p.2.2).orient p.1)) v i ↔
      TT.rel Kind.ivp (2 : ℚ) (.C (6 / 5) (some 4)) v i := by
  have := series_chain_C Kind.ivp (Or.inr rfl) (2 : ℚ) (by norm_num) [(true, 2, some 5), (false, 3, some 1)]
    (by intro p hp; simp at hp; rcases hp with rfl | rfl <;> norm_num) (by norm_num [sumK]) v i
  rw [this]
  norm_num [combineVal, recipSum, sumVals, sumK, sgn, icv]

theorem nv_parallel_group_R : groupRel Kind.dc (0 : ℚ) ([3, 6].map TT.R) 6 3 :=
  (parallel_group_R Kind.dc (0 : ℚ) [3, 6] (by intro r hr; simp at hr; rcases hr with rfl | rfl <;> norm_num)
    (by norm_num [sumK]) 6 3).mpr (by norm_num [TT.rel, combineVal, recipSum, sumVals])

theorem nv_parallel_group_Z : groupRel Kind.lap (1 : ℚ) ([3, 6].map TT.Z) 6 3 :=
  (parallel_group_Z Kind.lap (1 : ℚ) [3, 6] (by intro r hr; simp at hr; rcases hr with rfl | rfl <;> norm_num)
    (by norm_num [sumK]) 6 3).mpr (by norm_num [TT.rel, combineVal, recipSum, sumVals])

/-- `C1 1 0 2 5; C2 0 1 3 -5` in parallel, initial-value problem: `hV` holds with V0 = 5 -/
theorem nv_parallel_group_C (v i : ℚ) :
    groupRel Kind.ivp (2 : ℚ) ([(true, (2 : ℚ), some (5 : ℚ)), (false, 3, some (-5))].map (fun p => (TT.C p.2.1 p.2.2).orient p.1)) v i ↔
      TT.rel Kind.ivp (2 : ℚ) (.C (combineVal true [2, 3]) (some 5)) v i :=
  parallel_group_C Kind.ivp (2 : ℚ) [(true, 2, some 5), (false, 3, some (-5))] 5
    (by intro p hp; simp at hp; rcases hp with rfl | rfl <;> norm_num [sgn, icv]) v i

/-- `L1 1 0 2 3; L2 0 1 4 1` in parallel at s = 2 -/
theorem nv_parallel_group_L (v i : ℚ) :
    groupRel Kind.ivp (2 : ℚ) ([(true, (2 : ℚ), some (3 : ℚ)), (false, 4, some 1)].map (fun p => (TT.L p.2.1 p.2.2).orient p.1)) v i ↔
      TT.rel Kind.ivp (2 : ℚ) (.L (4 / 3) (some 2)) v i := by
  have := parallel_group_L Kind.ivp (Or.inr rfl) (2 : ℚ) (by norm_num) [(true, 2, some 3), (false, 4, some 1)]
    (by intro p hp; simp at hp; rcases hp with rfl | rfl <;> norm_num) (by norm_num [sumK]) v i
  rw [this]
  norm_num [combineVal, recipSum, sumVals, sumK, sgn, icv]

theorem nv_combine_perm_invariant : combineVal false [(2 : ℚ), 3, 6] = combineVal false [6, 2, 3] :=
  combine_perm_invariant false (by decide)

theorem nv_combineIC_perm_invariant :
    combineIC false (some (9 : ℚ)) [(true, some (5 : ℚ)), (false, some 1), (true, none)] =
      combineIC false none [(true, none), (true, some 5), (false, some 1)] :=
  combineIC_perm_invariant (by decide) _ _

/-- `_check_ic` accepts `L1 … 3`, `L2 (reversed) … −3`; the common signed value is 3 -/
theorem nv_checkIC_sound : checkIC [(true, some (3 : ℚ)), (false, some (-3))] = true ∧
    ∃ I0 : ℚ, ∀ p ∈ [(true, some (3 : ℚ)), (false, some (-3))], sgn p.1 (icv p.2) = I0 := by
  have h : checkIC [(true, some (3 : ℚ)), (false, some (-3))] = true := by simp [checkIC]
  exact ⟨h, checkIC_sound _ h⟩

/-- … and it rejects unequal ones, so the hypothesis of `checkIC_sound` is not always true -/
theorem nv_checkIC_rejects : checkIC [(true, some (3 : ℚ)), (true, some 4)] = false := by simp [checkIC]

theorem nv_rel_ic_congr (v i : ℚ) :
    (TT.rel Kind.ivp (2 : ℚ) (.L 4 none) v i ↔ TT.rel Kind.ivp 2 (.L 4 (some 0)) v i) :=
  (rel_ic_congr Kind.ivp (2 : ℚ) 4 none (some 0) rfl v i).1

theorem nv_combineSrc_same_orientation :
    combineSrc [(true, (5 : ℚ)), (true, 3)] = combineVal true [5, 3] :=
  combineSrc_same_orientation _ (by intro p hp; simp at hp; rcases hp with rfl | rfl <;> rfl)

/-- the pieces `checkIC_sound` → `series_chain_L` → `combineIC_shared` DO compose to a statement about what the code
    computes (value `combineVal true`, initial condition `combineIC true first.ic …`) on `L1 1 2 2 3; L2 0 2 4 -3`;
    Props/C05.lean states the three pieces only separately -/
theorem nv_series_L_code_rule (v i : ℚ) :
    chainRel Kind.ivp (2 : ℚ) ([(true, (2 : ℚ), some (3 : ℚ)), (false, 4, some (-3))].map (fun p => (TT.L p.2.1 p.2.2).orient p.1)) v i ↔
      TT.rel Kind.ivp (2 : ℚ) (.L (combineVal true [2, 4]) (combineIC true (some 3) [(true, some 3), (false, some (-3))])) v i := by
  obtain ⟨I0, hI0⟩ := checkIC_sound [(true, some (3 : ℚ)), (false, some (-3))] (by simp [checkIC])
  have h3 : I0 = 3 := by have := hI0 (true, some 3) (by simp); simpa [sgn, icv] using this.symm
  subst h3
  rw [combineIC_shared]
  exact series_chain_L Kind.ivp (2 : ℚ) [(true, 2, some 3), (false, 4, some (-3))] 3
    (by intro p hp; simp at hp; rcases hp with rfl | rfl <;> norm_num [sgn, icv]) v i

/-- the additive rule: `series_chain_C` + `combineIC_additive` + `rel_ic_congr` compose to the code's `combineIC false` -/
theorem nv_series_C_code_rule (v i : ℚ) :
    chainRel Kind.ivp (2 : ℚ) ([(true, (2 : ℚ), some (5 : ℚ)), (false, 3, none)].map (fun p => (TT.C p.2.1 p.2.2).orient p.1)) v i ↔
      TT.rel Kind.ivp (2 : ℚ) (.C (combineVal false [2, 3]) (combineIC false (some 5) [(true, some 5), (false, none)])) v i := by
  have h := series_chain_C Kind.ivp (Or.inr rfl) (2 : ℚ) (by norm_num) [(true, 2, some 5), (false, 3, none)]
    (by intro p hp; simp at hp; rcases hp with rfl | rfl <;> norm_num) (by norm_num [sumK]) v i
  rw [h]
  exact (rel_ic_congr Kind.ivp (2 : ℚ) _ _ _
    (by rw [combineIC_additive]; simp [icv]) v i).2

/-- `plain_sum_wrong_for_series_L_ic` is a bare arithmetic fact; this is the statement it stands for: the summed
    initial current 3 + 3 of `L1 1 2 2 3; L2 2 0 4 3` is NOT equivalent to the common current 3 -/
theorem nv_plain_sum_wrong_for_series_L_ic_meaning :
    ¬ (∀ v i : ℚ, TT.rel Kind.ivp (1 : ℚ) (.L (2 + 4) (some (3 + 3))) v i ↔ TT.rel Kind.ivp 1 (.L (2 + 4) (some 3)) v i) := by
  rw [rule_L_ic_unique]; norm_num

theorem nv_series_R (v i : ℚ) : chainRel Kind.dc (0 : ℚ) [.R 3, .R 5] v i ↔ TT.rel Kind.dc 0 (.R (combineVal true [3, 5])) v i :=
  series_R Kind.dc (0 : ℚ) 3 5 (by norm_num) (by norm_num) (by norm_num) v i
theorem nv_series_Z (v i : ℚ) : chainRel Kind.lap (2 : ℚ) [.Z 3, .Z 5] v i ↔ TT.rel Kind.lap 2 (.Z (combineVal true [3, 5])) v i :=
  series_Z Kind.lap (2 : ℚ) 3 5 (by norm_num) (by norm_num) (by norm_num) v i
theorem nv_series_L (v i : ℚ) : chainRel Kind.ivp (2 : ℚ) [.L 2 (some 3), (TT.L 4 (some (-3))).orient false] v i ↔
    TT.rel Kind.ivp 2 (.L (combineVal true [2, 4]) (some 3)) v i :=
  series_L Kind.ivp (2 : ℚ) 2 4 (some 3) (some (-3)) false 3 rfl (by norm_num [sgn, icv]) v i
theorem nv_series_C (v i : ℚ) : chainRel Kind.ivp (2 : ℚ) [.C 2 (some 5), (TT.C 3 none).orient false] v i ↔
    TT.rel Kind.ivp 2 (.C (combineVal false [2, 3]) (some (icv (some 5) + sgn false (icv none)))) v i :=
  series_C Kind.ivp (Or.inr rfl) (2 : ℚ) 2 3 (some 5) none false (by norm_num) (by norm_num) (by norm_num) (by norm_num) v i
theorem nv_parallel_R (v i : ℚ) : groupRel Kind.dc (0 : ℚ) [.R 3, .R 6] v i ↔ TT.rel Kind.dc 0 (.R (combineVal false [3, 6])) v i :=
  parallel_R Kind.dc (0 : ℚ) 3 6 (by norm_num) (by norm_num) (by norm_num) v i
theorem nv_parallel_C (v i : ℚ) : groupRel Kind.ivp (2 : ℚ) [.C 2 (some 5), (TT.C 3 (some (-5))).orient false] v i ↔
    TT.rel Kind.ivp 2 (.C (combineVal true [2, 3]) (some 5)) v i :=
  parallel_C Kind.ivp (2 : ℚ) 2 3 (some 5) (some (-5)) false 5 rfl (by norm_num [sgn, icv]) v i
theorem nv_parallel_L (v i : ℚ) : groupRel Kind.ivp (2 : ℚ) [.L 2 (some 3), (TT.L 4 none).orient true] v i ↔
    TT.rel Kind.ivp 2 (.L (combineVal false [2, 4]) (some (icv (some 3) + sgn true (icv none)))) v i :=
  parallel_L Kind.ivp (Or.inr rfl) (2 : ℚ) 2 4 (some 3) none true (by norm_num) (by norm_num) (by norm_num) (by norm_num) v i

/-! ## Part 2 of Props/C05.lean: circuit level -/

/-- the simplify step `R1 1 2 3; R2 2 0 5 ↦ Rt1 1 0 8` (branch indices 7, 8, 9 are dummies: resistors own none) -/
theorem nv_series_pair_R :
    SamePortRelation Kind.dc (0 : ℚ) (AllBut [node 2, br 7, br 8, br 9])
      [(TT.R 3).toCpt 1 2 7, (TT.R 5).toCpt 2 0 8] [(TT.R 8).toCpt 1 0 9] :=
  series_pair Kind.dc (0 : ℚ) (.R 3) (.R 5) (.R 8) 1 2 0 7 8 9 (by decide) (by decide) (by decide)
    (fun v i => by rw [series_R Kind.dc (0 : ℚ) 3 5 (by norm_num) (by norm_num) (by norm_num) v i]; norm_num [combineVal, sumVals])

/-- a chain whose members OWN branch currents that disappear: `V1 1 2 5; V2 2 0 3 ↦ Vt1 1 0 8`
    (branches 1, 2 vanish, branch 3 is new): the hypothesis `hser` is satisfiable for it too -/
theorem nv_series_pair_V :
    SamePortRelation Kind.dc (0 : ℚ) (AllBut [node 2, br 1, br 2, br 3])
      [Cpt.V 1 2 1 5, Cpt.V 2 0 2 3] [Cpt.V 1 0 3 8] :=
  series_pair Kind.dc (0 : ℚ) (.V 5) (.V 3) (.V 8) 1 2 0 1 2 3 (by decide) (by decide) (by decide)
    (fun v i => by
      have := series_V Kind.dc (0 : ℚ) 5 3 true v i
      simp only [TT.orient, if_true] at this
      rw [this]; norm_num [sgn])

/-- `R1 1 0 3; R2 1 0 6 ↦ Rt1 1 0 2` -/
theorem nv_parallel_pair_R :
    SamePortRelation Kind.dc (0 : ℚ) (AllBut [br 7, br 8, br 9])
      [(TT.R 3).toCpt 1 0 7, (TT.R 6).toCpt 1 0 8] [(TT.R 2).toCpt 1 0 9] :=
  parallel_pair Kind.dc (0 : ℚ) (.R 3) (.R 6) (.R 2) 1 0 7 8 9 (by decide)
    (fun v i => by rw [parallel_R Kind.dc (0 : ℚ) 3 6 (by norm_num) (by norm_num) (by norm_num) v i]; norm_num [combineVal, recipSum, sumVals])

/-- `I1 1 0 2; I2 0 1 5 ↦ It1 1 0 -3` (opposite orientation) -/
theorem nv_parallel_pair_I :
    SamePortRelation Kind.dc (0 : ℚ) (AllBut [br 7, br 8, br 9])
      [Cpt.I 1 0 2, Cpt.I 1 0 (-5)] [Cpt.I 1 0 (-3)] :=
  parallel_pair Kind.dc (0 : ℚ) (.I 2) (.I (-5)) (.I (-3)) 1 0 7 8 9 (by decide)
    (fun v i => by
      have := parallel_I Kind.dc (0 : ℚ) 2 5 false v i
      simp only [TT.orient, TT.flip, Bool.false_eq_true, if_false] at this
      rw [this]; norm_num [sgn])

/-- `V1 0 1 6` is `V 1 0 -6` -/
theorem nv_reversed : Simulates Kind.dc (0 : ℚ) (AllBut [br 0]) [Cpt.V 0 1 0 6] [Cpt.V 1 0 0 (-6)] :=
  reversed Kind.dc (0 : ℚ) (.V 6) 1 0 0

/-! ### `subcircuit_congruence` / `rewrite_preserves_retained` on a real simplify step inside a circuit with a source:
    `V1 1 0 16; R1 1 2 3; R2 2 0 5`  ↦  `V1 1 0 16; Rt1 1 0 8` -/

def Ret : Ix → Prop := AllBut [node 2, br 7, br 8, br 9]
def sub1 : List (Cpt ℚ) := [(TT.R 3).toCpt 1 2 7, (TT.R 5).toCpt 2 0 8]
def sub2 : List (Cpt ℚ) := [(TT.R 8).toCpt 1 0 9]
def rest : List (Cpt ℚ) := [Cpt.V 1 0 0 16]
/-- the solution of the original: V(1) = 16, V(2) = 10, J(V1) = −2 -/
def xsol : Ix → ℚ := fun i => match i with | node 1 => 16 | node 2 => 10 | br 0 => -2 | _ => 0
/-- a solution of the simplified circuit -/
def ysol : Ix → ℚ := fun i => match i with | node 1 => 16 | br 0 => -2 | _ => 0

theorem nv_hsim : Simulates Kind.dc (0 : ℚ) Ret sub1 sub2 := nv_series_pair_R.1

theorem nv_hrest : SupportedIn Ret rest := by
  intro c hc i hi
  simp only [rest, List.mem_cons, List.mem_nil_iff, or_false] at hc; subst hc
  simp only [mentions, List.mem_cons, List.mem_nil_iff, or_false] at hi
  rcases hi with rfl | rfl | rfl <;> simp [Ret, AllBut]

theorem nv_hwf : C01.WF (sub2 ++ rest) := by unfold C01.WF; decide +kernel

theorem nv_hns : C01.Nonsingular Kind.dc (0 : ℚ) (sub2 ++ rest) := by
  refine nonsingular_of_killed [node 1, br 0] nv_hwf (by decide +kernel) ?_
  rintro z ⟨hk, hl⟩
  have e : killAll (sub2 ++ rest) = [.R 1 0 8, .V 1 0 0 0] := rfl
  rw [e] at hk hl
  have e1 : z (node 1) = 0 := by simpa [vd, volt] using hl (.V 1 0 0 0) (by simp) (0, _) (List.mem_singleton.mpr rfl)
  have k1 := hk 1 (by decide)
  simp only [List.map_cons, List.map_nil, outflow, twoTerm, lsum, vd, volt, e1, reduceIte, zero_ne_one, sub_zero,
    add_zero, zero_div, zero_add] at k1
  intro i hi
  simp only [List.mem_cons, List.mem_nil_iff, or_false] at hi
  rcases hi with rfl | rfl
  · exact e1
  · exact k1

theorem nv_hx : Laws Kind.dc (0 : ℚ) (sub1 ++ rest) xsol :=
  laws_of_range 3 (by decide) (by decide +kernel) (by decide +kernel)

theorem nv_hy : Laws Kind.dc (0 : ℚ) (sub2 ++ rest) ysol :=
  laws_of_range 2 (by decide) (by decide +kernel) (by decide +kernel)

/-- every hypothesis of `subcircuit_congruence` holds for the step; the theorem produces a solution of the
    simplified circuit with V(1) = 16 and J(V1) = −2 -/
theorem nv_subcircuit_congruence :
    ∃ y, y (node 1) = 16 ∧ y (br 0) = -2 ∧ Laws Kind.dc (0 : ℚ) (sub2 ++ rest) y := by
  obtain ⟨y, hy, hl⟩ := subcircuit_congruence Kind.dc (0 : ℚ) Ret sub1 sub2 rest nv_hsim nv_hrest xsol nv_hx
  exact ⟨y, (hy (node 1) (by simp [Ret, AllBut])).trans rfl, (hy (br 0) (by simp [Ret, AllBut])).trans rfl, hl⟩

/-- every hypothesis of `rewrite_preserves_retained` holds TOGETHER (simulation, support, WF, non-singularity,
    both circuits solved); the retained unknowns that are unknowns of the new circuit are exactly V(1) and J(V1) -/
theorem nv_rewrite_preserves_retained :
    (∀ i, Ret i → C01.Unknown Kind.dc (0 : ℚ) (sub2 ++ rest) i → ysol i = xsol i) ∧
    (Ret (node 1) ∧ C01.Unknown Kind.dc (0 : ℚ) (sub2 ++ rest) (node 1)) ∧
    (Ret (br 0) ∧ C01.Unknown Kind.dc (0 : ℚ) (sub2 ++ rest) (br 0)) := by
  exact ⟨rewrite_preserves_retained Kind.dc (0 : ℚ) Ret sub1 sub2 rest nv_hsim nv_hrest nv_hwf nv_hns xsol ysol nv_hx nv_hy,
    ⟨by simp [Ret, AllBut], by decide, by decide +kernel⟩, ⟨by simp [Ret, AllBut], by decide, by decide +kernel⟩⟩

/-! ### dangling removal -/

/-- `R3 2 3 5` hanging from node 2 (node 3 otherwise unconnected): the guards hold, the resistor admits zero
    current (at 0 V), so it can be removed and re-attached -/
theorem nv_dangling_sound :
    Simulates Kind.dc (0 : ℚ) (AllBut [node 3, br 9]) [(TT.R 5).toCpt 2 3 9] [] ∧
    Simulates Kind.dc (0 : ℚ) (AllBut [node 3, br 9]) [] [(TT.R 5).toCpt 2 3 9] := by
  have h := dangling_sound Kind.dc (0 : ℚ) (.R 5) 2 3 9 (by decide) (by decide)
  exact ⟨h.2.1, h.2.2 ⟨0, by norm_num [TT.rel]⟩⟩

/-- the antecedent of the third part is not always true: a dangling current source `I1 2 3 2` admits no zero current -/
theorem nv_dangling_I_excluded : ¬ ∃ v : ℚ, TT.rel Kind.dc (0 : ℚ) (.I 2) v 0 := by
  rintro ⟨v, hv⟩; norm_num [TT.rel] at hv

/-! ### renaming -/

/-- swapping the names of nodes 1 and 2 of `V1 1 0 6; R1 1 2 3; C1 2 0 2`: `ρ` is injective and keeps ground -/
theorem nv_rename_invariant (x : Ix → ℚ) :
    Laws Kind.lap (2 : ℚ) [Cpt.V 2 0 0 6, Cpt.R 2 1 3, Cpt.Cap 1 0 2 none] x ↔
      Laws Kind.lap (2 : ℚ) [Cpt.V 1 0 0 6, Cpt.R 1 2 3, Cpt.Cap 2 0 2 none] (pullback (Equiv.swap 1 2) x) := by
  have := rename_invariant Kind.lap (2 : ℚ) (Equiv.swap 1 2) (Equiv.injective _) (by decide)
    [Cpt.V 1 0 0 6, Cpt.R 1 2 3, Cpt.Cap 2 0 2 none] x
  simpa [Cpt.mapNodes, Equiv.swap_apply_def] using this

/-! ## sanity of the predicates -/

/-- `Simulates` is not trivially true: the WRONG value 9 Ω for `R1 1 2 3; R2 2 0 5` is rejected -/
theorem nv_simulates_discriminates :
    ¬ Simulates Kind.dc (0 : ℚ) (AllBut [node 2, br 7, br 8, br 9]) [Cpt.R 1 2 3, Cpt.R 2 0 5] [Cpt.R 1 0 9] := by
  intro h
  obtain ⟨y, hy, _, _, hr⟩ := h (fun i => match i with | node 1 => 16 | node 2 => 10 | _ => 0)
    (by intro c hc p hp; simp only [List.mem_cons, List.mem_nil_iff, or_false] at hc; rcases hc with rfl | rfl <;> simp [laws] at hp)
    (by
      intro k hk0 hR
      have : k = 2 := by simpa [AllBut] using hR
      subst this
      norm_num [kclAt, outflow, twoTerm, lsum, vd, volt])
  have h1 := hr 1 (by decide) (by simp [AllBut])
  have e1 := hy (node 1) (by simp [AllBut])
  norm_num [kclAt, outflow, twoTerm, lsum, vd, volt] at h1 e1
  rw [e1] at h1; norm_num at h1

/-- FINDING (class e) on the oracle predicate of Spec/Retained.lean: a quantity missing from the ORIGINAL solution is not
    compared, so `Preserved` holds for ANY pair of netlists when the original solution is empty (a quantity missing
    from the second solution only is rejected: `preserved_nodes`, Props/C05Net.lean) -/
theorem preserved_of_empty_solution (mode : Mode) (ren : String → String) (orig new : Net ℚ) (sn : Sol ℚ) :
    Preserved mode ren orig new ⟨[], []⟩ sn := by
  have hf : ∀ {α : Type} (l : List α), l.find? (fun _ => false) = none := by
    intro α l; induction l <;> simp_all
  simp [Preserved, firstDifference, Sol.v, Sol.i, hf]

/-! ## Props/C05CW.lean -/

/-- `V1 1 0 6; R1 1 2 3` with R1 split (noise model, source killed) on dummy node 11 / branch 11:
    both steps are simulations and they are separated -/
def cwSteps : List (Rw ℚ) :=
  [⟨[.V 1 0 0 6], [.V 1 0 0 6], []⟩,
   ⟨[.R 1 2 3], noisyKilledCpt 11 11 (.R 1 2 3), noisyHidden 11 11 (.R 1 2 (3 : ℚ))⟩,
   ⟨[.R 2 0 5], noisyKilledCpt 12 12 (.R 2 0 5), noisyHidden 12 12 (.R 2 0 (5 : ℚ))⟩]

theorem nv_cw_h1 : ∀ p ∈ cwSteps, Simulates Kind.dc (0 : ℚ) (AllBut' p.hid) p.orig p.rep := by
  intro p hp
  simp only [cwSteps, List.mem_cons, List.mem_nil_iff, or_false] at hp
  rcases hp with rfl | rfl | rfl
  · exact Simulates.refl _ _ _ _
  · exact (noisy_step Kind.dc (0 : ℚ) ⟨.R 1 2 3, 11, 11⟩ (by simp [Alloc.Fresh, mentions])).1
  · exact (noisy_step Kind.dc (0 : ℚ) ⟨.R 2 0 5, 12, 12⟩ (by simp [Alloc.Fresh, mentions])).1

theorem nv_cw_h2 : cwSteps.Pairwise (fun p q => p.Sep q ∧ q.Sep p) := by decide

/-- the solution V(1) = 6, V(2) = 15/4, J(V1) = −3/4 of `V1 1 0 6; R1 1 2 3; R2 2 0 5` -/
def cwx : Ix → ℚ := fun i => match i with | node 1 => 6 | node 2 => 15 / 4 | br 0 => -3 / 4 | _ => 0

theorem nv_cw_hx : Laws Kind.dc (0 : ℚ) (cwSteps.flatMap (·.orig)) cwx :=
  laws_of_range 3 (by decide) (by decide +kernel) (by decide +kernel)

theorem nv_componentwise_congruence :
    ∃ y, y (node 1) = 6 ∧ y (node 2) = 15 / 4 ∧ y (br 0) = -3 / 4 ∧
      Laws Kind.dc (0 : ℚ) [.V 1 0 0 6, .R 1 11 3, .V 11 2 11 0, .R 2 12 5, .V 12 0 12 0] y := by
  obtain ⟨y, hy, hl⟩ := componentwise_congruence Kind.dc (0 : ℚ) cwSteps nv_cw_h1 nv_cw_h2 cwx nv_cw_hx
  refine ⟨y, (hy _ (by simp [cwSteps, noisyHidden])).trans rfl, (hy _ (by simp [cwSteps, noisyHidden])).trans rfl,
    (hy _ (by simp [cwSteps, noisyHidden])).trans rfl, ?_⟩
  simpa [cwSteps, noisyKilledCpt] using hl

/-- the allotment of `noise_model_killed_equiv` for the same netlist -/
def nzAlloc : List (Alloc ℚ) := [⟨.V 1 0 0 6, 10, 10⟩, ⟨.R 1 2 3, 11, 11⟩, ⟨.R 2 0 5, 12, 12⟩]

theorem nv_nz_fresh : ∀ a ∈ nzAlloc, a.Fresh := by
  intro a ha
  simp only [nzAlloc, List.mem_cons, List.mem_nil_iff, or_false] at ha
  rcases ha with rfl | rfl | rfl <;> simp [Alloc.Fresh, mentions]

theorem nv_nz_apart : nzAlloc.Pairwise (fun p q => p.Apart q ∧ q.Apart p) := by decide

theorem nv_noise_model_killed_equiv :
    ∃ y, y (node 2) = 15 / 4 ∧
      Laws Kind.dc (0 : ℚ) [.V 1 0 0 6, .R 1 11 3, .V 11 2 11 0, .R 2 12 5, .V 12 0 12 0] y := by
  have h := (noise_model_killed_equiv Kind.dc (0 : ℚ) nzAlloc nv_nz_fresh nv_nz_apart).1 cwx
    (by simpa [nzAlloc, cwSteps] using nv_cw_hx)
  obtain ⟨y, hy, hl⟩ := h
  refine ⟨y, (hy _ (by simp [nzAlloc, noisyHidden])).trans rfl, ?_⟩
  simpa [nzAlloc, noisyKilledCpt] using hl

/-! ### s_model -/

/-- `V1 1 0 {6/s}; C1 1 0 2 5` at s = 2 (dummy node 12, new branch 12), the allotment `exSm` of Props/C05CW.lean -/
def smAlloc : List (Alloc ℚ) := [⟨.V 1 0 0 3, 10, 10⟩, ⟨.Cap 1 0 2 (some 5), 12, 12⟩]

def smx : Ix → ℚ := fun i => match i with | node 1 => 3 | br 0 => -2 | _ => 0

/-- `s_model_equiv` applied: the s-domain model `V1; ZC1 1 12 {1/(2s)}; VC1 12 0 {5/s}` has a solution with V(1) = 3, J(V1) = −2 -/
theorem nv_s_model_equiv :
    ∃ y, y (node 1) = 3 ∧ y (br 0) = -2 ∧
      Laws Kind.lap (2 : ℚ) [.V 1 0 0 3, .Y 1 12 (1 / (1 / (2 * 2))), .V 12 0 12 (5 / 2)] y := by
  obtain ⟨y, hy, hl⟩ := (s_model_equiv (2 : ℚ) (by norm_num) smAlloc exSm_ok exSm_apart).1 smx exSm_hx
  exact ⟨y, (hy _ (by decide +kernel)).trans rfl, (hy _ (by decide +kernel)).trans rfl, hl⟩

/-- the solution of the s-domain model: V(1) = 3, V(12) = 5/2, J(V1) = −2, J(VC1) = 2 -/
def smy : Ix → ℚ := fun i => match i with | node 1 => 3 | node 12 => 5 / 2 | br 0 => -2 | br 12 => 2 | _ => 0

theorem nv_sm_hy : Laws Kind.lap (2 : ℚ) (sModel 2 smAlloc) smy :=
  laws_of_range 13 (by decide +kernel) (by decide +kernel) (by decide +kernel)

/-- ALL hypotheses of `s_model_preserves` hold together, and the theorem is applied -/
theorem nv_s_model_preserves :
    ∀ i, i ∉ sHidden smAlloc → C01.Unknown Kind.lap (2 : ℚ) (sModel 2 smAlloc) i → smy i = smx i :=
  s_model_preserves (2 : ℚ) (by norm_num) smAlloc exSm_ok exSm_apart exSm_wf exSm_ns smx smy exSm_hx nv_sm_hy

/-! ### replace_switches -/

theorem nv_replace_switches_noevent :
    replaceSwitches (1 : ℚ) true [({ name := "SW1", ty := "SW", nodes := ["4", "5"], kw := "nc", val := some 2 } : Elt ℚ),
                                  { name := "R1", ty := "R", nodes := ["5", "0"], val := some 3 }]
    = replaceSwitches (1 : ℚ) false [{ name := "SW1", ty := "SW", nodes := ["4", "5"], kw := "nc", val := some 2 },
                                     { name := "R1", ty := "R", nodes := ["5", "0"], val := some 3 }] := by
  apply replace_switches_noevent
  intro e he _
  simp only [List.mem_cons, List.mem_nil_iff, or_false] at he
  rcases he with rfl | rfl <;> norm_num

theorem nv_switch_before_at_event : switchClosed SwKind.no (2 : ℚ) 2 true = switchClosed SwKind.no (2 : ℚ) 1 false :=
  switch_before_at_event SwKind.no (2 : ℚ) 1 (by norm_num)

/-! ### ac_model -/

/-- `V1 1 0 ac 6; R1 1 2 3; L1 2 0 4` at ω = 2, over ℂ with j = `Complex.I` -/
noncomputable def acAlloc : List (Alloc ℂ) := [⟨.V 1 0 0 6, 10, 10⟩, ⟨.R 1 2 3, 11, 11⟩, ⟨.Ind 2 0 1 4 none [], 13, 13⟩]

theorem nv_ac_ok : ∀ a ∈ acAlloc, a.OK (Complex.I * 2) := by
  intro a ha
  simp only [acAlloc, List.mem_cons, List.mem_nil_iff, or_false] at ha
  rcases ha with rfl | rfl | rfl <;> simp [Alloc.OK, Alloc.Fresh, mentions]

theorem nv_ac_apart : acAlloc.Pairwise (fun p q => p.Apart q ∧ q.Apart p) := by decide

/-- both hypotheses `j·j = −1` and `j·ω ≠ 0` hold over ℂ and the theorem applies to the netlist -/
theorem nv_ac_model_equiv :
    (∀ x, Laws Kind.ivp (Complex.I * 2) (acAlloc.map (·.c)) x →
      ∃ y, (∀ i, i ∉ sHidden acAlloc → y i = x i) ∧ Laws Kind.lap (Complex.I * 2) (sModel (Complex.I * 2) acAlloc) y) ∧
    (∀ y, Laws Kind.lap (Complex.I * 2) (sModel (Complex.I * 2) acAlloc) y →
      ∃ x, (∀ i, i ∉ sHidden acAlloc → x i = y i) ∧ Laws Kind.ivp (Complex.I * 2) (acAlloc.map (·.c)) x) :=
  ac_model_equiv Complex.I (2 : ℂ) Complex.I_mul_I (by simp) acAlloc nv_ac_ok nv_ac_apart

/-- `ac_model_equiv_noic`: the same netlist has no initial conditions, so phasor analysis (`Kind.lap`
    at s = jω) of the netlist and of its ac model agree -/
theorem nv_ac_model_equiv_noic :
    (∀ x, Laws Kind.lap (Complex.I * 2) (acAlloc.map (·.c)) x →
      ∃ y, (∀ i, i ∉ sHidden acAlloc → y i = x i) ∧ Laws Kind.lap (Complex.I * 2) (sModel (Complex.I * 2) acAlloc) y) ∧
    (∀ y, Laws Kind.lap (Complex.I * 2) (sModel (Complex.I * 2) acAlloc) y →
      ∃ x, (∀ i, i ∉ sHidden acAlloc → x i = y i) ∧ Laws Kind.lap (Complex.I * 2) (acAlloc.map (·.c)) x) :=
  ac_model_equiv_noic Complex.I (2 : ℂ) Complex.I_mul_I (by simp) acAlloc nv_ac_ok nv_ac_apart
    (by intro a ha; simp only [acAlloc, List.mem_cons, List.mem_nil_iff, or_false] at ha
        rcases ha with rfl | rfl | rfl <;> rfl)

end Lcapy.NonVacuity.C05
