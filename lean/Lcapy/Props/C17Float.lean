/-
  C17, floats.  NOT a theorem about all inputs: a TEST over the finite table that the check generated in
  this run (`Lcapy/Generated/FloatTests.lean`: rational functions in Horner form, float arguments, and the bits that the
  real `Expr.evaluate` returned).  The kernel evaluates the straight-line float program that lambdify prints
  (`Model/FloatEval.lean`, Lean's IEEE binary64 `Float`) and compares bit for bit: on these inputs `evaluate()` IS the
  correctly rounded straight-line evaluation, operation by operation (no re-association, no extended precision, no
  fused multiply-add, nothing between lambdify's code and the returned number).
  The bulk of the float tests (a few hundred inputs per run) goes through the native driver (`flt.run`), same definition.
-/
import Lcapy.Generated.FloatTests
namespace Lcapy.C17
open Lcapy.FloatEval

/-- TEST (finite generated table): every recorded `evaluate()` result is bit-for-bit the straight-line float program -/
theorem float_straightline_tests : allPass Lcapy.Gen.FloatTests.table = true := by decide +kernel

end Lcapy.C17
