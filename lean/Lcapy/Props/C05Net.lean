/-
  PROPERTY C05 -- theorems about the netlist-level functions that the DRIVER EXECUTES
  (`rw.smodel` = `sModelNet`, `rw.noise killed` = `noiseModelKilled`, `rw.simplify` = `simplify` with
  `spanPrivate`, `removeDangling`, `removeDisconnected`, `keepDangling`), tied to the component-level theorems
  of Props/C05.lean and Props/C05CW.lean through the translation `Elt.toCpts` (Model/RewriteCW.lean: node names
  ↦ node indices with wire-joined names identified, component names ↦ branch indices).
-/
import Lcapy.Props.C05CW
namespace Lcapy.C05
open Lcapy.MNA Lcapy.Rewrite Ix
variable {K : Type} [Field K] [DecidableEq K]
set_option linter.unusedSectionVars false

/-! ## 1. s_model: the executed `sModelNet` is the component-level `sModel` -/

/-- the allotment `sModelNet` makes: the line's component gets the dummy node `_d<k+1>` and, as branch of its
    initial-condition source, the index of the new line `V<name>` -/
def allocsFrom (s : K) (ν β : String → Nat) : Nat → Net K → List (Alloc K)
  | _, [] => []
  | k, e :: t =>
    (e.toCpts ν β).map (fun c => (⟨c, ν (dummyName k), β ("V" ++ e.name)⟩ : Alloc K)) ++
      allocsFrom s ν β (sModelElt s k e).2 t

theorem allocsFrom_cpts (s : K) (ν β : String → Nat) (net : Net K) (k : Nat) :
    (allocsFrom s ν β k net).map (·.c) = net.toCpts ν β := by
  induction net generalizing k with
  | nil => rfl
  | cons e t ih =>
    simp only [allocsFrom, List.map_append, List.map_map, Net.toCpts, List.flatMap_cons]
    rw [ih]
    simp [Net.toCpts, Function.comp_def]

/-- one line: what `sModelElt` emits MEANS what `sModelCpt` makes of the line's meaning -/
theorem sModelElt_sem (s : K) (hs : s ≠ 0) (ν β : String → Nat) (k : Nat) (e : Elt K)
    (hβ : e.ty = "L" → β ("V" ++ e.name) = β e.name) :
    (sModelElt s k e).1.flatMap (Elt.toCpts ν β) =
      (e.toCpts ν β).flatMap (fun c => sModelCpt s (ν (dummyName k)) (β ("V" ++ e.name)) c) := by
  obtain ⟨name, ty, nodes, kw, val, ic, extra⟩ := e
  simp only [sModelElt, getD_zero_eq_icv]
  split
  · simp only [if_true, Elt.toCpts, sModelCpt, Elt.n1, Elt.n2, List.flatMap_cons, List.flatMap_nil, List.append_nil]
  · simp only [if_true, Elt.toCpts, sModelCpt, Elt.n1, Elt.n2, List.flatMap_cons, List.flatMap_nil, List.append_nil]
  · simp only [if_true, Elt.toCpts, sModelCpt, Elt.n1, Elt.n2, List.flatMap_cons, List.flatMap_nil, List.append_nil,
      one_div_one_div]
  · simp only [if_true, Elt.toCpts, sModelCpt, Elt.n1, Elt.n2, List.flatMap_cons, List.flatMap_nil, List.append_nil]
  · by_cases h0 : icv ic = 0 <;>
      simp only [h0, div_eq_zero_iff, hs, or_false, if_true, if_false, Elt.toCpts, sModelCpt, Elt.n1, Elt.n2,
        List.flatMap_cons, List.flatMap_nil, List.append_nil, List.getD_cons_zero, List.getD_cons_succ,
        List.cons_append, List.nil_append]
  · rename_i l
    have hb : β ("V" ++ name) = β name := hβ rfl
    by_cases h0 : l * icv ic = 0 <;>
      simp only [h0, hb, mul_comm (icv ic), neg_eq_zero, if_true, if_false, Elt.toCpts, sModelCpt, Elt.n1, Elt.n2,
        List.flatMap_cons, List.flatMap_nil, List.append_nil, List.getD_cons_zero, List.getD_cons_succ,
        List.cons_append, List.nil_append]
  · simp only [Elt.toCpts, List.flatMap_cons, List.flatMap_nil, List.append_nil]
    split <;> rename_i h1 h2 h3 h4 h5 h6
    · exact (h1 _ rfl rfl).elim
    · exact (h2 _ rfl rfl).elim
    · exact (h5 _ rfl rfl).elim
    · exact (h6 _ rfl rfl).elim
    · rfl
    · rfl
    · exact (h4 _ rfl rfl).elim
    · exact (h3 _ rfl rfl).elim
    · rfl
theorem sModelFrom_sem (s : K) (hs : s ≠ 0) (ν β : String → Nat) (net : Net K)
    (hβ : ∀ e ∈ net, e.ty = "L" → β ("V" ++ e.name) = β e.name) (k : Nat) :
    (sModelFrom s k net).toCpts ν β = sModel s (allocsFrom s ν β k net) := by
  induction net generalizing k with
  | nil => rfl
  | cons e t ih =>
    simp only [sModelFrom, allocsFrom, Net.toCpts, sModel, List.flatMap_append, List.flatMap_map] at ih ⊢
    rw [sModelElt_sem s hs ν β k e (hβ e List.mem_cons_self)]
    rw [ih (fun e' he' => hβ e' (List.mem_cons_of_mem _ he'))]

/-- **s_model_net_equiv** (the statement about the function the driver runs, `rw.smodel` = `sModelNet`):
    read both netlists through ANY naming `ν`, `β` of their nodes and branch unknowns (`V<L>` inheriting the index
    of the inductor `L` it replaces) under which no line reads an unknown private to the rewrite of another line (`Rw.Sep`: dummy nodes, new source
    branches, vanished inductor currents);
    then at every s ≠ 0 the initial-value problem of the netlist and the zero-state problem of `sModelNet s net`
    have the same solutions on every unknown they share. -/
theorem s_model_net_equiv (s : K) (hs : s ≠ 0) (ν β : String → Nat) (net : Net K)
    (hβ : ∀ e ∈ net, e.ty = "L" → β ("V" ++ e.name) = β e.name)
    (hok : ∀ a ∈ allocsFrom s ν β 0 net, a.OK s)
    (hap : (allocsFrom s ν β 0 net).Pairwise (fun p q => (p.sRw s).Sep (q.sRw s) ∧ (q.sRw s).Sep (p.sRw s))) :
    (∀ x, Laws .ivp s (net.toCpts ν β) x →
      ∃ y, (∀ i, i ∉ sHidden (allocsFrom s ν β 0 net) → y i = x i) ∧ Laws .lap s ((sModelNet s net).toCpts ν β) y) ∧
    (∀ y, Laws .lap s ((sModelNet s net).toCpts ν β) y →
      ∃ x, (∀ i, i ∉ sHidden (allocsFrom s ν β 0 net) → x i = y i) ∧ Laws .ivp s (net.toCpts ν β) x) := by
  have h := s_model_equiv_sep s hs (allocsFrom s ν β 0 net) hok hap
  rw [allocsFrom_cpts] at h
  simp only [sModelNet]
  rw [sModelFrom_sem s hs ν β net hβ 0]
  exact h

/-- non-vacuity of `s_model_net_equiv`: the netlist `V1 1 0 3; R1 1 2 3; C1 2 0 2 5; L1 2 3 4 7; R2 3 0 1` at s = 2
    with `ν` = the node number (dummy nodes `_d1`, `_d2`, `_d3` ↦ 11, 12, 13) and `β` = V1 ↦ 0, L1 and VL1 ↦ 1,
    VC1 ↦ 2: the allotment that `sModelNet` makes satisfies every hypothesis (C1 gets `_d1`, L1 gets `_d2`) -/
def exNu (n : String) : Nat :=
  if n = "1" then 1 else if n = "2" then 2 else if n = "3" then 3 else if n = "_d1" then 11 else if n = "_d2" then 12
  else if n = "_d3" then 13 else 0
def exBeta (n : String) : Nat := if n = "V1" then 0 else if n = "L1" ∨ n = "VL1" then 1 else if n = "VC1" then 2 else 9
def exNet : Net ℚ :=
  [{ name := "V1", ty := "V", nodes := ["1", "0"], val := some 3 },
   { name := "R1", ty := "R", nodes := ["1", "2"], val := some 3 },
   { name := "C1", ty := "C", nodes := ["2", "0"], val := some 2, ic := some 5 },
   { name := "L1", ty := "L", nodes := ["2", "3"], val := some 4, ic := some 7 },
   { name := "R2", ty := "R", nodes := ["3", "0"], val := some 1 }]

theorem exNet_allocs : allocsFrom (2 : ℚ) exNu exBeta 0 exNet =
    [⟨.V 1 0 0 3, 11, 9⟩, ⟨.R 1 2 3, 11, 9⟩, ⟨.Cap 2 0 2 (some 5), 11, 2⟩, ⟨.Ind 2 3 1 4 (some 7) [], 12, 1⟩,
     ⟨.R 3 0 1, 13, 9⟩] := by
  simp [allocsFrom, sModelElt, Elt.toCpts, Elt.n1, Elt.n2, exNet, exNu, exBeta, dummyName]
  decide

example :
    (∀ e ∈ exNet, e.ty = "L" → exBeta ("V" ++ e.name) = exBeta e.name) ∧
    (∀ a ∈ allocsFrom (2 : ℚ) exNu exBeta 0 exNet, a.OK 2) ∧
    (allocsFrom (2 : ℚ) exNu exBeta 0 exNet).Pairwise
      (fun p q => (p.sRw 2).Sep (q.sRw 2) ∧ (q.sRw 2).Sep (p.sRw 2)) := by
  rw [exNet_allocs]
  refine ⟨by decide, ?_, by decide +kernel⟩
  intro a ha
  simp only [List.mem_cons, List.mem_nil_iff, or_false] at ha
  rcases ha with rfl | rfl | rfl | rfl | rfl <;> simp [Alloc.OK, Alloc.Fresh, mentions]

/-! ## 2. killed noise model: the executed `noiseModelKilled` MEANS the original netlist -/

theorem noiseKilledFrom_sem (ν β : String → Nat) (net : Net K) (k : Nat)
    (hν : ∀ w ∈ noiseKilledFrom k net, w.ty = "W" → ν w.n1 = ν w.n2) :
    (noiseKilledFrom k net).toCpts ν β = net.toCpts ν β := by
  induction net generalizing k with
  | nil => rfl
  | cons e t ih =>
    obtain ⟨name, ty, nodes, kw, val, ic, extra⟩ := e
    simp only [noiseKilledFrom] at hν ⊢
    split at hν
    · rename_i r
      have hw := hν { name := "W", ty := "W", nodes := [dummyName k, Elt.n2 { name := name, ty := "R", nodes := nodes, kw := kw, val := some r, ic := ic, extra := extra }] }
        (by simp) rfl
      have ht := ih (k + 1) (fun w hw' => hν w (by simp [hw']))
      simp only [Net.toCpts, List.flatMap_cons, List.flatMap_append] at ht ⊢
      rw [ht]
      simp [Elt.toCpts, Elt.n1, Elt.n2] at hw ⊢
      exact hw
    · have ht := ih k (fun w hw' => hν w (List.mem_cons_of_mem _ hw'))
      simp only [Net.toCpts, List.flatMap_cons] at ht ⊢
      rw [ht]

/-- **noise_model_killed_net** (`rw.noise killed` = `noiseModelKilled`): every resistor becomes `NR n1 d ; W d n2`;
    under any naming that identifies wire-joined node names (wires are merged nodes) the result denotes EXACTLY the
    component list of the original netlist -- so it has the same `Laws`, in every analysis kind, with no hypothesis.
    (`noise_model_killed_equiv` of Props/C05CW.lean is the same fact with the wire kept as a zero-volt source.) -/
theorem noise_model_killed_net (kind : Kind) (s : K) (ν β : String → Nat) (net : Net K)
    (hν : ∀ w ∈ noiseModelKilled net, w.ty = "W" → ν w.n1 = ν w.n2) (x : Ix → K) :
    Laws kind s ((noiseModelKilled net).toCpts ν β) x ↔ Laws kind s (net.toCpts ν β) x := by
  rw [show (noiseModelKilled net).toCpts ν β = net.toCpts ν β from noiseKilledFrom_sem ν β net 0 hν]

/-! ## 3. simplify: what the executed private-span test guarantees (the guard of `series_pair`) -/

/-- **spanPrivate_guard**: when `spanPrivate net aset` (the mirror of `_series_span_is_private`, evaluated by
    `combineSweep` before a series set is combined) answers `true`, every name of every node joining two members is
    not a reference node and is touched by members of the set and wires only -/
theorem spanPrivate_guard (net : Net K) (aset : List String) (h : spanPrivate net aset = true) :
    ∀ k ∈ spanJoints net aset, ∀ n ∈ classNames net k,
      ¬ (n.startsWith "0" = true) ∧ ∀ e ∈ net, n ∈ e.nodes → e.name ∈ aset ∨ isWire e = true := by
  intro k hk n hn
  simp only [spanPrivate, List.all_eq_true, Bool.and_eq_true, Bool.or_eq_true,
    Bool.not_eq_eq_eq_not, Bool.not_true] at h
  obtain ⟨h0, hall⟩ := h k hk n hn
  refine ⟨by simp [h0], fun e he hne => ?_⟩
  rcases hall e he with (h1 | h1) | h1
  · rw [List.contains_iff_mem.mpr hne] at h1; cases h1
  · exact Or.inl (List.contains_iff_mem.mp h1)
  · exact Or.inr h1

/-- … and this IS the hypothesis of `series_pair` / `subcircuit_congruence` for the interior node: read the netlist
    through a naming `ν` that sends only names of the joint's class to its index and only reference names to 0;
    then the interior node is not ground (`hb0`) and no component outside the series set mentions it (`SupportedIn`).
    The guard "interior node not ground, seen by nothing else" is what the code checks before it combines. -/
theorem spanPrivate_supported (net : Net K) (aset : List String) (h : spanPrivate net aset = true)
    (ν β : String → Nat) (k n : String) (hk : k ∈ spanJoints net aset) (hn : n ∈ classNames net k)
    (hwf : ∀ e ∈ net, 2 ≤ e.nodes.length)
    (hν : ∀ n', ν n' = ν n → n' ∈ classNames net k)
    (hν0 : ∀ n', ν n' = 0 → n'.startsWith "0" = true) :
    ν n ≠ 0 ∧ SupportedIn (AllBut' [node (ν n)]) (Net.toCpts ν β (net.filter (fun e => !(aset.contains e.name)))) := by
  have hg := spanPrivate_guard net aset h k hk
  refine ⟨fun h0 => (hg n hn).1 (hν0 n h0), ?_⟩
  intro c hc i hi hmem
  simp only [List.mem_cons, List.mem_nil_iff, or_false] at hmem
  subst hmem
  obtain ⟨e, he, hce⟩ := List.mem_flatMap.mp hc
  obtain ⟨hen, hnot⟩ := List.mem_filter.mp he
  have hlen := hwf e hen
  have hn1 : e.n1 ∈ e.nodes := by
    simp only [Elt.n1]
    cases hnodes : e.nodes with
    | nil => rw [hnodes] at hlen; simp at hlen
    | cons a t => simp
  have hn2 : e.n2 ∈ e.nodes := by
    simp only [Elt.n2]
    cases hnodes : e.nodes with
    | nil => rw [hnodes] at hlen; simp at hlen
    | cons a t =>
      cases t with
      | nil => rw [hnodes] at hlen; simp at hlen
      | cons b t' => simp
  -- the component mentions only the indices of its two nodes
  have hmen : ν n = ν e.n1 ∨ ν n = ν e.n2 := by
    simp only [Elt.toCpts] at hce
    split at hce <;> simp only [List.mem_cons, List.mem_nil_iff, or_false] at hce <;>
      (try (subst hce; simp [mentions] at hi; exact hi))
  have hwire : ∀ m, m ∈ e.nodes → ν m = ν n → False := by
    intro m hm hνm
    have hcls := hν m hνm
    rcases (hg m hcls).2 e hen hm with h1 | h1
    · simp only [Bool.not_eq_true', ← Bool.not_eq_true, List.contains_iff_mem] at hnot; exact hnot h1
    · -- a wire denotes no component
      simp only [isWire, decide_eq_true_eq] at h1
      simp only [Elt.toCpts, h1] at hce
      simp at hce
  rcases hmen with h1 | h1
  · exact hwire _ hn1 h1.symm
  · exact hwire _ hn2 h1.symm

/-! ## 4. dangling / disconnected removal: what the executed functions remove and what they never remove -/

/-- **removeDangling_spec** (`rw.simplify … dangling=1` runs `removeDangling`): the result is a sub-netlist; a line is
    dropped only if it is dangling, selected, carries no explicit initial condition, and none of its dangling nodes is
    a kept node or observed by an open-circuit component -/
theorem removeDangling_spec (net : Net K) (skip keep : List String) (e : Elt K) :
    (e ∈ (removeDangling net skip keep).1 → e ∈ net) ∧
    (e ∈ net → e ∉ (removeDangling net skip keep).1 →
      eltDangling net e = true ∧ e.name ∉ skip ∧ hasIC e = false ∧ keepDangling net keep e = false) := by
  simp only [removeDangling, List.mem_filter]
  refine ⟨fun h => h.1, fun he hn => ?_⟩
  have hx : (eltDangling net e && !(skip.contains e.name) && !(hasIC e) && !(keepDangling net keep e)) = true := by
    cases hb : (eltDangling net e && !(skip.contains e.name) && !(hasIC e) && !(keepDangling net keep e)) with
    | true => rfl
    | false => exact absurd ⟨he, by rw [hb]; rfl⟩ hn
  simp only [Bool.and_eq_true, Bool.not_eq_true'] at hx
  obtain ⟨⟨⟨h1, h2⟩, h3⟩, h4⟩ := hx
  exact ⟨h1, (fun hm => by rw [List.contains_iff_mem.mpr hm] at h2; cases h2), h3, h4⟩

theorem removeDisconnected_spec (net : Net K) (skip keep : List String) (e : Elt K) :
    (e ∈ (removeDisconnected net skip keep).1 → e ∈ net) ∧
    (e ∈ net → e ∉ (removeDisconnected net skip keep).1 →
      eltDisconnected net e = true ∧ e.name ∉ skip ∧ hasIC e = false ∧ keepDangling net keep e = false) := by
  simp only [removeDisconnected, List.mem_filter]
  refine ⟨fun h => h.1, fun he hn => ?_⟩
  have hx : (eltDisconnected net e && !(skip.contains e.name) && !(hasIC e) && !(keepDangling net keep e)) = true := by
    cases hb : (eltDisconnected net e && !(skip.contains e.name) && !(hasIC e) && !(keepDangling net keep e)) with
    | true => rfl
    | false => exact absurd ⟨he, by rw [hb]; rfl⟩ hn
  simp only [Bool.and_eq_true, Bool.not_eq_true'] at hx
  obtain ⟨⟨⟨h1, h2⟩, h3⟩, h4⟩ := hx
  exact ⟨h1, (fun hm => by rw [List.contains_iff_mem.mpr hm] at h2; cases h2), h3, h4⟩

/-- **removal_keeps_ic** (repair of finding C05-ivp): a component with an explicit initial condition survives both
    removals, so a rewrite can no longer turn an initial-value problem into a steady-state problem by removing it -/
theorem removal_keeps_ic (net : Net K) (skip keep : List String) (e : Elt K) (he : e ∈ net) (hic : hasIC e = true) :
    e ∈ (removeDangling net skip keep).1 ∧ e ∈ (removeDisconnected net skip keep).1 := by
  constructor
  · by_contra hn
    have := ((removeDangling_spec net skip keep e).2 he hn).2.2.1
    rw [hic] at this; cases this
  · by_contra hn
    have := ((removeDisconnected_spec net skip keep e).2 he hn).2.2.1
    rw [hic] at this; cases this

/-- **removal_keeps_observed** (repair of finding C05-stranded-observer): a removed line has no dangling node that an
    open-circuit component (other than itself) observes, nor one the caller asked to keep -/
theorem removal_keeps_observed (net : Net K) (skip keep : List String) (e : Elt K) (he : e ∈ net)
    (hn : e ∉ (removeDangling net skip keep).1) (n : String) (hne : n ∈ e.nodes) (hd : nodeDangling net n = true) :
    n ∉ keep ∧ ∀ f ∈ net, f.ty = "O" → n ∈ f.nodes → f.name = e.name ∧ f.nodes = e.nodes := by
  have hk := ((removeDangling_spec net skip keep e).2 he hn).2.2.2
  simp only [keepDangling, List.any_eq_false, Bool.and_eq_true, Bool.or_eq_true, not_and, not_or] at hk
  have := hk n hne hd
  refine ⟨by simpa using this.1, fun f hf hty hnf => ?_⟩
  have h2 := this.2
  simp only [List.any_eq_true, not_exists, not_and, Bool.and_eq_true, decide_eq_true_eq, Bool.or_eq_true,
    bne_iff_ne, ne_eq, not_or, not_not] at h2
  exact h2 f hf ⟨hty, List.contains_iff_mem.mpr hnf⟩

/-! ## 4b. `kill()` (`rw.kill` = `killSources`): what the replacement lines mean -/

/-- `I._kill` ↦ `O`: an open circuit is the current source of value zero -/
theorem kill_I_open (kind : Kind) (s : K) (R : Ix → Prop) (a b : Nat) :
    Simulates kind s R [.I a b 0] [.Open a b] ∧ Simulates kind s R [.Open a b] [.I a b 0] :=
  sim_of_outflow_eq kind s R _ _ (fun x k => by simp only [outflow, twoTerm, neg_zero, ite_self, sub_self])
    (fun _ => rfl) fun _ => rfl

/-- `V._kill` ↦ `W`: a wire identifies its two node names (`Elt.toCpts` gives it no component); a zero-volt source
    between identified nodes constrains nothing and draws nothing, so dropping it (and its branch current) is sound
    in both directions -/
theorem kill_V_wire (kind : Kind) (s : K) (a m : Nat) :
    Simulates kind s (AllBut' [br m]) [.V a a m 0] [] ∧ Simulates kind s (AllBut' [br m]) [] [.V a a m 0] := by
  have hk : ∀ x k, kclAt kind s [Cpt.V a a m 0] x k = 0 := by
    intro x k; simp [kclAt, lsum, outflow, twoTerm]
  constructor
  · intro x _ _
    exact ⟨x, fun _ _ => rfl, by simp [lawsOf], fun _ _ _ => rfl, fun k _ _ => (hk x k).symm⟩
  · intro x _ _
    refine ⟨x, fun _ _ => rfl, ?_, fun k _ _ => hk x k, fun k _ _ => hk x k⟩
    intro c hc p hp
    simp only [List.mem_cons, List.mem_nil_iff, or_false] at hc; subst hc
    simp only [laws, List.mem_cons, List.mem_nil_iff, or_false] at hp; subst hp
    simp [vd]

/-! ## 5. the oracle predicate `Preserved` (Spec/Retained.lean) means what it says -/

/-- **preserved_nodes**: when the driver answers `ok` (`Preserved`), every retained node whose voltage the original
    solution reports HAS a voltage in the rewritten solution and it is the same (an empty or partial second solution is
    not accepted) -/
theorem preserved_nodes (mode : Mode) (ren : String → String) (orig new : Net K) (so sn : Sol K)
    (h : Preserved mode ren orig new so sn) (n : String) (hn : n ∈ retainedNodes mode ren orig new)
    (a : K) (ha : so.v n = some a) : sn.v (ren n) = some a := by
  unfold Preserved firstDifference at h
  simp only at h
  split at h
  · cases h
  · rename_i hnone
    have := List.find?_eq_none.mp hnone n hn
    rw [ha] at this
    cases hb : sn.v (ren n) with
    | none => rw [hb] at this; simp at this
    | some b => rw [hb] at this; simp at this; rw [this]

/-- **preserved_currents**: likewise for the current of every untouched component -/
theorem preserved_currents (mode : Mode) (ren : String → String) (orig new : Net K) (so sn : Sol K)
    (h : Preserved mode ren orig new so sn) (e : Elt K) (he : e ∈ untouched mode ren orig new)
    (a : K) (ha : so.i e.name = some a) : sn.i e.name = some a := by
  unfold Preserved firstDifference at h
  simp only at h
  split at h
  · cases h
  · simp only [Option.map_eq_none_iff] at h
    have := List.find?_eq_none.mp h e he
    rw [ha] at this
    cases hb : sn.i e.name with
    | none => rw [hb] at this; simp at this
    | some b => rw [hb] at this; simp at this; rw [this]

end Lcapy.C05
