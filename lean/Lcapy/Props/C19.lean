/-
  PROPERTY C19 -- network synthesis realises the requested immittance.

  Model: `Lcapy/Model/PolySynth.lean` (one-port RLCG networks `Net` with impedance `Net.Z`, the pattern
  realisations of lcapy/synthesis.py on the dictionary `Coll` that `partfrac()` + `collect()` produce, the
  Cauer ladders on continued-fraction coefficients, series/parallel sums of sections for the Foster
  forms) and the continued-fraction model shared with C11 (`Lcapy/Model/Ratfun.lean`: `cfStep`, `cfRun`).
  `none` = the method raises, `some none` = the empty network (`None`), `some (some net)` = a network.

  Guards: Lean's field division is total (`1/0 = 0`); every theorem below that speaks about an impedance
  of a ladder carries explicit hypotheses that the evaluation point is not zero and that no intermediate
  immittance vanishes (`LadderDefined`), so no statement holds "because of" `1/0 = 0`.
  Only property theorems live here; helper lemmas are in Lcapy/Proofs/PolySynth.lean, PolyCF.lean.
-/
import Lcapy.Proofs.PolySynth
import Lcapy.Proofs.PolyCF
import Lcapy.Proofs.PolyRatfun
import Mathlib.Tactic.NormNum
namespace Lcapy.C19
open Lcapy Lcapy.Poly Lcapy.Ratfun Lcapy.Synth
variable {K : Type} [Field K] [DecidableEq K]
set_option linter.unusedVariables false
set_option linter.unusedSectionVars false

/-! ## 1. Continued-fraction expansion (`continued_fraction_coeffs`) -/

/-- `N = Q·D + N₂`, i.e. `N/D = Q + 1/(D/N₂)`, with `Q = LT(N)/LT(D)` -/
theorem cf_step (N D : List K) (q : K) (k : Nat) (N2 : List K) (h : cfStep N D = some (q, k, N2))
    (hD : lc D ≠ 0) (x : K) :
    Poly.eval N x = q * x ^ k * Poly.eval D x + Poly.eval N2 x := cfStep_eval h hD x

/-- termination (explicit obligation): the recursion never runs out of the fuel `cfCoeffs` supplies -/
theorem cf_terminates (fuel : Nat) (N D : List K) (hD : lc D ≠ 0)
    (hf : (trim N).length + (trim D).length ≤ fuel) : cfRun fuel N D ≠ .fuelOut := cfRun_fuel fuel N D hD hf

/-- `evalCF (cfCoeffs N D) = N/D` wherever the continued fraction is defined -/
theorem cf_value (fuel : Nat) (N D : List K) (cs : List (K × Nat)) (env : Env K)
    (h : cfRun fuel N D = .ok cs) (hdef : cfDefined fuel N D env.x = true) :
    (cfExpr cs).eval env = Poly.eval N env.x / Poly.eval D env.x := cfExpr_value fuel N D cs env h hdef
example : cfRun 5 ([1, 0, 1] : List ℚ) [0, 1] = .ok [(1, 1), (1, 1)] := by decide +kernel

/-- the expression `as_continued_fraction` builds and the ladder value `cfVal` are the same number -/
theorem cfExpr_eq_cfVal (cs : List (K × Nat)) (env : Env K) : (cfExpr cs).eval env = cfVal false env.x cs :=
  cfExpr_eval cs env

/-! ## 2. Cauer ladders -/

/-- the ladder is defined at `x`: `x ≠ 0`, every coefficient is non-zero except possibly a leading one,
    and no partial continued fraction vanishes -/
def LadderDefined (inv : Bool) (x : K) : List (K × Nat) → Prop
  | [] => True
  | c :: rest => x ≠ 0 ∧ (rest ≠ [] → cfVal inv x rest ≠ 0) ∧ LadderDefined inv x rest

/-- **cauerI_realises**: the ladder `cauerI` builds from continued-fraction coefficients has impedance
    `c0 + 1/(c1 + 1/(c2 + …))` -/
theorem cauerI_realises (x : K) (cs : List (K × Nat)) (net : Net K)
    (h : cauerI true cs = some (some net)) (hdef : LadderDefined false x cs) :
    net.Z x = cfVal false x cs := by
  have hne : cs ≠ [] := by rintro rfl; simp [cauerI] at h
  exact (cauerI_value x cs true (some net) h hne).1 rfl
example : ∃ net, cauerI true ([(1, 1), (1, 1)] : List (ℚ × Nat)) = some (some net) := ⟨_, rfl⟩
example : LadderDefined false (2 : ℚ) [(1, 1), (1, 1)] := by
  simp [LadderDefined, cfVal, monoVal, npow]

/-- end to end: `Z = N/D`, coefficients from the expansion, network from the ladder -/
theorem cauerI_realises_ratfun (fuel : Nat) (N D : List K) (cs : List (K × Nat)) (net : Net K) (env : Env K)
    (hc : cfRun fuel N D = .ok cs) (hdef : cfDefined fuel N D env.x = true)
    (h : cauerI true cs = some (some net)) (hl : LadderDefined false env.x cs) :
    net.Z env.x = Poly.eval N env.x / Poly.eval D env.x := by
  rw [cauerI_realises env.x cs net h hl, ← cfExpr_eq_cfVal, cf_value fuel N D cs env hc hdef]

/-- **cauerII_realises**: with the coefficients `q·x^(−k)` of `(1/Z).continued_fraction_inverse_coeffs()`
    the ladder `cauerII` builds has ADMITTANCE `c0 + 1/(c1 + 1/(c2 + …))`.  (The inverse coefficients are those of
    `cfiCoeffs`, see `cfi_value`; the oracle checks `as_continued_fraction_inverse` in C11 and the impedance of
    the returned network here.) -/
theorem cauerII_realises (x : K) (cs : List (K × Nat)) (net : Net K)
    (h : cauerII true true cs = some (some net)) (hdef : LadderDefined true x cs) (hz : net.Z x ≠ 0) :
    1 / net.Z x = cfVal true x cs := by
  have hne : cs ≠ [] := by rintro rfl; simp [cauerII] at h
  exact (cauerII_value x cs true true (some net) h hne).1 rfl
example : ∃ net, cauerII true true ([(0, 0), (2, 1), (3, 0)] : List (ℚ × Nat)) = some (some net) := ⟨_, rfl⟩

/-- **cfi_value**: `continued_fraction_inverse_coeffs` (the forward expansion in `1/var` on the reversed
    coefficient lists) gives coefficients `q·x^(−k)` whose continued fraction is `N/D` -/
theorem cfi_value (N D : List K) (cs : List (K × Nat)) (x : K) (hx : x ≠ 0)
    (h : cfiCoeffs N D = .ok cs) (hD : D ≠ [])
    (hdef : cfDefinedSwap (2 * (max N.length D.length + max N.length D.length) + 3)
      (revPad N (max N.length D.length)) (revPad D (max N.length D.length)) (1 / x) = true) :
    cfVal true x cs = Poly.eval N x / Poly.eval D x := cfi_value' N D cs x hx h hdef
example : cfiCoeffs ([1] : List ℚ) [1, 1] = .ok [(1, 0), (-1, 1), (-1, 0)] := by decide +kernel

/-- termination of the inverse expansion (explicit obligation; `cfiCoeffs` supplies `4m + 3` fuel for lists
    of at most `m` coefficients) -/
theorem cfi_terminates (fuel : Nat) (N D : List K) (hN : lc N ≠ 0) (hD : lc D ≠ 0)
    (hf : 2 * ((trim N).length + (trim D).length) + (if (trim N).length < (trim D).length then 1 else 0) ≤ fuel) :
    cfRunSwap fuel N D ≠ .fuelOut := by
  induction fuel generalizing N D with
  | zero => have := trim_length_pos hD; omega
  | succ fuel ih =>
    rw [cfRunSwap]
    cases hs : cfStep N D with
    | none =>
      have hlt := (cfStep_eq_none_iff N D).1 hs
      rw [if_pos hlt] at hf
      exact cons_ne_fuelOut (ih D N hD hN (by rw [if_neg (Nat.lt_asymm hlt)]; omega))
    | some v =>
      obtain ⟨q, k, N2⟩ := v
      simp only
      split
      · simp
      · rename_i hz
        have hl := cfStep_length hs hD
        rw [if_neg (Nat.not_lt.2 hl.2)] at hf
        exact cons_ne_fuelOut (ih D N2 hD (lc_ne_zero_of_not_isZero hz) (by split <;> omega))

/-- Cauer II end to end: coefficients of `1/Z = D/N`, ladder from them, impedance `N/D` -/
theorem cauerII_realises_ratfun (N D : List K) (cs : List (K × Nat)) (net : Net K) (x : K) (hx : x ≠ 0)
    (hc : cfiCoeffs D N = .ok cs) (hN : N ≠ [])
    (hdef : cfDefinedSwap (2 * (max D.length N.length + max D.length N.length) + 3)
      (revPad D (max D.length N.length)) (revPad N (max D.length N.length)) (1 / x) = true)
    (h : cauerII true true cs = some (some net)) (hl : LadderDefined true x cs) (hz : net.Z x ≠ 0) :
    net.Z x = Poly.eval N x / Poly.eval D x := by
  have h1 := cauerII_realises x cs net h hl hz
  rw [cfi_value D N cs x hx hc hN hdef] at h1
  rw [← one_div_one_div (net.Z x), h1, one_div_div]

/-- a coefficient that is neither a constant nor proportional to `var` makes `cauerI` raise -/
theorem cauerI_rejects (q : K) (k : Nat) (hk : 2 ≤ k) (hq : q ≠ 0) (rest : List (K × Nat)) (even : Bool) :
    cauerI even ((q, k) :: rest) = none := by
  obtain ⟨k, rfl⟩ : ∃ j, k = j + 2 := ⟨k - 2, by omega⟩
  simp only [cauerI]
  cases cauerI (!even) rest with
  | none => rfl
  | some t => cases even <;> simp [hq, monoColl, seriesRL, parallelGC]

/-! ## 3. Pattern forms and rejection -/

/-- `seriesRL … seriesRLC`: a returned network has the collected impedance `c0 + cp·x + cm/x`.
    Guards: `x ≠ 0` and every coefficient of the dictionary is non-zero (`hnz`) -- the elements `C(1/a)`, `G(1/a)` invert
    them, and with Lean's total division a zero entry would be "realised" by `C(1/0)` for the wrong reason.  `collect`
    never produces a zero coefficient and neither does the model of it (`collOf_entries_nonzero` in C19Forms.lean). -/
theorem series_forms_realise (d : Coll K) (x : K) (net : Net K) (hx : x ≠ 0)
    (h : seriesRL d = some (some net) ∨ seriesRC d = some (some net) ∨ seriesGC d = some (some net) ∨
         seriesLC d = some (some net) ∨ seriesRLC d = some (some net)) (hnz : d.EntriesNonzero) :
    net.Z x = d.value x := (series_forms_value d x (some net) h).2

/-- `parallelRL … parallelRLC`: a returned network has the collected ADMITTANCE (same guards, plus `net.Z x ≠ 0`) -/
theorem parallel_forms_realise (d : Coll K) (x : K) (net : Net K) (hx : x ≠ 0) (hz : net.Z x ≠ 0)
    (h : parallelRL d = some (some net) ∨ parallelRC d = some (some net) ∨ parallelGC d = some (some net) ∨
         parallelLC d = some (some net) ∨ parallelRLC d = some (some net)) (hnz : d.EntriesNonzero) :
    1 / net.Z x = d.value x := (parallel_forms_value d x (some net) h).2
example : seriesRLC (⟨some 3, some 2, some 5, false⟩ : Coll ℚ) = some (some (.ser (.ser (.R 3) (.C (1 / 5))) (.L 2))) := rfl

/-- **reject_otherwise**: terms other than `1`, `var`, `1/var` make every pattern raise -/
theorem reject_otherwise (d : Coll K) (h : d.other = true) :
    seriesRL d = none ∧ seriesRC d = none ∧ seriesGC d = none ∧ seriesLC d = none ∧ seriesRLC d = none ∧
    parallelRL d = none ∧ parallelRC d = none ∧ parallelGC d = none ∧ parallelLC d = none ∧ parallelRLC d = none := by
  simp [seriesRL, seriesRC, seriesGC, seriesLC, seriesRLC, parallelRL, parallelRC, parallelGC, parallelLC,
    parallelRLC, h]

/-- a term the pattern has no element for makes it raise (`var` for RC/GC, `1/var` for RL, a constant for LC) -/
theorem reject_missing_element (d : Coll K) :
    (d.cm.isSome = true → seriesRL d = none ∧ parallelRC d = none ∧ parallelGC d = none) ∧
    (d.cp.isSome = true → seriesRC d = none ∧ seriesGC d = none ∧ parallelRL d = none) ∧
    (d.c0.getD 0 ≠ 0 → seriesLC d = none ∧ parallelLC d = none) := by
  refine ⟨fun h => ?_, fun h => ?_, fun h => ?_⟩
  · simp [seriesRL, parallelRC, parallelGC, h]
  · simp [seriesRC, seriesGC, parallelRL, h]
  · simp [seriesLC, parallelLC, h]

/-! ## 4. Foster forms (the synthesis statements from `N/D` are `fosterI_realises_ratfun` / `fosterII_realises_ratfun` in
     C19Forms.lean) -/

/-- sections in series add their impedances -/
theorem serAll_Z (nets : List (Net K)) (net : Net K) (x : K) (h : serAll nets = some net) :
    net.Z x = (nets.map (fun n => n.Z x)).sum := by
  have := Z_serAll nets x
  rw [h] at this; exact this

/-- sections in parallel add their admittances -/
theorem parAll_Y (nets : List (Net K)) (net : Net K) (x : K) (h : parAll nets = some net) :
    1 / net.Z x = (nets.map (fun n => 1 / n.Z x)).sum := by
  have := Y_parAll nets x
  rw [h] at this; exact this

/-- Foster I from a CHECKED partial-fraction expansion: term `r/(x−p)^o` ↦ a section with that impedance
    (the end-to-end statements from `N/D` are `fosterI_realises_ratfun` / `fosterII_realises_ratfun` in C19Forms.lean) -/
theorem fosterI_realises_terms (B A Q : List K) (poles : List (K × Nat)) (terms : List (K × K × Nat))
    (nets : List (Net K)) (qnet net : Net K) (x : K)
    (hc : pfCheck B A Q poles terms = true) (hA : Poly.eval A x ≠ 0)
    (hq : qnet.Z x = Poly.eval Q x)
    (hs : nets.map (fun n => n.Z x) = terms.map (fun t => t.1 / (x - t.2.1) ^ t.2.2))
    (h : serAll (qnet :: nets) = some net) :
    net.Z x = Poly.eval B x / Poly.eval A x := by
  rw [serAll_Z (qnet :: nets) net x h, pfCheck_sound B A Q poles terms x hc hA]
  simp [hq, hs, pfValue]

end Lcapy.C19
