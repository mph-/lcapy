/-
  PROPERTY C04, clauses
   * "driving-point impedance, admittance and transfer functions are those of the network with independent sources
     killed and initial conditions set to zero" (`kills_ics`): every experiment of Model/PortOps.lean runs on
     `killAll cs`, in which EVERY independent quantity is zero (`killAll_indep_zero`), so that the initial-value
     analysis of that circuit IS the zero-state Laplace analysis (`killed_ivp_is_lap`); whereas the open-circuit
     voltage / short-circuit current of the ORIGINAL circuit are the sum of the response to the sources alone and the
     response to the initial conditions alone (`voc_keeps_ics`): initial conditions are sources of the ivp kind
     (`ic_is_a_source`).
   * two-port extraction from a netlist (`Zparams`, `Yparamsn`, `Yparams` = `Zparams.Yparams`, …): the matrices read off
     the probe experiments satisfy the C08 port relations for the killed netlist under ARBITRARY port excitation
     (`zparams_rel`, `zparams_rel_unique`, `yparams_rel`, `zparams_convert`).
-/
import Lcapy.Props.C04
import Lcapy.Proofs.PortOps
import Lcapy.Props.C08
import Lcapy.Model.PortOps
import Lcapy.Proofs.Witness
namespace Lcapy.C04
open Lcapy.MNA Ix
variable {K : Type} [Field K]

/-- **killAll_indep_zero** (`kills_ics`): after `kill()` every independent source value and every initial
    condition — capacitor voltages, inductor currents, the initial currents of coupled inductors, the `C·v0` seen by a
    CCVS controlled by a capacitor — is zero. -/
theorem killAll_indep_zero (cs : List (Cpt K)) : ∀ c ∈ killAll cs, ∀ v ∈ c.indep, v = 0 := by
  intro c hc v hv
  obtain ⟨c0, _, rfl⟩ := List.mem_map.mp hc
  cases c0 with
  | Cap n1 n2 c v0 => cases v0 <;> simp [Cpt.mapSrc, Cpt.indep] at hv; exact hv
  | Ind n1 n2 m l i0 coup =>
    simp only [Cpt.mapSrc, Cpt.indep, List.mem_append] at hv
    rcases hv with hv | hv
    · cases i0 <;> simp at hv; exact hv
    · exact coupMap_zero_indep coup v hv
  | _ => simp_all [Cpt.mapSrc, Cpt.indep]

/-- **killed_ivp_is_lap**: for a circuit whose independent quantities are all zero except possibly its V and I
    sources (the test sources), the initial-value-problem laws are the zero-state Laplace laws: "initial conditions
    set to zero". -/
theorem killed_ivp_is_lap (s : K) (cs : List (Cpt K)) (x : Ix → K)
    (h : ∀ c ∈ cs, (∀ v ∈ c.killSrcs.indep, v = 0)) :
    Laws .ivp s cs x ↔ Laws .lap s cs x := by
  have ho : ∀ c ∈ cs, ∀ k, outflow .ivp s x k c = outflow .lap s x k c := by
    intro c hc k
    have hz := h c hc
    cases c with
    | Cap n1 n2 c v0 =>
      cases v0 with
      | none => simp [outflow, capCurrent]
      | some v0 =>
        have : v0 = 0 := hz v0 (by simp [Cpt.killSrcs, Cpt.indep])
        simp [outflow, capCurrent, this]
    | _ => simp [outflow]
  have hl : ∀ c ∈ cs, laws .ivp s x c = laws .lap s x c := by
    intro c hc
    have hz := h c hc
    cases c with
    | Ind n1 n2 m l i0 coup =>
      have hm : mutualIC coup = 0 := mutualIC_zero coup (fun v hv => hz v (by
        simp only [Cpt.killSrcs, Cpt.indep, List.mem_append]; exact Or.inr hv))
      cases i0 with
      | none => simp [laws, hm]
      | some i0 =>
        have : i0 = 0 := hz i0 (by simp [Cpt.killSrcs, Cpt.indep])
        simp [laws, hm, this]
    | _ => simp [laws]
  exact WireMerge.Laws_congr_iff cs x x ho hl

/-- the hypothesis of `killed_ivp_is_lap` holds for every probed circuit: killed netlist + V/I test sources -/
theorem probed_killed_ok (cs probe : List (Cpt K))
    (hp : ∀ c ∈ probe, (∃ n1 n2 m v, c = .V n1 n2 m v) ∨ (∃ n1 n2 i, c = .I n1 n2 i)) :
    ∀ c ∈ killAll cs ++ probe, (∀ v ∈ c.killSrcs.indep, v = 0) := by
  intro c hc v hv
  rcases List.mem_append.mp hc with h | h
  · exact (indep_killSrcs c v hv).elim (killAll_indep_zero cs c h v) id
  · rcases hp c h with ⟨n1, n2, m, v', rfl⟩ | ⟨n1, n2, i, rfl⟩ <;> exact List.mem_singleton.mp hv

/-- so the impedance measured in the initial-value analysis is the zero-state one, whatever ICs the netlist had -/
theorem impedance_ignores_ics (s : K) (cs : List (Cpt K)) (p m : Nat) (x : Ix → K) :
    Laws .ivp s (impedanceExp cs p m).ckt x ↔ Laws .lap s (impedanceExp cs p m).ckt x :=
  killed_ivp_is_lap s _ x (probed_killed_ok cs _ (by simp))

/-! ### the experiments are the ones the source text of netlistopsmixin.py prescribes -/

/-- **experiments_from_source**: each experiment of Model/PortOps.lean on which the theorems of C04 are stated is the
    experiment built from the table GENERATED from the current source text of lcapy/netlistopsmixin.py (which nodes are
    validated, how the probed copy is made, what is measured between which nodes, with which sign). -/
theorem experiments_from_source (cs : List (Cpt K)) (p1 m1 p2 m2 b bs : Nat) :
    expFromSource "impedance" cs p1 m1 p1 m1 b bs = some (impedanceExp cs p1 m1) ∧
    expFromSource "admittance" cs p1 m1 p1 m1 b bs = some (admittanceExp cs p1 m1 b) ∧
    expFromSource "transfer" cs p1 m1 p2 m2 b bs = some (transferExp cs p1 m1 p2 m2 b) ∧
    expFromSource "voltage_gain" cs p1 m1 p2 m2 b bs = some (transferExp cs p1 m1 p2 m2 b) ∧
    expFromSource "transimpedance" cs p1 m1 p2 m2 b bs = some (transimpedanceExp cs p1 m1 p2 m2) ∧
    expFromSource "current_gain" cs p1 m1 p2 m2 b bs = some (currentGainExp cs p1 m1 p2 m2 bs) ∧
    expFromSource "transadmittance" cs p1 m1 p2 m2 b bs = some (transadmittanceExp cs p1 m1 p2 m2 b bs) := by
  refine ⟨?_, ?_, ?_, ?_, ?_, ?_, ?_⟩ <;> rfl

/-- **helpers_from_source**: and the helpers those rows name do what `zProbe` / `vProbe` model: `kill()` with no argument
    kills the initial conditions too, the reference is put at the negative node only when the netlist has no node 0,
    the test source is a unit impulse on (Np, Nm), only the voltage probe removes voltage sources across the pair. -/
theorem helpers_from_source :
    Gen.PortOps.helpers = expectedHelpers ∧ Gen.PortOps.testSources = expectedTestSources ∧
    Gen.PortOps.killNoArgsKillsICs = true ∧ Gen.PortOps.killICBranch = true ∧
    Gen.PortOps.addGround = "W node 0 unless 0 exists" := by
  refine ⟨?_, ?_, ?_, ?_, ?_⟩ <;> rfl

/-! ### … while Voc / Isc of the original circuit keep the initial conditions -/

/-- **voc_keeps_ics**: the response of the ORIGINAL circuit (the one `Voc`, `Isc`, `thevenin`, `norton` solve) is the
    response to the independent sources with the initial conditions zeroed PLUS the response to the initial
    conditions with the sources killed; in particular Voc = Voc(sources) + Voc(ICs).  Any netlist, any kind. -/
theorem voc_keeps_ics (kind : Kind) (s : K) (cs : List (Cpt K)) (xs xi : Ix → K) (p m : Nat)
    (hs : Solves kind s (cs.map Cpt.killICs) xs) (hi : Solves kind s (cs.map Cpt.killSrcs) xi) :
    Solves kind s cs (fun i => xs i + xi i) ∧
      vd (fun i => xs i + xi i) p m = vd xs p m + vd xi p m := by
  have hsh := forall2_killICs_killSrcs cs
  have hz := zip_killICs_killSrcs cs
  have := C03.superposition kind s _ _ xs xi hsh hs hi
  rw [hz] at this
  exact ⟨this, vd_fun_add xs xi p m⟩

/-- **ic_is_a_source**: an initial condition alone drives the port — a capacitor charged to v0 presents
    Voc = v0/s in the initial-value analysis (it is zero in the killed circuit by `killed_ivp_is_lap`). -/
theorem ic_is_a_source (s c v0 : K) (hs : s ≠ 0) (hc : c ≠ 0) (x : Ix → K)
    (h : Laws .ivp s [.Cap 1 0 c (some v0)] x) : vd x 1 0 = v0 / s := by
  have k1 := h.1 1 (by decide)
  simp [outflow, twoTerm, lsum, capCurrent] at k1
  rw [eq_div_iff hs]
  have h0 : c * (vd x 1 0 * s - v0) = 0 := by linear_combination k1
  rcases mul_eq_zero.mp h0 with h' | h'
  · exact absurd h' hc
  · linear_combination h'

/-- the response of the killed netlist to two port currents is the combination of the two unit responses -/
theorem zDrive_linear (kind : Kind) (s : K) (cs : List (Cpt K)) (p1 m1 p2 m2 : Nat) (x1 x2 : Ix → K) (i1 i2 : K)
    (h1 : Solves kind s (zDrive cs p1 m1 p2 m2 1 0) x1) (h2 : Solves kind s (zDrive cs p1 m1 p2 m2 0 1) x2) :
    Solves kind s (zDrive cs p1 m1 p2 m2 i1 i2) (fun i => i1 * x1 i + i2 * x2 i) := by
  have s1 := C03.scaling kind s i1 _ x1 h1
  have s2 := C03.scaling kind s i2 _ x2 h2
  simp only [zDrive, List.map_append, killAll_scale, List.map_cons, List.map_nil, Cpt.mapSrc] at s1 s2
  have h := solves_add_killed kind s (killAll cs) [.I p1 m1 (i1 * 1), .I p2 m2 (i1 * 0)]
    [.I p1 m1 (i2 * 0), .I p2 m2 (i2 * 1)] _ _
    (.cons (by simp [SameShape, Cpt.mapSrc]) (.cons (by simp [SameShape, Cpt.mapSrc]) .nil)) s1
    (by rwa [killAll_killAll])
  simpa [zDrive, Cpt.addSrc] using h

/-- the matrix `Zparams` reads off the two experiments: column k = port voltages with 1 A into port k -/
def zMatrix (x1 x2 : Ix → K) (p1 m1 p2 m2 : Nat) : M2 K :=
  ⟨vd x1 p1 m1, vd x2 p1 m1, vd x1 p2 m2, vd x2 p2 m2⟩

/-- **zparams_rel**: for every netlist and every pair of ports, with Z the matrix extracted by the two
    open-circuit experiments of `Zparams`, for ARBITRARY port currents i1, i2 the killed netlist has a solution
    whose port quantities satisfy the C08 relation of the Z representation: (V1, V2) = Z·(I1, I2). -/
theorem zparams_rel (kind : Kind) (s : K) (cs : List (Cpt K)) (p1 m1 p2 m2 : Nat) (x1 x2 : Ix → K) (i1 i2 : K)
    (h1 : Solves kind s (zDrive cs p1 m1 p2 m2 1 0) x1) (h2 : Solves kind s (zDrive cs p1 m1 p2 m2 0 1) x2) :
    ∃ x, Solves kind s (zDrive cs p1 m1 p2 m2 i1 i2) x ∧
      Spec.rel .Z (zMatrix x1 x2 p1 m1 p2 m2) 0 ⟨vd x p1 m1, i1, vd x p2 m2, i2⟩ := by
  refine ⟨_, zDrive_linear kind s cs p1 m1 p2 m2 x1 x2 i1 i2 h1 h2, ?_⟩
  simp only [Spec.rel, Spec.lin, zMatrix, vd_linear]
  constructor <;> ring

/-- **zparams_rel_unique**: and when the driven circuit is non-singular, THE solution satisfies it. -/
theorem zparams_rel_unique (kind : Kind) (s : K) (cs : List (Cpt K)) (p1 m1 p2 m2 : Nat) (x1 x2 z : Ix → K) (i1 i2 : K)
    (h1 : Solves kind s (zDrive cs p1 m1 p2 m2 1 0) x1) (h2 : Solves kind s (zDrive cs p1 m1 p2 m2 0 1) x2)
    (hz : Solves kind s (zDrive cs p1 m1 p2 m2 i1 i2) z)
    (hns : C01.Nonsingular kind s (zDrive cs p1 m1 p2 m2 i1 i2)) :
    Spec.rel .Z (zMatrix x1 x2 p1 m1 p2 m2) 0 ⟨vd z p1 m1, i1, vd z p2 m2, i2⟩ := by
  have hu := C01.mna_unique kind s _ z _ hns hz (zDrive_linear kind s cs p1 m1 p2 m2 x1 x2 i1 i2 h1 h2)
  have e1 := volt_eq_of_unknown kind s _ (.I p1 m1 i1) (by simp [zDrive]) z _ hu
  have e2 := volt_eq_of_unknown kind s _ (.I p2 m2 i2) (by simp [zDrive]) z _ hu
  have hv1 : vd z p1 m1 = vd (fun i => i1 * x1 i + i2 * x2 i) p1 m1 := by
    simp only [vd, e1 p1 (by simp [C01.unknowns, stamp]), e1 m1 (by simp [C01.unknowns, stamp])]
  have hv2 : vd z p2 m2 = vd (fun i => i1 * x1 i + i2 * x2 i) p2 m2 := by
    simp only [vd, e2 p2 (by simp [C01.unknowns, stamp]), e2 m2 (by simp [C01.unknowns, stamp])]
  simp only [Spec.rel, Spec.lin, zMatrix, hv1, hv2, vd_linear]
  constructor <;> ring

/-- **zparams_convert**: `Yparams`, `Hparams`-via-Z, `Aparams`-via-Z, `Bparams`-via-Z of a netlist are the code's own
    conversions (GENERATED from twoport.py, proved sound in Props/C08.lean) of the extracted Z; each satisfies ITS port
    relation for the same port quantities, under the pivot condition of the conversion. -/
theorem zparams_convert (Z : M2 K) (p : Spec.Port K) (h : Spec.rel .Z Z 0 p) :
    (Z.det ≠ 0 → Spec.rel .Y (Gen.Z_to_Y Z 0) 0 p) ∧
    (Z.a22 ≠ 0 → Spec.rel .H (Gen.Z_to_H Z 0) 0 p) ∧
    (Z.a21 ≠ 0 → Spec.rel .A (Gen.Z_to_A Z 0) 0 p) ∧
    (Z.a12 ≠ 0 → Spec.rel .B (Gen.Z_to_B Z 0) 0 p) :=
  ⟨fun hd => (C08.Z_to_Y_sound Z 0 p hd).mp h, fun hd => (C08.Z_to_H_sound Z 0 p hd).mp h,
   fun hd => (C08.Z_to_A_sound Z 0 p hd).mp h, fun hd => (C08.Z_to_B_sound Z 0 p hd).mp h⟩

/-- short-circuit extraction (`Yparamsn`): unit voltage at one port, 0 V at the other; the port currents are the
    currents DELIVERED by the test sources -/
def yMatrix (x1 x2 : Ix → K) (b1 b2 : Nat) : M2 K :=
  ⟨-(x1 (br b1)), -(x2 (br b1)), -(x1 (br b2)), -(x2 (br b2))⟩

theorem yDrive_linear (kind : Kind) (s : K) (cs : List (Cpt K)) (p1 m1 p2 m2 b1 b2 : Nat) (x1 x2 : Ix → K) (v1 v2 : K)
    (h1 : Solves kind s (yDrive cs p1 m1 p2 m2 b1 b2 1 0) x1)
    (h2 : Solves kind s (yDrive cs p1 m1 p2 m2 b1 b2 0 1) x2) :
    Solves kind s (yDrive cs p1 m1 p2 m2 b1 b2 v1 v2) (fun i => v1 * x1 i + v2 * x2 i) := by
  have s1 := C03.scaling kind s v1 _ x1 h1
  have s2 := C03.scaling kind s v2 _ x2 h2
  simp only [yDrive, List.map_append, killAll_scale, List.map_cons, List.map_nil, Cpt.mapSrc] at s1 s2
  have h := solves_add_killed kind s (killAll cs) [.V p1 m1 b1 (v1 * 1), .V p2 m2 b2 (v1 * 0)]
    [.V p1 m1 b1 (v2 * 0), .V p2 m2 b2 (v2 * 1)] _ _
    (.cons (by simp [SameShape, Cpt.mapSrc]) (.cons (by simp [SameShape, Cpt.mapSrc]) .nil)) s1
    (by rwa [killAll_killAll])
  simpa [yDrive, Cpt.addSrc] using h

/-- **yparams_rel**: the short-circuit matrix satisfies the C08 relation of the Y representation,
    (I1, I2) = Y·(V1, V2), for arbitrary imposed port voltages. -/
theorem yparams_rel (kind : Kind) (s : K) (cs : List (Cpt K)) (p1 m1 p2 m2 b1 b2 : Nat) (x1 x2 : Ix → K) (v1 v2 : K)
    (h1 : Solves kind s (yDrive cs p1 m1 p2 m2 b1 b2 1 0) x1)
    (h2 : Solves kind s (yDrive cs p1 m1 p2 m2 b1 b2 0 1) x2) :
    ∃ x, Solves kind s (yDrive cs p1 m1 p2 m2 b1 b2 v1 v2) x ∧
      Spec.rel .Y (yMatrix x1 x2 b1 b2) 0 ⟨v1, -(x (br b1)), v2, -(x (br b2))⟩ := by
  refine ⟨_, yDrive_linear kind s cs p1 m1 p2 m2 b1 b2 x1 x2 v1 v2 h1 h2, ?_⟩
  simp only [Spec.rel, Spec.lin, yMatrix]
  constructor <;> ring

/-- the imposed voltages ARE the port voltages of that solution (when the test sources own their branches) -/
theorem yDrive_port_voltages (kind : Kind) (s : K) (cs : List (Cpt K)) (p1 m1 p2 m2 b1 b2 : Nat) (x : Ix → K) (v1 v2 : K)
    (h : Laws kind s (yDrive cs p1 m1 p2 m2 b1 b2 v1 v2) x) : vd x p1 m1 = v1 ∧ vd x p2 m2 = v2 := by
  have l1 := h.2 (.V p1 m1 b1 v1) (by simp [yDrive]) (b1, vd x p1 m1 - v1) (by simp [laws])
  have l2 := h.2 (.V p2 m2 b2 v2) (by simp [yDrive]) (b2, vd x p2 m2 - v2) (by simp [laws])
  exact ⟨sub_eq_zero.mp l1, sub_eq_zero.mp l2⟩

/-! ### non-vacuity: the T network `R1 1 3 1; R2 3 2 2; R3 3 0 3` between ports (1,0) and (2,0) -/

def exT : List (Cpt ℚ) := [.R 1 3 1, .R 3 2 2, .R 3 0 3]

/-- 1 A into port 1: V(1) = 4, V(3) = V(2) = 3 -/
def exTx1 : Ix → ℚ := fun i => match i with | node 1 => 4 | node 2 => 3 | node 3 => 3 | _ => 0
/-- 1 A into port 2: V(2) = 5, V(3) = V(1) = 3 -/
def exTx2 : Ix → ℚ := fun i => match i with | node 1 => 3 | node 2 => 5 | node 3 => 3 | _ => 0

example : zMatrix exTx1 exTx2 1 0 2 0 = ⟨4, 3, 3, 5⟩ := by
  simp [zMatrix, vd, volt, exTx1, exTx2]

example : Solves .dc 0 (zDrive exT 1 0 2 0 1 0) exTx1 :=
  solves_of_range 4 (by unfold C01.WF; decide) (by decide) (by decide +kernel) (by decide +kernel)

/-- non-vacuity of `zparams_rel_unique`: the driven T network is non-singular (its unknowns are V(1), V(2), V(3)) -/
example (i1 i2 : ℚ) : C01.Nonsingular .dc 0 (zDrive exT 1 0 2 0 i1 i2) := by
  refine nonsingular_of_killed [node 1, node 2, node 3] (show [].Nodup by decide) rfl ?_
  rintro z ⟨hk, _⟩
  have e : killAll (zDrive exT 1 0 2 0 i1 i2) = [.R 1 3 1, .R 3 2 2, .R 3 0 3, .I 1 0 0, .I 2 0 0] := rfl
  rw [e] at hk
  have k1 := hk 1 (by decide)
  have k2 := hk 2 (by decide)
  have k3 := hk 3 (by decide)
  simp [outflow, twoTerm, lsum, vd, volt] at k1 k2 k3
  have e3 : z (node 3) = 0 := by linarith
  have e1 : z (node 1) = 0 := by rw [e3] at k1; linarith
  have e2 : z (node 2) = 0 := by rw [e3] at k2; linarith
  simp [e1, e2, e3]

/-- non-vacuity of `yparams_rel`: 1 V at port 1, 0 V at port 2 of the T network: V(3) = 6/11, the sources deliver
    5/11 A and −3/11 A (the first column of Y) -/
def exTy1 : Ix → ℚ := fun i => match i with | node 1 => 1 | node 2 => 0 | node 3 => 6/11 | br 0 => -5/11 | br 1 => 3/11 | _ => 0

example : Solves .dc 0 (yDrive exT 1 0 2 0 0 1 1 0) exTy1 :=
  solves_of_range 4 (by unfold C01.WF; decide) (by decide) (by decide +kernel) (by decide +kernel)

end Lcapy.C04
