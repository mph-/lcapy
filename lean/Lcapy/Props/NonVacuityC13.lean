/-
  Non-vacuity witnesses for Props/C13.lean and C13b.lean.
  Every theorem with hypotheses is APPLIED to a concrete non-trivial input with all hypotheses proved.
  At the end: the round trip `zseq.IZT ∘ nseq.ZT` for the ORIGIN-indexed models that the driver executes
  (`Generated/DTSeq.lean`: `ztUsesSequenceIndex = iztUsesSequenceIndex = true`) with `seqIZT` unfolded; Props/C13b.lean
  states it as `seq_izt_zt_origin` / `seq_izt_zt_executed`.
-/
import Lcapy.Props.C13
import Lcapy.Props.C13b
import Mathlib.RingTheory.RootsOfUnity.Complex
namespace Lcapy.NonVacuity.C13
open Lcapy Lcapy.DT Lcapy.C13 PowerSeries

/-! ### Props/C13.lean -/

/-- `3 n² (1/2)^n u[n−1]  +  n 2^n cos(bn + c)  +  n (1/2)^n sin(bn+c) u[n−3]`, (cos b, sin b) = (3/5, 4/5) -/
def sig : List (CTerm ℚ) :=
  [⟨3, 2, 1 / 2, .step 1⟩, ⟨1, 1, 2, .cos (3 / 5) (4 / 5) 1 0⟩, ⟨1, 1, 1 / 2, .gated true false 3 (3 / 5) (4 / 5) (5 / 13) (12 / 13)⟩]
theorem sig_ok : ∀ t ∈ sig, t.base.ok := by
  intro t ht; simp [sig] at ht; rcases ht with rfl | rfl | rfl <;> norm_num [Base.ok]

example := zt_term_sound_partial (⟨3, 2, 1 / 2, .step 1⟩ : CTerm ℚ) (by simp [Base.ok])
example := zt_closed_form_sound_partial sig sig_ok
example := spec_predicate_accepts_model_partial sig sig_ok 6
example := izt_zt_partial sig sig_ok 5

example := anchor_geometric (1 / 2 : ℂ) 2 two_ne_zero (by norm_num)
example := dtft_geometric_on_circle (1 / 2 : ℂ) Complex.I (by simp) (by norm_num)

theorem ha : ([2, 1] : List ℚ).headD 0 ≠ 0 := by simp
example := longdiv_sound ([1, 3] : List ℚ) [2, 1] ha _ (impulse_response_sound [1, 3] [2, 1] ha) 6 4 (by norm_num)
example := impulse_response_sound ([1, 3] : List ℚ) [2, 1] ha
/-- arbitrary initial condition y[−1] = 3, two-sided input x[i] = i + 1 -/
example := response_satisfies_recursion ([1, 3] : List ℚ) [2, 1] (fun i => (i : ℚ) + 1) [3] ha rfl 4

theorem causal_lit : ∀ i : ℤ, i < 0 → litZ ([1, 2, 3] : List ℚ) i = 0 :=
  litZ_causal _
example := recursion_transfer ([1, 3] : List ℚ) [2, 1] (litZ [1, 2, 3]) [0] ha rfl (by simp) causal_lit
example := recursion_is_convolution ([1, 3] : List ℚ) [2, 1] (litZ [1, 2, 3]) [0] ha rfl (by simp) causal_lit 4
example := initial_conditions_response ([1, 3, 5] : List ℚ) [2, 1] [3] [7, 11] ha rfl
example := initial_response_samples ([1, 3, 5] : List ℚ) [2, 1] [3] [7, 11] ha rfl 6 4 (by norm_num)
example := lfilter_satisfies_recursion ([1, 3] : List ℚ) [2, 1] [1, 2, 3] ha 2 (by simp)
example := lfilter_is_convolution ([1, 3] : List ℚ) [2, 1] [1, 2, 3] ha 2 (by simp)
example := convolve_is_convolution_sum ([1, 2, 3] : List ℚ) [4, 5] (by simp) (by simp) 3 (by simp)

/-- DFT: `2 n 3^n u[n−2]`, N = 8, at the bin q = −1 (q⁸ = 1): the model returns a value and it is the defining sum -/
example : ∃ v, dftSig true [(⟨2, 1, 3, .step 2⟩ : CTerm ℚ)] 8 (-1) = some v ∧
    v = dftSum (fun n => sigVal [(⟨2, 1, 3, .step 2⟩ : CTerm ℚ)] n) (-1) 8 := by
  have hne : dftSig true [(⟨2, 1, 3, .step 2⟩ : CTerm ℚ)] 8 (-1) ≠ none := by decide +kernel
  obtain ⟨v, hv⟩ := Option.ne_none_iff_exists'.mp hne
  exact ⟨v, hv, dft_def true _ 8 (-1) (by norm_num) (by norm_num) (by intro t ht; simp at ht; subst ht; simp [dftOk]) v hv⟩
/-- symbolic N with a step inside the window -/
example : dftOk false 8 (⟨2, 1, 3, .step 2⟩ : CTerm ℚ) := by simp [dftOk]
example := dft_geometric (3 : ℚ) (-1) 2 (by norm_num) (by norm_num)
example := dft_impulse 3 8 (-1 : ℚ) (by norm_num)
example := idft_dft (K := ℂ) 8 _ (Complex.isPrimitiveRoot_exp 8 (by norm_num)) (by norm_num) (fun n => (n : ℂ) ^ 2 + 1) 5 (by norm_num)

/-! ### Props/C13b.lean -/
example := dtft_shift (fun n : ℤ => (n : ℚ) ^ 2) (3 : ℚ) (by norm_num) (-2) 5 6
example := dtft_sin_rule (fun n : ℤ => (n : ℂ)) 2 3 Complex.I 5 Complex.I_mul_I (-2) 6
example := dtft_impulse (-1) (3 : ℚ) (-2) 6 (by norm_num)
example := dtft_finite_support ([1, 2, 3] : List ℚ) (-1) 3 (by norm_num)

def dsig : List (DTerm ℚ) := [⟨3, 1, 1 / 2, true, 2, .cos (3 / 5) (4 / 5)⟩, ⟨2, 0, 1 / 3, false, 1, .none⟩]
theorem dsig_ok : ∀ t ∈ dsig, t.ok := by
  intro t ht; simp [dsig] at ht; rcases ht with rfl | rfl <;> simp [DTerm.ok]
example := dtft_rule_cascade_sound dsig dsig_ok
/-- with the sin modulation (needs j² = −1): over ℂ -/
example := dtft_rule_cascade_sound ([⟨3, 1, 1 / 2, true, 2, .sin 2 3 Complex.I⟩] : List (DTerm ℂ))
  (by intro t ht; simp at ht; subst ht; exact ⟨by norm_num, Complex.I_mul_I⟩)

def dgeo : List (DTerm ℚ) := [⟨3, 1, 1 / 2, true, 2, .none⟩]
theorem dgeo_ok : ∀ t ∈ dgeo, t.ok := by intro t ht; simp [dgeo] at ht; subst ht; simp [DTerm.ok]
theorem den_ne : peval (dtftRegSig dgeo).den (1 / 2 : ℚ) ≠ 0 := by decide +kernel
example := dtft_is_zt_on_unit_circle dgeo dgeo_ok (dtftRegSig dgeo) (dtft_rule_cascade_sound dgeo dgeo_ok) 2 den_ne den_ne
example := dtft_is_zt_geometric_family (3 : ℚ) 1 (1 / 2) 2 2 (by decide +kernel) (by decide +kernel)
example := dtft_geometric_delayed_on_circle (1 / 2 : ℂ) Complex.I 3 (by simp) (by norm_num)

example := seq_zt_partial ([1, 2, 3] : List ℚ) 5 (by norm_num)
example := seq_zt_origin ([1, 2, 3] : List ℚ) (-1) 5 (by norm_num)
example := seq_izt_zt_position_partial ([1, 2, 3] : List ℚ) 5 (by norm_num)
example := Lcapy.C13.seq_izt_zt_origin ([1, 2, 3] : List ℚ) (-1) 5 (by norm_num)
example := seq_izt_zt_executed ([1, 2, 3] : List ℚ) (-1) 5 (by norm_num)
example := response_ic_indexing ([1, 3] : List ℚ) [2, 1, 4] (fun i => (i : ℚ) + 1) [3, 7] 1 (by simp)
example := seq_dft_is_sum ([1, 2, 3] : List ℚ) (-1) (-1) (by norm_num)
example := seq_convolve_poly ([1, 2, 3] : List ℚ) [4, 5] (by simp) (by simp) 7
example := seq_convolve_assoc ([1, 2, 3] : List ℚ) [4, 5] [6, 7, 8] (by simp) (by simp) (by simp)
example := seq_convolve_origin ([1, 2, 3] : List ℚ) (-1) [0, 1] 2 (by simp) (by simp) 3

example := response_first_sample_de ([1, 3] : List ℚ) [2, 1] (fun i => (i : ℚ) + 1) [3] ha rfl
example := impulse_response_is_delta_response ([1, 3] : List ℚ) [2, 1] ha 5
example := lfilter_eq_series ([1, 3] : List ℚ) [2, 1] [1, 2, 3] ha

/-- H(s) = (s + 1)/(s² + 3s + 2) under s = (1 − w)/(Δ(α + (1−α)w)), α = 1/2, Δ = 1/10, at w = 1/3 -/
example := discretize_is_substitution ([1, 1] : List ℚ) [2, 3, 1] gbtNum (gbtDen (1 / 2) (1 / 10)) (1 / 3)
  (by norm_num [gbtDen, peval])
example := gbt_documented_map (1 / 3 : ℚ) (1 / 10) (1 / 3) (by norm_num)
example := bilinear_documented_map (1 / 10 : ℚ) (1 / 3) (by norm_num) (by norm_num) (by norm_num)
example := forward_euler_documented_map (1 / 10 : ℚ) (1 / 3) (by norm_num)
example := backward_euler_documented_map (1 / 10 : ℚ) (1 / 3) (by norm_num)
example := simpson_documented_map (1 / 10 : ℚ) 3 (by norm_num) (by norm_num) (by norm_num)
example := bilinear_pole_map (1 / 10 : ℚ) (-4) (2 / 3) (by norm_num) (by norm_num) (by norm_num) (by norm_num)
example := forward_euler_pole_map (1 / 10 : ℚ) (-4) (3 / 5) (by norm_num) (by norm_num)
example := backward_euler_pole_map (1 / 10 : ℚ) (-4) (5 / 7) (by norm_num) (by norm_num) (by norm_num)
example := bilinear_lhp_to_unit_disc (-4 + 3 * Complex.I) (1 / 10) (by norm_num) (by simp)

example := dft_root_of_unity_bin (fun n => (n : ℚ) + 1) (-1) (-1) (by norm_num) 4
example := dft_root_of_unity_bin_step (-1 : ℚ) (-1) (by norm_num) 1 4 (by norm_num)
example := dft_root_of_unity_bin_ramp (-1 : ℚ) (-1) (by norm_num) 1 4 (by norm_num)

/-! ### the round trip for the origin-indexed sequence models (what Driver/C13.lean runs when the generated flags are true) -/

/-- `zseq.IZT ∘ nseq.ZT = id` with the exponent `self.n[ni]` on both sides (first index n0 of any sign) -/
theorem seq_izt_zt_origin {K : Type} [Field K] (vals : List K) (n0 : ℤ) (z : K) (hz : z ≠ 0) :
    pdilateFrom z (zpowK z n0) (seqZT vals n0 z) = vals :=
  Lcapy.C13.seq_izt_zt_origin vals n0 z hz

end Lcapy.NonVacuity.C13
