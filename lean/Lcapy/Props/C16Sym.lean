/-
  C16 -- the shared SYMBOL REGISTRY and the CONTEXT STACK (Model/SymReg.lean): what a name means to `expr()` / to a
  netlist value after any history of declarations, uses, deletions and `Circuit.add` calls of any number of circuits.

  Documented behaviour of lcapy: there is ONE symbol per name in the process; `symbol(n, **a)` replaces it; `expr()` "will
  not modify previously defined symbols with the same name" -- the first use fixes the assumptions.  So a parsing result
  legitimately depends on earlier declarations OF THE SAME NAME; the theorems say that this is the only dependence:

  * `frame`               operations that do not mention `n` (other circuits, other expressions, context switches)
                          never change what `n` means;
  * `use_result`          the answer of `expr('n', **a)` after ANY history is given by a syntactic fold over the
                          operations on `n` (`effective`), hence `fresh_like_iff`: a DECIDABLE predicate characterises
                          exactly the histories after which the answer is the fresh-process answer;
  * `unmentioned_is_fresh`, `agreeing_is_fresh`   sufficient conditions in plain words;
  * `delete_restores_fresh` / witness `delete_keeps_kind_breaks_first_wins`   `symbol_delete` (needs
                          `deleteCleansKinds`, a GENERATED flag);
  * `add_balanced`, `run_balanced` / witness `failed_add_leaks_context`       the context stack;
  * `use_ignores_context` the registry is shared by all contexts.
-/
import Lcapy.Proofs.SymReg
namespace Lcapy.C16
open Lcapy.SymReg

/-- what `n` means after a history = the one-name fold over the history -/
theorem view_after (cfg : Cfg) (s : St) (h : List Op) (n : String) :
    view (run cfg s h) n = effective cfg (view s n) n h := view_run cfg h s n

/-- FRAME: everything that does not mention `n` can be erased from the history -/
theorem frame (cfg : Cfg) (s : St) (h : List Op) (n : String) :
    view (run cfg s h) n = view (run cfg s (restrict h n)) n := by
  rw [view_run, view_run, effective_restrict]

/-- the answer of `expr('n', **a)` after any history -/
theorem use_result (cfg : Cfg) (s : St) (h : List Op) (n : String) (a : Assum) :
    (use (run cfg s h) n a).2 = useAnswer (effective cfg (view s n) n h) a := by
  rw [use_answer, view_run]

/-- EXACT CHARACTERISATION (decidable): the answer is the one a fresh process gives iff `freshLike` -/
theorem fresh_like_iff (cfg : Cfg) (h : List Op) (n : String) (a : Assum) :
    (use (run cfg St.init h) n a).2 = a ↔ freshLike cfg h n a = true := by
  rw [use_result]
  simp [freshLike, view, St.init]

/-- a name no earlier operation mentions is parsed as in a fresh process, whatever else the process has handled -/
theorem unmentioned_is_fresh (cfg : Cfg) (h : List Op) (n : String) (a : Assum)
    (hn : ∀ op ∈ h, op.mentions n = false) : (use (run cfg St.init h) n a).2 = a := by
  rw [use_result]
  have : ∀ (v : Option Assum × Option String) (h : List Op), (∀ op ∈ h, op.mentions n = false) → effective cfg v n h = v := by
    intro v h
    induction h generalizing v with
    | nil => intro _; rfl
    | cons op ops ih =>
      intro hm
      simp only [effective]
      rw [effStep_not_mentions cfg v n op (hm op (List.mem_cons_self ..))]
      exact ih v (fun o ho => hm o (List.mem_cons_of_mem _ ho))
  rw [this _ h hn]
  simp [useAnswer, view, St.init]

/-- operations on `n` that all carry the assumption `a` (netlist values carry the default `positive`) -/
def Op.agrees (n : String) (a : Assum) : Op → Prop
  | .declare m b => m = n → b = a
  | .use m b => m = n → b = a
  | .add _ ns _ => ns.contains n = true → a = "positive"
  | _ => True

/-- if every earlier declaration / use of `n` agrees with `a`, the answer is `a` -- also across deletions -/
theorem agreeing_is_fresh (cfg : Cfg) (h : List Op) (n : String) (a : Assum)
    (hag : ∀ op ∈ h, Op.agrees n a op) : (use (run cfg St.init h) n a).2 = a := by
  rw [use_result]
  have : ∀ (v : Option Assum × Option String) (h : List Op), (v.1 = none ∨ v.1 = some a) → (∀ op ∈ h, Op.agrees n a op) →
      ((effective cfg v n h).1 = none ∨ (effective cfg v n h).1 = some a) := by
    intro v h
    induction h generalizing v with
    | nil => intro hv _; exact hv
    | cons op ops ih =>
      intro hv hm
      simp only [effective]
      apply ih _ _ (fun o ho => hm o (List.mem_cons_of_mem _ ho))
      have hop := hm op (List.mem_cons_self ..)
      obtain ⟨v1, v2⟩ := v
      cases op with
      | declare m b =>
        simp only [effStep]
        by_cases hmn : m = n
        · simp only [hmn, if_true]; split
          · exact hv
          · right; simp only [Op.agrees] at hop; rw [hop hmn]
        · simp only [hmn, if_false]; exact hv
      | use m b =>
        simp only [effStep]
        by_cases hmn : m = n
        · simp only [hmn, if_true]
          cases v1 with
          | some c => exact hv
          | none =>
            simp only []
            split
            · exact hv
            · right; simp only [Op.agrees] at hop; rw [hop hmn]
        · simp only [hmn, if_false]; exact hv
      | delete m =>
        simp only [effStep]
        by_cases hmn : m = n
        · simp only [hmn, if_true]; left; exact trivial
        · simp only [hmn, if_false]; exact hv
      | add c ns ok =>
        simp only [effStep]
        cases hc : ns.contains n with
        | false => simp only [Bool.false_eq_true, if_false]; exact hv
        | true =>
          simp only [if_true]
          cases v1 with
          | some c => exact hv
          | none =>
            simp only []
            split
            · exact hv
            · right; simp only [Op.agrees] at hop; rw [hop hc]
      | enter c => exact hv
      | leave => exact hv
  have h0 := this (view St.init n) h (by left; simp [view, St.init]) hag
  rcases h0 with h0 | h0 <;> simp [useAnswer, h0]

example : (∀ op ∈ [Op.declare "Rx" "real", .add 1 ["Rx", "C"] true, .delete "Rx", .use "Rx" "real", .use "k" "positive"],
    Op.agrees "k" "positive" op) := by
  intro op hop
  simp only [List.mem_cons, List.mem_nil_iff, or_false] at hop
  rcases hop with h | h | h | h | h <;> subst h <;> simp [Op.agrees]

/-- the dependence that IS legitimate: a declaration of the same name with other assumptions decides the answer -/
theorem declaration_wins (cfg : Cfg) :
    (use (run cfg St.init [.declare "a" "real", .add 1 ["a"] true]) "a" "positive").2 = "real" ∧
    freshLike cfg [.declare "a" "real", .add 1 ["a"] true] "a" "positive" = false := by
  cases cfg with | mk d r => cases d <;> cases r <;> decide +kernel

/-- a REGISTERED name keeps its meaning across any history that neither re-declares nor deletes it: this is when a
    circuit built earlier and a circuit rebuilt from its netlist text now contain the same symbols -/
theorem stable_tail (cfg : Cfg) (s : St) (h : List Op) (n : String) (a : Assum)
    (hreg : (view s n).1 = some a) (hst : stableOver h [n] = true) : (view (run cfg s h) n).1 = some a := by
  rw [view_run]
  have : ∀ (v : Option Assum × Option String) (h : List Op), v.1 = some a → stableOver h [n] = true →
      (effective cfg v n h).1 = some a := by
    intro v h
    induction h generalizing v with
    | nil => intro hv _; exact hv
    | cons op ops ih =>
      intro hv hs
      simp only [stableOver, List.all_cons, Bool.and_eq_true, List.all_nil, Bool.and_true] at hs
      simp only [effective]
      apply ih
      · obtain ⟨v1, v2⟩ := v
        simp only at hv
        subst hv
        cases op with
        | declare m b =>
          have : ¬ m = n := by simpa [Op.rebinds] using hs.1
          simp [effStep, this]
        | use m b => simp only [effStep]; split <;> rfl
        | delete m =>
          have : ¬ m = n := by simpa [Op.rebinds] using hs.1
          simp [effStep, this]
        | add c ns ok => simp only [effStep]; split <;> rfl
        | enter c => rfl
        | leave => rfl
      · simpa [stableOver] using hs.2
  exact this _ h hreg hst

example : stableOver [Op.use "a" "real", .add 2 ["a", "b"] true, .declare "b" "complex", .delete "c"] ["a"] = true := by decide +kernel

/-! ## symbol_delete -/

/-- when deletion also forgets the kind, a deleted name is as new as in a fresh process -/
theorem delete_restores_fresh (cfg : Cfg) (hc : cfg.deleteCleansKinds = true) (s : St) (n : String) :
    view (step cfg s (.delete n)).1 n = (none, none) := by
  simp [step, delete, view, hc, lookup_drop_self]

/-- hence after `symbol_delete(n)` every history on `n` behaves as from a fresh process -/
theorem delete_resets_history (cfg : Cfg) (hc : cfg.deleteCleansKinds = true) (h h' : List Op) (n : String) (a : Assum) :
    (use (run cfg St.init (h ++ .delete n :: h')) n a).2 = (use (run cfg St.init h') n a).2 := by
  rw [use_result, use_result]
  have happ : ∀ (l1 l2 : List Op) (v : Option Assum × Option String),
      effective cfg v n (l1 ++ l2) = effective cfg (effective cfg v n l1) n l2 := by
    intro l1
    induction l1 with
    | nil => intro l2 v; rfl
    | cons op ops ih => intro l2 v; simp only [List.cons_append, effective]; exact ih _ _
  rw [happ]
  simp only [effective, effStep, if_true, hc]
  simp [view, St.init]

/-- a `symbol_delete` that does not forget the kind (`symbol_kinds` keeps the name; `register(kind='expr')` tests
    `name in symbol_kinds`; finding C16-F31, the configuration `deleteCleansKinds = false`): after declare + delete, two
    uses with different assumptions hand out two different symbols of the same name, whereas in a fresh process the
    first use wins -/
theorem delete_keeps_kind_breaks_first_wins :
    let cfg : Cfg := ⟨false, true⟩
    answers cfg St.init [.declare "d" "real", .delete "d", .use "d" "positive", .use "d" "real"] = ["positive", "real"] ∧
    answers cfg St.init [.use "d" "positive", .use "d" "real"] = ["positive", "positive"] := by decide +kernel

/-! ## contexts -/

/-- a `Circuit.add` that completes -- or that raises, when the context is restored in a `finally` -- leaves the context
    stack as it was -/
theorem add_balanced (cfg : Cfg) (s : St) (c : Nat) (ns : List String) (ok : Bool)
    (h : ok = true ∨ cfg.restoreOnError = true) :
    (step cfg s (.add c ns ok)).1.cur = s.cur ∧ (step cfg s (.add c ns ok)).1.stack = s.stack := by
  have hb : (ok || cfg.restoreOnError) = true := by rcases h with h | h <;> simp [h]
  simp only [step, hb, if_true]
  obtain ⟨h1, h2⟩ := useAll_ctx (enter s c) ns
  unfold leave
  rw [h2]
  simp [enter]

/-- operations of the public API other than explicit context switches -/
def Op.noSwitch : Op → Prop
  | .enter _ => False
  | .leave => False
  | _ => True

theorem run_balanced (cfg : Cfg) (hr : cfg.restoreOnError = true) (h : List Op) (s : St) (hp : ∀ op ∈ h, Op.noSwitch op) :
    (run cfg s h).cur = s.cur ∧ (run cfg s h).stack = s.stack := by
  induction h generalizing s with
  | nil => exact ⟨rfl, rfl⟩
  | cons op ops ih =>
    simp only [run]
    obtain ⟨h1, h2⟩ := ih (step cfg s op).1 (fun o ho => hp o (List.mem_cons_of_mem _ ho))
    have hs : (step cfg s op).1.cur = s.cur ∧ (step cfg s op).1.stack = s.stack := by
      have hop := hp op (List.mem_cons_self ..)
      cases op with
      | declare m a => simp only [step, declare]; split <;> exact ⟨rfl, rfl⟩
      | use m a =>
        simp only [step, use]
        cases s.reg.lookup m with
        | some b => exact ⟨rfl, rfl⟩
        | none => simp only []; split <;> exact ⟨rfl, rfl⟩
      | delete m => exact ⟨rfl, rfl⟩
      | add c ns ok => exact add_balanced cfg s c ns ok (Or.inr hr)
      | enter c => exact absurd hop (by simp [Op.noSwitch])
      | leave => exact absurd hop (by simp [Op.noSwitch])
    exact ⟨h1.trans hs.1, h2.trans hs.2⟩

/-- without the `finally`, a failing `add` leaves the process in the circuit's context -/
theorem failed_add_leaks_context :
    let cfg : Cfg := ⟨true, false⟩
    (run cfg St.init [.add 7 ["Rx"] false]).cur = 7 ∧ (run cfg St.init [.add 7 ["Rx"] false]).stack = [0] := by decide +kernel

/-- the registry is shared by all contexts: the answer of a use does not depend on the current context -/
theorem use_ignores_context (s : St) (c : Nat) (k : List Nat) (n : String) (a : Assum) :
    (use { s with cur := c, stack := k } n a).2 = (use s n a).2 := by
  unfold use
  cases s.reg.lookup n with
  | some b => rfl
  | none => simp only []; split <;> rfl

end Lcapy.C16
