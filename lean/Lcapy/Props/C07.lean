/-
  PROPERTY C07 -- network algebra (one-ports, two-port sections) agrees with netlist analysis.

  Spec   : Lcapy/Spec/OnePort.lean (relational meaning of one-port trees), Spec/TwoPort.lean (`rel`),
           Spec/Laws.lean (Kirchhoff + component laws of a netlist).
  Model  : Lcapy/Model/OnePort.lean (mirror of oneport.py's Ser/Par bookkeeping, `_combine`,
           `simplify`), Generated/TwoPort.lean + Generated/Sections.lean (translated from twoport.py).
  Helper lemmas are in Lcapy/Proofs/OnePort*.lean.
-/
import Lcapy.Proofs.OnePort
import Lcapy.Proofs.OnePortLine
import Lcapy.Proofs.OnePortSimplify
namespace Lcapy.C07
open Lcapy Lcapy.OnePort
variable {K : Type} [Field K] [DecidableEq K]

/-! ## 1. Thévenin / Norton bookkeeping of `Ser` / `Par` is the meaning of the tree

  Precondition (decidable, `Model/OnePort.lean`): `tOK` / `nOK` -- wherever the algebra needs the
  admittance of a subnetwork it is not an ideal voltage source (no ideal V source is shunted),
  wherever it needs an impedance the subnetwork is not an ideal current source (none in series),
  and no sum vanishes at the sample point; `icOK` (the shortcut of `ParSer.Voc/Isc` is taken
  only where the quantity vanishes) is discharged for every tree by `icOK_always` below. -/

mutual
/-- **ser_thevenin**: for every tree of any depth and width, the set of (v, i) pairs the network
    admits is exactly the line v = Voc + Z·i with Z and Voc as `impedance` / `Voc` compute them.
    (Remark: `Net.voc (.par as) = ΣIsc·(1/ΣY)` and `Net.isc (.ser as) = ΣVoc·(1/ΣZ)` are NOT Lcapy's own
    computation -- Lcapy obtains `Par.Voc` / `Ser.Isc` from `self.cct`, i.e. nodal analysis of the generated
    netlist -- but the value that analysis must return; for those two cases this theorem certifies the model's
    definition, and the code route is covered by `C07.netlist_agrees_with_algebra` (Props/C07Netlist.lean) plus
    the correspondence of the harness with the real `cct` route.) -/
theorem ser_thevenin (s : K) : (n : Net K) → n.tOK s = true → n.icOK s = true →
    IsThevenin s n (n.imp s) (n.voc s)
  | .leaf l, h, _ => leaf_thev s l h
  | .ser as, h, hic => by
      simp only [Net.icOK, Bool.and_eq_true] at hic
      exact ser_list s as h hic.1
  | .par as, h, hic => by
      simp only [Net.tOK, Bool.and_eq_true, decide_eq_true_eq] at h
      simp only [Net.icOK, Bool.and_eq_true, Bool.or_eq_true, decide_eq_true_eq] at hic
      have : IsThev _ _ _ := IsNort.toThev (par_list s as h.1 hic.1) h.2
      simp only [IsThevenin, Net.rel, Net.imp, Net.voc, shortcut hic.2]
      exact this
/-- **par_norton**: dually, the network admits exactly the line i = Y·v − Isc with Y and Isc as
    `admittance` / `Isc` compute them. -/
theorem par_norton (s : K) : (n : Net K) → n.nOK s = true → n.icOK s = true →
    IsNorton s n (n.adm s) (n.isc s)
  | .leaf l, h, _ => leaf_nort s l h
  | .par as, h, hic => by
      simp only [Net.icOK, Bool.and_eq_true] at hic
      exact par_list s as h hic.1
  | .ser as, h, hic => by
      simp only [Net.nOK, Bool.and_eq_true, decide_eq_true_eq] at h
      simp only [Net.icOK, Bool.and_eq_true, Bool.or_eq_true, decide_eq_true_eq] at hic
      have : IsNort _ _ _ := IsThev.toNort (ser_list s as h.1 hic.1) h.2
      simp only [IsNorton, Net.rel, Net.adm, Net.isc, shortcut hic.2]
      exact this
/-- series list: voltages add, the impedances and open-circuit voltages are summed -/
theorem ser_list (s : K) : (as : List (Net K)) → allT s as = true → allIc s as = true →
    ∀ v i, relSer s as v i ↔ v = sumVoc s as + sumZ s as * i
  | [], _, _ => fun v i => by simp only [relSer, sumVoc, sumZ, zero_mul, add_zero]
  | a :: t, h, hic => by
      simp only [allT, Bool.and_eq_true] at h
      simp only [allIc, Bool.and_eq_true] at hic
      exact IsThev.ser (ser_thevenin s a h.1 hic.1) (ser_list s t h.2 hic.2)
/-- parallel list: currents add, the admittances and short-circuit currents are summed -/
theorem par_list (s : K) : (as : List (Net K)) → allN s as = true → allIc s as = true →
    ∀ v i, relPar s as v i ↔ i = sumY s as * v - sumIsc s as
  | [], _, _ => fun v i => by simp only [relPar, sumIsc, sumY, zero_mul, sub_zero]
  | a :: t, h, hic => by
      simp only [allN, Bool.and_eq_true] at h
      simp only [allIc, Bool.and_eq_true] at hic
      exact IsNort.par (par_norton s a h.1 hic.1) (par_list s t h.2 hic.2)
end

theorem leaf_noSrc (s : K) (l : Leaf K) (h : l.hasSrc = false) : l.voc s = 0 ∧ l.isc s = 0 := by
  cases l with
  | L l i0 =>
    cases i0 with
    | none => simp [Leaf.voc, Leaf.isc, ic]
    | some x => simp only [Leaf.hasSrc, decide_eq_false_iff_not, not_not] at h; simp [Leaf.voc, Leaf.isc, ic, h]
  | C c v0 =>
    cases v0 with
    | none => simp [Leaf.voc, Leaf.isc, ic]
    | some x => simp only [Leaf.hasSrc, decide_eq_false_iff_not, not_not] at h; simp [Leaf.voc, Leaf.isc, ic, h]
  | V k e => simp [Leaf.hasSrc] at h
  | I k j => simp [Leaf.hasSrc] at h
  | _ => simp [Leaf.voc, Leaf.isc]

mutual
theorem net_noSrc (s : K) : (n : Net K) → n.hasSrc = false → n.voc s = 0 ∧ n.isc s = 0
  | .leaf l, h => by simpa [Net.voc, Net.isc] using leaf_noSrc s l (by simpa [Net.hasSrc] using h)
  | .ser as, h => by
      simp only [Net.hasSrc] at h
      simp only [Net.voc, Net.isc, h, Bool.false_eq_true, if_false, and_true]
      exact (list_noSrc s as h).1
  | .par as, h => by
      simp only [Net.hasSrc] at h
      simp only [Net.voc, Net.isc, h, Bool.false_eq_true, if_false, true_and]
      exact (list_noSrc s as h).2
theorem list_noSrc (s : K) : (as : List (Net K)) → anySrc as = false → sumVoc s as = 0 ∧ sumIsc s as = 0
  | [], _ => by simp [sumVoc, sumIsc]
  | a :: t, h => by
      simp only [anySrc, Bool.or_eq_false_iff] at h
      have ha := net_noSrc s a h.1
      have ht := list_noSrc s t h.2
      simp [sumVoc, sumIsc, ha.1, ha.2, ht.1, ht.2]
end

mutual
/-- **icOK_always**: since non-zero initial conditions count as independent sources
    (`ParSer.has_independent_source`), the shortcut "no source ⇒ Voc = Isc = 0" of `ParSer.Voc/Isc`
    is right for every tree; the hypothesis `icOK` of `ser_thevenin`/`par_norton` is always met.
    (Before the fix of finding C07-a this theorem was false: `L(1, 2) + R(1)`.) -/
theorem icOK_always (s : K) : (n : Net K) → n.icOK s = true
  | .leaf _ => rfl
  | .ser as => by
      simp only [Net.icOK, Bool.and_eq_true, Bool.or_eq_true, decide_eq_true_eq]
      refine ⟨allIc_always s as, ?_⟩
      by_cases h : anySrc as = true
      · exact Or.inl h
      · exact Or.inr (list_noSrc s as (by simpa using h)).1
  | .par as => by
      simp only [Net.icOK, Bool.and_eq_true, Bool.or_eq_true, decide_eq_true_eq]
      refine ⟨allIc_always s as, ?_⟩
      by_cases h : anySrc as = true
      · exact Or.inl h
      · exact Or.inr (list_noSrc s as (by simpa using h)).2
theorem allIc_always (s : K) : (as : List (Net K)) → allIc s as = true
  | [] => rfl
  | a :: t => by simp [allIc, icOK_always s a, allIc_always s t]
end

/-- the property's one-port clause in one statement: inside the precondition the reported
    (Z, Voc) and (Y, Isc) are exactly the relation of the tree -/
theorem thevenin_norton (s : K) (n : Net K) :
    (n.tOK s = true → IsThevenin s n (n.imp s) (n.voc s)) ∧
    (n.nOK s = true → IsNorton s n (n.adm s) (n.isc s)) :=
  ⟨fun h => ser_thevenin s n h (icOK_always s n), fun h => par_norton s n h (icOK_always s n)⟩

/-- non-vacuity: (R 2 + L 3 (i0 = 1)) | (C 4 (v0 = 5) + Vstep 7) | Istep 2 at s = 2 is inside the
    precondition of both theorems -/
example : let n : Net ℚ := .par [.ser [.leaf (.R 2), .leaf (.L 3 (some 1))],
                                 .ser [.leaf (.C 4 (some 5)), .leaf (.V .step (7/2))], .leaf (.I .step 1)]
    n.tOK 2 = true ∧ n.nOK 2 = true ∧ n.icOK 2 = true := by decide +kernel

/-! ## 2. The executable spec evaluator is exact for EVERY tree (no precondition)

  `Net.line` (Spec/OnePortExec.lean) is what the driver uses to judge Lcapy's outputs. -/

mutual
/-- **line_exact**: the relation of any tree -- ideal sources anywhere -- is empty or a line, and
    `Net.line` computes it. -/
theorem line_exact (s : K) : (n : Net K) → Describes (n.line s) (n.rel s)
  | .leaf l => by simpa [Net.line, Net.rel] using leaf_line_exact s l
  | .ser as => by simpa [Net.line, Net.rel] using lineSer_exact s as
  | .par as => by simpa [Net.line, Net.rel] using linePar_exact s as
theorem lineSer_exact (s : K) : (as : List (Net K)) → Describes (lineSer s as) (relSer s as)
  | [] => ⟨Or.inl one_ne_zero, fun v i => by simp [relSer]⟩
  | a :: t => by
      simp only [lineSer, relSer]
      exact serLine_exact _ _ _ _ (line_exact s a) (lineSer_exact s t)
theorem linePar_exact (s : K) : (as : List (Net K)) → Describes (linePar s as) (relPar s as)
  | [] => ⟨Or.inr one_ne_zero, fun v i => by simp [relPar]⟩
  | a :: t => by
      simp only [linePar, relPar]
      exact parLine_exact _ _ _ _ (line_exact s a) (linePar_exact s t)
end

/-- the oracle predicate means what it says: `thevOK` accepts (Z, Voc) iff the network's relation
    is exactly the Thévenin line v = Voc + Z i -/
theorem thevOK_iff (s : K) (n : Net K) (Z Voc : K) :
    thevOK (n.line s) Z Voc = true ↔ IsThevenin s n Z Voc := by
  have h := line_exact s n
  cases hl : n.line s with
  | none =>
    rw [hl] at h
    exact iff_of_false Bool.false_ne_true fun ht => h (Voc + Z * 0) 0 ((ht _ _).mpr rfl)
  | some l =>
    rw [hl] at h
    simp only [thevOK, Bool.and_eq_true, decide_eq_true_eq, and_assoc, line_eq_thev, IsThevenin, h.2]

/-- dually for Norton pairs -/
theorem nortOK_iff (s : K) (n : Net K) (Y Isc : K) :
    nortOK (n.line s) Y Isc = true ↔ IsNorton s n Y Isc := by
  have h := line_exact s n
  cases hl : n.line s with
  | none =>
    rw [hl] at h
    exact iff_of_false Bool.false_ne_true fun ht => h 0 (Y * 0 - Isc) ((ht _ _).mpr rfl)
  | some l =>
    rw [hl] at h
    have := line_eq_thev l.b l.a l.c Y (-Isc)
    simp only [nortOK, Bool.and_eq_true, decide_eq_true_eq, and_assoc, IsNorton, h.2]
    rw [forall_comm] at this
    simpa only [mul_neg, add_comm (l.b * _), neg_add_eq_sub, and_comm (a := -(l.b * Isc) = l.c)] using this

/-! ## 3. `_combine` preserves the relation -/

/-- **combine_sound**: whenever `_combine(arg1, arg2)` returns a component, that component admits
    exactly the (v, i) pairs of `Ser(arg1, arg2)` / `Par(arg1, arg2)` -- for every rule (R+R, R|R,
    G+G, G|G, L+L with equal i0, L|L, C+C, C|C with equal v0, Vdc+Vdc, Idc|Idc and the eight
    zero-element rules), under the side condition `combGuard` (the divisions of the rule are
    defined).  By `ser_thevenin`/`par_norton`/`line_exact` equal relations have equal Z, Y, Voc, Isc. -/
theorem combine_sound (s : K) (op : Op) (a b y : Leaf K) (h : combine op a b = .one y)
    (hg : combGuard s op a b) (v i : K) :
    (mk op [.leaf a, .leaf b]).rel s v i ↔ (Net.leaf y).rel s v i :=
  combine_pair_sound s op a b y h hg v i

example : combine .par (.R (2 : ℚ)) (.R 3) = .one (.R (2 * 3 / (2 + 3))) ∧ combGuard (1 : ℚ) .par (.R 2) (.R 3) := by
  constructor
  · simp [combine, combineSame, Leaf.cls]
  · simp [combGuard]; norm_num

end Lcapy.C07
