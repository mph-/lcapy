/-
  PROPERTY C15, state space of a circuit -- `StateSpaceMaker.from_circuit` (lcapy/statespacemaker.py).

  Model : Model/StateSpaceMaker.lean (`subst`: C ↦ voltage source carrying the state v_C, L ↦ current source carrying
          the state i_L; unit solutions of the resulting resistive circuit; A, B, C, D entries = quantities read off
          the unit solutions).
  Spec  : the circuit laws at one instant -- `Laws .time` (Spec/Laws.lean, property C01) of the substituted circuit,
          i.e. Kirchhoff's laws and every resistive / source / controlled-source relation with the capacitor voltages
          and inductor currents at their present values, plus the two integrator laws  C·dv_C/dt = i_C,  L·di_L/dt = v_L.
  `ss_from_circuit`: the state equation and the output equation with the model's matrices hold for values
  (x, u, dx/dt, y) IFF those values are consistent with the circuit laws.  No matrix inverse is mentioned:
  regularity is `NonsingularOn` (the homogeneous resistive system has only the trivial solution on what is read).
  Only property theorems live here; helper lemmas are in Proofs/StateSpaceMaker.lean.
-/
import Lcapy.Proofs.StateSpaceMaker
import Lcapy.Proofs.StateSpaceTime
import Lcapy.Props.C01
import Lcapy.Proofs.Witness
import Mathlib.Tactic.NormNum
namespace Lcapy.C15
open Lcapy.MNA Lcapy.SSMaker Lcapy.TDS Ix
variable {K : Type} [Field K] [DecidableEq K]

/-- the integrator law of the component at position `p`, with `dv p` the time derivative of its state variable and
    `z` the instantaneous solution:  C·dv_C/dt = i_C  (current through the capacitor, first to second node),
    L·di_L/dt = v_L  (voltage across the inductor) -/
def Integrator (base : Nat) (z : Ix → K) (dv : Nat → K) (p : Nat) : Cpt K → Prop
  | .Cap _ _ cv _ => cv * dv p = z (br (base + p))
  | .Ind n1 n2 _ l _ _ => l * dv p = vd z n1 n2
  | _ => True

/-- capacitances and inductances are non-zero (the code divides by them) -/
def ValueOk : Cpt K → Prop
  | .Cap _ _ cv _ => cv ≠ 0
  | .Ind _ _ _ l _ _ => l ≠ 0
  | _ => True

theorem integrator_iff (base : Nat) (z : Ix → K) (dv w : Nat → K) (p : Nat) (c : Cpt K) (hok : ValueOk c) :
    Integrator base z dv p c ↔ (role c = .ind ∨ role c = .cap → dv p = dotx base p c z w) := by
  cases c <;> simp [Integrator, role, dotx]
  case Cap n1 n2 cv v0 => rw [eq_div_iff hok, mul_comm]
  case Ind n1 n2 m l i0 coup => rw [eq_div_iff hok, mul_comm]

/-- the unknowns the state derivatives and the outputs read: node voltages of resistor / inductor terminals and of
    the output nodes, branch currents of the (substituted) voltage sources and of E, H, TF, AM -/
def ssReads (base : Nat) (cs : List (Cpt K)) (onodes : List Nat) : Ix → Prop :=
  fun i => (∃ pc ∈ enumFrom 0 cs, i ∈ readsC base pc.1 pc.2) ∨ (∃ k ∈ onodes, i = node k)

/-- the resistive system is regular on the unknowns `U`: its homogeneous form forces them to vanish
    ("non-degenerate reactive sets": no loop of capacitors / voltage sources, no cut set of inductors / current sources) -/
def NonsingularOn (U : Ix → Prop) (cs' : List (Cpt K)) : Prop :=
  ∀ z, C01.SolvesHom .time 0 cs' z → ∀ i, U i → z i = 0

/-- SPEC: the values `w` (state variables and source values by netlist position), `dv` (state derivatives),
    `yv` (node-voltage outputs), `yi` (branch-current outputs) are consistent with the circuit laws at one instant -/
def CircuitHolds (base : Nat) (cs : List (Cpt K)) (onodes : List Nat) (w dv yv yi : Nat → K) : Prop :=
  ∃ z, Laws .time 0 (subst base w cs) z ∧
    (∀ pc ∈ enumFrom 0 cs, Integrator base z dv pc.1 pc.2) ∧
    (∀ k ∈ onodes, yv k = volt z k) ∧
    (∀ pc ∈ enumFrom 0 cs, yi pc.1 = outI base pc.1 pc.2 z w)

/-- MODEL: dx/dt = A x + B u and y = C x + D u with the entries StateSpaceMaker extracts -/
def StateSpaceHolds (M : SSM K) (cs : List (Cpt K)) (onodes : List Nat) (w dv yv yi : Nat → K) : Prop :=
  (∀ pc ∈ enumFrom 0 cs, role pc.2 = .ind ∨ role pc.2 = .cap → dv pc.1 = ssValue (dotx M.base pc.1 pc.2) M cs w) ∧
  (∀ k ∈ onodes, yv k = ssValue (outV k) M cs w) ∧
  (∀ pc ∈ enumFrom 0 cs, yi pc.1 = ssValue (outI M.base pc.1 pc.2) M cs w)

/-- **ss_from_circuit**: for EVERY netlist (R, Y, C, L, V, I, controlled sources E/G/F/H, transformers, … -- any
    component list of any size), every linear solver whose unit solutions pass the row check, and every choice of output
    nodes: the state equation  dx/dt = A x + B u  and the output equation  y = C x + D u  with the entries
    StateSpaceMaker extracts hold for values (x, u, dx/dt, y) if and only if these values are consistent with
    Kirchhoff's laws, every component relation and the integrator laws of the capacitors and inductors.
    Hypotheses: the substituted circuit is well formed (no branch current claimed twice), C, L ≠ 0, and its
    resistive system is regular on the unknowns that are read. -/
theorem ss_from_circuit (solver : List (Cpt K) → Ix → K) (cs : List (Cpt K)) (onodes : List Nat) (M : SSM K)
    (hM : ssModel solver cs = some M)
    (hwf : C01.WF (subst M.base (fun _ => 0) cs))
    (hval : ∀ c ∈ cs, ValueOk c)
    (hns : NonsingularOn (ssReads M.base cs onodes) (subst M.base (fun _ => 0) cs))
    (w dv yv yi : Nat → K) :
    StateSpaceHolds M cs onodes w dv yv yi ↔ CircuitHolds M.base cs onodes w dv yv yi := by
  have hwf' : C01.WF (subst M.base w cs) := by
    unfold C01.WF subst at *
    rw [owned_subst M.base w (fun _ => 0) cs 0]; exact hwf
  have hsol := ss_solution solver cs M hM w
  -- the state-space value of each quantity is the quantity at the combined unit solutions
  have hdot : ∀ p c, ssValue (dotx M.base p c) M cs w = dotx M.base p c (zsum (srcPos cs) w M.zs) w := by
    intro p c
    rw [← ssValue_eq _ (linfun_dotx M.base p c)]
    cases c <;> rfl
  have hoV : ∀ k, ssValue (outV k) M cs w = volt (zsum (srcPos cs) w M.zs) k := by
    intro k
    rw [← ssValue_eq _ (linfun_outV k)]; rfl
  have hoI : ∀ p c, (p, c) ∈ enumFrom 0 cs →
      ssValue (outI M.base p c) M cs w = outI M.base p c (zsum (srcPos cs) w M.zs) w := by
    intro p c h
    rw [← ssValue_eq _ (linfun_outI M.base p c), outI_wsum M.base cs w _ p c h]
  constructor
  · rintro ⟨hd, hv, hi⟩
    refine ⟨zsum (srcPos cs) w M.zs, (C01.mna_iff_laws .time 0 _ _ hwf').mp hsol, ?_, ?_, ?_⟩
    · rintro ⟨p, c⟩ hpc
      exact (integrator_iff M.base _ dv w p c (hval c (mem_of_mem_enumFrom cs 0 p c hpc))).mpr
        fun hr => by rw [hd (p, c) hpc hr, hdot]
    · intro k hk; rw [hv k hk, hoV]
    · rintro ⟨p, c⟩ hpc; rw [hi (p, c) hpc, hoI p c hpc]
  · rintro ⟨z, hlaws, hint, hv, hi⟩
    have hz := (C01.mna_iff_laws .time 0 _ _ hwf').mpr hlaws
    -- uniqueness on what is read
    have huniq : ∀ i, ssReads M.base cs onodes i → z i = zsum (srcPos cs) w M.zs i := by
      intro i hi
      have hh := solves_diff_hom _ z _ hz hsol
      have hh' : C01.SolvesHom .time 0 (subst M.base (fun _ => 0) cs) (fun i => z i - zsum (srcPos cs) w M.zs i) := by
        intro r hr
        have := hh r hr
        simp only [subst] at this ⊢
        rwa [stampAll_lhs_subst M.base w (fun _ => 0) cs 0] at this
      exact sub_eq_zero.mp (hns _ hh' i hi)
    refine ⟨?_, ?_, ?_⟩
    · rintro ⟨p, c⟩ hpc hrole
      rw [hdot, ← reads_dotx M.base p c z _ w (fun i hi' => huniq i (Or.inl ⟨(p, c), hpc, hi'⟩))]
      exact (integrator_iff M.base z dv w p c (hval c (mem_of_mem_enumFrom cs 0 p c hpc))).mp (hint (p, c) hpc) hrole
    · intro k hk
      rw [hv k hk, hoV]
      exact reads_outV k z _ w (fun i hi' => huniq i (Or.inr ⟨k, hk, hi'⟩))
    · rintro ⟨p, c⟩ hpc
      rw [hi (p, c) hpc, hoI p c hpc]
      exact reads_outI M.base p c z _ w (fun i hi' => huniq i (Or.inl ⟨(p, c), hpc, hi'⟩))

/-! ### the time domain: signals instead of values -/

omit [DecidableEq K] in
/-- **ss_time_domain**: for every netlist whose inductors are uncoupled (branch indices below `base`), functions of
    time `z` (node voltages, branch currents), source waveforms `uw` and ANY operator `D` in the role of d/dt:
    the TIME-DOMAIN laws of the circuit (Spec/LawsTD.lean: KCL, i = C dv/dt, v = L di/dt, every instantaneous
    relation) hold  iff  at every instant the resistive laws of StateSpaceMaker's substituted circuit hold for the
    present values of the states and sources, together with the integrator laws. -/
theorem ss_time_domain {T : Type} (base : Nat) (D : (T → K) → (T → K)) (cs : List (Cpt K))
    (hok : ∀ c ∈ cs, TimeOk base c) (z : Ix → T → K) (uw : Nat → T → K) :
    LawsTD (fnOps D) (withWaveFrom uw 0 cs) z ↔
      ∀ t, Laws .time 0 (subst base (wAt cs z uw t) cs) (zxAt base D cs z t) ∧
           ∀ pc ∈ enumFrom 0 cs, Integrator base (zxAt base D cs z t) (dvAt D cs z t) pc.1 pc.2 := by
  have hInt : ∀ t, (∀ pc ∈ enumFrom 0 cs, Integrator base (zxAt base D cs z t) (dvAt D cs z t) pc.1 pc.2) ↔
      (∀ pc ∈ enumFrom 0 cs, IndLaw D z t pc.2) := by
    intro t
    refine forall_congr' fun pc => forall_congr' fun hpc => ?_
    obtain ⟨q, c⟩ := pc
    have hd := dvAt_spec D cs z t (q, c) hpc
    have hx := (zxAt_extends base D cs z t).2.2 (q, c) hpc
    have hvd := vd_ext z t (zxAt base D cs z t) (fun k => rfl)
    cases c <;> simp only [Integrator, IndLaw, stateDeriv] at *
    case Cap n1 n2 cv v0 => rw [hd, hx]; simp
    case Ind n1 n2 m l i0 coup => rw [hd, hvd]
  have hkcl := fun t k => kcl_at base D z uw t (zxAt base D cs z t) (wAt cs z uw t) k cs 0
    (zxAt_extends base D cs z t) hok (wAt_spec cs z uw t)
  have hlist := fun t => laws_list_at base D z uw t (zxAt base D cs z t) (wAt cs z uw t) cs 0
    (zxAt_extends base D cs z t) hok (wAt_spec cs z uw t)
  constructor
  · rintro ⟨hk, hl⟩ t
    have hlaw := (hlist t).mp fun sc hsc q hq => congrFun (hl sc hsc q hq) t
    refine ⟨⟨fun k hk0 => ?_, hlaw.1⟩, (hInt t).mpr hlaw.2⟩
    simp only [subst]
    rw [← hkcl t k, hk k hk0]; rfl
  · intro h
    refine ⟨fun k hk0 => funext fun t => ?_, fun sc hsc q hq => funext fun t => ?_⟩
    · rw [hkcl t k]; exact (h t).1.1 k hk0
    · exact (hlist t).mpr ⟨(h t).1.2, (hInt t).mp (h t).2⟩ sc hsc q hq

/-- **ss_along_solutions**: every time-domain solution of the circuit -- signals obeying KCL, i = C dv/dt, v = L di/dt
    and the instantaneous relations, for any source waveforms and any derivative operator -- satisfies, at every instant,
    the state equation  dx/dt = A x + B u  and the output equation  y = C x + D u  with the matrices of the model. -/
theorem ss_along_solutions {T : Type} (solver : List (Cpt K) → Ix → K) (cs : List (Cpt K)) (onodes : List Nat) (M : SSM K)
    (hM : ssModel solver cs = some M) (hwf : C01.WF (subst M.base (fun _ => 0) cs)) (hval : ∀ c ∈ cs, ValueOk c)
    (hns : NonsingularOn (ssReads M.base cs onodes) (subst M.base (fun _ => 0) cs))
    (hok : ∀ c ∈ cs, TimeOk M.base c)
    (D : (T → K) → (T → K)) (z : Ix → T → K) (uw : Nat → T → K)
    (hlaws : LawsTD (fnOps D) (withWaveFrom uw 0 cs) z) (t : T) :
    (∀ pc ∈ enumFrom 0 cs, role pc.2 = .ind ∨ role pc.2 = .cap →
        stateDeriv D z t pc.2 = ssValue (dotx M.base pc.1 pc.2) M cs (wAt cs z uw t)) ∧
    (∀ k ∈ onodes, volt (fun i => z i t) k = ssValue (outV k) M cs (wAt cs z uw t)) := by
  obtain ⟨hl, hint⟩ := (ss_time_domain M.base D cs hok z uw).mp hlaws t
  have hss := (ss_from_circuit solver cs onodes M hM hwf hval hns (wAt cs z uw t) (dvAt D cs z t)
    (fun k => volt (fun i => z i t) k) (fun p => outI M.base p ((lookupFrom 0 cs p).getD (.Open 0 0)) (zxAt M.base D cs z t)
      (wAt cs z uw t))).mpr
    ⟨zxAt M.base D cs z t, hl, hint, fun k _ => (volt_ext z t _ (fun _ => rfl) k).symm, by
      rintro ⟨q, c⟩ hpc
      simp only [lookupFrom_enum cs 0 q c hpc, Option.getD_some]⟩
  refine ⟨fun pc hpc hr => ?_, fun k hk => hss.2.1 k hk⟩
  rw [← dvAt_spec D cs z t pc hpc]
  exact hss.1 pc hpc hr

/-! ### non-vacuity: `V1 1 0 {u}; R1 1 2 3; C1 2 0 4`  (dv_C/dt = (u − v_C)/12) -/

def rcCkt : List (Cpt ℚ) := [.V 1 0 0 0, .R 1 2 3, .Cap 2 0 4 none]

/-- the two unit solutions (for u = 1 and for v_C = 1), as any correct linear solver returns them -/
def rcSolver (cs' : List (Cpt ℚ)) : Ix → ℚ :=
  match cs' with
  | .V _ _ _ v :: _ =>
    if v = 1 then fun i => match i with | node 1 => 1 | br 0 => -1/3 | br 3 => 1/3 | _ => 0
    else fun i => match i with | node 2 => 1 | br 0 => 1/3 | br 3 => -1/3 | _ => 0
  | _ => fun _ => 0

theorem rc_model : ∃ M, ssModel rcSolver rcCkt = some M ∧ M.base = 1 := by
  refine ⟨⟨1, fun q => rcSolver (subst 1 (ind q) rcCkt)⟩, ?_, rfl⟩
  have hb : freshBase rcCkt = 1 := by decide
  have hall : (srcPos rcCkt).all (fun q => checkSolves (subst 1 (ind q) rcCkt) (rcSolver (subst 1 (ind q) rcCkt))) = true := by
    decide +kernel
  simp only [ssModel, hb, hall, if_true]

example : C01.WF (subst 1 (fun _ => (0 : ℚ)) rcCkt) := by unfold C01.WF; decide

theorem rc_value : ∀ c ∈ rcCkt, ValueOk c := by simp [rcCkt, ValueOk]

example : ∀ c ∈ rcCkt, ValueOk c := rc_value

theorem rc_nonsingular : NonsingularOn (ssReads 1 rcCkt [1, 2]) (subst 1 (fun _ => (0 : ℚ)) rcCkt) := by
  have hk : killAll (subst 1 (fun _ => (0 : ℚ)) rcCkt) = [.V 1 0 0 0, .R 1 2 3, .V 2 0 3 0] := by
    simp [killAll, subst, substFrom, substC, rcCkt, Cpt.mapSrc]
  refine nonsingularOn_of_killed (by unfold C01.WF; decide) fun z hz i hi => ?_
  rw [hk] at hz
  have l1 := hz.2 (.V 1 0 0 0) (by simp) _ (List.mem_singleton_self _)
  have l2 := hz.2 (.V 2 0 3 0) (by simp) _ (List.mem_singleton_self _)
  have k1 := hz.1 1 (by decide)
  have k2 := hz.1 2 (by decide)
  simp [outflow, twoTerm, lsum, vd, volt] at l1 l2 k1 k2
  simp [l1, l2] at k1 k2
  rcases hi with ⟨pc, hpc, hi⟩ | ⟨k, hk, rfl⟩
  · simp [rcCkt, enumFrom] at hpc
    rcases hpc with rfl | rfl | rfl <;> simp [readsC] at hi
    · subst hi; exact k1
    · rcases hi with rfl | rfl <;> assumption
    · subst hi; exact k2
  · simp at hk; rcases hk with rfl | rfl <;> assumption

/-- hypotheses of `ss_time_domain` / `ss_along_solutions` on the example: branch 0 lies below the base 1 -/
example : ∀ c ∈ rcCkt, TimeOk 1 c := by simp [rcCkt, TimeOk, brRefs]

/-- … and a time-domain solution: u = 5 constant, v_C = 5, no current (with the zero operator for d/dt on constants) -/
def rcConst : Ix → Unit → ℚ
  | node 1 => fun _ => 5
  | node 2 => fun _ => 5
  | _ => fun _ => 0

theorem rcConst_laws : LawsTD (fnOps (fun _ => fun _ => (0 : ℚ))) (withWaveFrom (fun _ _ => 5) 0 rcCkt) rcConst := by
  constructor
  · intro k hk
    funext t
    match k with
    | 0 => exact absurd rfl hk
    | 1 => norm_num [rcCkt, withWaveFrom, sumS, outflowS, twoTermS, vdS, voltS, fnOps, rcConst]
    | 2 => norm_num [rcCkt, withWaveFrom, sumS, outflowS, twoTermS, vdS, voltS, fnOps, rcConst]
    | (k + 3) => simp [rcCkt, withWaveFrom, sumS, outflowS, twoTermS, fnOps]
  · intro c hc q hq
    simp [rcCkt, withWaveFrom] at hc
    rcases hc with rfl | rfl | rfl <;> simp [lawsS] at hq
    subst hq
    funext t
    norm_num [vdS, voltS, fnOps, rcConst]

example : LawsTD (fnOps (fun _ => fun _ => (0 : ℚ))) (withWaveFrom (fun _ _ => 5) 0 rcCkt) rcConst := rcConst_laws

/-- the entry the model extracts: A = −1/12, B = 1/12 -/
example : ∀ M, ssModel rcSolver rcCkt = some M →
    entry (dotx M.base 2 (.Cap 2 0 4 none)) M 2 = -1/12 ∧ entry (dotx M.base 2 (.Cap 2 0 4 none)) M 0 = 1/12 := by
  intro M hM
  obtain ⟨M', hM', hb⟩ := rc_model
  rw [hM'] at hM
  cases hM
  simp only [ssModel] at hM'
  split_ifs at hM'
  cases hM'
  constructor <;> norm_num [entry, dotx, rcSolver, subst, substFrom, substC, rcCkt, ind, freshBase, owned]

end Lcapy.C15
