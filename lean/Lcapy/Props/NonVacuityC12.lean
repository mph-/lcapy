/-
  Non-vacuity witnesses for Props/C12.lean and C12Trap.lean.
  Every theorem with hypotheses is APPLIED to a concrete non-trivial input with all hypotheses proved.
  `pairG_agrees_with_ftKind_*`: the premise `hpair` of `model_forward_refines` for the generated rows used below (Props/C12.lean
  discharges it for every row in `model_forward_refines_table`).
-/
import Lcapy.Props.C12
import Lcapy.Props.C12Trap
namespace Lcapy.NonVacuity.C12
open Lcapy.Fourier Lcapy.C12

/-- `(2+j)·e^{j2π/4}·e^{j2π·3t}·rect(2t − 1)  +  j·t e^{−3(−t)}u(−t)`-like term: a two-term signal with scale, shift, modulation -/
def xs : E := [⟨⟨2, 1⟩, 1 / 4, 3, .rect, 2, -1⟩, ⟨⟨0, 1⟩, 0, 0, .expu 1 ⟨3, 0⟩, -1, 0⟩]
theorem wf_xs : WF xs := by intro t ht; simp [xs] at ht; rcases ht with rfl | rfl <;> decide

example := ft_shift (22 / 7) 5 xs wf_xs
example := ft_modulate (22 / 7) 5 xs wf_xs
example := ft_scale (22 / 7) (-3) (by norm_num) xs wf_xs
example := ft_scale_shift (22 / 7) (-3) 2 (by norm_num) xs wf_xs
example := ift_shift (22 / 7) 5 xs wf_xs

/-- `ft_table_inverse_sound`: the row `sign(t) ↦ 1/(jπ·sf)` (odd atom written with `sf`) -/
example := ft_table_inverse_sound (22 / 7) ⟨0, -1, 1, -1, .inv1, true, 1, 1, 0⟩ (by decide)

/-! ### `model_forward_refines`: ALL premises, for the generated rows of rect, sign and |t| -/
def tRect : Term := ⟨⟨2, 1⟩, 1 / 4, 3, .rect, 2, -1⟩
def eRect : GEntry := ⟨.rect, "other.is_Function and other.func == rect and (other.args[0] ", [⟨1, 0, 1, 0, .sinc, false, 1, 1, 0⟩]⟩
theorem lookup_rect : Model.lookup .rect 0 = some eRect := rfl
theorem pairG_agrees_with_ftKind_rect (pi : Rat) :
    entryE pi false eRect.terms = (ftKind pi .rect).map fun p => ⟨p.q, 0, 0, p.k, p.s, 0⟩ :=
  table_row_is_ftKind pi eRect rfl
example := model_forward_refines (22 / 7) tRect eRect (by decide) (by intro al; simp [tRect]) (by intro al; simp [tRect])
  (by simp [tRect]) (by simp [tRect]) (by simp [tRect]) (by simp [tRect]) (by intro al; simp [tRect]) lookup_rect
  (pairG_agrees_with_ftKind_rect _)

def tSgn : Term := ⟨⟨2, 1⟩, 1 / 4, 3, .sgn, -2, 5⟩
def eSgn : GEntry := ⟨.sgn, "other == sign(t)", [⟨0, -1, 1, -1, .inv1, true, 1, 1, 0⟩]⟩
theorem lookup_sgn : Model.lookup .sgn 0 = some eSgn := rfl
theorem pairG_agrees_with_ftKind_sgn (pi : Rat) :
    entryE pi false eSgn.terms = (ftKind pi .sgn).map fun p => ⟨p.q, 0, 0, p.k, p.s, 0⟩ :=
  table_row_is_ftKind pi eSgn rfl
example := model_forward_refines (22 / 7) tSgn eSgn (by decide) (by intro al; simp [tSgn]) (by intro al; simp [tSgn])
  (by simp [tSgn]) (by simp [tSgn]) (by simp [tSgn]) (by simp [tSgn]) (by intro al; simp [tSgn]) lookup_sgn
  (pairG_agrees_with_ftKind_sgn _)

/-- trapezoid: `model_trap_refines` with the exponent the generated table carries, and its consequence -/
def tTrap : Term := ⟨1, 0, 2, .trap (1 / 2), 2, -1⟩
example := model_trap_is_alpha_times_spec (22 / 7) tTrap (1 / 2) (by decide) rfl
example : ∃ p, Gen.trapAlphaPow = some p ∧
    Model.modelTerm (22 / 7) false 0 tTrap = some ((ftTerm (22 / 7) tTrap).map (smulT (CQ.ofRat (zpow (1 / 2) p)))) := by
  rcases trap_entry_is_pair_partial with h | h
  · exact ⟨1, h, model_trap_refines _ tTrap (1 / 2) 1 (by decide) rfl h⟩
  · exact ⟨0, h, model_trap_refines _ tTrap (1 / 2) 0 (by decide) rfl h⟩

/-! ### frequency variables -/
example := f_omega (22 / 7) (3 / 2) ⟨.f, some .omega, -1, -1, 0, false⟩ (by decide) rfl
example := f_omega (22 / 7) (3 / 2) ⟨.omega, none, 1, 1, 0, false⟩ (by decide) rfl
example := delta_scaling (7 / 44) (by norm_num) 2 ⟨⟨2, 1⟩, 1 / 4, 3, .delta 2, -2, 1⟩ (by decide)
example := model_conv_refines (22 / 7) (3 / 2) (by norm_num) (by norm_num) .F .omega xs
example := conv_compose (22 / 7) (3 / 2) (by norm_num) (by norm_num) .F .omega .Omega xs
example := conv_cycle_identity (22 / 7) (3 / 2) (by norm_num) (by norm_num) xs
example := conv_chain_identity (22 / 7) (3 / 2) (by norm_num) (by norm_num) .omega [.F, .f, .Omega] xs
example := ft_dom_conv (22 / 7) (3 / 2) (by norm_num) (by norm_num) .F .omega xs xs

/-! ### Laplace on jω; inverse ∘ forward -/
example := fourier_is_laplace_on_jw_formal (22 / 7) (1 / 3) [⟨⟨2, 0⟩, 1, ⟨3, 4⟩⟩, ⟨⟨0, 1⟩, 0, ⟨1, 0⟩⟩]
example := fourier_is_laplace_on_jw 2 (3 + 4 * Complex.I) (1 / 3) (by simp)
/-- the formal identity needs no stability: the same identity for an UNSTABLE term -/
example : ratValue (22 / 7) (1 / 3) (ft (22 / 7) ([⟨⟨2, 0⟩, 1, ⟨-3, 4⟩⟩].map EPTerm.toTerm))
    = laplaceAt ⟨0, 2 * (22 / 7) * (1 / 3)⟩ [⟨⟨2, 0⟩, 1, ⟨-3, 4⟩⟩] := Lcapy.Fourier.fourier_laplace_aux _ _ _

example := ft_ft_term (22 / 7) ⟨⟨0, 1⟩, 1 / 4, 3, .expu 1 ⟨3, 0⟩, -1, 2⟩ (by decide)
  (by intro p hp; simp [ftKind] at hp; subst hp; left; rfl)
example := pair_table_involutive_even (22 / 7) .tri (by simp)
example := inverse_forward_id_partial (22 / 7) tRect (by decide) (by simp [tRect])
example := inverse_forward_id_trap (22 / 7) tTrap (by decide) (Or.inl ⟨_, rfl⟩)
example := inverse_forward_id_generalised (22 / 7) (by norm_num) ⟨⟨2, 1⟩, 1 / 4, 3, .delta 2, -2, 1⟩ (by decide)
  (Or.inr (Or.inl ⟨2, rfl⟩))
example := inverse_forward_id_generalised (22 / 7) (by norm_num) tSgn (by decide) (Or.inr (Or.inr (Or.inl rfl)))
example := ft_generalised_partial (22 / 7) (by norm_num)

/-! ### anchors -/
example := anchor_one_sided_exponential (3 + 4 * Complex.I) 2 (by simp)
example := anchor_rect_sinc 2 (by norm_num)
example := anchor_tri_sinc2 2 (by norm_num)
example := anchor_two_sided_exponential 3 2 (by norm_num)
example := anchor_two_sided_exponential_closed 3 2 (by norm_num)

end Lcapy.NonVacuity.C12
