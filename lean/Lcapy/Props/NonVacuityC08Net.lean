/-
  Machine-checked non-vacuity witnesses for Props/C08Net.lean (network level).
  The okModel hypotheses are witnessed by the examples at the end of Props/C08Net.lean; here: the remaining hypothesis
  shapes (okc8 to S/T, explicit junction witnesses, the four connection theorems with concrete ports, Z→Y direct).
-/
import Lcapy.Props.C08Net
namespace Lcapy.NonVacuity.C08Net
open Lcapy Lcapy.Spec Lcapy.Gen Lcapy.TwoPort Lcapy.C08

/-- `TPN_params_sound`: S and T parameters of a Z-native and an H-native two-port exist (Z0 = 1) -/
theorem nv_TPN_params_sound : okc8 zSample.rep .S zSample.m 1 ∧ okc8 hSample.rep .T hSample.m 1 ∧ okc8 aSample.rep .Y aSample.m 1 := by
  show ok_Z_S zSample.m 1 ∧ ok_H_T hSample.m 1 ∧ ok_A_Y aSample.m 1
  unfold ok_Z_S ok_Z_A ok_H_T ok_H_S ok_H_A ok_A_S ok_S_T ok_A_Y; decide +kernel

/-- `sources_to_B_sound`, `sources_from_B_sound`, `stage_viaB` for (N, P) = (Z, H) -/
theorem nv_stage_viaB : MRep.Z ≠ MRep.H ∧ okc .Z .B zSample.m 1 ∧ okc .Z .H zSample.m 1 ∧ okc .B .H (conv .Z .B zSample.m 1) 1 :=
  ⟨by decide, okModel_zSample_H.resolve_left (by decide)⟩

/-- `cascWit_sound`: explicit junction values for the cascade [zSample, ySample] driven with I1 = 1 -/
theorem nv_cascWit_sound : cascWit [zSample, ySample] [(9, 2), (-13/2, -9/2)] 12 1 (-13/2) (-9/2) := by
  decide +kernel
example : cascRel [zSample, ySample] 12 1 (-13/2) (-9/2) := cascWit_sound _ _ _ _ _ _ nv_cascWit_sound

/-- `par2_sound`: ySample ∥ hSample at V1 = 1, V2 = 2 -/
def cPar : Conn ℚ := ⟨⟨1, 7, 2, 14⟩, ⟨1, -5/6, 2, -31/21⟩, ⟨1, 7 - 5/6, 2, 14 - 31/21⟩⟩
theorem nv_par2_sound : okModel ySample.rep .Y ySample.m 1 ∧ okModel hSample.rep .Y hSample.m 1 ∧ cPar.par ∧
    ySample.rel cPar.p ∧ hSample.rel cPar.q :=
  ⟨Or.inl rfl, okModel_hSample_Y, by decide +kernel⟩

/-- `ser2_sound`: zSample in series with gSample at I1 = 1, I2 = 2 -/
def cSer : Conn ℚ := ⟨⟨12, 1, 9, 2⟩, ⟨-5/6, 1, -31/21, 2⟩, ⟨12 - 5/6, 1, 9 - 31/21, 2⟩⟩
theorem nv_ser2_sound : okModel zSample.rep .Z zSample.m 1 ∧ okModel gSample.rep .Z gSample.m 1 ∧ cSer.ser ∧
    zSample.rel cSer.p ∧ gSample.rel cSer.q :=
  ⟨Or.inl rfl, okModel_gSample_Z, by decide +kernel⟩

/-- `hybrid2_sound`: hSample and zSample, series input (I1 = 1), parallel output (V2 = 2) -/
def cHyb : Conn ℚ := ⟨⟨14/3, 1, 2, -103/35⟩, ⟨22/3, 1, 2, -1/3⟩, ⟨14/3 + 22/3, 1, 2, -103/35 - 1/3⟩⟩
theorem nv_hybrid2_sound : okModel hSample.rep .H hSample.m 1 ∧ okModel zSample.rep .H zSample.m 1 ∧ cHyb.hyb ∧
    hSample.rel cHyb.p ∧ zSample.rel cHyb.q :=
  ⟨Or.inl rfl, okModel_zSample_H, by decide +kernel⟩

/-- `inverse_hybrid2_sound`: gSample and zSample, parallel input (V1 = 1), series output (I2 = 2) -/
def cInv : Conn ℚ := ⟨⟨1, 14/3, -103/35, 2⟩, ⟨1, -6/5, -32/5, 2⟩, ⟨1, 14/3 - 6/5, -103/35 - 32/5, 2⟩⟩
theorem nv_inverse_hybrid2_sound : okModel gSample.rep .G gSample.m 1 ∧ okModel zSample.rep .G zSample.m 1 ∧ cInv.invhyb ∧
    gSample.rel cInv.p ∧ zSample.rel cInv.q :=
  ⟨Or.inl rfl, okModel_zSample_G, by decide +kernel⟩

/-- `Zmodel_Ymodel_direct`, `okc_implies_pivot` -/
theorem nv_Zmodel_Ymodel_direct : ok_Z_Y zSample.m 1 := by unfold ok_Z_Y; decide +kernel
theorem nv_okc_implies_pivot : okc .A .G aSample.m 1 := by
  show ok_A_G aSample.m 1
  unfold ok_A_G ok_A_H; decide +kernel

/-- `relN_iff_rel` / `SoundConv.normalised`: r = 3, Z0 = 9 and a conversion side condition at that Z0 -/
theorem nv_normalised : (3 : ℚ) * 3 = 9 ∧ (9 : ℚ) ≠ 0 ∧ (2 : ℚ) ≠ 0 ∧ ok_A_S aSample.m 9 := by
  unfold ok_A_S; decide +kernel

end Lcapy.NonVacuity.C08Net
