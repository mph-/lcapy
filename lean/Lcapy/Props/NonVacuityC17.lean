/-
  Non-vacuity witnesses for Props/C17.lean, C17Sim.lean,
  C17Resp.lean, C17Limit.lean: every theorem with hypotheses is instantiated on a concrete, non-trivial input so
  that all its hypotheses hold together.
-/
import Lcapy.Props.C17
import Lcapy.Props.C17Sim
import Lcapy.Props.C17Resp
import Lcapy.Props.C17Limit
import Mathlib.Tactic
set_option linter.defProp false
namespace Lcapy.NonVacuity.C17
open Lcapy.EvalBase Lcapy.Evaluate Lcapy.Gen.SpecialFn Lcapy.C17
open Lcapy.Spec.SpecialFn (Fn spec disc inDomain)

/-! ## Props/C17.lean -/

def nv_agree_heaviside := agree_heaviside (-3/7) (by decide +kernel)
def nv_agree_dirac := agree_dirac (2/3) (by decide +kernel)
def nv_agree_sign := agree_sign (-5) (by decide +kernel)
def nv_agree_rect := agree_rect (1/4) (by decide +kernel)
/-- on the sloping flank of trap(t, 1/2): |t| = 3/8 lies between (1 - alpha)/2 = 1/4 and (1 + alpha)/2 = 3/4 -/
def nv_agree_trap := agree_trap (1/2) (-3/8) (by decide +kernel) (by decide +kernel)
/-- alpha = 0 (rect) away from ±1/2 -/
def nv_agree_trap_zero := agree_trap 0 (1/3) (by decide +kernel) (by decide +kernel)
def nv_agree_psinc_int := agree_psinc 4 5 (by decide +kernel)
def nv_agree_psinc_zero_of_quotient := agree_psinc 4 (1/4) (by decide +kernel)
theorem nv_agree_psinc_values : spec (.psinc 4) 5 = some (-1) ∧ spec (.psinc 4) (1/4) = some 0 ∧
    spec (.trap (1/2)) (-3/8) = some (3/4) := by decide +kernel

def nv_spec_psinc_int := spec_psinc_int 3 7 (by decide)

theorem sin_half_pi_ne : Real.sin (Real.pi * (1/2)) ≠ 0 := by
  have : Real.pi * (1/2) = Real.pi / 2 := by ring
  rw [this, Real.sin_pi_div_two]; norm_num

def nv_psinc_integer_value_anchor := psinc_integer_value_anchor 3 5 (by decide) (1/2) sin_half_pi_ne

def nv_special_fn_agree_rect := special_fn_agree .rect (1/4) (by decide +kernel) (by decide +kernel)
def nv_special_fn_agree_trap := special_fn_agree (.trap (1/2)) (3/8) (by decide +kernel) (by decide +kernel)
def nv_special_fn_agree_psinc := special_fn_agree (.psinc 3) 5 (by decide +kernel) (by decide +kernel)

def nv_heaviside_call_forms := heaviside_call_forms (-2) (by norm_num)
def nv_heaviside_zero_documented := heaviside_zero_documented rfl 0

/-- t·H(t - 1)/(t + 2): a causal-looking product -/
def eC : E := .div (.mul .var (.app .heaviside (.sub .var (.const 1)))) (.add .var (.const 2))

def nv_causal_mask := causal_mask eC (-1) (by norm_num)
def nv_causal_mask_only := causal_mask_only true eC 3 (Or.inr (by norm_num)) (Or.inl (by decide +kernel))
def nv_causal_flag := causal_flag true true

/-- 3 H(t) + H(2t - 1) t at t = -2: every factor evaluates to a number, CausalChecker accepts -/
def nv_causal_mask_sound :=
  causal_mask_sound [[.plain (.const 3), .fn .heaviside 1 0], [.fn .heaviside 2 (-1), .plain .var]] (-2) (by norm_num)
    (by
      intro t ht f hf
      simp only [List.mem_cons, List.mem_nil_iff, or_false] at ht
      rcases ht with rfl | rfl <;> simp only [List.mem_cons, List.mem_nil_iff, or_false] at hf <;>
        rcases hf with rfl | rfl
      · exact ⟨3, by decide +kernel⟩
      · exact ⟨0, by decide +kernel⟩
      · exact ⟨0, by decide +kernel⟩
      · exact ⟨-2, by decide +kernel⟩)
    (by decide +kernel)

def nv_guard_not_extrapolated := guard_not_extrapolated eC (-1/2) 0 (by norm_num)

def nv_nan_spreads := nan_spreads (fun a b => a + b) .nan (.val 3) (by intro v h; cases h) 3

def nv_guard_transparent := guard_transparent eC 3 (by norm_num) (by decide +kernel)

def nv_array_is_map_scalar := array_is_map_scalar true eC [-1, 0, 3] [0, 0, 3/5]
theorem nv_array_is_map_scalar_lhs : evaluateArg true eC (.list [-1, 0, 3]) = .array [0, 0, 3/5] := by decide +kernel

def nv_array_all_or_nothing :=
  array_all_or_nothing false (guarded eC) [0, -1, 2] (-1) (by simp)
    (fun v => (guard_not_extrapolated eC (-1) v (by norm_num)).1)

/-- tri(t/2) H(t - 1) + Piecewise((rampstep(t), t ≥ 0)) at t = 3 -/
def eN : E :=
  .add (.mul (.app .tri (.div .var (.const 2))) (.app .heaviside (.sub .var (.const 1)))) (guarded (.app .rampstep .var))

def nv_expr_agree := expr_agree eN (3/2) (by decide +kernel)
theorem nv_expr_agree_value : specEval eN (3/2) = .val (5/4) := by decide +kernel
def nv_evaluate_is_symbolic := evaluate_is_symbolic true eN (3/2) (by decide +kernel) (Or.inr (by norm_num)) (Or.inr (by decide +kernel))

/-! ## Props/C17Sim.lean : the series RC circuit of that file -/
section Sim
open Lcapy.MNA Ix Lcapy.Sim Lcapy.Gen.Sim

theorem nv_sim_step_companion : ∃ x : Ix → ℚ,
    x (br 1) = geq .trapezoid rcReact[0] (1 / 10) 0 0 * vd x 2 3 ∧ vd x 3 0 = veq .trapezoid rcReact[0] (1 / 10) 0 0 := by
  obtain ⟨x, hx⟩ := rc_step
  exact ⟨x, sim_step_companion _ _ _ _ _ _ _ hx 0 (by decide) (by decide)⟩

/-- capacitor 1/10 F, dt = 1/10, previous state (v0, i0) = (2, 1/2), companion current from u = 3 -/
def nv_companion_law :=
  companion_law .trapezoid (⟨false, 2, 0, 3, 1, 1 / 10⟩ : React ℚ) (1 / 10) 2 (1 / 2) 3 _ _ rfl rfl (by norm_num) (by norm_num)
    (by norm_num)

def nv_companion_law_be_ind :=
  companion_law .backwardEuler (⟨true, 2, 0, 3, 1, 4⟩ : React ℚ) (1 / 5) 2 (1 / 2) 3 _ _ rfl rfl (by norm_num) (by norm_num)
    (by norm_num)

theorem nv_sim_run_law : ∃ xs', RunOK .backwardEuler (fun _ => rcOthers) rcReact 0
    (rcReact.map (fun _ => ((0 : ℚ), (0 : ℚ)))) [1 / 10, 3 / 10] xs' := by
  obtain ⟨xs, hxs⟩ : ∃ xs, sim rcSolver .backwardEuler (fun _ => rcOthers) rcReact [0, 1 / 10, 3 / 10] = some xs :=
    Option.isSome_iff_exists.mp (by decide +kernel)
  obtain ⟨xs', _, h⟩ := sim_law _ _ _ _ _ _ _ (by norm_num) rc_grid hxs
  exact ⟨xs', h⟩

def nv_trap_exact_quadratic := trap_exact_quadratic (K := ℚ) true 4 1 (-2) 3 (1/10) (3/10) (by norm_num)
def nv_trap_defect_cubic := trap_defect_cubic (K := ℚ) (1/10) (1/10) (3/10) (by norm_num)
def nv_trap_defect_cubic_ind := trap_defect_cubic_ind (K := ℚ) 4 (1/10) (3/10) (by norm_num)

end Sim

/-! ## Props/C17Resp.lean -/
section Resp
open Lcapy.DT Lcapy.Resp Lcapy.Gen.Sim Lcapy.SimBase

/-- H = 1/s, trapezoidal (alpha = 1/2), dt = 1, ramp input: output sample 2 as a convolution sum -/
def nv_bilinear_is_convolution :=
  bilinear_is_convolution (1 / 2 : ℚ) 1 [1] [0, 1] [0, 1, 2, 3] 2 (by decide) (by decide +kernel)

def nv_bilinear_delay := bilinear_delay (1 / 2 : ℚ) 1 [1] [0, 1] [1, 2, 3, 4] 1 (by decide)

def nv_bilinear_coeffs_value :=
  bilinear_coeffs_value (1 / 2 : ℚ) (1 / 10) [1, 2] [3, 1, 1] (1 / 3) (by norm_num) (by norm_num)

def nv_impulse_invariance_is_conv_sum :=
  impulse_invariance_is_conv_sum (fun t : ℚ => 3 - t) [1, 2, 3, 5] [7, 8, 9, 10] (1/2) 3 rfl (by decide)

def nv_impulse_invariance_shift :=
  impulse_invariance_shift (fun t : ℚ => 3 - t) [1, 2, 3] [5, 6, 7] [3, 4, 5, 6, 7] 1 2 rfl rfl (by simp)

end Resp

/-! ## Props/C17Limit.lean -/
section Limit
open Lcapy.DT (peval)
open Lcapy.EvalLimit

/-- (2 - 3t + t³)/(1 - 2t + t²) = (t - 1)²(t + 2)/(t - 1)² -/
def pL : List Rat := [2, -3, 0, 1]
def qL : List Rat := [1, -2, 1]

def nv_cancelAt_value := cancelAt_value 3 pL qL 1 5 (by norm_num)
def nv_cancelAt_den_nonzero := cancelAt_den_nonzero 3 pL qL 1 5 (by decide +kernel)
def nv_cancelAt_value_div := cancelAt_value_div 3 pL qL 1 5 (by norm_num) (by decide +kernel)

def nv_fallback_value_is_continuous_extension :=
  fallback_value_is_continuous_extension false pL qL 1 3 (by decide +kernel) (by decide +kernel)

def nv_fallback_value_needs_common_zero :=
  fallback_value_needs_common_zero true pL qL 1 3 (by decide +kernel) (by decide +kernel)

def nv_regular_point_direct := regular_point_direct false pL qL (1/2) (by decide +kernel)
def nv_regular_point_limit := regular_point_limit pL qL (1/2) (by decide +kernel)
def nv_scalar_array_paths_differ := scalar_array_paths_differ pL qL 1 (by decide +kernel)
def nv_table_removable_psinc := table_removable_psinc 4 (-3) (by decide)

end Limit

end Lcapy.NonVacuity.C17
