/-
  PROPERTY C05 -- behaviour-preserving netlist rewrites leave retained voltages/currents unchanged.

  Circuit-level spec: Lcapy/Spec/PortRel.lean (port relations `TT.rel`, `chainRel`, `groupRel`;
  `Simulates` / `SamePortRelation` stated with `outflow` and `laws` of Spec/Laws.lean).
  Model: Lcapy/Model/Rewrite.lean (`combineVal`, `combineIC`, … mirror `_do_simplify_combine`).

  Part 1  the value / initial-condition / polarity rules: a series chain (parallel group) of like
          elements of ANY length, in either orientation, has the same port relation as ONE element
          with the stated value — proved by induction over the list, for every analysis kind.
          The combined value / initial condition is `combineVal` / `combineSrc` / `combineIC` of the
          model (what the code computes): polarised quantities enter with their sign relative to
          the surviving element, shared quantities are taken once.  `rule_V_unique`,
          `rule_L_ic_unique` show that no other value would do (the plain sums of the original
          code, findings F4 and F5, are refuted by `plain_sum_wrong_*`).
  Part 2  circuit level: replacing a sub-netlist by one with the same port relation preserves
          `Laws` on everything retained (`subcircuit_congruence`), hence — by uniqueness of the MNA
          solution (C01) — every retained voltage and current (`rewrite_preserves_retained`);
          series / parallel / reversed pairs ARE such replacements (`series_pair`, `parallel_pair`,
          `reversed`), and so are removal of a dangling element and an injective node renaming.
  Helper lemmas are in Lcapy/Proofs/Rewrite.lean.
-/
import Lcapy.Proofs.Rewrite
import Lcapy.Props.C01
import Lcapy.Proofs.Witness
import Mathlib.Tactic.NormNum
namespace Lcapy.C05
open Lcapy.MNA Lcapy.Rewrite Ix
variable {K : Type} [Field K]

/-! ## Part 1 — value, initial-condition and polarity rules -/

theorem combineVal_add (vs : List K) : combineVal true vs = sumK vs := by simp [combineVal, sumVals_eq_sumK]
theorem combineVal_recip (vs : List K) : combineVal false vs = 1 / sumK (vs.map (fun v => 1 / v)) := by
  simp [combineVal, recipSum, sumVals_eq_sumK]

theorem series_chain_R (kind : Kind) (s : K) (rs : List K) (h : ∀ r ∈ rs, r ≠ 0) (hs : combineVal true rs ≠ 0)
    (v i : K) : chainRel kind s (rs.map TT.R) v i ↔ TT.rel kind s (.R (combineVal true rs)) v i := by
  rw [chain_of_thev kind s TT.R id (fun _ => 0) rs (fun r hr => thev_R kind s r (h r hr)),
    thev_R kind s _ hs v i, combineVal_add, sumK_map_zero, List.map_id]

theorem series_chain_Z (kind : Kind) (s : K) (zs : List K) (h : ∀ z ∈ zs, z ≠ 0) (hs : combineVal true zs ≠ 0)
    (v i : K) : chainRel kind s (zs.map TT.Z) v i ↔ TT.rel kind s (.Z (combineVal true zs)) v i := by
  rw [chain_of_thev kind s TT.Z id (fun _ => 0) zs (fun r hr => thev_Z kind s r (h r hr)),
    thev_Z kind s _ hs v i, combineVal_add, sumK_map_zero, List.map_id]

theorem series_chain_Y (kind : Kind) (s : K) (ys : List K) (h : ∀ y ∈ ys, y ≠ 0)
    (hs : sumK (ys.map (fun y => 1 / y)) ≠ 0)
    (v i : K) : chainRel kind s (ys.map TT.Y) v i ↔ TT.rel kind s (.Y (combineVal false ys)) v i := by
  have hc : combineVal false ys ≠ 0 := by rw [combineVal_recip]; exact one_div_ne_zero hs
  rw [chain_of_thev kind s TT.Y (fun y => 1 / y) (fun _ => 0) ys (fun r hr => thev_Y kind s r (h r hr)),
    thev_Y kind s _ hc v i, combineVal_recip, sumK_map_zero, one_div_one_div]

theorem combineSrc_eq (vs : List (Bool × K)) : combineSrc vs = sumK (vs.map (fun p => sgn p.1 p.2)) := by
  simp only [combineSrc, sumVals_eq_sumK, sgn]

/-- series voltage sources add WITH their polarity (`combineSrc` is the code's rule) -/
theorem series_chain_V (kind : Kind) (s : K) (vs : List (Bool × K)) (v i : K) :
    chainRel kind s (vs.map (fun p => (TT.V p.2).orient p.1)) v i ↔
      TT.rel kind s (.V (combineSrc vs)) v i := by
  rw [combineSrc_eq, chain_of_thev kind s (fun p : Bool × K => (TT.V p.2).orient p.1) (fun _ => 0) (fun p => sgn p.1 p.2) vs
    (fun p _ => by
      obtain ⟨σ, e⟩ := p
      cases σ <;> simp only [TT.orient, TT.flip, sgn, if_true, if_false, Bool.false_eq_true] <;> exact thev_V kind s _),
    thev_V kind s _ v i, sumK_map_zero]

/-- series inductors: the members carry one current, so their (signed) initial currents must all
    be that current `I0`, and the combined inductor carries `I0` — not the sum. -/
theorem series_chain_L (kind : Kind) (s : K) (ls : List (Bool × K × Option K)) (I0 : K)
    (hI : ∀ p ∈ ls, sgn p.1 (icv p.2.2) = I0) (v i : K) :
    chainRel kind s (ls.map (fun p => (TT.L p.2.1 p.2.2).orient p.1)) v i ↔
      TT.rel kind s (.L (combineVal true (ls.map (·.2.1))) (some I0)) v i := by
  rw [chain_of_thev kind s (fun p : Bool × K × Option K => (TT.L p.2.1 p.2.2).orient p.1)
    (fun p => (indThev kind s p.2.1 none).1) (fun p => (indThev kind s p.2.1 (some I0)).2) ls
    (fun p hp => by
      have h := thev_L kind s p.2.1 (if p.1 then p.2.2 else p.2.2.map (fun x => -x))
      rw [orient_L]
      have e1 : (indThev kind s p.2.1 (if p.1 then p.2.2 else p.2.2.map (fun x => -x))).1 = (indThev kind s p.2.1 none).1 := by
        cases kind <;> rfl
      have e2 : (indThev kind s p.2.1 (if p.1 then p.2.2 else p.2.2.map (fun x => -x))).2 = (indThev kind s p.2.1 (some I0)).2 := by
        cases kind <;> simp only [indThev]
        rw [icv_signed, hI p hp]; rfl
      rw [e1, e2] at h; exact h),
    thev_L kind s _ (some I0) v i, combineVal_add]
  cases kind
  · simp only [indThev, sumK_map_zero]
  · simp only [indThev, sumK_map_zero, sumK_mul_left]
  · simp only [indThev, sumK_mul_left, sumK_neg, sumK_mul_right, icv]
  · simp only [indThev, sumK_map_zero]

/-- series capacitors (Laplace analysis, with or without initial conditions): the reciprocal
    values add and the signed initial voltages add -/
theorem series_chain_C (kind : Kind) (hk : kind = .lap ∨ kind = .ivp) (s : K) (hs : s ≠ 0)
    (cs : List (Bool × K × Option K)) (hc : ∀ p ∈ cs, p.2.1 ≠ 0)
    (hsum : sumK ((cs.map (·.2.1)).map (fun c => 1 / c)) ≠ 0) (v i : K) :
    chainRel kind s (cs.map (fun p => (TT.C p.2.1 p.2.2).orient p.1)) v i ↔
      TT.rel kind s (.C (combineVal false (cs.map (·.2.1))) (some (sumK (cs.map (fun p => sgn p.1 (icv p.2.2)))))) v i := by
  have hcomb : combineVal false (cs.map (·.2.1)) ≠ 0 := by rw [combineVal_recip]; exact one_div_ne_zero hsum
  rw [chain_of_thev kind s (fun p : Bool × K × Option K => (TT.C p.2.1 p.2.2).orient p.1)
    (fun p => 1 / (s * p.2.1)) (fun p => icTerm kind s (sgn p.1 (icv p.2.2))) cs
    (fun p hp => by
      have h := thev_C kind hk s p.2.1 (if p.1 then p.2.2 else p.2.2.map (fun x => -x)) hs (hc p hp)
      rw [orient_C]
      rw [icv_signed] at h; exact h),
    thev_C kind hk s _ _ hs hcomb v i, combineVal_recip]
  have e1 : sumK (cs.map (fun p => 1 / (s * p.2.1))) = 1 / (s * (1 / sumK ((cs.map (·.2.1)).map (fun c => 1 / c)))) := by
    rw [List.map_map, Function.comp_def]
    have : ∀ p ∈ cs, 1 / (s * p.2.1) = (1 / p.2.1) / s := by intro p _; rw [div_div, mul_comm]
    rw [sumK_congr _ _ cs this, sumK_div_right]
    field_simp
  have e2 : sumK (cs.map (fun p => icTerm kind s (sgn p.1 (icv p.2.2)))) =
      icTerm kind s (icv (some (sumK (cs.map (fun p => sgn p.1 (icv p.2.2)))))) := by
    rcases hk with rfl | rfl
    · simp only [icTerm, sumK_map_zero]
    · simp only [icTerm, icv, sumK_div_right]
  rw [e1, e2]

/-! ### parallel groups -/

theorem parallel_group_R (kind : Kind) (s : K) (rs : List K) (_h : ∀ r ∈ rs, r ≠ 0)
    (_hs : sumK (rs.map (fun r => 1 / r)) ≠ 0) (v i : K) :
    groupRel kind s (rs.map TT.R) v i ↔ TT.rel kind s (.R (combineVal false rs)) v i := by
  rw [group_of_nort kind s TT.R (fun r => 1 / r) (fun _ => 0) rs (fun r _ => nort_R kind s r),
    nort_R kind s _ v i, combineVal_recip, sumK_map_zero, one_div_one_div]

theorem parallel_group_Z (kind : Kind) (s : K) (zs : List K) (_h : ∀ z ∈ zs, z ≠ 0)
    (_hs : sumK (zs.map (fun z => 1 / z)) ≠ 0) (v i : K) :
    groupRel kind s (zs.map TT.Z) v i ↔ TT.rel kind s (.Z (combineVal false zs)) v i := by
  rw [group_of_nort kind s TT.Z (fun r => 1 / r) (fun _ => 0) zs (fun r _ => nort_Z kind s r),
    nort_Z kind s _ v i, combineVal_recip, sumK_map_zero, one_div_one_div]

theorem parallel_group_Y (kind : Kind) (s : K) (ys : List K) (v i : K) :
    groupRel kind s (ys.map TT.Y) v i ↔ TT.rel kind s (.Y (combineVal true ys)) v i := by
  rw [group_of_nort kind s TT.Y id (fun _ => 0) ys (fun r _ => nort_Y kind s r),
    nort_Y kind s _ v i, combineVal_add, sumK_map_zero, List.map_id]

/-- parallel current sources add WITH their polarity -/
theorem parallel_group_I (kind : Kind) (s : K) (js : List (Bool × K)) (v i : K) :
    groupRel kind s (js.map (fun p => (TT.I p.2).orient p.1)) v i ↔
      TT.rel kind s (.I (combineSrc js)) v i := by
  rw [combineSrc_eq, group_of_nort kind s (fun p : Bool × K => (TT.I p.2).orient p.1) (fun _ => 0) (fun p => -sgn p.1 p.2) js
    (fun p _ => by
      obtain ⟨σ, e⟩ := p
      cases σ <;> simp only [TT.orient, TT.flip, sgn, if_true, if_false, Bool.false_eq_true] <;> exact nort_I kind s _),
    nort_I kind s _ v i, sumK_map_zero, sumK_neg]

/-- parallel capacitors: the members share one voltage, so their (signed) initial voltages must
    all be that voltage `V0`, and the combined capacitor carries `V0` — not the sum. -/
theorem parallel_group_C (kind : Kind) (s : K) (cs : List (Bool × K × Option K)) (V0 : K)
    (hV : ∀ p ∈ cs, sgn p.1 (icv p.2.2) = V0) (v i : K) :
    groupRel kind s (cs.map (fun p => (TT.C p.2.1 p.2.2).orient p.1)) v i ↔
      TT.rel kind s (.C (combineVal true (cs.map (·.2.1))) (some V0)) v i :=
  (group_chain_dual kind s _ _ (fun p => rel_orient_C_dual kind s p.1 p.2.1 p.2.2) cs v i).trans
    ((series_chain_L kind s cs V0 hV i v).trans (rel_C_dual kind s _ _ v i).symm)

/-- parallel inductors (Laplace analysis): reciprocal values add, signed initial currents add -/
theorem parallel_group_L (kind : Kind) (hk : kind = .lap ∨ kind = .ivp) (s : K) (hs : s ≠ 0)
    (ls : List (Bool × K × Option K)) (hl : ∀ p ∈ ls, p.2.1 ≠ 0)
    (hsum : sumK ((ls.map (·.2.1)).map (fun l => 1 / l)) ≠ 0) (v i : K) :
    groupRel kind s (ls.map (fun p => (TT.L p.2.1 p.2.2).orient p.1)) v i ↔
      TT.rel kind s (.L (combineVal false (ls.map (·.2.1))) (some (sumK (ls.map (fun p => sgn p.1 (icv p.2.2)))))) v i :=
  (group_chain_dual kind s _ _ (fun p v i => (rel_orient_C_dual kind s p.1 p.2.1 p.2.2 i v).symm) ls v i).trans
    ((series_chain_C kind hk s hs ls hl hsum i v).trans (rel_C_dual kind s _ _ i v))

/-! ### the combined value does not depend on the order in which the set is iterated -/

theorem combine_perm_invariant (add : Bool) {a b : List K} (h : a.Perm b) : combineVal add a = combineVal add b := by
  cases add
  · rw [combineVal_recip, combineVal_recip, sumK_perm (h.map _)]
  · rw [combineVal_add, combineVal_add, sumK_perm h]

/-- … and neither does the combined initial condition: the additive rule is a sum … -/
theorem combineIC_perm_invariant {a b : List (Bool × Option K)} (h : a.Perm b) (x y : Option K) :
    combineIC false x a = combineIC false y b := by
  have hall : a.all (fun p => p.2.isNone) = b.all (fun p => p.2.isNone) := by
    rw [Bool.eq_iff_iff]; simp only [List.all_eq_true]
    exact ⟨fun hh z hz => hh z (h.mem_iff.mpr hz), fun hh z hz => hh z (h.mem_iff.mp hz)⟩
  simp only [combineIC, hall, Bool.false_eq_true, if_false]
  split
  · rfl
  · rw [combineSrc_eq, combineSrc_eq, sumK_perm ((h.filterMap _).map _)]

/-- … and the shared rule returns the surviving element's own initial condition, which
    `checkIC` has verified to be common to all members (`checkIC_sound`) -/
theorem combineIC_shared (first : Option K) (l : List (Bool × Option K)) : combineIC true first l = first := rfl

/-- what `_check_ic` establishes: all members carry the same signed initial condition -/
theorem checkIC_sound [DecidableEq K] (ics : List (Bool × Option K)) (h : checkIC ics = true) :
    ∃ I0 : K, ∀ p ∈ ics, sgn p.1 (icv p.2) = I0 := by
  unfold checkIC at h
  split at h
  · rename_i hn
    refine ⟨0, fun p hp => ?_⟩
    have := List.all_eq_true.mp hn p hp
    cases hp2 : p.2 with
    | none => cases p.1 <;> simp [sgn, icv]
    | some v => simp [hp2] at this
  · split at h
    · rename_i _ hs
      -- every member has a value; the signed values are all equal to the first
      cases ics with
      | nil => exact ⟨0, fun p hp => by cases hp⟩
      | cons q t =>
        have hq := List.all_eq_true.mp hs q List.mem_cons_self
        obtain ⟨σq, oq⟩ := q
        cases oq with
        | none => simp at hq
        | some vq =>
          simp only [List.filterMap_cons, Option.map_some] at h
          refine ⟨sgn σq vq, fun p hp => ?_⟩
          rcases List.mem_cons.mp hp with rfl | hp'
          · simp [icv]
          · have hp2 := List.all_eq_true.mp hs p (List.mem_cons_of_mem _ hp')
            obtain ⟨σp, op⟩ := p
            cases op with
            | none => simp at hp2
            | some vp =>
              have hmem : (if σp then vp else -vp) ∈ t.filterMap (fun p => p.2.map (fun v => if p.1 then v else -v)) :=
                List.mem_filterMap.mpr ⟨(σp, some vp), hp', rfl⟩
              have := List.all_eq_true.mp h _ hmem
              simp only [decide_eq_true_eq] at this
              simpa [sgn, icv] using this
    · exact absurd h (by simp)

/-- the additive rule of the model is the signed sum used in `series_chain_C` / `parallel_group_L`
    (a member without an initial condition contributes zero) -/
theorem combineIC_additive (x : Option K) (l : List (Bool × Option K)) :
    icv (combineIC false x l) = sumK (l.map (fun p => sgn p.1 (icv p.2))) := by
  simp only [combineIC, Bool.false_eq_true, if_false]
  have hsum : ∀ l : List (Bool × Option K),
      combineSrc (l.filterMap (fun p => p.2.map (fun v => (p.1, v)))) = sumK (l.map (fun p => sgn p.1 (icv p.2))) := by
    intro l
    rw [combineSrc_eq]
    induction l with
    | nil => rfl
    | cons p t ih =>
      obtain ⟨σ, o⟩ := p
      cases o with
      | none =>
        have h0 : sgn σ (icv (none : Option K)) = 0 := by cases σ <;> simp [sgn, icv]
        simp only [List.filterMap_cons, Option.map_none, List.map_cons, sumK, h0, zero_add]
        exact ih
      | some v =>
        simp only [List.filterMap_cons, Option.map_some, List.map_cons, sumK]
        rw [ih]; rfl
  split
  · rename_i hn
    rw [← hsum]
    have : l.filterMap (fun p => p.2.map (fun v => (p.1, v))) = [] := by
      rw [List.filterMap_eq_nil_iff]
      intro p hp
      have := List.all_eq_true.mp hn p hp
      cases hp2 : p.2 with
      | none => rfl
      | some v => simp [hp2] at this
    simp [this, icv, combineSrc, sumVals]
  · simp only [icv, hsum]

/-- an element's relation depends on its initial condition only through its value (absent = 0) -/
theorem rel_ic_congr (kind : Kind) (s x : K) (a b : Option K) (h : icv a = icv b) (v i : K) :
    (TT.rel kind s (.L x a) v i ↔ TT.rel kind s (.L x b) v i) ∧
    (TT.rel kind s (.C x a) v i ↔ TT.rel kind s (.C x b) v i) := by
  constructor
  · cases kind <;> simp [TT.rel, h]
  · cases kind
    · simp [TT.rel, capCurrent]
    · simp [TT.rel, capCurrent]
    · simp only [TT.rel, capCurrent_ivp, h]
    · simp [TT.rel, capCurrent]

/-! ### the chain / group theorems with the value AND initial condition the code computes

  (`_do_simplify_combine`: value `combineVal`, initial condition `combineIC`, after `_check_ic` = `checkIC` for the
  shared cases; the surviving member is the one the signs are taken relative to, so its own sign is `true`) -/

/-- series inductors of ANY number, as the code combines them: the members agree (`checkIC`), the result carries the
    surviving member's initial current (`combineIC true`) -/
theorem series_chain_L_code [DecidableEq K] (kind : Kind) (s : K) (ls : List (Bool × K × Option K)) (first : Option K)
    (hck : checkIC (ls.map (fun p => (p.1, p.2.2))) = true)
    (hfirst : ∃ p ∈ ls, p.1 = true ∧ p.2.2 = first) (v i : K) :
    chainRel kind s (ls.map (fun p => (TT.L p.2.1 p.2.2).orient p.1)) v i ↔
      TT.rel kind s (.L (combineVal true (ls.map (·.2.1))) (combineIC true first (ls.map (fun p => (p.1, p.2.2))))) v i := by
  obtain ⟨I0, hI0⟩ := checkIC_sound _ hck
  have hI : ∀ p ∈ ls, sgn p.1 (icv p.2.2) = I0 := fun p hp => hI0 (p.1, p.2.2) (List.mem_map.mpr ⟨p, hp, rfl⟩)
  obtain ⟨p, hp, hp1, hp2⟩ := hfirst
  have hf : icv first = I0 := by have := hI p hp; rw [hp1, hp2] at this; simpa [sgn] using this
  rw [combineIC_shared, series_chain_L kind s ls I0 hI v i]
  exact (rel_ic_congr kind s _ (some I0) first (by rw [hf]; rfl) v i).1

/-- parallel capacitors of any number, as the code combines them -/
theorem parallel_group_C_code [DecidableEq K] (kind : Kind) (s : K) (cs : List (Bool × K × Option K)) (first : Option K)
    (hck : checkIC (cs.map (fun p => (p.1, p.2.2))) = true)
    (hfirst : ∃ p ∈ cs, p.1 = true ∧ p.2.2 = first) (v i : K) :
    groupRel kind s (cs.map (fun p => (TT.C p.2.1 p.2.2).orient p.1)) v i ↔
      TT.rel kind s (.C (combineVal true (cs.map (·.2.1))) (combineIC true first (cs.map (fun p => (p.1, p.2.2))))) v i :=
  (group_chain_dual kind s _ _ (fun p => rel_orient_C_dual kind s p.1 p.2.1 p.2.2) cs v i).trans
    ((series_chain_L_code kind s cs first hck hfirst i v).trans (rel_C_dual kind s _ _ v i).symm)

/-- series capacitors of any number, as the code combines them (`combineIC false`: the signed sum, absent = 0) -/
theorem series_chain_C_code (kind : Kind) (hk : kind = .lap ∨ kind = .ivp) (s : K) (hs : s ≠ 0)
    (cs : List (Bool × K × Option K)) (hc : ∀ p ∈ cs, p.2.1 ≠ 0)
    (hsum : sumK ((cs.map (·.2.1)).map (fun c => 1 / c)) ≠ 0) (x : Option K) (v i : K) :
    chainRel kind s (cs.map (fun p => (TT.C p.2.1 p.2.2).orient p.1)) v i ↔
      TT.rel kind s (.C (combineVal false (cs.map (·.2.1))) (combineIC false x (cs.map (fun p => (p.1, p.2.2))))) v i := by
  rw [series_chain_C kind hk s hs cs hc hsum v i]
  exact (rel_ic_congr kind s _ _ _ (by rw [combineIC_additive]; simp [icv, List.map_map, Function.comp_def]) v i).2

/-- parallel inductors of any number, as the code combines them -/
theorem parallel_group_L_code (kind : Kind) (hk : kind = .lap ∨ kind = .ivp) (s : K) (hs : s ≠ 0)
    (ls : List (Bool × K × Option K)) (hl : ∀ p ∈ ls, p.2.1 ≠ 0)
    (hsum : sumK ((ls.map (·.2.1)).map (fun l => 1 / l)) ≠ 0) (x : Option K) (v i : K) :
    groupRel kind s (ls.map (fun p => (TT.L p.2.1 p.2.2).orient p.1)) v i ↔
      TT.rel kind s (.L (combineVal false (ls.map (·.2.1))) (combineIC false x (ls.map (fun p => (p.1, p.2.2))))) v i :=
  (group_chain_dual kind s _ _ (fun p v i => (rel_orient_C_dual kind s p.1 p.2.1 p.2.2 i v).symm) ls v i).trans
    ((series_chain_C_code kind hk s hs ls hl hsum x i v).trans (rel_C_dual kind s _ _ i v))

/-! ### no other value would do -/

/-- two voltage sources describe the same relation iff their values are equal: the signed sum
    is the ONLY correct value of the combined source -/
theorem rule_V_unique (kind : Kind) (s a b : K) : (∀ v i, TT.rel kind s (.V a) v i ↔ TT.rel kind s (.V b) v i) ↔ a = b := by
  constructor
  · intro h; exact ((h a 0).mp rfl)
  · rintro rfl v i; rfl

/-- the rule agrees with the plain sum exactly when all members point the same way … -/
theorem combineSrc_same_orientation (vs : List (Bool × K)) (h : ∀ p ∈ vs, p.1 = true) :
    combineSrc vs = combineVal true (vs.map (·.2)) := by
  rw [combineVal_add, combineSrc_eq]
  apply sumK_congr
  intro p hp; simp [sgn, h p hp]

/-- … and the plain sum is wrong otherwise (finding F4: `V1 1 2 5`, `V2 3 2 3`, 8 instead of 2) -/
theorem plain_sum_wrong_for_opposite_sources :
    combineSrc [(true, (5 : ℚ)), (false, 3)] = 2 ∧ combineVal true [(5 : ℚ), 3] = 8 := by
  norm_num [combineSrc, combineVal, sumVals]

/-- two inductors with initial currents describe the same relation (initial-value problem) iff
    `l·a = l·b`: the common current is the only correct one; the sum `n·I0` of the original code
    is right only when `l·(n−1)·I0 = 0` (finding F5) -/
theorem rule_L_ic_unique (s l a b : K) :
    (∀ v i, TT.rel .ivp s (.L l (some a)) v i ↔ TT.rel .ivp s (.L l (some b)) v i) ↔ l * a = l * b := by
  simp only [TT.rel, icv]
  constructor
  · intro h
    have := (h (s * l * 0 - l * a) 0).mp rfl
    linear_combination -this
  · intro h v i; rw [h]

theorem plain_sum_wrong_for_series_L_ic :
    ¬ (∀ v i : ℚ, TT.rel Kind.ivp (1 : ℚ) (.L (2 + 4) (some (3 + 3))) v i ↔ TT.rel Kind.ivp 1 (.L (2 + 4) (some 3)) v i) := by
  rw [rule_L_ic_unique]; norm_num

/-! ### the ten two-element equivalences (instances of the chain / group theorems) -/

theorem series_R (kind : Kind) (s r1 r2 : K) (h1 : r1 ≠ 0) (h2 : r2 ≠ 0) (h : r1 + r2 ≠ 0) (v i : K) :
    chainRel kind s [.R r1, .R r2] v i ↔ TT.rel kind s (.R (combineVal true [r1, r2])) v i :=
  series_chain_R kind s [r1, r2] (by simp [h1, h2]) (by simpa [combineVal, sumVals] using h) v i

theorem series_Z (kind : Kind) (s z1 z2 : K) (h1 : z1 ≠ 0) (h2 : z2 ≠ 0) (h : z1 + z2 ≠ 0) (v i : K) :
    chainRel kind s [.Z z1, .Z z2] v i ↔ TT.rel kind s (.Z (combineVal true [z1, z2])) v i :=
  series_chain_Z kind s [z1, z2] (by simp [h1, h2]) (by simpa [combineVal, sumVals] using h) v i

/-- series voltage sources, either orientation of the second one: same direction adds, opposite subtracts -/
theorem series_V (kind : Kind) (s e1 e2 : K) (same : Bool) (v i : K) :
    chainRel kind s [.V e1, (TT.V e2).orient same] v i ↔ TT.rel kind s (.V (e1 + sgn same e2)) v i := by
  have := series_chain_V kind s [(true, e1), (same, e2)] v i
  simpa [TT.orient, sgn, sumK, combineSrc_eq] using this

/-- series inductors with initial currents: equal (signed) currents required, and kept -/
theorem series_L (kind : Kind) (s l1 l2 : K) (i1 i2 : Option K) (same : Bool) (I0 : K)
    (h1 : icv i1 = I0) (h2 : sgn same (icv i2) = I0) (v i : K) :
    chainRel kind s [.L l1 i1, (TT.L l2 i2).orient same] v i ↔ TT.rel kind s (.L (combineVal true [l1, l2]) (some I0)) v i := by
  have := series_chain_L kind s [(true, l1, i1), (same, l2, i2)] I0
    (by intro p hp; simp only [List.mem_cons, List.mem_nil_iff, or_false] at hp; rcases hp with rfl | rfl; exact (by simpa [sgn] using h1); exact h2) v i
  simpa [TT.orient] using this

/-- series capacitors: initial voltages add (with the sign of the orientation) -/
theorem series_C (kind : Kind) (hk : kind = .lap ∨ kind = .ivp) (s c1 c2 : K) (v1 v2 : Option K) (same : Bool)
    (hs : s ≠ 0) (h1 : c1 ≠ 0) (h2 : c2 ≠ 0) (h : 1 / c1 + 1 / c2 ≠ 0) (v i : K) :
    chainRel kind s [.C c1 v1, (TT.C c2 v2).orient same] v i ↔
      TT.rel kind s (.C (combineVal false [c1, c2]) (some (icv v1 + sgn same (icv v2)))) v i := by
  have := series_chain_C kind hk s hs [(true, c1, v1), (same, c2, v2)] (by simp [h1, h2])
    (by simpa [sumK] using h) v i
  simpa [TT.orient, sgn, sumK] using this

theorem parallel_R (kind : Kind) (s r1 r2 : K) (h1 : r1 ≠ 0) (h2 : r2 ≠ 0) (h : 1 / r1 + 1 / r2 ≠ 0) (v i : K) :
    groupRel kind s [.R r1, .R r2] v i ↔ TT.rel kind s (.R (combineVal false [r1, r2])) v i :=
  parallel_group_R kind s [r1, r2] (by simp [h1, h2]) (by simpa [sumK] using h) v i

theorem parallel_Y (kind : Kind) (s y1 y2 : K) (v i : K) :
    groupRel kind s [.Y y1, .Y y2] v i ↔ TT.rel kind s (.Y (combineVal true [y1, y2])) v i :=
  parallel_group_Y kind s [y1, y2] v i

/-- parallel current sources, either orientation of the second one -/
theorem parallel_I (kind : Kind) (s j1 j2 : K) (same : Bool) (v i : K) :
    groupRel kind s [.I j1, (TT.I j2).orient same] v i ↔ TT.rel kind s (.I (j1 + sgn same j2)) v i := by
  have := parallel_group_I kind s [(true, j1), (same, j2)] v i
  simpa [TT.orient, sgn, sumK, combineSrc_eq] using this

/-- parallel capacitors with initial voltages: equal (signed) voltages required, and kept -/
theorem parallel_C (kind : Kind) (s c1 c2 : K) (v1 v2 : Option K) (same : Bool) (V0 : K)
    (h1 : icv v1 = V0) (h2 : sgn same (icv v2) = V0) (v i : K) :
    groupRel kind s [.C c1 v1, (TT.C c2 v2).orient same] v i ↔ TT.rel kind s (.C (combineVal true [c1, c2]) (some V0)) v i := by
  have := parallel_group_C kind s [(true, c1, v1), (same, c2, v2)] V0
    (by intro p hp; simp only [List.mem_cons, List.mem_nil_iff, or_false] at hp; rcases hp with rfl | rfl; exact (by simpa [sgn] using h1); exact h2) v i
  simpa [TT.orient] using this

/-- parallel inductors: initial currents add (with the sign of the orientation) -/
theorem parallel_L (kind : Kind) (hk : kind = .lap ∨ kind = .ivp) (s l1 l2 : K) (i1 i2 : Option K) (same : Bool)
    (hs : s ≠ 0) (h1 : l1 ≠ 0) (h2 : l2 ≠ 0) (h : 1 / l1 + 1 / l2 ≠ 0) (v i : K) :
    groupRel kind s [.L l1 i1, (TT.L l2 i2).orient same] v i ↔
      TT.rel kind s (.L (combineVal false [l1, l2]) (some (icv i1 + sgn same (icv i2)))) v i := by
  have := parallel_group_L kind hk s hs [(true, l1, i1), (same, l2, i2)] (by simp [h1, h2])
    (by simpa [sumK] using h) v i
  simpa [TT.orient, sgn, sumK] using this

/-- an absent initial condition is a zero one in an initial-value problem -/
theorem ic_none_is_zero (kind : Kind) (s l c : K) (v i : K) :
    (TT.rel kind s (.L l none) v i ↔ TT.rel kind s (.L l (some 0)) v i) ∧
    (TT.rel kind s (.C c none) v i ↔ TT.rel kind s (.C c (some 0)) v i) :=
  ⟨(rel_ic_congr kind s l none (some 0) rfl v i).1, (rel_ic_congr kind s c none (some 0) rfl v i).2⟩

/-- non-vacuity: `R1 1 2 1`, `R2 2 0 2` in series admit v = 6, i = 2, as does `Rt1 … 3` -/
example : chainRel Kind.dc (0 : ℚ) [.R 1, .R 2] 6 2 ∧ TT.rel Kind.dc (0 : ℚ) (.R (combineVal true [1, 2])) 6 2 := by
  refine ⟨⟨2, 4, by norm_num, by norm_num [TT.rel], 4, 0, by norm_num, by norm_num [TT.rel], rfl⟩, ?_⟩
  norm_num [TT.rel, combineVal, sumVals]

/-! ## Part 2 — circuit level -/

/-- everything is retained except the listed unknowns -/
def AllBut (hidden : List Ix) : Ix → Prop := fun i => i ∉ hidden

theorem series_pair (kind : Kind) (s : K) (e1 e2 e : TT K) (a b c m1 m2 m : Nat)
    (hb0 : b ≠ 0) (hba : b ≠ a) (hbc : b ≠ c)
    (hser : ∀ v i, TT.rel kind s e v i ↔ chainRel kind s [e1, e2] v i) :
    SamePortRelation kind s (AllBut [node b, br m1, br m2, br m])
      [e1.toCpt a b m1, e2.toCpt b c m2] [e.toCpt a c m] := by
  constructor
  · intro x hl hk
    rw [lawsOf_cons, lawsOf_toCpt, lawsOf_toCpt] at hl
    obtain ⟨h1, h2⟩ := hl
    have hkb := hk b hb0 (by simp [AllBut])
    simp only [kclAt_cons, kclAt_nil, outflow_toCpt, twoTerm, hba.symm, hbc.symm, if_true, if_false, add_zero] at hkb
    have hi : e2.cur kind s b c m2 x = e1.cur kind s a b m1 x := by linear_combination hkb
    rw [hi] at h2
    have hrel : TT.rel kind s e (vd x a c) (e1.cur kind s a b m1 x) := by
      rw [hser, chainRel_pair]
      exact ⟨_, _, (vd_add x a b c).symm, h1, h2⟩
    let i := e1.cur kind s a b m1 x
    obtain ⟨hlaw, hcur⟩ := toCpt_update_br kind s e a c m x i hrel
    refine ⟨Function.update x (br m) i, update_of_not_mem (by simp) x i, hlaw, ?_, ?_⟩
    · intro k hk0 hR
      have hkb' : k = b := by simpa [AllBut] using hR
      subst hkb'
      simp only [kclAt_cons, kclAt_nil, outflow_toCpt, twoTerm, hba.symm, hbc.symm, if_false, add_zero, sub_zero]
    · intro k hk0 hR
      have hkb' : k ≠ b := by intro h; subst h; simp [AllBut] at hR
      simp only [kclAt_cons, kclAt_nil, outflow_toCpt, add_zero, hcur, hi]
      exact (twoTerm_series a b c k i hkb').symm
  · intro y hl hk
    rw [lawsOf_toCpt] at hl
    rw [hser, chainRel_pair] at hl
    obtain ⟨v1, v2, hv, h1, h2⟩ := hl
    let i := e.cur kind s a c m y
    let x : Ix → K := fun j => if j = node b then volt y c + v2 else if j = br m1 then i else if j = br m2 then i else y j
    have hxb : volt x b = volt y c + v2 := by rw [volt_nonzero x b hb0]; simp [x]
    have hxo : ∀ n, n ≠ b → volt x n = volt y n := by
      intro n hn
      apply volt_of_nodes_eq
      intro _
      have : (node n : Ix) ≠ node b := by intro h; exact hn (Ix.node.inj h)
      simp [x, this]
    have hvd1 : vd x a b = v1 := by
      simp only [vd, hxb, hxo a hba.symm]
      have : vd y a c = v1 + v2 := hv
      simp only [vd] at this
      linear_combination this
    have hvd2 : vd x b c = v2 := by
      simp only [vd, hxb, hxo c hbc.symm]; ring
    have hc1 := cur_of_rel kind s e1 a b m1 x v1 i hvd1 (by simp [x]) h1
    have hc2 := cur_of_rel kind s e2 b c m2 x v2 i hvd2 (by
      by_cases h : m2 = m1 <;> simp [x, h]) h2
    refine ⟨x, ?_, ?_, ?_, ?_⟩
    · intro j hj
      simp only [AllBut, List.mem_cons, List.mem_nil_iff, or_false, not_or] at hj
      simp [x, hj.1, hj.2.1, hj.2.2.1]
    · rw [lawsOf_cons, lawsOf_toCpt, lawsOf_toCpt, hc1, hc2, hvd1, hvd2]
      exact ⟨h1, h2⟩
    · intro k hk0 hR
      have hkb' : k = b := by simpa [AllBut] using hR
      subst hkb'
      simp only [kclAt_cons, kclAt_nil, outflow_toCpt, twoTerm, hba.symm, hbc.symm, if_true, if_false, add_zero, hc1, hc2]
      ring
    · intro k hk0 hR
      have hkb' : k ≠ b := by intro h; subst h; simp [AllBut] at hR
      simp only [kclAt_cons, kclAt_nil, outflow_toCpt, add_zero, hc1, hc2]
      exact twoTerm_series a b c k i hkb'


/-- the same pair in parallel -/
theorem parallel_pair (kind : Kind) (s : K) (e1 e2 e : TT K) (a b m1 m2 m : Nat) (hm : m1 ≠ m2)
    (hpar : ∀ v i, TT.rel kind s e v i ↔ groupRel kind s [e1, e2] v i) :
    SamePortRelation kind s (AllBut [br m1, br m2, br m])
      [e1.toCpt a b m1, e2.toCpt a b m2] [e.toCpt a b m] := by
  constructor
  · intro x hl hk
    rw [lawsOf_cons, lawsOf_toCpt, lawsOf_toCpt] at hl
    obtain ⟨h1, h2⟩ := hl
    let i := e1.cur kind s a b m1 x + e2.cur kind s a b m2 x
    have hrel : TT.rel kind s e (vd x a b) i := by
      rw [hpar, groupRel_pair]; exact ⟨_, _, rfl, h1, h2⟩
    obtain ⟨hlaw, hcur⟩ := toCpt_update_br kind s e a b m x i hrel
    refine ⟨Function.update x (br m) i, update_of_not_mem (by simp) x i, hlaw, ?_, ?_⟩
    · intro k _ hR; exact absurd (by simp [AllBut]) hR
    · intro k _ _
      simp only [kclAt_cons, kclAt_nil, outflow_toCpt, add_zero, hcur]
      exact (twoTerm_add a b k _ _).symm
  · intro y hl hk
    rw [lawsOf_toCpt, hpar, groupRel_pair] at hl
    obtain ⟨i1, i2, hi, h1, h2⟩ := hl
    let x : Ix → K := fun j => if j = br m1 then i1 else if j = br m2 then i2 else y j
    have hvd : vd x a b = vd y a b := by
      simp only [vd]
      rw [volt_of_nodes_eq (y := x) (x := y) a (by simp [x]), volt_of_nodes_eq (y := x) (x := y) b (by simp [x])]
    have hc1 := cur_of_rel kind s e1 a b m1 x (vd y a b) i1 hvd (by simp [x]) h1
    have hc2 := cur_of_rel kind s e2 a b m2 x (vd y a b) i2 hvd (by simp [x, hm.symm]) h2
    refine ⟨x, ?_, ?_, ?_, ?_⟩
    · intro j hj
      simp only [AllBut, List.mem_cons, List.mem_nil_iff, or_false, not_or] at hj
      simp [x, hj.1, hj.2.1]
    · rw [lawsOf_cons, lawsOf_toCpt, lawsOf_toCpt, hc1, hc2, hvd]; exact ⟨h1, h2⟩
    · intro k _ hR; exact absurd (by simp [AllBut]) hR
    · intro k _ _
      simp only [kclAt_cons, kclAt_nil, outflow_toCpt, add_zero, hc1, hc2, hi]
      exact twoTerm_add a b k _ _

/-- a component connected the other way round is the flipped element (polarity and initial
    condition negated) connected the straight way: same port relation -/
theorem reversed (kind : Kind) (s : K) (e : TT K) (a b m : Nat) :
    Simulates kind s (AllBut [br m]) [e.toCpt b a m] [e.flip.toCpt a b m] := by
  intro x hl hk
  rw [lawsOf_toCpt] at hl
  let i := e.cur kind s b a m x
  have hrel : TT.rel kind s e.flip (vd x a b) (-i) := by rw [rel_flip, vd_swap x a b, neg_neg, neg_neg]; exact hl
  obtain ⟨hlaw, hcur⟩ := toCpt_update_br kind s e.flip a b m x (-i) hrel
  refine ⟨_, update_of_not_mem (by simp) x _, hlaw, fun k _ hR => absurd (by simp [AllBut]) hR, fun k _ _ => ?_⟩
  simp only [kclAt_cons, kclAt_nil, outflow_toCpt, add_zero, hcur]
  rw [twoTerm_swap]

/-- **subcircuit_congruence**: if `sub₂` has the port relation of `sub₁` on the retained unknowns
    and the rest of the circuit only reads retained unknowns, every solution of the circuit
    containing `sub₁` yields a solution of the circuit containing `sub₂` with the same value at
    every retained node and branch. -/
theorem subcircuit_congruence (kind : Kind) (s : K) (R : Ix → Prop) (sub₁ sub₂ rest : List (Cpt K))
    (hsim : Simulates kind s R sub₁ sub₂) (hrest : SupportedIn R rest) (x : Ix → K)
    (h : Laws kind s (sub₁ ++ rest) x) : ∃ y, (∀ i, R i → y i = x i) ∧ Laws kind s (sub₂ ++ rest) y := by
  have hctx := Simulates.context hsim [] rest (by intro c hc; cases hc) hrest
  simp only [List.nil_append] at hctx
  rw [Laws_iff] at h
  obtain ⟨y, hy, hly, hky, hry⟩ := hctx x h.2 (fun k hk0 _ => h.1 k hk0)
  refine ⟨y, hy, ?_⟩
  rw [Laws_iff]
  refine ⟨fun k hk0 => ?_, hly⟩
  by_cases hR : R (node k)
  · rw [hry k hk0 hR]; exact h.1 k hk0
  · exact hky k hk0 hR

/-- **rewrite_preserves_retained** (the property itself): when the rewritten circuit is well
    formed and non-singular, ITS solution — whatever solver produced it — has the same voltage
    at every retained node and the same current in every retained branch as the solution of the
    original circuit. -/
theorem rewrite_preserves_retained (kind : Kind) (s : K) (R : Ix → Prop) (sub₁ sub₂ rest : List (Cpt K))
    (hsim : Simulates kind s R sub₁ sub₂) (hrest : SupportedIn R rest)
    (hwf : C01.WF (sub₂ ++ rest)) (hns : C01.Nonsingular kind s (sub₂ ++ rest))
    (x y : Ix → K) (hx : Laws kind s (sub₁ ++ rest) x) (hy : Laws kind s (sub₂ ++ rest) y) :
    ∀ i, R i → C01.Unknown kind s (sub₂ ++ rest) i → y i = x i := by
  obtain ⟨y', hy', hl'⟩ := subcircuit_congruence kind s R sub₁ sub₂ rest hsim hrest x hx
  intro i hi hi0
  rw [C01.laws_unique kind s _ y y' hwf hns hy hl' i hi0]
  exact hy' i hi

/-- **dangling_sound**: a two-terminal element hanging from node `a` with its other node `b`
    connected to nothing else carries no current, and removing it (together with its node and its
    branch unknown) changes nothing for the rest; conversely it can be re-attached whenever the
    element admits zero current at some voltage (every R, L, C, Z, Y and V does; a current source
    with non-zero value does not — such a circuit has no solution at all). -/
theorem dangling_sound (kind : Kind) (s : K) (e : TT K) (a b m : Nat) (hb0 : b ≠ 0) (hba : b ≠ a) :
    (∀ x, kclAt kind s [e.toCpt a b m] x b = 0 → e.cur kind s a b m x = 0) ∧
    Simulates kind s (AllBut [node b, br m]) [e.toCpt a b m] [] ∧
    ((∃ v, TT.rel kind s e v 0) → Simulates kind s (AllBut [node b, br m]) [] [e.toCpt a b m]) := by
  have hcur0 : ∀ x, kclAt kind s [e.toCpt a b m] x b = 0 → e.cur kind s a b m x = 0 := by
    intro x hk
    simp only [kclAt_cons, kclAt_nil, outflow_toCpt, twoTerm, hba.symm, if_true, if_false, add_zero] at hk
    linear_combination -hk
  refine ⟨hcur0, ?_, ?_⟩
  · intro x _ hk
    have h0 := hcur0 x (hk b hb0 (by simp [AllBut]))
    refine ⟨x, fun _ _ => rfl, by simp [lawsOf], fun _ _ _ => rfl, ?_⟩
    intro k _ _
    simp only [kclAt_cons, kclAt_nil, outflow_toCpt, h0, add_zero, twoTerm]; simp
  · rintro ⟨v, hv⟩ y _ _
    let x : Ix → K := fun j => if j = node b then volt y a - v else if j = br m then 0 else y j
    have hxb : volt x b = volt y a - v := by rw [volt_nonzero x b hb0]; simp [x]
    have hxa : volt x a = volt y a := by
      apply volt_of_nodes_eq; intro _
      have : (node a : Ix) ≠ node b := by intro h; exact hba (Ix.node.inj h).symm
      simp [x, this]
    have hvd : vd x a b = v := by simp only [vd, hxb, hxa]; ring
    have hc := cur_of_rel kind s e a b m x v 0 hvd (by simp [x]) hv
    refine ⟨x, ?_, ?_, ?_, ?_⟩
    · intro j hj
      simp only [AllBut, List.mem_cons, List.mem_nil_iff, or_false, not_or] at hj
      simp [x, hj.1, hj.2]
    · rw [lawsOf_toCpt, hc, hvd]; exact hv
    · intro k _ _
      simp only [kclAt_cons, kclAt_nil, outflow_toCpt, hc, add_zero, twoTerm]; simp
    · intro k _ _
      simp only [kclAt_cons, kclAt_nil, outflow_toCpt, hc, add_zero, twoTerm]; simp

/-! ### node renaming -/

/-- **rename_invariant**: `Laws` is invariant under an injective renaming of the nodes that keeps
    ground: the renamed netlist is solved by `x` iff the original is solved by `x` read through
    the renaming. -/
theorem rename_invariant (kind : Kind) (s : K) (ρ : Nat → Nat) (hinj : Function.Injective ρ) (h0 : ρ 0 = 0)
    (cs : List (Cpt K)) (x : Ix → K) :
    Laws kind s (cs.map (Cpt.mapNodes ρ)) x ↔ Laws kind s cs (pullback ρ x) := by
  have hne : ∀ k, k ≠ 0 → ρ k ≠ 0 := fun k hk h => hk (hinj (h.trans h0.symm))
  have hvolt : ∀ n, volt x (ρ n) = volt (pullback ρ x) n := by
    intro n
    cases n with
    | zero => rw [h0]; rfl
    | succ k => rw [volt_nonzero x _ (hne _ (Nat.succ_ne_zero k))]; rfl
  have ht : ∀ a b k (i : K), twoTerm (ρ a) (ρ b) (ρ k) i = twoTerm a b k i := fun a b k i => by
    simp only [twoTerm, hinj.eq_iff]
  have ht0 : ∀ a k (i : K), twoTerm (ρ a) 0 (ρ k) i = twoTerm a 0 k i := fun a k i => by
    have := ht a 0 k i; rwa [h0] at this
  have hb : ∀ m, x (br m) = pullback ρ x (br m) := fun _ => rfl
  have hout : ∀ c : Cpt K, ∀ k, outflow kind s x (ρ k) (c.mapNodes ρ) = outflow kind s (pullback ρ x) k c := by
    intro c k
    cases c <;> simp only [Cpt.mapNodes, outflow, vd, hvolt, ht, ht0, hb]
  have houtside : ∀ c : Cpt K, ∀ k', (∀ n, ρ n ≠ k') → outflow kind s x k' (c.mapNodes ρ) = 0 := by
    intro c k' hk'
    have t : ∀ a b (i : K), twoTerm (ρ a) (ρ b) k' i = 0 := fun a b i => twoTerm_of_ne _ _ _ i (hk' a) (hk' b)
    have t0 : ∀ a (i : K), twoTerm (ρ a) 0 k' i = 0 := fun a i => twoTerm_of_ne _ _ _ i (hk' a) (h0 ▸ hk' 0)
    cases c <;> simp only [Cpt.mapNodes, outflow, t, t0, add_zero]
  have hlaws : ∀ c : Cpt K, laws kind s x (c.mapNodes ρ) = laws kind s (pullback ρ x) c := by
    intro c
    cases c with
    | Ind n1 n2 m l i0 coup => cases kind <;> simp only [Cpt.mapNodes, laws, vd, hvolt, hb] <;> rfl
    | _ => simp only [Cpt.mapNodes, laws, vd, hvolt, hb]
  have hsum : ∀ k, lsum ((cs.map (Cpt.mapNodes ρ)).map (outflow kind s x (ρ k))) =
      lsum (cs.map (outflow kind s (pullback ρ x) k)) := by
    intro k
    rw [List.map_map]
    congr 1
    apply List.map_congr_left
    intro c _
    exact hout c k
  constructor
  · rintro ⟨hk, hl⟩
    refine ⟨fun k hk0 => ?_, ?_⟩
    · rw [← hsum k]; exact hk (ρ k) (hne k hk0)
    · intro c hc p hp
      rw [← hlaws c] at hp
      exact hl _ (List.mem_map.mpr ⟨c, hc, rfl⟩) p hp
  · rintro ⟨hk, hl⟩
    refine ⟨fun k' hk0 => ?_, ?_⟩
    · by_cases hex : ∃ k, ρ k = k'
      · obtain ⟨k, rfl⟩ := hex
        rw [hsum k]
        exact hk k (fun h => hk0 (by rw [h, h0]))
      · have hno : ∀ n, ρ n ≠ k' := fun n hn => hex ⟨n, hn⟩
        have : ∀ l : List (Cpt K), lsum ((l.map (Cpt.mapNodes ρ)).map (outflow kind s x k')) = 0 := by
          intro l
          induction l with
          | nil => rfl
          | cons c t ih => simp only [List.map_cons, lsum, houtside c k' hno, ih, add_zero]
        exact this cs
    · intro c' hc' p hp
      obtain ⟨c, hc, rfl⟩ := List.mem_map.mp hc'
      rw [hlaws c] at hp
      exact hl c hc p hp

/-- non-vacuity of `series_pair` + `subcircuit_congruence`: `V1 1 0 6; R1 1 2 1; R2 2 0 2`
    ↦ `V1 1 0 6; Rt1 1 0 3` keeps V(1) = 6 and the source current −2 -/
example : ∃ y : Ix → ℚ, y (node 1) = 6 ∧ y (br 0) = -2 ∧
    Laws Kind.dc 0 ([(TT.R 3).toCpt 1 0 9] ++ [Cpt.V 1 0 0 6]) y := by
  have hsp := (series_pair Kind.dc (0 : ℚ) (.R 1) (.R 2) (.R 3) 1 2 0 7 8 9 (by decide) (by decide) (by decide)
    (fun v i => by
      have := series_R Kind.dc (0 : ℚ) 1 2 (by norm_num) (by norm_num) (by norm_num) v i
      rw [this]; norm_num [combineVal, sumVals])).1
  have hx : Laws Kind.dc (0 : ℚ) ([(TT.R 1).toCpt 1 2 7, (TT.R 2).toCpt 2 0 8] ++ [Cpt.V 1 0 0 6])
      (fun i => match i with | node 1 => 6 | node 2 => 4 | br 0 => -2 | _ => 0) :=
    laws_of_range 3 (by decide) (by decide +kernel) (by decide +kernel)
  obtain ⟨y, hy, hl⟩ := subcircuit_congruence Kind.dc (0 : ℚ) _ _ _ [Cpt.V 1 0 0 6] hsp
    (by intro c hc i hi; simp at hc; subst hc; simp [mentions] at hi; rcases hi with rfl | rfl | rfl <;> simp [AllBut]) _ hx
  exact ⟨y, (hy (node 1) (by simp [AllBut])).trans rfl, (hy (br 0) (by simp [AllBut])).trans rfl, hl⟩

end Lcapy.C05
