/-
  PROPERTY C08 -- two-port parameter sets are mutually consistent and match their port
  definitions.  The property theorems, the side conditions they are stated under and
  non-vacuity examples; the lemmas about `lin` and the combinators of `SoundConv` / `DerivedSound`
  are in Lcapy/Proofs/TwoPortBase.lean.

  Every definition named `X_to_P`, `X_<attr>`, `X_chain`, `X_<section>` is GENERATED from
  /repo/lcapy/twoport.py on every run (Lcapy/Generated/TwoPort.lean), so these theorems are
  re-checked against what the code says now.

  Side conditions `ok_X_P` are the pivots that must be non-zero for the target representation
  (and, for delegated routes, each intermediate representation) to exist.
-/
import Lcapy.Proofs.TwoPortBase
import Mathlib.Tactic.NormNum
namespace Lcapy.C08
open Lcapy Lcapy.Spec Lcapy.Gen Lcapy.TwoPort
variable {K : Type} [Field K]
set_option linter.unusedVariables false

/-! ## 0. The code's `equation()` methods spell the relations the spec uses -/
theorem equations_match : Gen.equations = Spec.equationNames := by decide

/-! ## 1. Conversions: all 64 ordered pairs -/

/-- `Matrix.inv` converts between the members of each inverse pair (A,B), (G,H), (Y,Z). -/
theorem inv_pair (Q P : Rep)
    (hQP : (Q, P) ∈ [(Rep.A, Rep.B), (.B, .A), (.G, .H), (.H, .G), (.Y, .Z), (.Z, .Y)])
    (m : M2 K) (Z0 : K) (p : Port K) (h : m.det ≠ 0) :
    rel Q m Z0 p ↔ rel P (M2.inv m) Z0 p := by
  simp only [List.mem_cons, Prod.mk.injEq, List.mem_nil_iff, or_false] at hQP
  rcases hQP with ⟨rfl, rfl⟩ | ⟨rfl, rfl⟩ | ⟨rfl, rfl⟩ | ⟨rfl, rfl⟩ | ⟨rfl, rfl⟩ | ⟨rfl, rfl⟩ <;>
    exact lin_inv m h _ _ _ _

theorem SoundConv.thenInv {X Q P : Rep} {f h : M2 K → K → M2 K} {ok1 : M2 K → K → Prop}
    (hQP : (Q, P) ∈ [(Rep.A, Rep.B), (.B, .A), (.G, .H), (.H, .G), (.Y, .Z), (.Z, .Y)])
    (h1 : SoundConv X Q h ok1) (hf : ∀ m Z0, f m Z0 = M2.inv (h m Z0) := by exact fun _ _ => rfl) :
    SoundConv X P f (fun m Z0 => ok1 m Z0 ∧ (h m Z0).det ≠ 0) := by
  intro m Z0 p ⟨o1, o2⟩
  rw [hf, h1 m Z0 p o1, inv_pair Q P hQP (h m Z0) Z0 p o2]

def ok_A_A (m : M2 K) (Z0 : K) : Prop := True
theorem A_to_A_sound : SoundConv .A .A (A_to_A (K := K)) ok_A_A :=
  SoundConv.id _

def ok_A_B (m : M2 K) (Z0 : K) : Prop := m.det ≠ 0
theorem A_to_B_sound : SoundConv .A .B (A_to_B (K := K)) ok_A_B :=
  fun m Z0 p h => inv_pair _ _ (by decide) m Z0 p h

def ok_A_H (m : M2 K) (Z0 : K) : Prop := m.a22 ≠ 0
theorem A_to_H_sound : SoundConv .A .H (A_to_H (K := K)) ok_A_H := by
  intro m Z0 p h
  obtain ⟨V1, I1, V2, I2⟩ := p
  simp only [ok_A_H] at h
  simp only [rel, lin, A_to_H, M2.det]
  tp_both

def ok_A_G (m : M2 K) (Z0 : K) : Prop := ok_A_H m Z0 ∧ (A_to_H m Z0).det ≠ 0
theorem A_to_G_sound : SoundConv .A .G (A_to_G (K := K)) ok_A_G :=
  SoundConv.thenInv (by decide) A_to_H_sound

def ok_A_S (m : M2 K) (Z0 : K) : Prop := m.a12 + Z0 * (m.a11 + m.a22) + Z0 * Z0 * m.a21 ≠ 0 ∧ Z0 ≠ 0 ∧ (2 : K) ≠ 0
theorem A_to_S_sound : SoundConv .A .S (A_to_S (K := K)) ok_A_S := by
  intro m Z0 p ⟨h, hz, h2⟩
  obtain ⟨V1, I1, V2, I2⟩ := p
  obtain ⟨d, hd⟩ : ∃ d, d = m.a12 + Z0 * (m.a11 + m.a22) + Z0 * Z0 * m.a21 := ⟨_, rfl⟩
  rw [← hd] at h
  simp only [rel, lin, A_to_S, wa1, wa2, wb1, wb2, ← hd]
  constructor
  · rintro ⟨rfl, rfl⟩
    constructor <;> (field_simp; rw [hd]; ring)
  · rintro ⟨h1, h2⟩
    field_simp at h1 h2
    constructor <;> grind

def ok_S_T (m : M2 K) (Z0 : K) : Prop := m.a21 ≠ 0
theorem S_to_T_sound : SoundConv .S .T (S_to_T (K := K)) ok_S_T := by
  intro m Z0 p h
  simp only [rel]
  generalize wa1 Z0 p = a1; generalize wa2 Z0 p = a2
  generalize wb1 Z0 p = b1; generalize wb2 Z0 p = b2
  simp only [ok_S_T] at h
  simp only [lin, S_to_T, M2.det]
  constructor <;> (rintro ⟨h1, h2⟩; constructor <;> (field_simp; grind))

def ok_A_T (m : M2 K) (Z0 : K) : Prop := ok_A_S m Z0 ∧ ok_S_T (A_to_S m Z0) Z0
theorem A_to_T_sound : SoundConv .A .T (A_to_T (K := K)) ok_A_T :=
  SoundConv.comp A_to_S_sound S_to_T_sound

def ok_A_Y (m : M2 K) (Z0 : K) : Prop := m.a12 ≠ 0
theorem A_to_Y_sound : SoundConv .A .Y (A_to_Y (K := K)) ok_A_Y := by
  intro m Z0 p h
  obtain ⟨V1, I1, V2, I2⟩ := p
  simp only [ok_A_Y] at h
  simp only [rel, lin, A_to_Y, M2.det]
  tp_both

def ok_A_Z (m : M2 K) (Z0 : K) : Prop := m.a21 ≠ 0
theorem A_to_Z_sound : SoundConv .A .Z (A_to_Z (K := K)) ok_A_Z := by
  intro m Z0 p h
  obtain ⟨V1, I1, V2, I2⟩ := p
  simp only [ok_A_Z] at h
  simp only [rel, lin, A_to_Z, M2.det]
  tp_both

def ok_B_A (m : M2 K) (Z0 : K) : Prop := m.det ≠ 0
theorem B_to_A_sound : SoundConv .B .A (B_to_A (K := K)) ok_B_A :=
  fun m Z0 p h => inv_pair _ _ (by decide) m Z0 p h

def ok_B_B (m : M2 K) (Z0 : K) : Prop := True
theorem B_to_B_sound : SoundConv .B .B (B_to_B (K := K)) ok_B_B :=
  SoundConv.id _

def ok_B_G (m : M2 K) (Z0 : K) : Prop := m.a22 ≠ 0
theorem B_to_G_sound : SoundConv .B .G (B_to_G (K := K)) ok_B_G := by
  intro m Z0 p h
  obtain ⟨V1, I1, V2, I2⟩ := p
  simp only [ok_B_G] at h
  simp only [rel, lin, B_to_G, M2.det]
  tp_both

def ok_B_H (m : M2 K) (Z0 : K) : Prop := m.a11 ≠ 0
theorem B_to_H_sound : SoundConv .B .H (B_to_H (K := K)) ok_B_H := by
  intro m Z0 p h
  obtain ⟨V1, I1, V2, I2⟩ := p
  simp only [ok_B_H] at h
  simp only [rel, lin, B_to_H]
  tp_both

def ok_B_S (m : M2 K) (Z0 : K) : Prop := ok_B_A m Z0 ∧ ok_A_S (B_to_A m Z0) Z0
theorem B_to_S_sound : SoundConv .B .S (B_to_S (K := K)) ok_B_S :=
  SoundConv.comp B_to_A_sound A_to_S_sound

def ok_B_T (m : M2 K) (Z0 : K) : Prop := ok_B_S m Z0 ∧ ok_S_T (B_to_S m Z0) Z0
theorem B_to_T_sound : SoundConv .B .T (B_to_T (K := K)) ok_B_T :=
  SoundConv.comp B_to_S_sound S_to_T_sound

def ok_B_Y (m : M2 K) (Z0 : K) : Prop := m.a12 ≠ 0
theorem B_to_Y_sound : SoundConv .B .Y (B_to_Y (K := K)) ok_B_Y := by
  intro m Z0 p h
  obtain ⟨V1, I1, V2, I2⟩ := p
  simp only [ok_B_Y] at h
  simp only [rel, lin, B_to_Y, M2.det]
  tp_both

def ok_B_Z (m : M2 K) (Z0 : K) : Prop := m.a21 ≠ 0
theorem B_to_Z_sound : SoundConv .B .Z (B_to_Z (K := K)) ok_B_Z := by
  intro m Z0 p h
  obtain ⟨V1, I1, V2, I2⟩ := p
  simp only [ok_B_Z] at h
  simp only [rel, lin, B_to_Z, M2.det]
  tp_both

def ok_G_A (m : M2 K) (Z0 : K) : Prop := m.a21 ≠ 0
theorem G_to_A_sound : SoundConv .G .A (G_to_A (K := K)) ok_G_A := by
  intro m Z0 p h
  obtain ⟨V1, I1, V2, I2⟩ := p
  simp only [ok_G_A] at h
  simp only [rel, lin, G_to_A, M2.det]
  tp_both

def ok_G_B (m : M2 K) (Z0 : K) : Prop := m.a12 ≠ 0
theorem G_to_B_sound : SoundConv .G .B (G_to_B (K := K)) ok_G_B := by
  intro m Z0 p h
  obtain ⟨V1, I1, V2, I2⟩ := p
  simp only [ok_G_B] at h
  simp only [rel, lin, G_to_B, M2.det]
  tp_both

def ok_G_G (m : M2 K) (Z0 : K) : Prop := True
theorem G_to_G_sound : SoundConv .G .G (G_to_G (K := K)) ok_G_G :=
  SoundConv.id _

def ok_G_H (m : M2 K) (Z0 : K) : Prop := m.det ≠ 0
theorem G_to_H_sound : SoundConv .G .H (G_to_H (K := K)) ok_G_H :=
  fun m Z0 p h => inv_pair _ _ (by decide) m Z0 p h

def ok_G_S (m : M2 K) (Z0 : K) : Prop := ok_G_A m Z0 ∧ ok_A_S (G_to_A m Z0) Z0
theorem G_to_S_sound : SoundConv .G .S (G_to_S (K := K)) ok_G_S :=
  SoundConv.comp G_to_A_sound A_to_S_sound

def ok_G_T (m : M2 K) (Z0 : K) : Prop := ok_G_S m Z0 ∧ ok_S_T (G_to_S m Z0) Z0
theorem G_to_T_sound : SoundConv .G .T (G_to_T (K := K)) ok_G_T :=
  SoundConv.comp G_to_S_sound S_to_T_sound

def ok_H_Y (m : M2 K) (Z0 : K) : Prop := m.a11 ≠ 0
theorem H_to_Y_sound : SoundConv .H .Y (H_to_Y (K := K)) ok_H_Y := by
  intro m Z0 p h
  obtain ⟨V1, I1, V2, I2⟩ := p
  simp only [ok_H_Y] at h
  simp only [rel, lin, H_to_Y, M2.det]
  tp_both

def ok_G_Y (m : M2 K) (Z0 : K) : Prop := ok_G_H m Z0 ∧ ok_H_Y (G_to_H m Z0) Z0
theorem G_to_Y_sound : SoundConv .G .Y (G_to_Y (K := K)) ok_G_Y :=
  SoundConv.comp G_to_H_sound H_to_Y_sound

def ok_H_Z (m : M2 K) (Z0 : K) : Prop := m.a22 ≠ 0
theorem H_to_Z_sound : SoundConv .H .Z (H_to_Z (K := K)) ok_H_Z := by
  intro m Z0 p h
  obtain ⟨V1, I1, V2, I2⟩ := p
  simp only [ok_H_Z] at h
  simp only [rel, lin, H_to_Z, M2.det]
  tp_both

def ok_G_Z (m : M2 K) (Z0 : K) : Prop := ok_G_H m Z0 ∧ ok_H_Z (G_to_H m Z0) Z0
theorem G_to_Z_sound : SoundConv .G .Z (G_to_Z (K := K)) ok_G_Z :=
  SoundConv.comp G_to_H_sound H_to_Z_sound

def ok_H_A (m : M2 K) (Z0 : K) : Prop := m.a21 ≠ 0
theorem H_to_A_sound : SoundConv .H .A (H_to_A (K := K)) ok_H_A := by
  intro m Z0 p h
  obtain ⟨V1, I1, V2, I2⟩ := p
  simp only [ok_H_A] at h
  simp only [rel, lin, H_to_A, M2.det]
  tp_both

def ok_H_B (m : M2 K) (Z0 : K) : Prop := m.a12 ≠ 0
theorem H_to_B_sound : SoundConv .H .B (H_to_B (K := K)) ok_H_B := by
  intro m Z0 p h
  obtain ⟨V1, I1, V2, I2⟩ := p
  simp only [ok_H_B] at h
  simp only [rel, lin, H_to_B]
  tp_both

def ok_H_H (m : M2 K) (Z0 : K) : Prop := True
theorem H_to_H_sound : SoundConv .H .H (H_to_H (K := K)) ok_H_H :=
  SoundConv.id _

def ok_H_G (m : M2 K) (Z0 : K) : Prop := m.det ≠ 0
theorem H_to_G_sound : SoundConv .H .G (H_to_G (K := K)) ok_H_G :=
  fun m Z0 p h => inv_pair _ _ (by decide) m Z0 p h

def ok_H_S (m : M2 K) (Z0 : K) : Prop := ok_H_A m Z0 ∧ ok_A_S (H_to_A m Z0) Z0
theorem H_to_S_sound : SoundConv .H .S (H_to_S (K := K)) ok_H_S :=
  SoundConv.comp H_to_A_sound A_to_S_sound

def ok_H_T (m : M2 K) (Z0 : K) : Prop := ok_H_S m Z0 ∧ ok_S_T (H_to_S m Z0) Z0
theorem H_to_T_sound : SoundConv .H .T (H_to_T (K := K)) ok_H_T :=
  SoundConv.comp H_to_S_sound S_to_T_sound

def ok_S_A (m : M2 K) (Z0 : K) : Prop := m.a21 ≠ 0 ∧ Z0 ≠ 0 ∧ (2 : K) ≠ 0
theorem S_to_A_sound : SoundConv .S .A (S_to_A (K := K)) ok_S_A := by
  intro m Z0 p ⟨h, hz, h2⟩
  obtain ⟨V1, I1, V2, I2⟩ := p
  simp only [rel, lin, S_to_A, M2.sdiv, M2.det, wa1, wa2, wb1, wb2]
  constructor
  · rintro ⟨h1, h2⟩
    constructor <;> (field_simp; grind)
  · rintro ⟨rfl, rfl⟩
    constructor <;> (field_simp; ring)

def ok_S_B (m : M2 K) (Z0 : K) : Prop := ok_S_A m Z0 ∧ (S_to_A m Z0).det ≠ 0
theorem S_to_B_sound : SoundConv .S .B (S_to_B (K := K)) ok_S_B :=
  SoundConv.thenInv (by decide) S_to_A_sound

def ok_S_H (m : M2 K) (Z0 : K) : Prop := ok_S_A m Z0 ∧ ok_A_H (S_to_A m Z0) Z0
theorem S_to_H_sound : SoundConv .S .H (S_to_H (K := K)) ok_S_H :=
  SoundConv.comp S_to_A_sound A_to_H_sound

def ok_S_G (m : M2 K) (Z0 : K) : Prop := ok_S_H m Z0 ∧ (S_to_H m Z0).det ≠ 0
theorem S_to_G_sound : SoundConv .S .G (S_to_G (K := K)) ok_S_G :=
  SoundConv.thenInv (by decide) S_to_H_sound

def ok_S_S (m : M2 K) (Z0 : K) : Prop := True
theorem S_to_S_sound : SoundConv .S .S (S_to_S (K := K)) ok_S_S :=
  SoundConv.id _

def ok_S_Z (m : M2 K) (Z0 : K) : Prop := ok_S_A m Z0 ∧ ok_A_Z (S_to_A m Z0) Z0
theorem S_to_Z_sound : SoundConv .S .Z (S_to_Z (K := K)) ok_S_Z :=
  SoundConv.comp S_to_A_sound A_to_Z_sound

def ok_S_Y (m : M2 K) (Z0 : K) : Prop := ok_S_Z m Z0 ∧ (S_to_Z m Z0).det ≠ 0
theorem S_to_Y_sound : SoundConv .S .Y (S_to_Y (K := K)) ok_S_Y :=
  SoundConv.thenInv (by decide) S_to_Z_sound

def ok_T_S (m : M2 K) (Z0 : K) : Prop := m.a22 ≠ 0
theorem T_to_S_sound : SoundConv .T .S (T_to_S (K := K)) ok_T_S := by
  intro m Z0 p h
  simp only [rel]
  generalize wa1 Z0 p = a1; generalize wa2 Z0 p = a2
  generalize wb1 Z0 p = b1; generalize wb2 Z0 p = b2
  simp only [ok_T_S] at h
  simp only [lin, T_to_S, M2.det]
  constructor <;> (rintro ⟨h1, h2⟩; constructor <;> (field_simp; grind))

def ok_T_A (m : M2 K) (Z0 : K) : Prop := ok_T_S m Z0 ∧ ok_S_A (T_to_S m Z0) Z0
theorem T_to_A_sound : SoundConv .T .A (T_to_A (K := K)) ok_T_A :=
  SoundConv.comp T_to_S_sound S_to_A_sound

def ok_T_B (m : M2 K) (Z0 : K) : Prop := ok_T_A m Z0 ∧ (T_to_A m Z0).det ≠ 0
theorem T_to_B_sound : SoundConv .T .B (T_to_B (K := K)) ok_T_B :=
  SoundConv.thenInv (by decide) T_to_A_sound

def ok_T_H (m : M2 K) (Z0 : K) : Prop := ok_T_A m Z0 ∧ ok_A_H (T_to_A m Z0) Z0
theorem T_to_H_sound : SoundConv .T .H (T_to_H (K := K)) ok_T_H :=
  SoundConv.comp T_to_A_sound A_to_H_sound

def ok_T_G (m : M2 K) (Z0 : K) : Prop := ok_T_H m Z0 ∧ (T_to_H m Z0).det ≠ 0
theorem T_to_G_sound : SoundConv .T .G (T_to_G (K := K)) ok_T_G :=
  SoundConv.thenInv (by decide) T_to_H_sound

def ok_T_T (m : M2 K) (Z0 : K) : Prop := True
theorem T_to_T_sound : SoundConv .T .T (T_to_T (K := K)) ok_T_T :=
  SoundConv.id _

def ok_T_Z (m : M2 K) (Z0 : K) : Prop := ok_T_A m Z0 ∧ ok_A_Z (T_to_A m Z0) Z0
theorem T_to_Z_sound : SoundConv .T .Z (T_to_Z (K := K)) ok_T_Z :=
  SoundConv.comp T_to_A_sound A_to_Z_sound

def ok_T_Y (m : M2 K) (Z0 : K) : Prop := ok_T_Z m Z0 ∧ (T_to_Z m Z0).det ≠ 0
theorem T_to_Y_sound : SoundConv .T .Y (T_to_Y (K := K)) ok_T_Y :=
  SoundConv.thenInv (by decide) T_to_Z_sound

def ok_Y_A (m : M2 K) (Z0 : K) : Prop := m.a21 ≠ 0
theorem Y_to_A_sound : SoundConv .Y .A (Y_to_A (K := K)) ok_Y_A := by
  intro m Z0 p h
  obtain ⟨V1, I1, V2, I2⟩ := p
  simp only [ok_Y_A] at h
  simp only [rel, lin, Y_to_A, M2.det]
  tp_both

def ok_Y_B (m : M2 K) (Z0 : K) : Prop := m.a12 ≠ 0
theorem Y_to_B_sound : SoundConv .Y .B (Y_to_B (K := K)) ok_Y_B := by
  intro m Z0 p h
  obtain ⟨V1, I1, V2, I2⟩ := p
  simp only [ok_Y_B] at h
  simp only [rel, lin, Y_to_B, M2.det]
  tp_both

def ok_Y_H (m : M2 K) (Z0 : K) : Prop := m.a11 ≠ 0
theorem Y_to_H_sound : SoundConv .Y .H (Y_to_H (K := K)) ok_Y_H := by
  intro m Z0 p h
  obtain ⟨V1, I1, V2, I2⟩ := p
  simp only [ok_Y_H] at h
  simp only [rel, lin, Y_to_H, M2.det]
  tp_both

def ok_Y_G (m : M2 K) (Z0 : K) : Prop := ok_Y_H m Z0 ∧ (Y_to_H m Z0).det ≠ 0
theorem Y_to_G_sound : SoundConv .Y .G (Y_to_G (K := K)) ok_Y_G :=
  SoundConv.thenInv (by decide) Y_to_H_sound

def ok_Y_S (m : M2 K) (Z0 : K) : Prop := ok_Y_A m Z0 ∧ ok_A_S (Y_to_A m Z0) Z0
theorem Y_to_S_sound : SoundConv .Y .S (Y_to_S (K := K)) ok_Y_S :=
  SoundConv.comp Y_to_A_sound A_to_S_sound

def ok_Y_T (m : M2 K) (Z0 : K) : Prop := ok_Y_S m Z0 ∧ ok_S_T (Y_to_S m Z0) Z0
theorem Y_to_T_sound : SoundConv .Y .T (Y_to_T (K := K)) ok_Y_T :=
  SoundConv.comp Y_to_S_sound S_to_T_sound

def ok_Y_Y (m : M2 K) (Z0 : K) : Prop := True
theorem Y_to_Y_sound : SoundConv .Y .Y (Y_to_Y (K := K)) ok_Y_Y :=
  SoundConv.id _

def ok_Y_Z (m : M2 K) (Z0 : K) : Prop := m.det ≠ 0
theorem Y_to_Z_sound : SoundConv .Y .Z (Y_to_Z (K := K)) ok_Y_Z :=
  fun m Z0 p h => inv_pair _ _ (by decide) m Z0 p h

def ok_Z_A (m : M2 K) (Z0 : K) : Prop := m.a21 ≠ 0
theorem Z_to_A_sound : SoundConv .Z .A (Z_to_A (K := K)) ok_Z_A := by
  intro m Z0 p h
  obtain ⟨V1, I1, V2, I2⟩ := p
  simp only [ok_Z_A] at h
  simp only [rel, lin, Z_to_A, M2.det]
  tp_both

def ok_Z_B (m : M2 K) (Z0 : K) : Prop := m.a12 ≠ 0
theorem Z_to_B_sound : SoundConv .Z .B (Z_to_B (K := K)) ok_Z_B := by
  intro m Z0 p h
  obtain ⟨V1, I1, V2, I2⟩ := p
  simp only [ok_Z_B] at h
  simp only [rel, lin, Z_to_B, M2.det]
  tp_both

def ok_Z_H (m : M2 K) (Z0 : K) : Prop := m.a22 ≠ 0
theorem Z_to_H_sound : SoundConv .Z .H (Z_to_H (K := K)) ok_Z_H := by
  intro m Z0 p h
  obtain ⟨V1, I1, V2, I2⟩ := p
  simp only [ok_Z_H] at h
  simp only [rel, lin, Z_to_H, M2.det]
  tp_both

def ok_Z_G (m : M2 K) (Z0 : K) : Prop := ok_Z_H m Z0 ∧ (Z_to_H m Z0).det ≠ 0
theorem Z_to_G_sound : SoundConv .Z .G (Z_to_G (K := K)) ok_Z_G :=
  SoundConv.thenInv (by decide) Z_to_H_sound

def ok_Z_S (m : M2 K) (Z0 : K) : Prop := ok_Z_A m Z0 ∧ ok_A_S (Z_to_A m Z0) Z0
theorem Z_to_S_sound : SoundConv .Z .S (Z_to_S (K := K)) ok_Z_S :=
  SoundConv.comp Z_to_A_sound A_to_S_sound

def ok_Z_T (m : M2 K) (Z0 : K) : Prop := ok_Z_S m Z0 ∧ ok_S_T (Z_to_S m Z0) Z0
theorem Z_to_T_sound : SoundConv .Z .T (Z_to_T (K := K)) ok_Z_T :=
  SoundConv.comp Z_to_S_sound S_to_T_sound

def ok_Z_Y (m : M2 K) (Z0 : K) : Prop := m.det ≠ 0
theorem Z_to_Y_sound : SoundConv .Z .Y (Z_to_Y (K := K)) ok_Z_Y :=
  fun m Z0 p h => inv_pair _ _ (by decide) m Z0 p h

def ok_Z_Z (m : M2 K) (Z0 : K) : Prop := True
theorem Z_to_Z_sound : SoundConv .Z .Z (Z_to_Z (K := K)) ok_Z_Z :=
  SoundConv.id _

/-! ## 2. Round trips: converting to another representation and back is the identity
      wherever both conversions exist -/

theorem roundtrip {X P : Rep} {f g : M2 K → K → M2 K} {ok1 ok2 : M2 K → K → Prop}
    (h1 : SoundConv X P f ok1) (h2 : SoundConv P X g ok2) (hX : X ≠ .S ∧ X ≠ .T)
    (m : M2 K) (Z0 : K) (o1 : ok1 m Z0) (o2 : ok2 (f m Z0) Z0) : g (f m Z0) Z0 = m :=
  (rel_inj_VI X hX Z0 _ _ (fun p => by rw [h1 m Z0 p o1, h2 _ Z0 p o2])).symm

theorem roundtrip_wave {X P : Rep} {f g : M2 K → K → M2 K} {ok1 ok2 : M2 K → K → Prop}
    (h1 : SoundConv X P f ok1) (h2 : SoundConv P X g ok2)
    (m : M2 K) (Z0 : K) (hz : Z0 ≠ 0) (h2' : (2 : K) ≠ 0)
    (o1 : ok1 m Z0) (o2 : ok2 (f m Z0) Z0) : g (f m Z0) Z0 = m :=
  (rel_inj X Z0 hz h2' _ _ (fun p => by rw [h1 m Z0 p o1, h2 _ Z0 p o2])).symm

theorem roundtrip_A_B (m : M2 K) (Z0 : K)
    (o1 : ok_A_B m Z0) (o2 : ok_B_A (A_to_B m Z0) Z0) :
    B_to_A (A_to_B m Z0) Z0 = m :=
  roundtrip A_to_B_sound B_to_A_sound (by decide) m Z0 o1 o2

theorem roundtrip_A_G (m : M2 K) (Z0 : K)
    (o1 : ok_A_G m Z0) (o2 : ok_G_A (A_to_G m Z0) Z0) :
    G_to_A (A_to_G m Z0) Z0 = m :=
  roundtrip A_to_G_sound G_to_A_sound (by decide) m Z0 o1 o2

theorem roundtrip_A_H (m : M2 K) (Z0 : K)
    (o1 : ok_A_H m Z0) (o2 : ok_H_A (A_to_H m Z0) Z0) :
    H_to_A (A_to_H m Z0) Z0 = m :=
  roundtrip A_to_H_sound H_to_A_sound (by decide) m Z0 o1 o2

theorem roundtrip_A_S (m : M2 K) (Z0 : K)
    (o1 : ok_A_S m Z0) (o2 : ok_S_A (A_to_S m Z0) Z0) :
    S_to_A (A_to_S m Z0) Z0 = m :=
  roundtrip A_to_S_sound S_to_A_sound (by decide) m Z0 o1 o2

theorem roundtrip_A_T (m : M2 K) (Z0 : K)
    (o1 : ok_A_T m Z0) (o2 : ok_T_A (A_to_T m Z0) Z0) :
    T_to_A (A_to_T m Z0) Z0 = m :=
  roundtrip A_to_T_sound T_to_A_sound (by decide) m Z0 o1 o2

theorem roundtrip_A_Y (m : M2 K) (Z0 : K)
    (o1 : ok_A_Y m Z0) (o2 : ok_Y_A (A_to_Y m Z0) Z0) :
    Y_to_A (A_to_Y m Z0) Z0 = m :=
  roundtrip A_to_Y_sound Y_to_A_sound (by decide) m Z0 o1 o2

theorem roundtrip_A_Z (m : M2 K) (Z0 : K)
    (o1 : ok_A_Z m Z0) (o2 : ok_Z_A (A_to_Z m Z0) Z0) :
    Z_to_A (A_to_Z m Z0) Z0 = m :=
  roundtrip A_to_Z_sound Z_to_A_sound (by decide) m Z0 o1 o2

theorem roundtrip_B_A (m : M2 K) (Z0 : K)
    (o1 : ok_B_A m Z0) (o2 : ok_A_B (B_to_A m Z0) Z0) :
    A_to_B (B_to_A m Z0) Z0 = m :=
  roundtrip B_to_A_sound A_to_B_sound (by decide) m Z0 o1 o2

theorem roundtrip_B_G (m : M2 K) (Z0 : K)
    (o1 : ok_B_G m Z0) (o2 : ok_G_B (B_to_G m Z0) Z0) :
    G_to_B (B_to_G m Z0) Z0 = m :=
  roundtrip B_to_G_sound G_to_B_sound (by decide) m Z0 o1 o2

theorem roundtrip_B_H (m : M2 K) (Z0 : K)
    (o1 : ok_B_H m Z0) (o2 : ok_H_B (B_to_H m Z0) Z0) :
    H_to_B (B_to_H m Z0) Z0 = m :=
  roundtrip B_to_H_sound H_to_B_sound (by decide) m Z0 o1 o2

theorem roundtrip_B_S (m : M2 K) (Z0 : K)
    (o1 : ok_B_S m Z0) (o2 : ok_S_B (B_to_S m Z0) Z0) :
    S_to_B (B_to_S m Z0) Z0 = m :=
  roundtrip B_to_S_sound S_to_B_sound (by decide) m Z0 o1 o2

theorem roundtrip_B_T (m : M2 K) (Z0 : K)
    (o1 : ok_B_T m Z0) (o2 : ok_T_B (B_to_T m Z0) Z0) :
    T_to_B (B_to_T m Z0) Z0 = m :=
  roundtrip B_to_T_sound T_to_B_sound (by decide) m Z0 o1 o2

theorem roundtrip_B_Y (m : M2 K) (Z0 : K)
    (o1 : ok_B_Y m Z0) (o2 : ok_Y_B (B_to_Y m Z0) Z0) :
    Y_to_B (B_to_Y m Z0) Z0 = m :=
  roundtrip B_to_Y_sound Y_to_B_sound (by decide) m Z0 o1 o2

theorem roundtrip_B_Z (m : M2 K) (Z0 : K)
    (o1 : ok_B_Z m Z0) (o2 : ok_Z_B (B_to_Z m Z0) Z0) :
    Z_to_B (B_to_Z m Z0) Z0 = m :=
  roundtrip B_to_Z_sound Z_to_B_sound (by decide) m Z0 o1 o2

theorem roundtrip_G_A (m : M2 K) (Z0 : K)
    (o1 : ok_G_A m Z0) (o2 : ok_A_G (G_to_A m Z0) Z0) :
    A_to_G (G_to_A m Z0) Z0 = m :=
  roundtrip G_to_A_sound A_to_G_sound (by decide) m Z0 o1 o2

theorem roundtrip_G_B (m : M2 K) (Z0 : K)
    (o1 : ok_G_B m Z0) (o2 : ok_B_G (G_to_B m Z0) Z0) :
    B_to_G (G_to_B m Z0) Z0 = m :=
  roundtrip G_to_B_sound B_to_G_sound (by decide) m Z0 o1 o2

theorem roundtrip_G_H (m : M2 K) (Z0 : K)
    (o1 : ok_G_H m Z0) (o2 : ok_H_G (G_to_H m Z0) Z0) :
    H_to_G (G_to_H m Z0) Z0 = m :=
  roundtrip G_to_H_sound H_to_G_sound (by decide) m Z0 o1 o2

theorem roundtrip_G_S (m : M2 K) (Z0 : K)
    (o1 : ok_G_S m Z0) (o2 : ok_S_G (G_to_S m Z0) Z0) :
    S_to_G (G_to_S m Z0) Z0 = m :=
  roundtrip G_to_S_sound S_to_G_sound (by decide) m Z0 o1 o2

theorem roundtrip_G_T (m : M2 K) (Z0 : K)
    (o1 : ok_G_T m Z0) (o2 : ok_T_G (G_to_T m Z0) Z0) :
    T_to_G (G_to_T m Z0) Z0 = m :=
  roundtrip G_to_T_sound T_to_G_sound (by decide) m Z0 o1 o2

theorem roundtrip_G_Y (m : M2 K) (Z0 : K)
    (o1 : ok_G_Y m Z0) (o2 : ok_Y_G (G_to_Y m Z0) Z0) :
    Y_to_G (G_to_Y m Z0) Z0 = m :=
  roundtrip G_to_Y_sound Y_to_G_sound (by decide) m Z0 o1 o2

theorem roundtrip_G_Z (m : M2 K) (Z0 : K)
    (o1 : ok_G_Z m Z0) (o2 : ok_Z_G (G_to_Z m Z0) Z0) :
    Z_to_G (G_to_Z m Z0) Z0 = m :=
  roundtrip G_to_Z_sound Z_to_G_sound (by decide) m Z0 o1 o2

theorem roundtrip_H_A (m : M2 K) (Z0 : K)
    (o1 : ok_H_A m Z0) (o2 : ok_A_H (H_to_A m Z0) Z0) :
    A_to_H (H_to_A m Z0) Z0 = m :=
  roundtrip H_to_A_sound A_to_H_sound (by decide) m Z0 o1 o2

theorem roundtrip_H_B (m : M2 K) (Z0 : K)
    (o1 : ok_H_B m Z0) (o2 : ok_B_H (H_to_B m Z0) Z0) :
    B_to_H (H_to_B m Z0) Z0 = m :=
  roundtrip H_to_B_sound B_to_H_sound (by decide) m Z0 o1 o2

theorem roundtrip_H_G (m : M2 K) (Z0 : K)
    (o1 : ok_H_G m Z0) (o2 : ok_G_H (H_to_G m Z0) Z0) :
    G_to_H (H_to_G m Z0) Z0 = m :=
  roundtrip H_to_G_sound G_to_H_sound (by decide) m Z0 o1 o2

theorem roundtrip_H_S (m : M2 K) (Z0 : K)
    (o1 : ok_H_S m Z0) (o2 : ok_S_H (H_to_S m Z0) Z0) :
    S_to_H (H_to_S m Z0) Z0 = m :=
  roundtrip H_to_S_sound S_to_H_sound (by decide) m Z0 o1 o2

theorem roundtrip_H_T (m : M2 K) (Z0 : K)
    (o1 : ok_H_T m Z0) (o2 : ok_T_H (H_to_T m Z0) Z0) :
    T_to_H (H_to_T m Z0) Z0 = m :=
  roundtrip H_to_T_sound T_to_H_sound (by decide) m Z0 o1 o2

theorem roundtrip_H_Y (m : M2 K) (Z0 : K)
    (o1 : ok_H_Y m Z0) (o2 : ok_Y_H (H_to_Y m Z0) Z0) :
    Y_to_H (H_to_Y m Z0) Z0 = m :=
  roundtrip H_to_Y_sound Y_to_H_sound (by decide) m Z0 o1 o2

theorem roundtrip_H_Z (m : M2 K) (Z0 : K)
    (o1 : ok_H_Z m Z0) (o2 : ok_Z_H (H_to_Z m Z0) Z0) :
    Z_to_H (H_to_Z m Z0) Z0 = m :=
  roundtrip H_to_Z_sound Z_to_H_sound (by decide) m Z0 o1 o2

theorem roundtrip_S_A (m : M2 K) (Z0 : K) (hz : Z0 ≠ 0) (h2 : (2 : K) ≠ 0)
    (o1 : ok_S_A m Z0) (o2 : ok_A_S (S_to_A m Z0) Z0) :
    A_to_S (S_to_A m Z0) Z0 = m :=
  roundtrip_wave S_to_A_sound A_to_S_sound m Z0 hz h2 o1 o2

theorem roundtrip_S_B (m : M2 K) (Z0 : K) (hz : Z0 ≠ 0) (h2 : (2 : K) ≠ 0)
    (o1 : ok_S_B m Z0) (o2 : ok_B_S (S_to_B m Z0) Z0) :
    B_to_S (S_to_B m Z0) Z0 = m :=
  roundtrip_wave S_to_B_sound B_to_S_sound m Z0 hz h2 o1 o2

theorem roundtrip_S_G (m : M2 K) (Z0 : K) (hz : Z0 ≠ 0) (h2 : (2 : K) ≠ 0)
    (o1 : ok_S_G m Z0) (o2 : ok_G_S (S_to_G m Z0) Z0) :
    G_to_S (S_to_G m Z0) Z0 = m :=
  roundtrip_wave S_to_G_sound G_to_S_sound m Z0 hz h2 o1 o2

theorem roundtrip_S_H (m : M2 K) (Z0 : K) (hz : Z0 ≠ 0) (h2 : (2 : K) ≠ 0)
    (o1 : ok_S_H m Z0) (o2 : ok_H_S (S_to_H m Z0) Z0) :
    H_to_S (S_to_H m Z0) Z0 = m :=
  roundtrip_wave S_to_H_sound H_to_S_sound m Z0 hz h2 o1 o2

theorem roundtrip_S_T (m : M2 K) (Z0 : K) (hz : Z0 ≠ 0) (h2 : (2 : K) ≠ 0)
    (o1 : ok_S_T m Z0) (o2 : ok_T_S (S_to_T m Z0) Z0) :
    T_to_S (S_to_T m Z0) Z0 = m :=
  roundtrip_wave S_to_T_sound T_to_S_sound m Z0 hz h2 o1 o2

theorem roundtrip_S_Y (m : M2 K) (Z0 : K) (hz : Z0 ≠ 0) (h2 : (2 : K) ≠ 0)
    (o1 : ok_S_Y m Z0) (o2 : ok_Y_S (S_to_Y m Z0) Z0) :
    Y_to_S (S_to_Y m Z0) Z0 = m :=
  roundtrip_wave S_to_Y_sound Y_to_S_sound m Z0 hz h2 o1 o2

theorem roundtrip_S_Z (m : M2 K) (Z0 : K) (hz : Z0 ≠ 0) (h2 : (2 : K) ≠ 0)
    (o1 : ok_S_Z m Z0) (o2 : ok_Z_S (S_to_Z m Z0) Z0) :
    Z_to_S (S_to_Z m Z0) Z0 = m :=
  roundtrip_wave S_to_Z_sound Z_to_S_sound m Z0 hz h2 o1 o2

theorem roundtrip_T_A (m : M2 K) (Z0 : K) (hz : Z0 ≠ 0) (h2 : (2 : K) ≠ 0)
    (o1 : ok_T_A m Z0) (o2 : ok_A_T (T_to_A m Z0) Z0) :
    A_to_T (T_to_A m Z0) Z0 = m :=
  roundtrip_wave T_to_A_sound A_to_T_sound m Z0 hz h2 o1 o2

theorem roundtrip_T_B (m : M2 K) (Z0 : K) (hz : Z0 ≠ 0) (h2 : (2 : K) ≠ 0)
    (o1 : ok_T_B m Z0) (o2 : ok_B_T (T_to_B m Z0) Z0) :
    B_to_T (T_to_B m Z0) Z0 = m :=
  roundtrip_wave T_to_B_sound B_to_T_sound m Z0 hz h2 o1 o2

theorem roundtrip_T_G (m : M2 K) (Z0 : K) (hz : Z0 ≠ 0) (h2 : (2 : K) ≠ 0)
    (o1 : ok_T_G m Z0) (o2 : ok_G_T (T_to_G m Z0) Z0) :
    G_to_T (T_to_G m Z0) Z0 = m :=
  roundtrip_wave T_to_G_sound G_to_T_sound m Z0 hz h2 o1 o2

theorem roundtrip_T_H (m : M2 K) (Z0 : K) (hz : Z0 ≠ 0) (h2 : (2 : K) ≠ 0)
    (o1 : ok_T_H m Z0) (o2 : ok_H_T (T_to_H m Z0) Z0) :
    H_to_T (T_to_H m Z0) Z0 = m :=
  roundtrip_wave T_to_H_sound H_to_T_sound m Z0 hz h2 o1 o2

theorem roundtrip_T_S (m : M2 K) (Z0 : K) (hz : Z0 ≠ 0) (h2 : (2 : K) ≠ 0)
    (o1 : ok_T_S m Z0) (o2 : ok_S_T (T_to_S m Z0) Z0) :
    S_to_T (T_to_S m Z0) Z0 = m :=
  roundtrip_wave T_to_S_sound S_to_T_sound m Z0 hz h2 o1 o2

theorem roundtrip_T_Y (m : M2 K) (Z0 : K) (hz : Z0 ≠ 0) (h2 : (2 : K) ≠ 0)
    (o1 : ok_T_Y m Z0) (o2 : ok_Y_T (T_to_Y m Z0) Z0) :
    Y_to_T (T_to_Y m Z0) Z0 = m :=
  roundtrip_wave T_to_Y_sound Y_to_T_sound m Z0 hz h2 o1 o2

theorem roundtrip_T_Z (m : M2 K) (Z0 : K) (hz : Z0 ≠ 0) (h2 : (2 : K) ≠ 0)
    (o1 : ok_T_Z m Z0) (o2 : ok_Z_T (T_to_Z m Z0) Z0) :
    Z_to_T (T_to_Z m Z0) Z0 = m :=
  roundtrip_wave T_to_Z_sound Z_to_T_sound m Z0 hz h2 o1 o2

theorem roundtrip_Y_A (m : M2 K) (Z0 : K)
    (o1 : ok_Y_A m Z0) (o2 : ok_A_Y (Y_to_A m Z0) Z0) :
    A_to_Y (Y_to_A m Z0) Z0 = m :=
  roundtrip Y_to_A_sound A_to_Y_sound (by decide) m Z0 o1 o2

theorem roundtrip_Y_B (m : M2 K) (Z0 : K)
    (o1 : ok_Y_B m Z0) (o2 : ok_B_Y (Y_to_B m Z0) Z0) :
    B_to_Y (Y_to_B m Z0) Z0 = m :=
  roundtrip Y_to_B_sound B_to_Y_sound (by decide) m Z0 o1 o2

theorem roundtrip_Y_G (m : M2 K) (Z0 : K)
    (o1 : ok_Y_G m Z0) (o2 : ok_G_Y (Y_to_G m Z0) Z0) :
    G_to_Y (Y_to_G m Z0) Z0 = m :=
  roundtrip Y_to_G_sound G_to_Y_sound (by decide) m Z0 o1 o2

theorem roundtrip_Y_H (m : M2 K) (Z0 : K)
    (o1 : ok_Y_H m Z0) (o2 : ok_H_Y (Y_to_H m Z0) Z0) :
    H_to_Y (Y_to_H m Z0) Z0 = m :=
  roundtrip Y_to_H_sound H_to_Y_sound (by decide) m Z0 o1 o2

theorem roundtrip_Y_S (m : M2 K) (Z0 : K)
    (o1 : ok_Y_S m Z0) (o2 : ok_S_Y (Y_to_S m Z0) Z0) :
    S_to_Y (Y_to_S m Z0) Z0 = m :=
  roundtrip Y_to_S_sound S_to_Y_sound (by decide) m Z0 o1 o2

theorem roundtrip_Y_T (m : M2 K) (Z0 : K)
    (o1 : ok_Y_T m Z0) (o2 : ok_T_Y (Y_to_T m Z0) Z0) :
    T_to_Y (Y_to_T m Z0) Z0 = m :=
  roundtrip Y_to_T_sound T_to_Y_sound (by decide) m Z0 o1 o2

theorem roundtrip_Y_Z (m : M2 K) (Z0 : K)
    (o1 : ok_Y_Z m Z0) (o2 : ok_Z_Y (Y_to_Z m Z0) Z0) :
    Z_to_Y (Y_to_Z m Z0) Z0 = m :=
  roundtrip Y_to_Z_sound Z_to_Y_sound (by decide) m Z0 o1 o2

theorem roundtrip_Z_A (m : M2 K) (Z0 : K)
    (o1 : ok_Z_A m Z0) (o2 : ok_A_Z (Z_to_A m Z0) Z0) :
    A_to_Z (Z_to_A m Z0) Z0 = m :=
  roundtrip Z_to_A_sound A_to_Z_sound (by decide) m Z0 o1 o2

theorem roundtrip_Z_B (m : M2 K) (Z0 : K)
    (o1 : ok_Z_B m Z0) (o2 : ok_B_Z (Z_to_B m Z0) Z0) :
    B_to_Z (Z_to_B m Z0) Z0 = m :=
  roundtrip Z_to_B_sound B_to_Z_sound (by decide) m Z0 o1 o2

theorem roundtrip_Z_G (m : M2 K) (Z0 : K)
    (o1 : ok_Z_G m Z0) (o2 : ok_G_Z (Z_to_G m Z0) Z0) :
    G_to_Z (Z_to_G m Z0) Z0 = m :=
  roundtrip Z_to_G_sound G_to_Z_sound (by decide) m Z0 o1 o2

theorem roundtrip_Z_H (m : M2 K) (Z0 : K)
    (o1 : ok_Z_H m Z0) (o2 : ok_H_Z (Z_to_H m Z0) Z0) :
    H_to_Z (Z_to_H m Z0) Z0 = m :=
  roundtrip Z_to_H_sound H_to_Z_sound (by decide) m Z0 o1 o2

theorem roundtrip_Z_S (m : M2 K) (Z0 : K)
    (o1 : ok_Z_S m Z0) (o2 : ok_S_Z (Z_to_S m Z0) Z0) :
    S_to_Z (Z_to_S m Z0) Z0 = m :=
  roundtrip Z_to_S_sound S_to_Z_sound (by decide) m Z0 o1 o2

theorem roundtrip_Z_T (m : M2 K) (Z0 : K)
    (o1 : ok_Z_T m Z0) (o2 : ok_T_Z (Z_to_T m Z0) Z0) :
    T_to_Z (Z_to_T m Z0) Z0 = m :=
  roundtrip Z_to_T_sound T_to_Z_sound (by decide) m Z0 o1 o2

theorem roundtrip_Z_Y (m : M2 K) (Z0 : K)
    (o1 : ok_Z_Y m Z0) (o2 : ok_Y_Z (Z_to_Y m Z0) Z0) :
    Y_to_Z (Z_to_Y m Z0) Z0 = m :=
  roundtrip Z_to_Y_sound Y_to_Z_sound (by decide) m Z0 o1 o2

/-! ## 3. Derived quantities equal their port definitions, whichever representation
      they are computed from -/

/-- entries of Y and Z are the trans-admittances / trans-impedances by definition; so is the entry `e` of the
    Y or Z matrix that a sound conversion `f` returns -/
theorem entry_sound {X R : Rep} {d : Derived} (e : M2 K → K) {f : M2 K → K → M2 K} {ok : M2 K → K → Prop}
    (hR : (R = .Y ∧ d = .fwdTransadmittance ∧ e = M2.a21) ∨ (R = .Y ∧ d = .revTransadmittance ∧ e = M2.a12) ∨
          (R = .Z ∧ d = .fwdTransimpedance ∧ e = M2.a21) ∨ (R = .Z ∧ d = .revTransimpedance ∧ e = M2.a12))
    (hf : SoundConv X R f ok) : DerivedSound X d (fun m Z0 => e (f m Z0)) ok := by
  intro m Z0 ⟨V1, I1, V2, I2⟩ o h
  have h := (hf m Z0 _ o).mp h
  show d.holds (e (f m Z0)) _
  generalize f m Z0 = z at h ⊢
  rcases hR with ⟨rfl, rfl, rfl⟩ | ⟨rfl, rfl, rfl⟩ | ⟨rfl, rfl, rfl⟩ | ⟨rfl, rfl, rfl⟩ <;>
    (simp only [rel, lin, Derived.holds] at h ⊢; obtain ⟨h1, h2⟩ := h; intro h0; grind)

def okd_A_Z1oc (m : M2 K) (Z0 : K) : Prop := m.a21 ≠ 0
theorem A_Z1oc_sound : DerivedSound .A .Z1oc (A_Z1oc (K := K)) okd_A_Z1oc := by
  intro m Z0 p h
  obtain ⟨V1, I1, V2, I2⟩ := p
  simp only [okd_A_Z1oc] at h
  simp only [rel, lin, Derived.holds, A_Z1oc]
  rintro ⟨h1, h2⟩ h0
  grind

def okd_A_Z1sc (m : M2 K) (Z0 : K) : Prop := m.a22 ≠ 0
theorem A_Z1sc_sound : DerivedSound .A .Z1sc (A_Z1sc (K := K)) okd_A_Z1sc := by
  intro m Z0 p h
  obtain ⟨V1, I1, V2, I2⟩ := p
  simp only [okd_A_Z1sc] at h
  simp only [rel, lin, Derived.holds, A_Z1sc]
  rintro ⟨h1, h2⟩ h0
  grind

def okd_A_Z2oc (m : M2 K) (Z0 : K) : Prop := m.a21 ≠ 0
theorem A_Z2oc_sound : DerivedSound .A .Z2oc (A_Z2oc (K := K)) okd_A_Z2oc := by
  intro m Z0 p h
  obtain ⟨V1, I1, V2, I2⟩ := p
  simp only [okd_A_Z2oc] at h
  simp only [rel, lin, Derived.holds, A_Z2oc]
  rintro ⟨h1, h2⟩ h0
  grind

def okd_A_Z2sc (m : M2 K) (Z0 : K) : Prop := m.a11 ≠ 0
theorem A_Z2sc_sound : DerivedSound .A .Z2sc (A_Z2sc (K := K)) okd_A_Z2sc := by
  intro m Z0 p h
  obtain ⟨V1, I1, V2, I2⟩ := p
  simp only [okd_A_Z2sc] at h
  simp only [rel, lin, Derived.holds, A_Z2sc]
  rintro ⟨h1, h2⟩ h0
  grind

def okd_A_Vgain12 (m : M2 K) (Z0 : K) : Prop := m.a11 ≠ 0
theorem A_Vgain12_sound : DerivedSound .A .Vgain12 (A_Vgain12 (K := K)) okd_A_Vgain12 := by
  intro m Z0 p h
  obtain ⟨V1, I1, V2, I2⟩ := p
  simp only [okd_A_Vgain12] at h
  simp only [rel, lin, Derived.holds, A_Vgain12]
  rintro ⟨h1, h2⟩ h0
  grind

def okd_A_Vgain21 (m : M2 K) (Z0 : K) : Prop := m.a22 ≠ 0
theorem A_Vgain21_sound : DerivedSound .A .Vgain21 (A_Vgain21 (K := K)) okd_A_Vgain21 := by
  intro m Z0 p h
  obtain ⟨V1, I1, V2, I2⟩ := p
  simp only [okd_A_Vgain21] at h
  simp only [rel, lin, Derived.holds, A_Vgain21]
  rintro ⟨h1, h2⟩ h0
  grind

def okd_A_Igain12 (m : M2 K) (Z0 : K) : Prop := m.a22 ≠ 0
theorem A_Igain12_sound : DerivedSound .A .Igain12 (A_Igain12 (K := K)) okd_A_Igain12 := by
  intro m Z0 p h
  obtain ⟨V1, I1, V2, I2⟩ := p
  simp only [okd_A_Igain12] at h
  simp only [rel, lin, Derived.holds, A_Igain12]
  rintro ⟨h1, h2⟩ h0
  grind

def okd_A_Igain21 (m : M2 K) (Z0 : K) : Prop := m.a11 ≠ 0
theorem A_Igain21_sound : DerivedSound .A .Igain21 (A_Igain21 (K := K)) okd_A_Igain21 := by
  intro m Z0 p h
  obtain ⟨V1, I1, V2, I2⟩ := p
  simp only [okd_A_Igain21] at h
  simp only [rel, lin, Derived.holds, A_Igain21]
  rintro ⟨h1, h2⟩ h0
  grind

def okd_A_forward_transadmittance (m : M2 K) (Z0 : K) : Prop := m.a12 ≠ 0
theorem A_forward_transadmittance_sound : DerivedSound .A .fwdTransadmittance (A_forward_transadmittance (K := K)) okd_A_forward_transadmittance := by
  intro m Z0 p h
  obtain ⟨V1, I1, V2, I2⟩ := p
  simp only [okd_A_forward_transadmittance] at h
  simp only [rel, lin, Derived.holds, A_forward_transadmittance]
  rintro ⟨h1, h2⟩ h0
  grind

def okd_A_reverse_transadmittance (m : M2 K) (Z0 : K) : Prop := m.a12 ≠ 0
theorem A_reverse_transadmittance_sound : DerivedSound .A .revTransadmittance (A_reverse_transadmittance (K := K)) okd_A_reverse_transadmittance := by
  intro m Z0 p h
  obtain ⟨V1, I1, V2, I2⟩ := p
  simp only [okd_A_reverse_transadmittance] at h
  simp only [rel, lin, Derived.holds, A_reverse_transadmittance]
  rintro ⟨h1, h2⟩ h0
  grind

def okd_A_forward_transimpedance (m : M2 K) (Z0 : K) : Prop := ok_A_Z m Z0
theorem A_forward_transimpedance_sound : DerivedSound .A .fwdTransimpedance (A_forward_transimpedance (K := K)) okd_A_forward_transimpedance :=
  entry_sound M2.a21 (by simp) A_to_Z_sound

def okd_A_reverse_transimpedance (m : M2 K) (Z0 : K) : Prop := ok_A_Z m Z0
theorem A_reverse_transimpedance_sound : DerivedSound .A .revTransimpedance (A_reverse_transimpedance (K := K)) okd_A_reverse_transimpedance :=
  entry_sound M2.a12 (by simp) A_to_Z_sound

def okd_A_voltage_gain (m : M2 K) (Z0 : K) : Prop := okd_A_Vgain12 m Z0
theorem A_voltage_gain_sound : DerivedSound .A .Vgain12 (A_voltage_gain (K := K)) okd_A_voltage_gain :=
  A_Vgain12_sound

def okd_A_forward_voltage_gain (m : M2 K) (Z0 : K) : Prop := okd_A_Vgain12 m Z0
theorem A_forward_voltage_gain_sound : DerivedSound .A .Vgain12 (A_forward_voltage_gain (K := K)) okd_A_forward_voltage_gain :=
  A_Vgain12_sound

def okd_A_reverse_voltage_gain (m : M2 K) (Z0 : K) : Prop := okd_A_Vgain21 m Z0
theorem A_reverse_voltage_gain_sound : DerivedSound .A .Vgain21 (A_reverse_voltage_gain (K := K)) okd_A_reverse_voltage_gain :=
  A_Vgain21_sound

def okd_A_current_gain (m : M2 K) (Z0 : K) : Prop := okd_A_Igain12 m Z0
theorem A_current_gain_sound : DerivedSound .A .Igain12 (A_current_gain (K := K)) okd_A_current_gain :=
  A_Igain12_sound

def okd_A_forward_current_gain (m : M2 K) (Z0 : K) : Prop := okd_A_Igain12 m Z0
theorem A_forward_current_gain_sound : DerivedSound .A .Igain12 (A_forward_current_gain (K := K)) okd_A_forward_current_gain :=
  A_Igain12_sound

def okd_A_reverse_current_gain (m : M2 K) (Z0 : K) : Prop := okd_A_Igain21 m Z0
theorem A_reverse_current_gain_sound : DerivedSound .A .Igain21 (A_reverse_current_gain (K := K)) okd_A_reverse_current_gain :=
  A_Igain21_sound

def okd_A_transadmittance (m : M2 K) (Z0 : K) : Prop := ok_A_Y m Z0
theorem A_transadmittance_sound : DerivedSound .A .fwdTransadmittance (A_transadmittance (K := K)) okd_A_transadmittance :=
  entry_sound M2.a21 (by simp) A_to_Y_sound

def okd_A_transimpedance (m : M2 K) (Z0 : K) : Prop := ok_A_Z m Z0
theorem A_transimpedance_sound : DerivedSound .A .fwdTransimpedance (A_transimpedance (K := K)) okd_A_transimpedance :=
  entry_sound M2.a21 (by simp) A_to_Z_sound

def okd_B_Z1oc (m : M2 K) (Z0 : K) : Prop := m.a21 ≠ 0
theorem B_Z1oc_sound : DerivedSound .B .Z1oc (B_Z1oc (K := K)) okd_B_Z1oc := by
  intro m Z0 p h
  obtain ⟨V1, I1, V2, I2⟩ := p
  simp only [okd_B_Z1oc] at h
  simp only [rel, lin, Derived.holds, B_Z1oc]
  rintro ⟨h1, h2⟩ h0
  grind

def okd_B_Z1sc (m : M2 K) (Z0 : K) : Prop := m.a11 ≠ 0
theorem B_Z1sc_sound : DerivedSound .B .Z1sc (B_Z1sc (K := K)) okd_B_Z1sc := by
  intro m Z0 p h
  obtain ⟨V1, I1, V2, I2⟩ := p
  simp only [okd_B_Z1sc] at h
  simp only [rel, lin, Derived.holds, B_Z1sc]
  rintro ⟨h1, h2⟩ h0
  grind

def okd_B_Z2oc (m : M2 K) (Z0 : K) : Prop := m.a21 ≠ 0
theorem B_Z2oc_sound : DerivedSound .B .Z2oc (B_Z2oc (K := K)) okd_B_Z2oc := by
  intro m Z0 p h
  obtain ⟨V1, I1, V2, I2⟩ := p
  simp only [okd_B_Z2oc] at h
  simp only [rel, lin, Derived.holds, B_Z2oc]
  rintro ⟨h1, h2⟩ h0
  grind

def okd_B_Z2sc (m : M2 K) (Z0 : K) : Prop := m.a22 ≠ 0
theorem B_Z2sc_sound : DerivedSound .B .Z2sc (B_Z2sc (K := K)) okd_B_Z2sc := by
  intro m Z0 p h
  obtain ⟨V1, I1, V2, I2⟩ := p
  simp only [okd_B_Z2sc] at h
  simp only [rel, lin, Derived.holds, B_Z2sc]
  rintro ⟨h1, h2⟩ h0
  grind

def okd_B_Vgain12 (m : M2 K) (Z0 : K) : Prop := m.a22 ≠ 0
theorem B_Vgain12_sound : DerivedSound .B .Vgain12 (B_Vgain12 (K := K)) okd_B_Vgain12 := by
  intro m Z0 p h
  obtain ⟨V1, I1, V2, I2⟩ := p
  simp only [okd_B_Vgain12] at h
  simp only [rel, lin, Derived.holds, B_Vgain12]
  rintro ⟨h1, h2⟩ h0
  grind

def okd_B_Vgain21 (m : M2 K) (Z0 : K) : Prop := m.a11 ≠ 0
theorem B_Vgain21_sound : DerivedSound .B .Vgain21 (B_Vgain21 (K := K)) okd_B_Vgain21 := by
  intro m Z0 p h
  obtain ⟨V1, I1, V2, I2⟩ := p
  simp only [okd_B_Vgain21] at h
  simp only [rel, lin, Derived.holds, B_Vgain21]
  rintro ⟨h1, h2⟩ h0
  grind

def okd_B_Igain12 (m : M2 K) (Z0 : K) : Prop := m.a11 ≠ 0
theorem B_Igain12_sound : DerivedSound .B .Igain12 (B_Igain12 (K := K)) okd_B_Igain12 := by
  intro m Z0 p h
  obtain ⟨V1, I1, V2, I2⟩ := p
  simp only [okd_B_Igain12] at h
  simp only [rel, lin, Derived.holds, B_Igain12]
  rintro ⟨h1, h2⟩ h0
  grind

def okd_B_Igain21 (m : M2 K) (Z0 : K) : Prop := m.a22 ≠ 0
theorem B_Igain21_sound : DerivedSound .B .Igain21 (B_Igain21 (K := K)) okd_B_Igain21 := by
  intro m Z0 p h
  obtain ⟨V1, I1, V2, I2⟩ := p
  simp only [okd_B_Igain21] at h
  simp only [rel, lin, Derived.holds, B_Igain21]
  rintro ⟨h1, h2⟩ h0
  grind

def okd_B_forward_transadmittance (m : M2 K) (Z0 : K) : Prop := m.a12 ≠ 0
theorem B_forward_transadmittance_sound : DerivedSound .B .fwdTransadmittance (B_forward_transadmittance (K := K)) okd_B_forward_transadmittance := by
  intro m Z0 p h
  obtain ⟨V1, I1, V2, I2⟩ := p
  simp only [okd_B_forward_transadmittance] at h
  simp only [rel, lin, Derived.holds, B_forward_transadmittance]
  rintro ⟨h1, h2⟩ h0
  grind

def okd_B_reverse_transadmittance (m : M2 K) (Z0 : K) : Prop := m.a12 ≠ 0
theorem B_reverse_transadmittance_sound : DerivedSound .B .revTransadmittance (B_reverse_transadmittance (K := K)) okd_B_reverse_transadmittance := by
  intro m Z0 p h
  obtain ⟨V1, I1, V2, I2⟩ := p
  simp only [okd_B_reverse_transadmittance] at h
  simp only [rel, lin, Derived.holds, B_reverse_transadmittance]
  rintro ⟨h1, h2⟩ h0
  grind

def okd_B_forward_transimpedance (m : M2 K) (Z0 : K) : Prop := ok_B_Z m Z0
theorem B_forward_transimpedance_sound : DerivedSound .B .fwdTransimpedance (B_forward_transimpedance (K := K)) okd_B_forward_transimpedance :=
  entry_sound M2.a21 (by simp) B_to_Z_sound

def okd_B_reverse_transimpedance (m : M2 K) (Z0 : K) : Prop := ok_B_Z m Z0
theorem B_reverse_transimpedance_sound : DerivedSound .B .revTransimpedance (B_reverse_transimpedance (K := K)) okd_B_reverse_transimpedance :=
  entry_sound M2.a12 (by simp) B_to_Z_sound

def okd_B_voltage_gain (m : M2 K) (Z0 : K) : Prop := okd_B_Vgain12 m Z0
theorem B_voltage_gain_sound : DerivedSound .B .Vgain12 (B_voltage_gain (K := K)) okd_B_voltage_gain :=
  B_Vgain12_sound

def okd_B_forward_voltage_gain (m : M2 K) (Z0 : K) : Prop := okd_B_Vgain12 m Z0
theorem B_forward_voltage_gain_sound : DerivedSound .B .Vgain12 (B_forward_voltage_gain (K := K)) okd_B_forward_voltage_gain :=
  B_Vgain12_sound

def okd_B_reverse_voltage_gain (m : M2 K) (Z0 : K) : Prop := okd_B_Vgain21 m Z0
theorem B_reverse_voltage_gain_sound : DerivedSound .B .Vgain21 (B_reverse_voltage_gain (K := K)) okd_B_reverse_voltage_gain :=
  B_Vgain21_sound

def okd_B_current_gain (m : M2 K) (Z0 : K) : Prop := okd_B_Igain12 m Z0
theorem B_current_gain_sound : DerivedSound .B .Igain12 (B_current_gain (K := K)) okd_B_current_gain :=
  B_Igain12_sound

def okd_B_forward_current_gain (m : M2 K) (Z0 : K) : Prop := okd_B_Igain12 m Z0
theorem B_forward_current_gain_sound : DerivedSound .B .Igain12 (B_forward_current_gain (K := K)) okd_B_forward_current_gain :=
  B_Igain12_sound

def okd_B_reverse_current_gain (m : M2 K) (Z0 : K) : Prop := okd_B_Igain21 m Z0
theorem B_reverse_current_gain_sound : DerivedSound .B .Igain21 (B_reverse_current_gain (K := K)) okd_B_reverse_current_gain :=
  B_Igain21_sound

def okd_B_transadmittance (m : M2 K) (Z0 : K) : Prop := ok_B_Y m Z0
theorem B_transadmittance_sound : DerivedSound .B .fwdTransadmittance (B_transadmittance (K := K)) okd_B_transadmittance :=
  entry_sound M2.a21 (by simp) B_to_Y_sound

def okd_B_transimpedance (m : M2 K) (Z0 : K) : Prop := ok_B_Z m Z0
theorem B_transimpedance_sound : DerivedSound .B .fwdTransimpedance (B_transimpedance (K := K)) okd_B_transimpedance :=
  entry_sound M2.a21 (by simp) B_to_Z_sound

def okd_G_Z1oc (m : M2 K) (Z0 : K) : Prop := ok_G_A m Z0 ∧ okd_A_Z1oc (G_to_A m Z0) Z0
theorem G_Z1oc_sound : DerivedSound .G .Z1oc (G_Z1oc (K := K)) okd_G_Z1oc :=
  DerivedSound.via G_to_A_sound A_Z1oc_sound

def okd_G_Z1sc (m : M2 K) (Z0 : K) : Prop := ok_G_A m Z0 ∧ okd_A_Z1sc (G_to_A m Z0) Z0
theorem G_Z1sc_sound : DerivedSound .G .Z1sc (G_Z1sc (K := K)) okd_G_Z1sc :=
  DerivedSound.via G_to_A_sound A_Z1sc_sound

def okd_G_Z2oc (m : M2 K) (Z0 : K) : Prop := ok_G_A m Z0 ∧ okd_A_Z2oc (G_to_A m Z0) Z0
theorem G_Z2oc_sound : DerivedSound .G .Z2oc (G_Z2oc (K := K)) okd_G_Z2oc :=
  DerivedSound.via G_to_A_sound A_Z2oc_sound

def okd_G_Z2sc (m : M2 K) (Z0 : K) : Prop := ok_G_A m Z0 ∧ okd_A_Z2sc (G_to_A m Z0) Z0
theorem G_Z2sc_sound : DerivedSound .G .Z2sc (G_Z2sc (K := K)) okd_G_Z2sc :=
  DerivedSound.via G_to_A_sound A_Z2sc_sound

def okd_G_Vgain12 (m : M2 K) (Z0 : K) : Prop := ok_G_A m Z0 ∧ okd_A_Vgain12 (G_to_A m Z0) Z0
theorem G_Vgain12_sound : DerivedSound .G .Vgain12 (G_Vgain12 (K := K)) okd_G_Vgain12 :=
  DerivedSound.via G_to_A_sound A_Vgain12_sound

def okd_G_Vgain21 (m : M2 K) (Z0 : K) : Prop := ok_G_A m Z0 ∧ okd_A_Vgain21 (G_to_A m Z0) Z0
theorem G_Vgain21_sound : DerivedSound .G .Vgain21 (G_Vgain21 (K := K)) okd_G_Vgain21 :=
  DerivedSound.via G_to_A_sound A_Vgain21_sound

def okd_G_Igain12 (m : M2 K) (Z0 : K) : Prop := ok_G_A m Z0 ∧ okd_A_Igain12 (G_to_A m Z0) Z0
theorem G_Igain12_sound : DerivedSound .G .Igain12 (G_Igain12 (K := K)) okd_G_Igain12 :=
  DerivedSound.via G_to_A_sound A_Igain12_sound

def okd_G_Igain21 (m : M2 K) (Z0 : K) : Prop := ok_G_A m Z0 ∧ okd_A_Igain21 (G_to_A m Z0) Z0
theorem G_Igain21_sound : DerivedSound .G .Igain21 (G_Igain21 (K := K)) okd_G_Igain21 :=
  DerivedSound.via G_to_A_sound A_Igain21_sound

def okd_G_forward_transadmittance (m : M2 K) (Z0 : K) : Prop := ok_G_Y m Z0
theorem G_forward_transadmittance_sound : DerivedSound .G .fwdTransadmittance (G_forward_transadmittance (K := K)) okd_G_forward_transadmittance :=
  entry_sound M2.a21 (by simp) G_to_Y_sound

def okd_G_reverse_transadmittance (m : M2 K) (Z0 : K) : Prop := ok_G_Y m Z0
theorem G_reverse_transadmittance_sound : DerivedSound .G .revTransadmittance (G_reverse_transadmittance (K := K)) okd_G_reverse_transadmittance :=
  entry_sound M2.a12 (by simp) G_to_Y_sound

def okd_G_forward_transimpedance (m : M2 K) (Z0 : K) : Prop := ok_G_Z m Z0
theorem G_forward_transimpedance_sound : DerivedSound .G .fwdTransimpedance (G_forward_transimpedance (K := K)) okd_G_forward_transimpedance :=
  entry_sound M2.a21 (by simp) G_to_Z_sound

def okd_G_reverse_transimpedance (m : M2 K) (Z0 : K) : Prop := ok_G_Z m Z0
theorem G_reverse_transimpedance_sound : DerivedSound .G .revTransimpedance (G_reverse_transimpedance (K := K)) okd_G_reverse_transimpedance :=
  entry_sound M2.a12 (by simp) G_to_Z_sound

def okd_G_voltage_gain (m : M2 K) (Z0 : K) : Prop := okd_G_Vgain12 m Z0
theorem G_voltage_gain_sound : DerivedSound .G .Vgain12 (G_voltage_gain (K := K)) okd_G_voltage_gain :=
  G_Vgain12_sound

def okd_G_forward_voltage_gain (m : M2 K) (Z0 : K) : Prop := okd_G_Vgain12 m Z0
theorem G_forward_voltage_gain_sound : DerivedSound .G .Vgain12 (G_forward_voltage_gain (K := K)) okd_G_forward_voltage_gain :=
  G_Vgain12_sound

def okd_G_reverse_voltage_gain (m : M2 K) (Z0 : K) : Prop := okd_G_Vgain21 m Z0
theorem G_reverse_voltage_gain_sound : DerivedSound .G .Vgain21 (G_reverse_voltage_gain (K := K)) okd_G_reverse_voltage_gain :=
  G_Vgain21_sound

def okd_G_current_gain (m : M2 K) (Z0 : K) : Prop := okd_G_Igain12 m Z0
theorem G_current_gain_sound : DerivedSound .G .Igain12 (G_current_gain (K := K)) okd_G_current_gain :=
  G_Igain12_sound

def okd_G_forward_current_gain (m : M2 K) (Z0 : K) : Prop := okd_G_Igain12 m Z0
theorem G_forward_current_gain_sound : DerivedSound .G .Igain12 (G_forward_current_gain (K := K)) okd_G_forward_current_gain :=
  G_Igain12_sound

def okd_G_reverse_current_gain (m : M2 K) (Z0 : K) : Prop := okd_G_Igain21 m Z0
theorem G_reverse_current_gain_sound : DerivedSound .G .Igain21 (G_reverse_current_gain (K := K)) okd_G_reverse_current_gain :=
  G_Igain21_sound

def okd_G_transadmittance (m : M2 K) (Z0 : K) : Prop := ok_G_Y m Z0
theorem G_transadmittance_sound : DerivedSound .G .fwdTransadmittance (G_transadmittance (K := K)) okd_G_transadmittance :=
  entry_sound M2.a21 (by simp) G_to_Y_sound

def okd_G_transimpedance (m : M2 K) (Z0 : K) : Prop := ok_G_Z m Z0
theorem G_transimpedance_sound : DerivedSound .G .fwdTransimpedance (G_transimpedance (K := K)) okd_G_transimpedance :=
  entry_sound M2.a21 (by simp) G_to_Z_sound

def okd_H_Z1oc (m : M2 K) (Z0 : K) : Prop := ok_H_A m Z0 ∧ okd_A_Z1oc (H_to_A m Z0) Z0
theorem H_Z1oc_sound : DerivedSound .H .Z1oc (H_Z1oc (K := K)) okd_H_Z1oc :=
  DerivedSound.via H_to_A_sound A_Z1oc_sound

def okd_H_Z1sc (m : M2 K) (Z0 : K) : Prop := ok_H_A m Z0 ∧ okd_A_Z1sc (H_to_A m Z0) Z0
theorem H_Z1sc_sound : DerivedSound .H .Z1sc (H_Z1sc (K := K)) okd_H_Z1sc :=
  DerivedSound.via H_to_A_sound A_Z1sc_sound

def okd_H_Z2oc (m : M2 K) (Z0 : K) : Prop := ok_H_A m Z0 ∧ okd_A_Z2oc (H_to_A m Z0) Z0
theorem H_Z2oc_sound : DerivedSound .H .Z2oc (H_Z2oc (K := K)) okd_H_Z2oc :=
  DerivedSound.via H_to_A_sound A_Z2oc_sound

def okd_H_Z2sc (m : M2 K) (Z0 : K) : Prop := ok_H_A m Z0 ∧ okd_A_Z2sc (H_to_A m Z0) Z0
theorem H_Z2sc_sound : DerivedSound .H .Z2sc (H_Z2sc (K := K)) okd_H_Z2sc :=
  DerivedSound.via H_to_A_sound A_Z2sc_sound

def okd_H_Vgain12 (m : M2 K) (Z0 : K) : Prop := ok_H_A m Z0 ∧ okd_A_Vgain12 (H_to_A m Z0) Z0
theorem H_Vgain12_sound : DerivedSound .H .Vgain12 (H_Vgain12 (K := K)) okd_H_Vgain12 :=
  DerivedSound.via H_to_A_sound A_Vgain12_sound

def okd_H_Vgain21 (m : M2 K) (Z0 : K) : Prop := ok_H_A m Z0 ∧ okd_A_Vgain21 (H_to_A m Z0) Z0
theorem H_Vgain21_sound : DerivedSound .H .Vgain21 (H_Vgain21 (K := K)) okd_H_Vgain21 :=
  DerivedSound.via H_to_A_sound A_Vgain21_sound

def okd_H_Igain12 (m : M2 K) (Z0 : K) : Prop := ok_H_A m Z0 ∧ okd_A_Igain12 (H_to_A m Z0) Z0
theorem H_Igain12_sound : DerivedSound .H .Igain12 (H_Igain12 (K := K)) okd_H_Igain12 :=
  DerivedSound.via H_to_A_sound A_Igain12_sound

def okd_H_Igain21 (m : M2 K) (Z0 : K) : Prop := ok_H_A m Z0 ∧ okd_A_Igain21 (H_to_A m Z0) Z0
theorem H_Igain21_sound : DerivedSound .H .Igain21 (H_Igain21 (K := K)) okd_H_Igain21 :=
  DerivedSound.via H_to_A_sound A_Igain21_sound

def okd_H_forward_transadmittance (m : M2 K) (Z0 : K) : Prop := ok_H_Y m Z0
theorem H_forward_transadmittance_sound : DerivedSound .H .fwdTransadmittance (H_forward_transadmittance (K := K)) okd_H_forward_transadmittance :=
  entry_sound M2.a21 (by simp) H_to_Y_sound

def okd_H_reverse_transadmittance (m : M2 K) (Z0 : K) : Prop := ok_H_Y m Z0
theorem H_reverse_transadmittance_sound : DerivedSound .H .revTransadmittance (H_reverse_transadmittance (K := K)) okd_H_reverse_transadmittance :=
  entry_sound M2.a12 (by simp) H_to_Y_sound

def okd_H_forward_transimpedance (m : M2 K) (Z0 : K) : Prop := ok_H_Z m Z0
theorem H_forward_transimpedance_sound : DerivedSound .H .fwdTransimpedance (H_forward_transimpedance (K := K)) okd_H_forward_transimpedance :=
  entry_sound M2.a21 (by simp) H_to_Z_sound

def okd_H_reverse_transimpedance (m : M2 K) (Z0 : K) : Prop := ok_H_Z m Z0
theorem H_reverse_transimpedance_sound : DerivedSound .H .revTransimpedance (H_reverse_transimpedance (K := K)) okd_H_reverse_transimpedance :=
  entry_sound M2.a12 (by simp) H_to_Z_sound

def okd_H_voltage_gain (m : M2 K) (Z0 : K) : Prop := okd_H_Vgain12 m Z0
theorem H_voltage_gain_sound : DerivedSound .H .Vgain12 (H_voltage_gain (K := K)) okd_H_voltage_gain :=
  H_Vgain12_sound

def okd_H_forward_voltage_gain (m : M2 K) (Z0 : K) : Prop := okd_H_Vgain12 m Z0
theorem H_forward_voltage_gain_sound : DerivedSound .H .Vgain12 (H_forward_voltage_gain (K := K)) okd_H_forward_voltage_gain :=
  H_Vgain12_sound

def okd_H_reverse_voltage_gain (m : M2 K) (Z0 : K) : Prop := okd_H_Vgain21 m Z0
theorem H_reverse_voltage_gain_sound : DerivedSound .H .Vgain21 (H_reverse_voltage_gain (K := K)) okd_H_reverse_voltage_gain :=
  H_Vgain21_sound

def okd_H_current_gain (m : M2 K) (Z0 : K) : Prop := okd_H_Igain12 m Z0
theorem H_current_gain_sound : DerivedSound .H .Igain12 (H_current_gain (K := K)) okd_H_current_gain :=
  H_Igain12_sound

def okd_H_forward_current_gain (m : M2 K) (Z0 : K) : Prop := okd_H_Igain12 m Z0
theorem H_forward_current_gain_sound : DerivedSound .H .Igain12 (H_forward_current_gain (K := K)) okd_H_forward_current_gain :=
  H_Igain12_sound

def okd_H_reverse_current_gain (m : M2 K) (Z0 : K) : Prop := okd_H_Igain21 m Z0
theorem H_reverse_current_gain_sound : DerivedSound .H .Igain21 (H_reverse_current_gain (K := K)) okd_H_reverse_current_gain :=
  H_Igain21_sound

def okd_H_transadmittance (m : M2 K) (Z0 : K) : Prop := ok_H_Y m Z0
theorem H_transadmittance_sound : DerivedSound .H .fwdTransadmittance (H_transadmittance (K := K)) okd_H_transadmittance :=
  entry_sound M2.a21 (by simp) H_to_Y_sound

def okd_H_transimpedance (m : M2 K) (Z0 : K) : Prop := ok_H_Z m Z0
theorem H_transimpedance_sound : DerivedSound .H .fwdTransimpedance (H_transimpedance (K := K)) okd_H_transimpedance :=
  entry_sound M2.a21 (by simp) H_to_Z_sound

def okd_S_Z1oc (m : M2 K) (Z0 : K) : Prop := ok_S_A m Z0 ∧ okd_A_Z1oc (S_to_A m Z0) Z0
theorem S_Z1oc_sound : DerivedSound .S .Z1oc (S_Z1oc (K := K)) okd_S_Z1oc :=
  DerivedSound.via S_to_A_sound A_Z1oc_sound

def okd_S_Z1sc (m : M2 K) (Z0 : K) : Prop := ok_S_A m Z0 ∧ okd_A_Z1sc (S_to_A m Z0) Z0
theorem S_Z1sc_sound : DerivedSound .S .Z1sc (S_Z1sc (K := K)) okd_S_Z1sc :=
  DerivedSound.via S_to_A_sound A_Z1sc_sound

def okd_S_Z2oc (m : M2 K) (Z0 : K) : Prop := ok_S_A m Z0 ∧ okd_A_Z2oc (S_to_A m Z0) Z0
theorem S_Z2oc_sound : DerivedSound .S .Z2oc (S_Z2oc (K := K)) okd_S_Z2oc :=
  DerivedSound.via S_to_A_sound A_Z2oc_sound

def okd_S_Z2sc (m : M2 K) (Z0 : K) : Prop := ok_S_A m Z0 ∧ okd_A_Z2sc (S_to_A m Z0) Z0
theorem S_Z2sc_sound : DerivedSound .S .Z2sc (S_Z2sc (K := K)) okd_S_Z2sc :=
  DerivedSound.via S_to_A_sound A_Z2sc_sound

def okd_S_Vgain12 (m : M2 K) (Z0 : K) : Prop := ok_S_A m Z0 ∧ okd_A_Vgain12 (S_to_A m Z0) Z0
theorem S_Vgain12_sound : DerivedSound .S .Vgain12 (S_Vgain12 (K := K)) okd_S_Vgain12 :=
  DerivedSound.via S_to_A_sound A_Vgain12_sound

def okd_S_Vgain21 (m : M2 K) (Z0 : K) : Prop := ok_S_A m Z0 ∧ okd_A_Vgain21 (S_to_A m Z0) Z0
theorem S_Vgain21_sound : DerivedSound .S .Vgain21 (S_Vgain21 (K := K)) okd_S_Vgain21 :=
  DerivedSound.via S_to_A_sound A_Vgain21_sound

def okd_S_Igain12 (m : M2 K) (Z0 : K) : Prop := ok_S_A m Z0 ∧ okd_A_Igain12 (S_to_A m Z0) Z0
theorem S_Igain12_sound : DerivedSound .S .Igain12 (S_Igain12 (K := K)) okd_S_Igain12 :=
  DerivedSound.via S_to_A_sound A_Igain12_sound

def okd_S_Igain21 (m : M2 K) (Z0 : K) : Prop := ok_S_A m Z0 ∧ okd_A_Igain21 (S_to_A m Z0) Z0
theorem S_Igain21_sound : DerivedSound .S .Igain21 (S_Igain21 (K := K)) okd_S_Igain21 :=
  DerivedSound.via S_to_A_sound A_Igain21_sound

def okd_S_forward_transadmittance (m : M2 K) (Z0 : K) : Prop := ok_S_Y m Z0
theorem S_forward_transadmittance_sound : DerivedSound .S .fwdTransadmittance (S_forward_transadmittance (K := K)) okd_S_forward_transadmittance :=
  entry_sound M2.a21 (by simp) S_to_Y_sound

def okd_S_reverse_transadmittance (m : M2 K) (Z0 : K) : Prop := ok_S_Y m Z0
theorem S_reverse_transadmittance_sound : DerivedSound .S .revTransadmittance (S_reverse_transadmittance (K := K)) okd_S_reverse_transadmittance :=
  entry_sound M2.a12 (by simp) S_to_Y_sound

def okd_S_forward_transimpedance (m : M2 K) (Z0 : K) : Prop := ok_S_Z m Z0
theorem S_forward_transimpedance_sound : DerivedSound .S .fwdTransimpedance (S_forward_transimpedance (K := K)) okd_S_forward_transimpedance :=
  entry_sound M2.a21 (by simp) S_to_Z_sound

def okd_S_reverse_transimpedance (m : M2 K) (Z0 : K) : Prop := ok_S_Z m Z0
theorem S_reverse_transimpedance_sound : DerivedSound .S .revTransimpedance (S_reverse_transimpedance (K := K)) okd_S_reverse_transimpedance :=
  entry_sound M2.a12 (by simp) S_to_Z_sound

def okd_S_voltage_gain (m : M2 K) (Z0 : K) : Prop := okd_S_Vgain12 m Z0
theorem S_voltage_gain_sound : DerivedSound .S .Vgain12 (S_voltage_gain (K := K)) okd_S_voltage_gain :=
  S_Vgain12_sound

def okd_S_forward_voltage_gain (m : M2 K) (Z0 : K) : Prop := okd_S_Vgain12 m Z0
theorem S_forward_voltage_gain_sound : DerivedSound .S .Vgain12 (S_forward_voltage_gain (K := K)) okd_S_forward_voltage_gain :=
  S_Vgain12_sound

def okd_S_reverse_voltage_gain (m : M2 K) (Z0 : K) : Prop := okd_S_Vgain21 m Z0
theorem S_reverse_voltage_gain_sound : DerivedSound .S .Vgain21 (S_reverse_voltage_gain (K := K)) okd_S_reverse_voltage_gain :=
  S_Vgain21_sound

def okd_S_current_gain (m : M2 K) (Z0 : K) : Prop := okd_S_Igain12 m Z0
theorem S_current_gain_sound : DerivedSound .S .Igain12 (S_current_gain (K := K)) okd_S_current_gain :=
  S_Igain12_sound

def okd_S_forward_current_gain (m : M2 K) (Z0 : K) : Prop := okd_S_Igain12 m Z0
theorem S_forward_current_gain_sound : DerivedSound .S .Igain12 (S_forward_current_gain (K := K)) okd_S_forward_current_gain :=
  S_Igain12_sound

def okd_S_reverse_current_gain (m : M2 K) (Z0 : K) : Prop := okd_S_Igain21 m Z0
theorem S_reverse_current_gain_sound : DerivedSound .S .Igain21 (S_reverse_current_gain (K := K)) okd_S_reverse_current_gain :=
  S_Igain21_sound

def okd_S_transadmittance (m : M2 K) (Z0 : K) : Prop := ok_S_Y m Z0
theorem S_transadmittance_sound : DerivedSound .S .fwdTransadmittance (S_transadmittance (K := K)) okd_S_transadmittance :=
  entry_sound M2.a21 (by simp) S_to_Y_sound

def okd_S_transimpedance (m : M2 K) (Z0 : K) : Prop := ok_S_Z m Z0
theorem S_transimpedance_sound : DerivedSound .S .fwdTransimpedance (S_transimpedance (K := K)) okd_S_transimpedance :=
  entry_sound M2.a21 (by simp) S_to_Z_sound

def okd_T_Z1oc (m : M2 K) (Z0 : K) : Prop := ok_T_A m Z0 ∧ okd_A_Z1oc (T_to_A m Z0) Z0
theorem T_Z1oc_sound : DerivedSound .T .Z1oc (T_Z1oc (K := K)) okd_T_Z1oc :=
  DerivedSound.via T_to_A_sound A_Z1oc_sound

def okd_T_Z1sc (m : M2 K) (Z0 : K) : Prop := ok_T_A m Z0 ∧ okd_A_Z1sc (T_to_A m Z0) Z0
theorem T_Z1sc_sound : DerivedSound .T .Z1sc (T_Z1sc (K := K)) okd_T_Z1sc :=
  DerivedSound.via T_to_A_sound A_Z1sc_sound

def okd_T_Z2oc (m : M2 K) (Z0 : K) : Prop := ok_T_A m Z0 ∧ okd_A_Z2oc (T_to_A m Z0) Z0
theorem T_Z2oc_sound : DerivedSound .T .Z2oc (T_Z2oc (K := K)) okd_T_Z2oc :=
  DerivedSound.via T_to_A_sound A_Z2oc_sound

def okd_T_Z2sc (m : M2 K) (Z0 : K) : Prop := ok_T_A m Z0 ∧ okd_A_Z2sc (T_to_A m Z0) Z0
theorem T_Z2sc_sound : DerivedSound .T .Z2sc (T_Z2sc (K := K)) okd_T_Z2sc :=
  DerivedSound.via T_to_A_sound A_Z2sc_sound

def okd_T_Vgain12 (m : M2 K) (Z0 : K) : Prop := ok_T_A m Z0 ∧ okd_A_Vgain12 (T_to_A m Z0) Z0
theorem T_Vgain12_sound : DerivedSound .T .Vgain12 (T_Vgain12 (K := K)) okd_T_Vgain12 :=
  DerivedSound.via T_to_A_sound A_Vgain12_sound

def okd_T_Vgain21 (m : M2 K) (Z0 : K) : Prop := ok_T_A m Z0 ∧ okd_A_Vgain21 (T_to_A m Z0) Z0
theorem T_Vgain21_sound : DerivedSound .T .Vgain21 (T_Vgain21 (K := K)) okd_T_Vgain21 :=
  DerivedSound.via T_to_A_sound A_Vgain21_sound

def okd_T_Igain12 (m : M2 K) (Z0 : K) : Prop := ok_T_A m Z0 ∧ okd_A_Igain12 (T_to_A m Z0) Z0
theorem T_Igain12_sound : DerivedSound .T .Igain12 (T_Igain12 (K := K)) okd_T_Igain12 :=
  DerivedSound.via T_to_A_sound A_Igain12_sound

def okd_T_Igain21 (m : M2 K) (Z0 : K) : Prop := ok_T_A m Z0 ∧ okd_A_Igain21 (T_to_A m Z0) Z0
theorem T_Igain21_sound : DerivedSound .T .Igain21 (T_Igain21 (K := K)) okd_T_Igain21 :=
  DerivedSound.via T_to_A_sound A_Igain21_sound

def okd_T_forward_transadmittance (m : M2 K) (Z0 : K) : Prop := ok_T_Y m Z0
theorem T_forward_transadmittance_sound : DerivedSound .T .fwdTransadmittance (T_forward_transadmittance (K := K)) okd_T_forward_transadmittance :=
  entry_sound M2.a21 (by simp) T_to_Y_sound

def okd_T_reverse_transadmittance (m : M2 K) (Z0 : K) : Prop := ok_T_Y m Z0
theorem T_reverse_transadmittance_sound : DerivedSound .T .revTransadmittance (T_reverse_transadmittance (K := K)) okd_T_reverse_transadmittance :=
  entry_sound M2.a12 (by simp) T_to_Y_sound

def okd_T_forward_transimpedance (m : M2 K) (Z0 : K) : Prop := ok_T_Z m Z0
theorem T_forward_transimpedance_sound : DerivedSound .T .fwdTransimpedance (T_forward_transimpedance (K := K)) okd_T_forward_transimpedance :=
  entry_sound M2.a21 (by simp) T_to_Z_sound

def okd_T_reverse_transimpedance (m : M2 K) (Z0 : K) : Prop := ok_T_Z m Z0
theorem T_reverse_transimpedance_sound : DerivedSound .T .revTransimpedance (T_reverse_transimpedance (K := K)) okd_T_reverse_transimpedance :=
  entry_sound M2.a12 (by simp) T_to_Z_sound

def okd_T_voltage_gain (m : M2 K) (Z0 : K) : Prop := okd_T_Vgain12 m Z0
theorem T_voltage_gain_sound : DerivedSound .T .Vgain12 (T_voltage_gain (K := K)) okd_T_voltage_gain :=
  T_Vgain12_sound

def okd_T_forward_voltage_gain (m : M2 K) (Z0 : K) : Prop := okd_T_Vgain12 m Z0
theorem T_forward_voltage_gain_sound : DerivedSound .T .Vgain12 (T_forward_voltage_gain (K := K)) okd_T_forward_voltage_gain :=
  T_Vgain12_sound

def okd_T_reverse_voltage_gain (m : M2 K) (Z0 : K) : Prop := okd_T_Vgain21 m Z0
theorem T_reverse_voltage_gain_sound : DerivedSound .T .Vgain21 (T_reverse_voltage_gain (K := K)) okd_T_reverse_voltage_gain :=
  T_Vgain21_sound

def okd_T_current_gain (m : M2 K) (Z0 : K) : Prop := okd_T_Igain12 m Z0
theorem T_current_gain_sound : DerivedSound .T .Igain12 (T_current_gain (K := K)) okd_T_current_gain :=
  T_Igain12_sound

def okd_T_forward_current_gain (m : M2 K) (Z0 : K) : Prop := okd_T_Igain12 m Z0
theorem T_forward_current_gain_sound : DerivedSound .T .Igain12 (T_forward_current_gain (K := K)) okd_T_forward_current_gain :=
  T_Igain12_sound

def okd_T_reverse_current_gain (m : M2 K) (Z0 : K) : Prop := okd_T_Igain21 m Z0
theorem T_reverse_current_gain_sound : DerivedSound .T .Igain21 (T_reverse_current_gain (K := K)) okd_T_reverse_current_gain :=
  T_Igain21_sound

def okd_T_transadmittance (m : M2 K) (Z0 : K) : Prop := ok_T_Y m Z0
theorem T_transadmittance_sound : DerivedSound .T .fwdTransadmittance (T_transadmittance (K := K)) okd_T_transadmittance :=
  entry_sound M2.a21 (by simp) T_to_Y_sound

def okd_T_transimpedance (m : M2 K) (Z0 : K) : Prop := ok_T_Z m Z0
theorem T_transimpedance_sound : DerivedSound .T .fwdTransimpedance (T_transimpedance (K := K)) okd_T_transimpedance :=
  entry_sound M2.a21 (by simp) T_to_Z_sound

def okd_Y_Z1oc (m : M2 K) (Z0 : K) : Prop := ok_Y_A m Z0 ∧ okd_A_Z1oc (Y_to_A m Z0) Z0
theorem Y_Z1oc_sound : DerivedSound .Y .Z1oc (Y_Z1oc (K := K)) okd_Y_Z1oc :=
  DerivedSound.via Y_to_A_sound A_Z1oc_sound

def okd_Y_Z1sc (m : M2 K) (Z0 : K) : Prop := m.a11 ≠ 0
theorem Y_Z1sc_sound : DerivedSound .Y .Z1sc (Y_Z1sc (K := K)) okd_Y_Z1sc := by
  intro m Z0 p h
  obtain ⟨V1, I1, V2, I2⟩ := p
  simp only [okd_Y_Z1sc] at h
  simp only [rel, lin, Derived.holds, Y_Z1sc]
  rintro ⟨h1, h2⟩ h0
  grind

def okd_Y_Z2oc (m : M2 K) (Z0 : K) : Prop := ok_Y_A m Z0 ∧ okd_A_Z2oc (Y_to_A m Z0) Z0
theorem Y_Z2oc_sound : DerivedSound .Y .Z2oc (Y_Z2oc (K := K)) okd_Y_Z2oc :=
  DerivedSound.via Y_to_A_sound A_Z2oc_sound

def okd_Y_Z2sc (m : M2 K) (Z0 : K) : Prop := m.a22 ≠ 0
theorem Y_Z2sc_sound : DerivedSound .Y .Z2sc (Y_Z2sc (K := K)) okd_Y_Z2sc := by
  intro m Z0 p h
  obtain ⟨V1, I1, V2, I2⟩ := p
  simp only [okd_Y_Z2sc] at h
  simp only [rel, lin, Derived.holds, Y_Z2sc]
  rintro ⟨h1, h2⟩ h0
  grind

def okd_Y_Vgain12 (m : M2 K) (Z0 : K) : Prop := m.a22 ≠ 0
theorem Y_Vgain12_sound : DerivedSound .Y .Vgain12 (Y_Vgain12 (K := K)) okd_Y_Vgain12 := by
  intro m Z0 p h
  obtain ⟨V1, I1, V2, I2⟩ := p
  simp only [okd_Y_Vgain12] at h
  simp only [rel, lin, Derived.holds, Y_Vgain12]
  rintro ⟨h1, h2⟩ h0
  grind

def okd_Y_Vgain21 (m : M2 K) (Z0 : K) : Prop := m.a11 ≠ 0
theorem Y_Vgain21_sound : DerivedSound .Y .Vgain21 (Y_Vgain21 (K := K)) okd_Y_Vgain21 := by
  intro m Z0 p h
  obtain ⟨V1, I1, V2, I2⟩ := p
  simp only [okd_Y_Vgain21] at h
  simp only [rel, lin, Derived.holds, Y_Vgain21]
  rintro ⟨h1, h2⟩ h0
  grind

def okd_Y_Igain12 (m : M2 K) (Z0 : K) : Prop := m.a11 ≠ 0
theorem Y_Igain12_sound : DerivedSound .Y .Igain12 (Y_Igain12 (K := K)) okd_Y_Igain12 := by
  intro m Z0 p h
  obtain ⟨V1, I1, V2, I2⟩ := p
  simp only [okd_Y_Igain12] at h
  simp only [rel, lin, Derived.holds, Y_Igain12]
  rintro ⟨h1, h2⟩ h0
  grind

def okd_Y_Igain21 (m : M2 K) (Z0 : K) : Prop := m.a22 ≠ 0
theorem Y_Igain21_sound : DerivedSound .Y .Igain21 (Y_Igain21 (K := K)) okd_Y_Igain21 := by
  intro m Z0 p h
  obtain ⟨V1, I1, V2, I2⟩ := p
  simp only [okd_Y_Igain21] at h
  simp only [rel, lin, Derived.holds, Y_Igain21]
  rintro ⟨h1, h2⟩ h0
  grind

def okd_Y_forward_transadmittance (m : M2 K) (Z0 : K) : Prop := True
theorem Y_forward_transadmittance_sound : DerivedSound .Y .fwdTransadmittance (Y_forward_transadmittance (K := K)) okd_Y_forward_transadmittance :=
  entry_sound M2.a21 (by simp) Y_to_Y_sound

def okd_Y_reverse_transadmittance (m : M2 K) (Z0 : K) : Prop := True
theorem Y_reverse_transadmittance_sound : DerivedSound .Y .revTransadmittance (Y_reverse_transadmittance (K := K)) okd_Y_reverse_transadmittance :=
  entry_sound M2.a12 (by simp) Y_to_Y_sound

def okd_Y_forward_transimpedance (m : M2 K) (Z0 : K) : Prop := ok_Y_Z m Z0
theorem Y_forward_transimpedance_sound : DerivedSound .Y .fwdTransimpedance (Y_forward_transimpedance (K := K)) okd_Y_forward_transimpedance :=
  entry_sound M2.a21 (by simp) Y_to_Z_sound

def okd_Y_reverse_transimpedance (m : M2 K) (Z0 : K) : Prop := ok_Y_Z m Z0
theorem Y_reverse_transimpedance_sound : DerivedSound .Y .revTransimpedance (Y_reverse_transimpedance (K := K)) okd_Y_reverse_transimpedance :=
  entry_sound M2.a12 (by simp) Y_to_Z_sound

def okd_Y_voltage_gain (m : M2 K) (Z0 : K) : Prop := okd_Y_Vgain12 m Z0
theorem Y_voltage_gain_sound : DerivedSound .Y .Vgain12 (Y_voltage_gain (K := K)) okd_Y_voltage_gain :=
  Y_Vgain12_sound

def okd_Y_forward_voltage_gain (m : M2 K) (Z0 : K) : Prop := okd_Y_Vgain12 m Z0
theorem Y_forward_voltage_gain_sound : DerivedSound .Y .Vgain12 (Y_forward_voltage_gain (K := K)) okd_Y_forward_voltage_gain :=
  Y_Vgain12_sound

def okd_Y_reverse_voltage_gain (m : M2 K) (Z0 : K) : Prop := okd_Y_Vgain21 m Z0
theorem Y_reverse_voltage_gain_sound : DerivedSound .Y .Vgain21 (Y_reverse_voltage_gain (K := K)) okd_Y_reverse_voltage_gain :=
  Y_Vgain21_sound

def okd_Y_current_gain (m : M2 K) (Z0 : K) : Prop := okd_Y_Igain12 m Z0
theorem Y_current_gain_sound : DerivedSound .Y .Igain12 (Y_current_gain (K := K)) okd_Y_current_gain :=
  Y_Igain12_sound

def okd_Y_forward_current_gain (m : M2 K) (Z0 : K) : Prop := okd_Y_Igain12 m Z0
theorem Y_forward_current_gain_sound : DerivedSound .Y .Igain12 (Y_forward_current_gain (K := K)) okd_Y_forward_current_gain :=
  Y_Igain12_sound

def okd_Y_reverse_current_gain (m : M2 K) (Z0 : K) : Prop := okd_Y_Igain21 m Z0
theorem Y_reverse_current_gain_sound : DerivedSound .Y .Igain21 (Y_reverse_current_gain (K := K)) okd_Y_reverse_current_gain :=
  Y_Igain21_sound

def okd_Y_transadmittance (m : M2 K) (Z0 : K) : Prop := True
theorem Y_transadmittance_sound : DerivedSound .Y .fwdTransadmittance (Y_transadmittance (K := K)) okd_Y_transadmittance :=
  entry_sound M2.a21 (by simp) Y_to_Y_sound

def okd_Y_transimpedance (m : M2 K) (Z0 : K) : Prop := ok_Y_Z m Z0
theorem Y_transimpedance_sound : DerivedSound .Y .fwdTransimpedance (Y_transimpedance (K := K)) okd_Y_transimpedance :=
  entry_sound M2.a21 (by simp) Y_to_Z_sound

def okd_Z_Z1oc (m : M2 K) (Z0 : K) : Prop := True
theorem Z_Z1oc_sound : DerivedSound .Z .Z1oc (Z_Z1oc (K := K)) okd_Z_Z1oc := by
  intro m Z0 p h
  obtain ⟨V1, I1, V2, I2⟩ := p
  simp only [okd_Z_Z1oc] at h
  simp only [rel, lin, Derived.holds, Z_Z1oc]
  rintro ⟨h1, h2⟩ h0
  grind

def okd_Z_Z1sc (m : M2 K) (Z0 : K) : Prop := ok_Z_A m Z0 ∧ okd_A_Z1sc (Z_to_A m Z0) Z0
theorem Z_Z1sc_sound : DerivedSound .Z .Z1sc (Z_Z1sc (K := K)) okd_Z_Z1sc :=
  DerivedSound.via Z_to_A_sound A_Z1sc_sound

def okd_Z_Z2oc (m : M2 K) (Z0 : K) : Prop := True
theorem Z_Z2oc_sound : DerivedSound .Z .Z2oc (Z_Z2oc (K := K)) okd_Z_Z2oc := by
  intro m Z0 p h
  obtain ⟨V1, I1, V2, I2⟩ := p
  simp only [okd_Z_Z2oc] at h
  simp only [rel, lin, Derived.holds, Z_Z2oc]
  rintro ⟨h1, h2⟩ h0
  grind

def okd_Z_Z2sc (m : M2 K) (Z0 : K) : Prop := ok_Z_A m Z0 ∧ okd_A_Z2sc (Z_to_A m Z0) Z0
theorem Z_Z2sc_sound : DerivedSound .Z .Z2sc (Z_Z2sc (K := K)) okd_Z_Z2sc :=
  DerivedSound.via Z_to_A_sound A_Z2sc_sound

def okd_Z_Vgain12 (m : M2 K) (Z0 : K) : Prop := m.a11 ≠ 0
theorem Z_Vgain12_sound : DerivedSound .Z .Vgain12 (Z_Vgain12 (K := K)) okd_Z_Vgain12 := by
  intro m Z0 p h
  obtain ⟨V1, I1, V2, I2⟩ := p
  simp only [okd_Z_Vgain12] at h
  simp only [rel, lin, Derived.holds, Z_Vgain12]
  rintro ⟨h1, h2⟩ h0
  grind

def okd_Z_Vgain21 (m : M2 K) (Z0 : K) : Prop := m.a22 ≠ 0
theorem Z_Vgain21_sound : DerivedSound .Z .Vgain21 (Z_Vgain21 (K := K)) okd_Z_Vgain21 := by
  intro m Z0 p h
  obtain ⟨V1, I1, V2, I2⟩ := p
  simp only [okd_Z_Vgain21] at h
  simp only [rel, lin, Derived.holds, Z_Vgain21]
  rintro ⟨h1, h2⟩ h0
  grind

def okd_Z_Igain12 (m : M2 K) (Z0 : K) : Prop := m.a22 ≠ 0
theorem Z_Igain12_sound : DerivedSound .Z .Igain12 (Z_Igain12 (K := K)) okd_Z_Igain12 := by
  intro m Z0 p h
  obtain ⟨V1, I1, V2, I2⟩ := p
  simp only [okd_Z_Igain12] at h
  simp only [rel, lin, Derived.holds, Z_Igain12]
  rintro ⟨h1, h2⟩ h0
  grind

def okd_Z_Igain21 (m : M2 K) (Z0 : K) : Prop := m.a11 ≠ 0
theorem Z_Igain21_sound : DerivedSound .Z .Igain21 (Z_Igain21 (K := K)) okd_Z_Igain21 := by
  intro m Z0 p h
  obtain ⟨V1, I1, V2, I2⟩ := p
  simp only [okd_Z_Igain21] at h
  simp only [rel, lin, Derived.holds, Z_Igain21]
  rintro ⟨h1, h2⟩ h0
  grind

def okd_Z_forward_transadmittance (m : M2 K) (Z0 : K) : Prop := ok_Z_Y m Z0
theorem Z_forward_transadmittance_sound : DerivedSound .Z .fwdTransadmittance (Z_forward_transadmittance (K := K)) okd_Z_forward_transadmittance :=
  entry_sound M2.a21 (by simp) Z_to_Y_sound

def okd_Z_reverse_transadmittance (m : M2 K) (Z0 : K) : Prop := ok_Z_Y m Z0
theorem Z_reverse_transadmittance_sound : DerivedSound .Z .revTransadmittance (Z_reverse_transadmittance (K := K)) okd_Z_reverse_transadmittance :=
  entry_sound M2.a12 (by simp) Z_to_Y_sound

def okd_Z_forward_transimpedance (m : M2 K) (Z0 : K) : Prop := True
theorem Z_forward_transimpedance_sound : DerivedSound .Z .fwdTransimpedance (Z_forward_transimpedance (K := K)) okd_Z_forward_transimpedance :=
  entry_sound M2.a21 (by simp) Z_to_Z_sound

def okd_Z_reverse_transimpedance (m : M2 K) (Z0 : K) : Prop := True
theorem Z_reverse_transimpedance_sound : DerivedSound .Z .revTransimpedance (Z_reverse_transimpedance (K := K)) okd_Z_reverse_transimpedance :=
  entry_sound M2.a12 (by simp) Z_to_Z_sound

def okd_Z_voltage_gain (m : M2 K) (Z0 : K) : Prop := okd_Z_Vgain12 m Z0
theorem Z_voltage_gain_sound : DerivedSound .Z .Vgain12 (Z_voltage_gain (K := K)) okd_Z_voltage_gain :=
  Z_Vgain12_sound

def okd_Z_forward_voltage_gain (m : M2 K) (Z0 : K) : Prop := okd_Z_Vgain12 m Z0
theorem Z_forward_voltage_gain_sound : DerivedSound .Z .Vgain12 (Z_forward_voltage_gain (K := K)) okd_Z_forward_voltage_gain :=
  Z_Vgain12_sound

def okd_Z_reverse_voltage_gain (m : M2 K) (Z0 : K) : Prop := okd_Z_Vgain21 m Z0
theorem Z_reverse_voltage_gain_sound : DerivedSound .Z .Vgain21 (Z_reverse_voltage_gain (K := K)) okd_Z_reverse_voltage_gain :=
  Z_Vgain21_sound

def okd_Z_current_gain (m : M2 K) (Z0 : K) : Prop := okd_Z_Igain12 m Z0
theorem Z_current_gain_sound : DerivedSound .Z .Igain12 (Z_current_gain (K := K)) okd_Z_current_gain :=
  Z_Igain12_sound

def okd_Z_forward_current_gain (m : M2 K) (Z0 : K) : Prop := okd_Z_Igain12 m Z0
theorem Z_forward_current_gain_sound : DerivedSound .Z .Igain12 (Z_forward_current_gain (K := K)) okd_Z_forward_current_gain :=
  Z_Igain12_sound

def okd_Z_reverse_current_gain (m : M2 K) (Z0 : K) : Prop := okd_Z_Igain21 m Z0
theorem Z_reverse_current_gain_sound : DerivedSound .Z .Igain21 (Z_reverse_current_gain (K := K)) okd_Z_reverse_current_gain :=
  Z_Igain21_sound

def okd_Z_transadmittance (m : M2 K) (Z0 : K) : Prop := ok_Z_Y m Z0
theorem Z_transadmittance_sound : DerivedSound .Z .fwdTransadmittance (Z_transadmittance (K := K)) okd_Z_transadmittance :=
  entry_sound M2.a21 (by simp) Z_to_Y_sound

def okd_Z_transimpedance (m : M2 K) (Z0 : K) : Prop := True
theorem Z_transimpedance_sound : DerivedSound .Z .fwdTransimpedance (Z_transimpedance (K := K)) okd_Z_transimpedance :=
  entry_sound M2.a21 (by simp) Z_to_Z_sound

/-! ## 3b. Derived quantities have the same VALUE whichever representation they are computed from

  The `X_attr_sound` theorems above say that each value meets its port definition; the port
  definition determines the value as soon as some port of the two-port meets the premise with a
  non-zero input (`DerivedSound.agree / unique`), and such a port always exists when the quantity
  is defined (`pinPortA_spec`).  Hence `attr_agree`: any two representations of the same two-port
  give the same value; `X_attr_agree` (160 instances): the value computed from representation X
  equals the value computed from the chain matrix of the same two-port.  Where the code itself
  computes `X_attr m` as `A_attr (X_to_A m)` this is `rfl` and needs no side condition. -/

/-- the port variable that a derived quantity requires to vanish / its output / its input -/
def dPremise : Derived → Port K → K
  | .Z1oc, p => p.I2 | .Z1sc, p => p.V2 | .Z2oc, p => p.I1 | .Z2sc, p => p.V1
  | .Vgain12, p => p.I2 | .Vgain21, p => p.I1 | .Igain12, p => p.V2 | .Igain21, p => p.V1
  | .fwdTransadmittance, p => p.V2 | .revTransadmittance, p => p.V1
  | .fwdTransimpedance, p => p.I2 | .revTransimpedance, p => p.I1
def dOut : Derived → Port K → K
  | .Z1oc, p => p.V1 | .Z1sc, p => p.V1 | .Z2oc, p => p.V2 | .Z2sc, p => p.V2
  | .Vgain12, p => p.V2 | .Vgain21, p => p.V1 | .Igain12, p => p.I2 | .Igain21, p => p.I1
  | .fwdTransadmittance, p => p.I2 | .revTransadmittance, p => p.I1
  | .fwdTransimpedance, p => p.V2 | .revTransimpedance, p => p.V1
def dIn : Derived → Port K → K
  | .Z1oc, p => p.I1 | .Z1sc, p => p.I1 | .Z2oc, p => p.I2 | .Z2sc, p => p.I2
  | .Vgain12, p => p.V1 | .Vgain21, p => p.V2 | .Igain12, p => p.I1 | .Igain21, p => p.I2
  | .fwdTransadmittance, p => p.V1 | .revTransadmittance, p => p.V2
  | .fwdTransimpedance, p => p.I1 | .revTransimpedance, p => p.I2

/-- (definition check) `Derived.holds` is "premise = 0 → out = q · in" -/
theorem derived_holds_iff (d : Derived) (q : K) (p : Port K) :
    d.holds q p ↔ (dPremise d p = 0 → dOut d p = q * dIn d p) := by
  cases d <;> exact Iff.rfl

/-- two values that both meet the port definition on a port with non-zero input coincide -/
theorem DerivedSound.agree {X Q : Rep} {d : Derived} {q q' : M2 K → K → K} {ok ok' : M2 K → K → Prop}
    (h : DerivedSound X d q ok) (h' : DerivedSound Q d q' ok') (m m' : M2 K) (Z0 : K)
    (o : ok m Z0) (o' : ok' m' Z0)
    (hex : ∃ p, rel X m Z0 p ∧ rel Q m' Z0 p ∧ dPremise d p = 0 ∧ dIn d p ≠ 0) :
    q m Z0 = q' m' Z0 := by
  obtain ⟨p, hp, hp', h0, hin⟩ := hex
  have e1 := (derived_holds_iff d _ p).mp (h m Z0 p o hp) h0
  have e2 := (derived_holds_iff d _ p).mp (h' m' Z0 p o' hp') h0
  exact mul_right_cancel₀ hin (e1.symm.trans e2)

/-- a soundness theorem determines the value of the attribute -/
theorem DerivedSound.unique {X : Rep} {d : Derived} {q q' : M2 K → K → K} {ok ok' : M2 K → K → Prop}
    (h : DerivedSound X d q ok) (h' : DerivedSound X d q' ok') (m : M2 K) (Z0 : K)
    (o : ok m Z0) (o' : ok' m Z0)
    (hex : ∃ p, rel X m Z0 p ∧ dPremise d p = 0 ∧ dIn d p ≠ 0) : q m Z0 = q' m Z0 := by
  obtain ⟨p, hp, h0, hin⟩ := hex
  exact DerivedSound.agree h h' m m Z0 o o' ⟨p, hp, hp, h0, hin⟩

/-- the entry of the chain matrix that must be non-zero for the quantity to be defined -/
def pinEntry : Derived → M2 K → K
  | .Z1oc, a => a.a21 | .Z1sc, a => a.a22 | .Z2oc, a => a.a21 | .Z2sc, a => a.a11
  | .Vgain12, a => a.a11 | .Vgain21, a => a.a22 | .Igain12, a => a.a22 | .Igain21, a => a.a11
  | .fwdTransadmittance, a => a.a12 | .revTransadmittance, a => a.a12
  | .fwdTransimpedance, a => a.a21 | .revTransimpedance, a => a.a21

/-- a port of the two-port with chain matrix `a` that meets the premise, with input = `pinEntry` -/
def pinPortA : Derived → M2 K → Port K
  | .Z1oc, a => ⟨a.a11, a.a21, 1, 0⟩
  | .Z1sc, a => ⟨a.a12, a.a22, 0, -1⟩
  | .Z2oc, a => ⟨a.a11 * a.a22 - a.a12 * a.a21, 0, a.a22, a.a21⟩
  | .Z2sc, a => ⟨0, a.a21 * a.a12 - a.a22 * a.a11, a.a12, a.a11⟩
  | .Vgain12, a => ⟨a.a11, a.a21, 1, 0⟩
  | .Vgain21, a => ⟨a.a11 * a.a22 - a.a12 * a.a21, 0, a.a22, a.a21⟩
  | .Igain12, a => ⟨a.a12, a.a22, 0, -1⟩
  | .Igain21, a => ⟨0, a.a21 * a.a12 - a.a22 * a.a11, a.a12, a.a11⟩
  | .fwdTransadmittance, a => ⟨a.a12, a.a22, 0, -1⟩
  | .revTransadmittance, a => ⟨0, a.a21 * a.a12 - a.a22 * a.a11, a.a12, a.a11⟩
  | .fwdTransimpedance, a => ⟨a.a11, a.a21, 1, 0⟩
  | .revTransimpedance, a => ⟨a.a11 * a.a22 - a.a12 * a.a21, 0, a.a22, a.a21⟩

theorem pinPortA_spec (d : Derived) (a : M2 K) (Z0 : K) :
    rel .A a Z0 (pinPortA d a) ∧ dPremise d (pinPortA d a) = 0 ∧ dIn d (pinPortA d a) = pinEntry d a := by
  cases d <;> refine ⟨?_, rfl, rfl⟩ <;> simp only [rel, lin, pinPortA] <;> constructor <;> ring

/-- THE CLAUSE OF THE PROPERTY: a derived quantity computed from matrices `m` (representation X)
    and `m'` (representation Q) of the same two-port (chain matrix `a`) has the same value -/
theorem attr_agree {X Q : Rep} {d : Derived} {q q' : M2 K → K → K} {ok ok' : M2 K → K → Prop}
    (h : DerivedSound X d q ok) (h' : DerivedSound Q d q' ok') (m m' a : M2 K) (Z0 : K)
    (o : ok m Z0) (o' : ok' m' Z0)
    (hX : ∀ p, rel X m Z0 p ↔ rel .A a Z0 p) (hY : ∀ p, rel Q m' Z0 p ↔ rel .A a Z0 p)
    (hpin : pinEntry d a ≠ 0) : q m Z0 = q' m' Z0 := by
  obtain ⟨hr, h0, hin⟩ := pinPortA_spec d a Z0
  exact DerivedSound.agree h h' m m' Z0 o o' ⟨pinPortA d a, (hX _).mpr hr, (hY _).mpr hr, h0, by rw [hin]; exact hpin⟩

/-- … in particular across any conversion `f : X → P` of the library -/
theorem attr_agree_conv {X P : Rep} {d : Derived} {q q' : M2 K → K → K} {ok ok' okf okg : M2 K → K → Prop}
    {f g : M2 K → K → M2 K}
    (h : DerivedSound X d q ok) (h' : DerivedSound P d q' ok') (hf : SoundConv X P f okf) (hg : SoundConv X .A g okg)
    (m : M2 K) (Z0 : K) (o : ok m Z0) (o' : ok' (f m Z0) Z0) (of : okf m Z0) (og : okg m Z0)
    (hpin : pinEntry d (g m Z0) ≠ 0) : q m Z0 = q' (f m Z0) Z0 :=
  attr_agree h h' m (f m Z0) (g m Z0) Z0 o o' (fun p => hg m Z0 p og)
    (fun p => by rw [← hf m Z0 p of]; exact hg m Z0 p og) hpin

/-- … and with the value computed from the chain matrix that a sound conversion `f : X → A` returns; the side
    condition of every A-side value is that its pivot entry does not vanish -/
theorem agree_via_A {X : Rep} {d : Derived} {q q' : M2 K → K → K} {ok okf : M2 K → K → Prop} {f : M2 K → K → M2 K}
    (h : DerivedSound X d q ok) (h' : DerivedSound .A d q' (fun a _ => pinEntry d a ≠ 0)) (hf : SoundConv X .A f okf)
    (m : M2 K) (Z0 : K) (o : ok m Z0) (oa : okf m Z0) (od : pinEntry d (f m Z0) ≠ 0) : q m Z0 = q' (f m Z0) Z0 :=
  attr_agree h h' m _ _ Z0 o od (fun p => hf m Z0 p oa) (fun _ => Iff.rfl) od

theorem A_Z1oc_agree (m : M2 K) (Z0 : K) (o : okd_A_Z1oc m Z0) (oa : ok_A_A m Z0)
    (od : okd_A_Z1oc (A_to_A m Z0) Z0) : A_Z1oc m Z0 = A_Z1oc (A_to_A m Z0) Z0 :=
  rfl

theorem A_Z1sc_agree (m : M2 K) (Z0 : K) (o : okd_A_Z1sc m Z0) (oa : ok_A_A m Z0)
    (od : okd_A_Z1sc (A_to_A m Z0) Z0) : A_Z1sc m Z0 = A_Z1sc (A_to_A m Z0) Z0 :=
  rfl

theorem A_Z2oc_agree (m : M2 K) (Z0 : K) (o : okd_A_Z2oc m Z0) (oa : ok_A_A m Z0)
    (od : okd_A_Z2oc (A_to_A m Z0) Z0) : A_Z2oc m Z0 = A_Z2oc (A_to_A m Z0) Z0 :=
  rfl

theorem A_Z2sc_agree (m : M2 K) (Z0 : K) (o : okd_A_Z2sc m Z0) (oa : ok_A_A m Z0)
    (od : okd_A_Z2sc (A_to_A m Z0) Z0) : A_Z2sc m Z0 = A_Z2sc (A_to_A m Z0) Z0 :=
  rfl

theorem A_Vgain12_agree (m : M2 K) (Z0 : K) (o : okd_A_Vgain12 m Z0) (oa : ok_A_A m Z0)
    (od : okd_A_Vgain12 (A_to_A m Z0) Z0) : A_Vgain12 m Z0 = A_Vgain12 (A_to_A m Z0) Z0 :=
  rfl

theorem A_Vgain21_agree (m : M2 K) (Z0 : K) (o : okd_A_Vgain21 m Z0) (oa : ok_A_A m Z0)
    (od : okd_A_Vgain21 (A_to_A m Z0) Z0) : A_Vgain21 m Z0 = A_Vgain21 (A_to_A m Z0) Z0 :=
  rfl

theorem A_Igain12_agree (m : M2 K) (Z0 : K) (o : okd_A_Igain12 m Z0) (oa : ok_A_A m Z0)
    (od : okd_A_Igain12 (A_to_A m Z0) Z0) : A_Igain12 m Z0 = A_Igain12 (A_to_A m Z0) Z0 :=
  rfl

theorem A_Igain21_agree (m : M2 K) (Z0 : K) (o : okd_A_Igain21 m Z0) (oa : ok_A_A m Z0)
    (od : okd_A_Igain21 (A_to_A m Z0) Z0) : A_Igain21 m Z0 = A_Igain21 (A_to_A m Z0) Z0 :=
  rfl

theorem A_forward_transadmittance_agree (m : M2 K) (Z0 : K) (o : okd_A_forward_transadmittance m Z0) (oa : ok_A_A m Z0)
    (od : okd_A_forward_transadmittance (A_to_A m Z0) Z0) : A_forward_transadmittance m Z0 = A_forward_transadmittance (A_to_A m Z0) Z0 :=
  rfl

theorem A_reverse_transadmittance_agree (m : M2 K) (Z0 : K) (o : okd_A_reverse_transadmittance m Z0) (oa : ok_A_A m Z0)
    (od : okd_A_reverse_transadmittance (A_to_A m Z0) Z0) : A_reverse_transadmittance m Z0 = A_reverse_transadmittance (A_to_A m Z0) Z0 :=
  rfl

theorem A_forward_transimpedance_agree (m : M2 K) (Z0 : K) (o : okd_A_forward_transimpedance m Z0) (oa : ok_A_A m Z0)
    (od : okd_A_forward_transimpedance (A_to_A m Z0) Z0) : A_forward_transimpedance m Z0 = A_forward_transimpedance (A_to_A m Z0) Z0 :=
  rfl

theorem A_reverse_transimpedance_agree (m : M2 K) (Z0 : K) (o : okd_A_reverse_transimpedance m Z0) (oa : ok_A_A m Z0)
    (od : okd_A_reverse_transimpedance (A_to_A m Z0) Z0) : A_reverse_transimpedance m Z0 = A_reverse_transimpedance (A_to_A m Z0) Z0 :=
  rfl

theorem A_voltage_gain_agree (m : M2 K) (Z0 : K) (o : okd_A_voltage_gain m Z0) (oa : ok_A_A m Z0)
    (od : okd_A_voltage_gain (A_to_A m Z0) Z0) : A_voltage_gain m Z0 = A_voltage_gain (A_to_A m Z0) Z0 :=
  rfl

theorem A_forward_voltage_gain_agree (m : M2 K) (Z0 : K) (o : okd_A_forward_voltage_gain m Z0) (oa : ok_A_A m Z0)
    (od : okd_A_forward_voltage_gain (A_to_A m Z0) Z0) : A_forward_voltage_gain m Z0 = A_forward_voltage_gain (A_to_A m Z0) Z0 :=
  rfl

theorem A_reverse_voltage_gain_agree (m : M2 K) (Z0 : K) (o : okd_A_reverse_voltage_gain m Z0) (oa : ok_A_A m Z0)
    (od : okd_A_reverse_voltage_gain (A_to_A m Z0) Z0) : A_reverse_voltage_gain m Z0 = A_reverse_voltage_gain (A_to_A m Z0) Z0 :=
  rfl

theorem A_current_gain_agree (m : M2 K) (Z0 : K) (o : okd_A_current_gain m Z0) (oa : ok_A_A m Z0)
    (od : okd_A_current_gain (A_to_A m Z0) Z0) : A_current_gain m Z0 = A_current_gain (A_to_A m Z0) Z0 :=
  rfl

theorem A_forward_current_gain_agree (m : M2 K) (Z0 : K) (o : okd_A_forward_current_gain m Z0) (oa : ok_A_A m Z0)
    (od : okd_A_forward_current_gain (A_to_A m Z0) Z0) : A_forward_current_gain m Z0 = A_forward_current_gain (A_to_A m Z0) Z0 :=
  rfl

theorem A_reverse_current_gain_agree (m : M2 K) (Z0 : K) (o : okd_A_reverse_current_gain m Z0) (oa : ok_A_A m Z0)
    (od : okd_A_reverse_current_gain (A_to_A m Z0) Z0) : A_reverse_current_gain m Z0 = A_reverse_current_gain (A_to_A m Z0) Z0 :=
  rfl

theorem A_transadmittance_agree (m : M2 K) (Z0 : K) (o : okd_A_transadmittance m Z0) (oa : ok_A_A m Z0)
    (od : okd_A_transadmittance (A_to_A m Z0) Z0) : A_transadmittance m Z0 = A_transadmittance (A_to_A m Z0) Z0 :=
  rfl

theorem A_transimpedance_agree (m : M2 K) (Z0 : K) (o : okd_A_transimpedance m Z0) (oa : ok_A_A m Z0)
    (od : okd_A_transimpedance (A_to_A m Z0) Z0) : A_transimpedance m Z0 = A_transimpedance (A_to_A m Z0) Z0 :=
  rfl

theorem B_Z1oc_agree (m : M2 K) (Z0 : K) (o : okd_B_Z1oc m Z0) (oa : ok_B_A m Z0)
    (od : okd_A_Z1oc (B_to_A m Z0) Z0) : B_Z1oc m Z0 = A_Z1oc (B_to_A m Z0) Z0 :=
  agree_via_A B_Z1oc_sound A_Z1oc_sound B_to_A_sound m Z0 o oa od

theorem B_Z1sc_agree (m : M2 K) (Z0 : K) (o : okd_B_Z1sc m Z0) (oa : ok_B_A m Z0)
    (od : okd_A_Z1sc (B_to_A m Z0) Z0) : B_Z1sc m Z0 = A_Z1sc (B_to_A m Z0) Z0 :=
  agree_via_A B_Z1sc_sound A_Z1sc_sound B_to_A_sound m Z0 o oa od

theorem B_Z2oc_agree (m : M2 K) (Z0 : K) (o : okd_B_Z2oc m Z0) (oa : ok_B_A m Z0)
    (od : okd_A_Z2oc (B_to_A m Z0) Z0) : B_Z2oc m Z0 = A_Z2oc (B_to_A m Z0) Z0 :=
  agree_via_A B_Z2oc_sound A_Z2oc_sound B_to_A_sound m Z0 o oa od

theorem B_Z2sc_agree (m : M2 K) (Z0 : K) (o : okd_B_Z2sc m Z0) (oa : ok_B_A m Z0)
    (od : okd_A_Z2sc (B_to_A m Z0) Z0) : B_Z2sc m Z0 = A_Z2sc (B_to_A m Z0) Z0 :=
  agree_via_A B_Z2sc_sound A_Z2sc_sound B_to_A_sound m Z0 o oa od

theorem B_Vgain12_agree (m : M2 K) (Z0 : K) (o : okd_B_Vgain12 m Z0) (oa : ok_B_A m Z0)
    (od : okd_A_Vgain12 (B_to_A m Z0) Z0) : B_Vgain12 m Z0 = A_Vgain12 (B_to_A m Z0) Z0 :=
  agree_via_A B_Vgain12_sound A_Vgain12_sound B_to_A_sound m Z0 o oa od

theorem B_Vgain21_agree (m : M2 K) (Z0 : K) (o : okd_B_Vgain21 m Z0) (oa : ok_B_A m Z0)
    (od : okd_A_Vgain21 (B_to_A m Z0) Z0) : B_Vgain21 m Z0 = A_Vgain21 (B_to_A m Z0) Z0 :=
  agree_via_A B_Vgain21_sound A_Vgain21_sound B_to_A_sound m Z0 o oa od

theorem B_Igain12_agree (m : M2 K) (Z0 : K) (o : okd_B_Igain12 m Z0) (oa : ok_B_A m Z0)
    (od : okd_A_Igain12 (B_to_A m Z0) Z0) : B_Igain12 m Z0 = A_Igain12 (B_to_A m Z0) Z0 :=
  agree_via_A B_Igain12_sound A_Igain12_sound B_to_A_sound m Z0 o oa od

theorem B_Igain21_agree (m : M2 K) (Z0 : K) (o : okd_B_Igain21 m Z0) (oa : ok_B_A m Z0)
    (od : okd_A_Igain21 (B_to_A m Z0) Z0) : B_Igain21 m Z0 = A_Igain21 (B_to_A m Z0) Z0 :=
  agree_via_A B_Igain21_sound A_Igain21_sound B_to_A_sound m Z0 o oa od

theorem B_forward_transadmittance_agree (m : M2 K) (Z0 : K) (o : okd_B_forward_transadmittance m Z0) (oa : ok_B_A m Z0)
    (od : okd_A_forward_transadmittance (B_to_A m Z0) Z0) : B_forward_transadmittance m Z0 = A_forward_transadmittance (B_to_A m Z0) Z0 :=
  agree_via_A B_forward_transadmittance_sound A_forward_transadmittance_sound B_to_A_sound m Z0 o oa od

theorem B_reverse_transadmittance_agree (m : M2 K) (Z0 : K) (o : okd_B_reverse_transadmittance m Z0) (oa : ok_B_A m Z0)
    (od : okd_A_reverse_transadmittance (B_to_A m Z0) Z0) : B_reverse_transadmittance m Z0 = A_reverse_transadmittance (B_to_A m Z0) Z0 :=
  agree_via_A B_reverse_transadmittance_sound A_reverse_transadmittance_sound B_to_A_sound m Z0 o oa od

theorem B_forward_transimpedance_agree (m : M2 K) (Z0 : K) (o : okd_B_forward_transimpedance m Z0) (oa : ok_B_A m Z0)
    (od : okd_A_forward_transimpedance (B_to_A m Z0) Z0) : B_forward_transimpedance m Z0 = A_forward_transimpedance (B_to_A m Z0) Z0 :=
  agree_via_A B_forward_transimpedance_sound A_forward_transimpedance_sound B_to_A_sound m Z0 o oa od

theorem B_reverse_transimpedance_agree (m : M2 K) (Z0 : K) (o : okd_B_reverse_transimpedance m Z0) (oa : ok_B_A m Z0)
    (od : okd_A_reverse_transimpedance (B_to_A m Z0) Z0) : B_reverse_transimpedance m Z0 = A_reverse_transimpedance (B_to_A m Z0) Z0 :=
  agree_via_A B_reverse_transimpedance_sound A_reverse_transimpedance_sound B_to_A_sound m Z0 o oa od

theorem B_voltage_gain_agree (m : M2 K) (Z0 : K) (o : okd_B_voltage_gain m Z0) (oa : ok_B_A m Z0)
    (od : okd_A_voltage_gain (B_to_A m Z0) Z0) : B_voltage_gain m Z0 = A_voltage_gain (B_to_A m Z0) Z0 :=
  agree_via_A B_voltage_gain_sound A_voltage_gain_sound B_to_A_sound m Z0 o oa od

theorem B_forward_voltage_gain_agree (m : M2 K) (Z0 : K) (o : okd_B_forward_voltage_gain m Z0) (oa : ok_B_A m Z0)
    (od : okd_A_forward_voltage_gain (B_to_A m Z0) Z0) : B_forward_voltage_gain m Z0 = A_forward_voltage_gain (B_to_A m Z0) Z0 :=
  agree_via_A B_forward_voltage_gain_sound A_forward_voltage_gain_sound B_to_A_sound m Z0 o oa od

theorem B_reverse_voltage_gain_agree (m : M2 K) (Z0 : K) (o : okd_B_reverse_voltage_gain m Z0) (oa : ok_B_A m Z0)
    (od : okd_A_reverse_voltage_gain (B_to_A m Z0) Z0) : B_reverse_voltage_gain m Z0 = A_reverse_voltage_gain (B_to_A m Z0) Z0 :=
  agree_via_A B_reverse_voltage_gain_sound A_reverse_voltage_gain_sound B_to_A_sound m Z0 o oa od

theorem B_current_gain_agree (m : M2 K) (Z0 : K) (o : okd_B_current_gain m Z0) (oa : ok_B_A m Z0)
    (od : okd_A_current_gain (B_to_A m Z0) Z0) : B_current_gain m Z0 = A_current_gain (B_to_A m Z0) Z0 :=
  agree_via_A B_current_gain_sound A_current_gain_sound B_to_A_sound m Z0 o oa od

theorem B_forward_current_gain_agree (m : M2 K) (Z0 : K) (o : okd_B_forward_current_gain m Z0) (oa : ok_B_A m Z0)
    (od : okd_A_forward_current_gain (B_to_A m Z0) Z0) : B_forward_current_gain m Z0 = A_forward_current_gain (B_to_A m Z0) Z0 :=
  agree_via_A B_forward_current_gain_sound A_forward_current_gain_sound B_to_A_sound m Z0 o oa od

theorem B_reverse_current_gain_agree (m : M2 K) (Z0 : K) (o : okd_B_reverse_current_gain m Z0) (oa : ok_B_A m Z0)
    (od : okd_A_reverse_current_gain (B_to_A m Z0) Z0) : B_reverse_current_gain m Z0 = A_reverse_current_gain (B_to_A m Z0) Z0 :=
  agree_via_A B_reverse_current_gain_sound A_reverse_current_gain_sound B_to_A_sound m Z0 o oa od

theorem B_transadmittance_agree (m : M2 K) (Z0 : K) (o : okd_B_transadmittance m Z0) (oa : ok_B_A m Z0)
    (od : okd_A_transadmittance (B_to_A m Z0) Z0) : B_transadmittance m Z0 = A_transadmittance (B_to_A m Z0) Z0 :=
  agree_via_A B_transadmittance_sound A_transadmittance_sound B_to_A_sound m Z0 o oa od

theorem B_transimpedance_agree (m : M2 K) (Z0 : K) (o : okd_B_transimpedance m Z0) (oa : ok_B_A m Z0)
    (od : okd_A_transimpedance (B_to_A m Z0) Z0) : B_transimpedance m Z0 = A_transimpedance (B_to_A m Z0) Z0 :=
  agree_via_A B_transimpedance_sound A_transimpedance_sound B_to_A_sound m Z0 o oa od

theorem G_Z1oc_agree (m : M2 K) (Z0 : K) (o : okd_G_Z1oc m Z0) (oa : ok_G_A m Z0)
    (od : okd_A_Z1oc (G_to_A m Z0) Z0) : G_Z1oc m Z0 = A_Z1oc (G_to_A m Z0) Z0 :=
  rfl

theorem G_Z1sc_agree (m : M2 K) (Z0 : K) (o : okd_G_Z1sc m Z0) (oa : ok_G_A m Z0)
    (od : okd_A_Z1sc (G_to_A m Z0) Z0) : G_Z1sc m Z0 = A_Z1sc (G_to_A m Z0) Z0 :=
  rfl

theorem G_Z2oc_agree (m : M2 K) (Z0 : K) (o : okd_G_Z2oc m Z0) (oa : ok_G_A m Z0)
    (od : okd_A_Z2oc (G_to_A m Z0) Z0) : G_Z2oc m Z0 = A_Z2oc (G_to_A m Z0) Z0 :=
  rfl

theorem G_Z2sc_agree (m : M2 K) (Z0 : K) (o : okd_G_Z2sc m Z0) (oa : ok_G_A m Z0)
    (od : okd_A_Z2sc (G_to_A m Z0) Z0) : G_Z2sc m Z0 = A_Z2sc (G_to_A m Z0) Z0 :=
  rfl

theorem G_Vgain12_agree (m : M2 K) (Z0 : K) (o : okd_G_Vgain12 m Z0) (oa : ok_G_A m Z0)
    (od : okd_A_Vgain12 (G_to_A m Z0) Z0) : G_Vgain12 m Z0 = A_Vgain12 (G_to_A m Z0) Z0 :=
  rfl

theorem G_Vgain21_agree (m : M2 K) (Z0 : K) (o : okd_G_Vgain21 m Z0) (oa : ok_G_A m Z0)
    (od : okd_A_Vgain21 (G_to_A m Z0) Z0) : G_Vgain21 m Z0 = A_Vgain21 (G_to_A m Z0) Z0 :=
  rfl

theorem G_Igain12_agree (m : M2 K) (Z0 : K) (o : okd_G_Igain12 m Z0) (oa : ok_G_A m Z0)
    (od : okd_A_Igain12 (G_to_A m Z0) Z0) : G_Igain12 m Z0 = A_Igain12 (G_to_A m Z0) Z0 :=
  rfl

theorem G_Igain21_agree (m : M2 K) (Z0 : K) (o : okd_G_Igain21 m Z0) (oa : ok_G_A m Z0)
    (od : okd_A_Igain21 (G_to_A m Z0) Z0) : G_Igain21 m Z0 = A_Igain21 (G_to_A m Z0) Z0 :=
  rfl

theorem G_forward_transadmittance_agree (m : M2 K) (Z0 : K) (o : okd_G_forward_transadmittance m Z0) (oa : ok_G_A m Z0)
    (od : okd_A_forward_transadmittance (G_to_A m Z0) Z0) : G_forward_transadmittance m Z0 = A_forward_transadmittance (G_to_A m Z0) Z0 :=
  agree_via_A G_forward_transadmittance_sound A_forward_transadmittance_sound G_to_A_sound m Z0 o oa od

theorem G_reverse_transadmittance_agree (m : M2 K) (Z0 : K) (o : okd_G_reverse_transadmittance m Z0) (oa : ok_G_A m Z0)
    (od : okd_A_reverse_transadmittance (G_to_A m Z0) Z0) : G_reverse_transadmittance m Z0 = A_reverse_transadmittance (G_to_A m Z0) Z0 :=
  agree_via_A G_reverse_transadmittance_sound A_reverse_transadmittance_sound G_to_A_sound m Z0 o oa od

theorem G_forward_transimpedance_agree (m : M2 K) (Z0 : K) (o : okd_G_forward_transimpedance m Z0) (oa : ok_G_A m Z0)
    (od : okd_A_forward_transimpedance (G_to_A m Z0) Z0) : G_forward_transimpedance m Z0 = A_forward_transimpedance (G_to_A m Z0) Z0 :=
  agree_via_A G_forward_transimpedance_sound A_forward_transimpedance_sound G_to_A_sound m Z0 o oa od

theorem G_reverse_transimpedance_agree (m : M2 K) (Z0 : K) (o : okd_G_reverse_transimpedance m Z0) (oa : ok_G_A m Z0)
    (od : okd_A_reverse_transimpedance (G_to_A m Z0) Z0) : G_reverse_transimpedance m Z0 = A_reverse_transimpedance (G_to_A m Z0) Z0 :=
  agree_via_A G_reverse_transimpedance_sound A_reverse_transimpedance_sound G_to_A_sound m Z0 o oa od

theorem G_voltage_gain_agree (m : M2 K) (Z0 : K) (o : okd_G_voltage_gain m Z0) (oa : ok_G_A m Z0)
    (od : okd_A_voltage_gain (G_to_A m Z0) Z0) : G_voltage_gain m Z0 = A_voltage_gain (G_to_A m Z0) Z0 :=
  rfl

theorem G_forward_voltage_gain_agree (m : M2 K) (Z0 : K) (o : okd_G_forward_voltage_gain m Z0) (oa : ok_G_A m Z0)
    (od : okd_A_forward_voltage_gain (G_to_A m Z0) Z0) : G_forward_voltage_gain m Z0 = A_forward_voltage_gain (G_to_A m Z0) Z0 :=
  rfl

theorem G_reverse_voltage_gain_agree (m : M2 K) (Z0 : K) (o : okd_G_reverse_voltage_gain m Z0) (oa : ok_G_A m Z0)
    (od : okd_A_reverse_voltage_gain (G_to_A m Z0) Z0) : G_reverse_voltage_gain m Z0 = A_reverse_voltage_gain (G_to_A m Z0) Z0 :=
  rfl

theorem G_current_gain_agree (m : M2 K) (Z0 : K) (o : okd_G_current_gain m Z0) (oa : ok_G_A m Z0)
    (od : okd_A_current_gain (G_to_A m Z0) Z0) : G_current_gain m Z0 = A_current_gain (G_to_A m Z0) Z0 :=
  rfl

theorem G_forward_current_gain_agree (m : M2 K) (Z0 : K) (o : okd_G_forward_current_gain m Z0) (oa : ok_G_A m Z0)
    (od : okd_A_forward_current_gain (G_to_A m Z0) Z0) : G_forward_current_gain m Z0 = A_forward_current_gain (G_to_A m Z0) Z0 :=
  rfl

theorem G_reverse_current_gain_agree (m : M2 K) (Z0 : K) (o : okd_G_reverse_current_gain m Z0) (oa : ok_G_A m Z0)
    (od : okd_A_reverse_current_gain (G_to_A m Z0) Z0) : G_reverse_current_gain m Z0 = A_reverse_current_gain (G_to_A m Z0) Z0 :=
  rfl

theorem G_transadmittance_agree (m : M2 K) (Z0 : K) (o : okd_G_transadmittance m Z0) (oa : ok_G_A m Z0)
    (od : okd_A_transadmittance (G_to_A m Z0) Z0) : G_transadmittance m Z0 = A_transadmittance (G_to_A m Z0) Z0 :=
  agree_via_A G_transadmittance_sound A_transadmittance_sound G_to_A_sound m Z0 o oa od

theorem G_transimpedance_agree (m : M2 K) (Z0 : K) (o : okd_G_transimpedance m Z0) (oa : ok_G_A m Z0)
    (od : okd_A_transimpedance (G_to_A m Z0) Z0) : G_transimpedance m Z0 = A_transimpedance (G_to_A m Z0) Z0 :=
  agree_via_A G_transimpedance_sound A_transimpedance_sound G_to_A_sound m Z0 o oa od

theorem H_Z1oc_agree (m : M2 K) (Z0 : K) (o : okd_H_Z1oc m Z0) (oa : ok_H_A m Z0)
    (od : okd_A_Z1oc (H_to_A m Z0) Z0) : H_Z1oc m Z0 = A_Z1oc (H_to_A m Z0) Z0 :=
  rfl

theorem H_Z1sc_agree (m : M2 K) (Z0 : K) (o : okd_H_Z1sc m Z0) (oa : ok_H_A m Z0)
    (od : okd_A_Z1sc (H_to_A m Z0) Z0) : H_Z1sc m Z0 = A_Z1sc (H_to_A m Z0) Z0 :=
  rfl

theorem H_Z2oc_agree (m : M2 K) (Z0 : K) (o : okd_H_Z2oc m Z0) (oa : ok_H_A m Z0)
    (od : okd_A_Z2oc (H_to_A m Z0) Z0) : H_Z2oc m Z0 = A_Z2oc (H_to_A m Z0) Z0 :=
  rfl

theorem H_Z2sc_agree (m : M2 K) (Z0 : K) (o : okd_H_Z2sc m Z0) (oa : ok_H_A m Z0)
    (od : okd_A_Z2sc (H_to_A m Z0) Z0) : H_Z2sc m Z0 = A_Z2sc (H_to_A m Z0) Z0 :=
  rfl

theorem H_Vgain12_agree (m : M2 K) (Z0 : K) (o : okd_H_Vgain12 m Z0) (oa : ok_H_A m Z0)
    (od : okd_A_Vgain12 (H_to_A m Z0) Z0) : H_Vgain12 m Z0 = A_Vgain12 (H_to_A m Z0) Z0 :=
  rfl

theorem H_Vgain21_agree (m : M2 K) (Z0 : K) (o : okd_H_Vgain21 m Z0) (oa : ok_H_A m Z0)
    (od : okd_A_Vgain21 (H_to_A m Z0) Z0) : H_Vgain21 m Z0 = A_Vgain21 (H_to_A m Z0) Z0 :=
  rfl

theorem H_Igain12_agree (m : M2 K) (Z0 : K) (o : okd_H_Igain12 m Z0) (oa : ok_H_A m Z0)
    (od : okd_A_Igain12 (H_to_A m Z0) Z0) : H_Igain12 m Z0 = A_Igain12 (H_to_A m Z0) Z0 :=
  rfl

theorem H_Igain21_agree (m : M2 K) (Z0 : K) (o : okd_H_Igain21 m Z0) (oa : ok_H_A m Z0)
    (od : okd_A_Igain21 (H_to_A m Z0) Z0) : H_Igain21 m Z0 = A_Igain21 (H_to_A m Z0) Z0 :=
  rfl

theorem H_forward_transadmittance_agree (m : M2 K) (Z0 : K) (o : okd_H_forward_transadmittance m Z0) (oa : ok_H_A m Z0)
    (od : okd_A_forward_transadmittance (H_to_A m Z0) Z0) : H_forward_transadmittance m Z0 = A_forward_transadmittance (H_to_A m Z0) Z0 :=
  agree_via_A H_forward_transadmittance_sound A_forward_transadmittance_sound H_to_A_sound m Z0 o oa od

theorem H_reverse_transadmittance_agree (m : M2 K) (Z0 : K) (o : okd_H_reverse_transadmittance m Z0) (oa : ok_H_A m Z0)
    (od : okd_A_reverse_transadmittance (H_to_A m Z0) Z0) : H_reverse_transadmittance m Z0 = A_reverse_transadmittance (H_to_A m Z0) Z0 :=
  agree_via_A H_reverse_transadmittance_sound A_reverse_transadmittance_sound H_to_A_sound m Z0 o oa od

theorem H_forward_transimpedance_agree (m : M2 K) (Z0 : K) (o : okd_H_forward_transimpedance m Z0) (oa : ok_H_A m Z0)
    (od : okd_A_forward_transimpedance (H_to_A m Z0) Z0) : H_forward_transimpedance m Z0 = A_forward_transimpedance (H_to_A m Z0) Z0 :=
  agree_via_A H_forward_transimpedance_sound A_forward_transimpedance_sound H_to_A_sound m Z0 o oa od

theorem H_reverse_transimpedance_agree (m : M2 K) (Z0 : K) (o : okd_H_reverse_transimpedance m Z0) (oa : ok_H_A m Z0)
    (od : okd_A_reverse_transimpedance (H_to_A m Z0) Z0) : H_reverse_transimpedance m Z0 = A_reverse_transimpedance (H_to_A m Z0) Z0 :=
  agree_via_A H_reverse_transimpedance_sound A_reverse_transimpedance_sound H_to_A_sound m Z0 o oa od

theorem H_voltage_gain_agree (m : M2 K) (Z0 : K) (o : okd_H_voltage_gain m Z0) (oa : ok_H_A m Z0)
    (od : okd_A_voltage_gain (H_to_A m Z0) Z0) : H_voltage_gain m Z0 = A_voltage_gain (H_to_A m Z0) Z0 :=
  rfl

theorem H_forward_voltage_gain_agree (m : M2 K) (Z0 : K) (o : okd_H_forward_voltage_gain m Z0) (oa : ok_H_A m Z0)
    (od : okd_A_forward_voltage_gain (H_to_A m Z0) Z0) : H_forward_voltage_gain m Z0 = A_forward_voltage_gain (H_to_A m Z0) Z0 :=
  rfl

theorem H_reverse_voltage_gain_agree (m : M2 K) (Z0 : K) (o : okd_H_reverse_voltage_gain m Z0) (oa : ok_H_A m Z0)
    (od : okd_A_reverse_voltage_gain (H_to_A m Z0) Z0) : H_reverse_voltage_gain m Z0 = A_reverse_voltage_gain (H_to_A m Z0) Z0 :=
  rfl

theorem H_current_gain_agree (m : M2 K) (Z0 : K) (o : okd_H_current_gain m Z0) (oa : ok_H_A m Z0)
    (od : okd_A_current_gain (H_to_A m Z0) Z0) : H_current_gain m Z0 = A_current_gain (H_to_A m Z0) Z0 :=
  rfl

theorem H_forward_current_gain_agree (m : M2 K) (Z0 : K) (o : okd_H_forward_current_gain m Z0) (oa : ok_H_A m Z0)
    (od : okd_A_forward_current_gain (H_to_A m Z0) Z0) : H_forward_current_gain m Z0 = A_forward_current_gain (H_to_A m Z0) Z0 :=
  rfl

theorem H_reverse_current_gain_agree (m : M2 K) (Z0 : K) (o : okd_H_reverse_current_gain m Z0) (oa : ok_H_A m Z0)
    (od : okd_A_reverse_current_gain (H_to_A m Z0) Z0) : H_reverse_current_gain m Z0 = A_reverse_current_gain (H_to_A m Z0) Z0 :=
  rfl

theorem H_transadmittance_agree (m : M2 K) (Z0 : K) (o : okd_H_transadmittance m Z0) (oa : ok_H_A m Z0)
    (od : okd_A_transadmittance (H_to_A m Z0) Z0) : H_transadmittance m Z0 = A_transadmittance (H_to_A m Z0) Z0 :=
  agree_via_A H_transadmittance_sound A_transadmittance_sound H_to_A_sound m Z0 o oa od

theorem H_transimpedance_agree (m : M2 K) (Z0 : K) (o : okd_H_transimpedance m Z0) (oa : ok_H_A m Z0)
    (od : okd_A_transimpedance (H_to_A m Z0) Z0) : H_transimpedance m Z0 = A_transimpedance (H_to_A m Z0) Z0 :=
  agree_via_A H_transimpedance_sound A_transimpedance_sound H_to_A_sound m Z0 o oa od

theorem S_Z1oc_agree (m : M2 K) (Z0 : K) (o : okd_S_Z1oc m Z0) (oa : ok_S_A m Z0)
    (od : okd_A_Z1oc (S_to_A m Z0) Z0) : S_Z1oc m Z0 = A_Z1oc (S_to_A m Z0) Z0 :=
  rfl

theorem S_Z1sc_agree (m : M2 K) (Z0 : K) (o : okd_S_Z1sc m Z0) (oa : ok_S_A m Z0)
    (od : okd_A_Z1sc (S_to_A m Z0) Z0) : S_Z1sc m Z0 = A_Z1sc (S_to_A m Z0) Z0 :=
  rfl

theorem S_Z2oc_agree (m : M2 K) (Z0 : K) (o : okd_S_Z2oc m Z0) (oa : ok_S_A m Z0)
    (od : okd_A_Z2oc (S_to_A m Z0) Z0) : S_Z2oc m Z0 = A_Z2oc (S_to_A m Z0) Z0 :=
  rfl

theorem S_Z2sc_agree (m : M2 K) (Z0 : K) (o : okd_S_Z2sc m Z0) (oa : ok_S_A m Z0)
    (od : okd_A_Z2sc (S_to_A m Z0) Z0) : S_Z2sc m Z0 = A_Z2sc (S_to_A m Z0) Z0 :=
  rfl

theorem S_Vgain12_agree (m : M2 K) (Z0 : K) (o : okd_S_Vgain12 m Z0) (oa : ok_S_A m Z0)
    (od : okd_A_Vgain12 (S_to_A m Z0) Z0) : S_Vgain12 m Z0 = A_Vgain12 (S_to_A m Z0) Z0 :=
  rfl

theorem S_Vgain21_agree (m : M2 K) (Z0 : K) (o : okd_S_Vgain21 m Z0) (oa : ok_S_A m Z0)
    (od : okd_A_Vgain21 (S_to_A m Z0) Z0) : S_Vgain21 m Z0 = A_Vgain21 (S_to_A m Z0) Z0 :=
  rfl

theorem S_Igain12_agree (m : M2 K) (Z0 : K) (o : okd_S_Igain12 m Z0) (oa : ok_S_A m Z0)
    (od : okd_A_Igain12 (S_to_A m Z0) Z0) : S_Igain12 m Z0 = A_Igain12 (S_to_A m Z0) Z0 :=
  rfl

theorem S_Igain21_agree (m : M2 K) (Z0 : K) (o : okd_S_Igain21 m Z0) (oa : ok_S_A m Z0)
    (od : okd_A_Igain21 (S_to_A m Z0) Z0) : S_Igain21 m Z0 = A_Igain21 (S_to_A m Z0) Z0 :=
  rfl

theorem S_forward_transadmittance_agree (m : M2 K) (Z0 : K) (o : okd_S_forward_transadmittance m Z0) (oa : ok_S_A m Z0)
    (od : okd_A_forward_transadmittance (S_to_A m Z0) Z0) : S_forward_transadmittance m Z0 = A_forward_transadmittance (S_to_A m Z0) Z0 :=
  agree_via_A S_forward_transadmittance_sound A_forward_transadmittance_sound S_to_A_sound m Z0 o oa od

theorem S_reverse_transadmittance_agree (m : M2 K) (Z0 : K) (o : okd_S_reverse_transadmittance m Z0) (oa : ok_S_A m Z0)
    (od : okd_A_reverse_transadmittance (S_to_A m Z0) Z0) : S_reverse_transadmittance m Z0 = A_reverse_transadmittance (S_to_A m Z0) Z0 :=
  agree_via_A S_reverse_transadmittance_sound A_reverse_transadmittance_sound S_to_A_sound m Z0 o oa od

theorem S_forward_transimpedance_agree (m : M2 K) (Z0 : K) (o : okd_S_forward_transimpedance m Z0) (oa : ok_S_A m Z0)
    (od : okd_A_forward_transimpedance (S_to_A m Z0) Z0) : S_forward_transimpedance m Z0 = A_forward_transimpedance (S_to_A m Z0) Z0 :=
  rfl

theorem S_reverse_transimpedance_agree (m : M2 K) (Z0 : K) (o : okd_S_reverse_transimpedance m Z0) (oa : ok_S_A m Z0)
    (od : okd_A_reverse_transimpedance (S_to_A m Z0) Z0) : S_reverse_transimpedance m Z0 = A_reverse_transimpedance (S_to_A m Z0) Z0 :=
  rfl

theorem S_voltage_gain_agree (m : M2 K) (Z0 : K) (o : okd_S_voltage_gain m Z0) (oa : ok_S_A m Z0)
    (od : okd_A_voltage_gain (S_to_A m Z0) Z0) : S_voltage_gain m Z0 = A_voltage_gain (S_to_A m Z0) Z0 :=
  rfl

theorem S_forward_voltage_gain_agree (m : M2 K) (Z0 : K) (o : okd_S_forward_voltage_gain m Z0) (oa : ok_S_A m Z0)
    (od : okd_A_forward_voltage_gain (S_to_A m Z0) Z0) : S_forward_voltage_gain m Z0 = A_forward_voltage_gain (S_to_A m Z0) Z0 :=
  rfl

theorem S_reverse_voltage_gain_agree (m : M2 K) (Z0 : K) (o : okd_S_reverse_voltage_gain m Z0) (oa : ok_S_A m Z0)
    (od : okd_A_reverse_voltage_gain (S_to_A m Z0) Z0) : S_reverse_voltage_gain m Z0 = A_reverse_voltage_gain (S_to_A m Z0) Z0 :=
  rfl

theorem S_current_gain_agree (m : M2 K) (Z0 : K) (o : okd_S_current_gain m Z0) (oa : ok_S_A m Z0)
    (od : okd_A_current_gain (S_to_A m Z0) Z0) : S_current_gain m Z0 = A_current_gain (S_to_A m Z0) Z0 :=
  rfl

theorem S_forward_current_gain_agree (m : M2 K) (Z0 : K) (o : okd_S_forward_current_gain m Z0) (oa : ok_S_A m Z0)
    (od : okd_A_forward_current_gain (S_to_A m Z0) Z0) : S_forward_current_gain m Z0 = A_forward_current_gain (S_to_A m Z0) Z0 :=
  rfl

theorem S_reverse_current_gain_agree (m : M2 K) (Z0 : K) (o : okd_S_reverse_current_gain m Z0) (oa : ok_S_A m Z0)
    (od : okd_A_reverse_current_gain (S_to_A m Z0) Z0) : S_reverse_current_gain m Z0 = A_reverse_current_gain (S_to_A m Z0) Z0 :=
  rfl

theorem S_transadmittance_agree (m : M2 K) (Z0 : K) (o : okd_S_transadmittance m Z0) (oa : ok_S_A m Z0)
    (od : okd_A_transadmittance (S_to_A m Z0) Z0) : S_transadmittance m Z0 = A_transadmittance (S_to_A m Z0) Z0 :=
  agree_via_A S_transadmittance_sound A_transadmittance_sound S_to_A_sound m Z0 o oa od

theorem S_transimpedance_agree (m : M2 K) (Z0 : K) (o : okd_S_transimpedance m Z0) (oa : ok_S_A m Z0)
    (od : okd_A_transimpedance (S_to_A m Z0) Z0) : S_transimpedance m Z0 = A_transimpedance (S_to_A m Z0) Z0 :=
  rfl

theorem T_Z1oc_agree (m : M2 K) (Z0 : K) (o : okd_T_Z1oc m Z0) (oa : ok_T_A m Z0)
    (od : okd_A_Z1oc (T_to_A m Z0) Z0) : T_Z1oc m Z0 = A_Z1oc (T_to_A m Z0) Z0 :=
  rfl

theorem T_Z1sc_agree (m : M2 K) (Z0 : K) (o : okd_T_Z1sc m Z0) (oa : ok_T_A m Z0)
    (od : okd_A_Z1sc (T_to_A m Z0) Z0) : T_Z1sc m Z0 = A_Z1sc (T_to_A m Z0) Z0 :=
  rfl

theorem T_Z2oc_agree (m : M2 K) (Z0 : K) (o : okd_T_Z2oc m Z0) (oa : ok_T_A m Z0)
    (od : okd_A_Z2oc (T_to_A m Z0) Z0) : T_Z2oc m Z0 = A_Z2oc (T_to_A m Z0) Z0 :=
  rfl

theorem T_Z2sc_agree (m : M2 K) (Z0 : K) (o : okd_T_Z2sc m Z0) (oa : ok_T_A m Z0)
    (od : okd_A_Z2sc (T_to_A m Z0) Z0) : T_Z2sc m Z0 = A_Z2sc (T_to_A m Z0) Z0 :=
  rfl

theorem T_Vgain12_agree (m : M2 K) (Z0 : K) (o : okd_T_Vgain12 m Z0) (oa : ok_T_A m Z0)
    (od : okd_A_Vgain12 (T_to_A m Z0) Z0) : T_Vgain12 m Z0 = A_Vgain12 (T_to_A m Z0) Z0 :=
  rfl

theorem T_Vgain21_agree (m : M2 K) (Z0 : K) (o : okd_T_Vgain21 m Z0) (oa : ok_T_A m Z0)
    (od : okd_A_Vgain21 (T_to_A m Z0) Z0) : T_Vgain21 m Z0 = A_Vgain21 (T_to_A m Z0) Z0 :=
  rfl

theorem T_Igain12_agree (m : M2 K) (Z0 : K) (o : okd_T_Igain12 m Z0) (oa : ok_T_A m Z0)
    (od : okd_A_Igain12 (T_to_A m Z0) Z0) : T_Igain12 m Z0 = A_Igain12 (T_to_A m Z0) Z0 :=
  rfl

theorem T_Igain21_agree (m : M2 K) (Z0 : K) (o : okd_T_Igain21 m Z0) (oa : ok_T_A m Z0)
    (od : okd_A_Igain21 (T_to_A m Z0) Z0) : T_Igain21 m Z0 = A_Igain21 (T_to_A m Z0) Z0 :=
  rfl

theorem T_forward_transadmittance_agree (m : M2 K) (Z0 : K) (o : okd_T_forward_transadmittance m Z0) (oa : ok_T_A m Z0)
    (od : okd_A_forward_transadmittance (T_to_A m Z0) Z0) : T_forward_transadmittance m Z0 = A_forward_transadmittance (T_to_A m Z0) Z0 :=
  agree_via_A T_forward_transadmittance_sound A_forward_transadmittance_sound T_to_A_sound m Z0 o oa od

theorem T_reverse_transadmittance_agree (m : M2 K) (Z0 : K) (o : okd_T_reverse_transadmittance m Z0) (oa : ok_T_A m Z0)
    (od : okd_A_reverse_transadmittance (T_to_A m Z0) Z0) : T_reverse_transadmittance m Z0 = A_reverse_transadmittance (T_to_A m Z0) Z0 :=
  agree_via_A T_reverse_transadmittance_sound A_reverse_transadmittance_sound T_to_A_sound m Z0 o oa od

theorem T_forward_transimpedance_agree (m : M2 K) (Z0 : K) (o : okd_T_forward_transimpedance m Z0) (oa : ok_T_A m Z0)
    (od : okd_A_forward_transimpedance (T_to_A m Z0) Z0) : T_forward_transimpedance m Z0 = A_forward_transimpedance (T_to_A m Z0) Z0 :=
  rfl

theorem T_reverse_transimpedance_agree (m : M2 K) (Z0 : K) (o : okd_T_reverse_transimpedance m Z0) (oa : ok_T_A m Z0)
    (od : okd_A_reverse_transimpedance (T_to_A m Z0) Z0) : T_reverse_transimpedance m Z0 = A_reverse_transimpedance (T_to_A m Z0) Z0 :=
  rfl

theorem T_voltage_gain_agree (m : M2 K) (Z0 : K) (o : okd_T_voltage_gain m Z0) (oa : ok_T_A m Z0)
    (od : okd_A_voltage_gain (T_to_A m Z0) Z0) : T_voltage_gain m Z0 = A_voltage_gain (T_to_A m Z0) Z0 :=
  rfl

theorem T_forward_voltage_gain_agree (m : M2 K) (Z0 : K) (o : okd_T_forward_voltage_gain m Z0) (oa : ok_T_A m Z0)
    (od : okd_A_forward_voltage_gain (T_to_A m Z0) Z0) : T_forward_voltage_gain m Z0 = A_forward_voltage_gain (T_to_A m Z0) Z0 :=
  rfl

theorem T_reverse_voltage_gain_agree (m : M2 K) (Z0 : K) (o : okd_T_reverse_voltage_gain m Z0) (oa : ok_T_A m Z0)
    (od : okd_A_reverse_voltage_gain (T_to_A m Z0) Z0) : T_reverse_voltage_gain m Z0 = A_reverse_voltage_gain (T_to_A m Z0) Z0 :=
  rfl

theorem T_current_gain_agree (m : M2 K) (Z0 : K) (o : okd_T_current_gain m Z0) (oa : ok_T_A m Z0)
    (od : okd_A_current_gain (T_to_A m Z0) Z0) : T_current_gain m Z0 = A_current_gain (T_to_A m Z0) Z0 :=
  rfl

theorem T_forward_current_gain_agree (m : M2 K) (Z0 : K) (o : okd_T_forward_current_gain m Z0) (oa : ok_T_A m Z0)
    (od : okd_A_forward_current_gain (T_to_A m Z0) Z0) : T_forward_current_gain m Z0 = A_forward_current_gain (T_to_A m Z0) Z0 :=
  rfl

theorem T_reverse_current_gain_agree (m : M2 K) (Z0 : K) (o : okd_T_reverse_current_gain m Z0) (oa : ok_T_A m Z0)
    (od : okd_A_reverse_current_gain (T_to_A m Z0) Z0) : T_reverse_current_gain m Z0 = A_reverse_current_gain (T_to_A m Z0) Z0 :=
  rfl

theorem T_transadmittance_agree (m : M2 K) (Z0 : K) (o : okd_T_transadmittance m Z0) (oa : ok_T_A m Z0)
    (od : okd_A_transadmittance (T_to_A m Z0) Z0) : T_transadmittance m Z0 = A_transadmittance (T_to_A m Z0) Z0 :=
  agree_via_A T_transadmittance_sound A_transadmittance_sound T_to_A_sound m Z0 o oa od

theorem T_transimpedance_agree (m : M2 K) (Z0 : K) (o : okd_T_transimpedance m Z0) (oa : ok_T_A m Z0)
    (od : okd_A_transimpedance (T_to_A m Z0) Z0) : T_transimpedance m Z0 = A_transimpedance (T_to_A m Z0) Z0 :=
  rfl

theorem Y_Z1oc_agree (m : M2 K) (Z0 : K) (o : okd_Y_Z1oc m Z0) (oa : ok_Y_A m Z0)
    (od : okd_A_Z1oc (Y_to_A m Z0) Z0) : Y_Z1oc m Z0 = A_Z1oc (Y_to_A m Z0) Z0 :=
  rfl

theorem Y_Z1sc_agree (m : M2 K) (Z0 : K) (o : okd_Y_Z1sc m Z0) (oa : ok_Y_A m Z0)
    (od : okd_A_Z1sc (Y_to_A m Z0) Z0) : Y_Z1sc m Z0 = A_Z1sc (Y_to_A m Z0) Z0 :=
  agree_via_A Y_Z1sc_sound A_Z1sc_sound Y_to_A_sound m Z0 o oa od

theorem Y_Z2oc_agree (m : M2 K) (Z0 : K) (o : okd_Y_Z2oc m Z0) (oa : ok_Y_A m Z0)
    (od : okd_A_Z2oc (Y_to_A m Z0) Z0) : Y_Z2oc m Z0 = A_Z2oc (Y_to_A m Z0) Z0 :=
  rfl

theorem Y_Z2sc_agree (m : M2 K) (Z0 : K) (o : okd_Y_Z2sc m Z0) (oa : ok_Y_A m Z0)
    (od : okd_A_Z2sc (Y_to_A m Z0) Z0) : Y_Z2sc m Z0 = A_Z2sc (Y_to_A m Z0) Z0 :=
  agree_via_A Y_Z2sc_sound A_Z2sc_sound Y_to_A_sound m Z0 o oa od

theorem Y_Vgain12_agree (m : M2 K) (Z0 : K) (o : okd_Y_Vgain12 m Z0) (oa : ok_Y_A m Z0)
    (od : okd_A_Vgain12 (Y_to_A m Z0) Z0) : Y_Vgain12 m Z0 = A_Vgain12 (Y_to_A m Z0) Z0 :=
  agree_via_A Y_Vgain12_sound A_Vgain12_sound Y_to_A_sound m Z0 o oa od

theorem Y_Vgain21_agree (m : M2 K) (Z0 : K) (o : okd_Y_Vgain21 m Z0) (oa : ok_Y_A m Z0)
    (od : okd_A_Vgain21 (Y_to_A m Z0) Z0) : Y_Vgain21 m Z0 = A_Vgain21 (Y_to_A m Z0) Z0 :=
  agree_via_A Y_Vgain21_sound A_Vgain21_sound Y_to_A_sound m Z0 o oa od

theorem Y_Igain12_agree (m : M2 K) (Z0 : K) (o : okd_Y_Igain12 m Z0) (oa : ok_Y_A m Z0)
    (od : okd_A_Igain12 (Y_to_A m Z0) Z0) : Y_Igain12 m Z0 = A_Igain12 (Y_to_A m Z0) Z0 :=
  agree_via_A Y_Igain12_sound A_Igain12_sound Y_to_A_sound m Z0 o oa od

theorem Y_Igain21_agree (m : M2 K) (Z0 : K) (o : okd_Y_Igain21 m Z0) (oa : ok_Y_A m Z0)
    (od : okd_A_Igain21 (Y_to_A m Z0) Z0) : Y_Igain21 m Z0 = A_Igain21 (Y_to_A m Z0) Z0 :=
  agree_via_A Y_Igain21_sound A_Igain21_sound Y_to_A_sound m Z0 o oa od

theorem Y_forward_transadmittance_agree (m : M2 K) (Z0 : K) (o : okd_Y_forward_transadmittance m Z0) (oa : ok_Y_A m Z0)
    (od : okd_A_forward_transadmittance (Y_to_A m Z0) Z0) : Y_forward_transadmittance m Z0 = A_forward_transadmittance (Y_to_A m Z0) Z0 :=
  agree_via_A Y_forward_transadmittance_sound A_forward_transadmittance_sound Y_to_A_sound m Z0 o oa od

theorem Y_reverse_transadmittance_agree (m : M2 K) (Z0 : K) (o : okd_Y_reverse_transadmittance m Z0) (oa : ok_Y_A m Z0)
    (od : okd_A_reverse_transadmittance (Y_to_A m Z0) Z0) : Y_reverse_transadmittance m Z0 = A_reverse_transadmittance (Y_to_A m Z0) Z0 :=
  agree_via_A Y_reverse_transadmittance_sound A_reverse_transadmittance_sound Y_to_A_sound m Z0 o oa od

theorem Y_forward_transimpedance_agree (m : M2 K) (Z0 : K) (o : okd_Y_forward_transimpedance m Z0) (oa : ok_Y_A m Z0)
    (od : okd_A_forward_transimpedance (Y_to_A m Z0) Z0) : Y_forward_transimpedance m Z0 = A_forward_transimpedance (Y_to_A m Z0) Z0 :=
  agree_via_A Y_forward_transimpedance_sound A_forward_transimpedance_sound Y_to_A_sound m Z0 o oa od

theorem Y_reverse_transimpedance_agree (m : M2 K) (Z0 : K) (o : okd_Y_reverse_transimpedance m Z0) (oa : ok_Y_A m Z0)
    (od : okd_A_reverse_transimpedance (Y_to_A m Z0) Z0) : Y_reverse_transimpedance m Z0 = A_reverse_transimpedance (Y_to_A m Z0) Z0 :=
  agree_via_A Y_reverse_transimpedance_sound A_reverse_transimpedance_sound Y_to_A_sound m Z0 o oa od

theorem Y_voltage_gain_agree (m : M2 K) (Z0 : K) (o : okd_Y_voltage_gain m Z0) (oa : ok_Y_A m Z0)
    (od : okd_A_voltage_gain (Y_to_A m Z0) Z0) : Y_voltage_gain m Z0 = A_voltage_gain (Y_to_A m Z0) Z0 :=
  agree_via_A Y_voltage_gain_sound A_voltage_gain_sound Y_to_A_sound m Z0 o oa od

theorem Y_forward_voltage_gain_agree (m : M2 K) (Z0 : K) (o : okd_Y_forward_voltage_gain m Z0) (oa : ok_Y_A m Z0)
    (od : okd_A_forward_voltage_gain (Y_to_A m Z0) Z0) : Y_forward_voltage_gain m Z0 = A_forward_voltage_gain (Y_to_A m Z0) Z0 :=
  agree_via_A Y_forward_voltage_gain_sound A_forward_voltage_gain_sound Y_to_A_sound m Z0 o oa od

theorem Y_reverse_voltage_gain_agree (m : M2 K) (Z0 : K) (o : okd_Y_reverse_voltage_gain m Z0) (oa : ok_Y_A m Z0)
    (od : okd_A_reverse_voltage_gain (Y_to_A m Z0) Z0) : Y_reverse_voltage_gain m Z0 = A_reverse_voltage_gain (Y_to_A m Z0) Z0 :=
  agree_via_A Y_reverse_voltage_gain_sound A_reverse_voltage_gain_sound Y_to_A_sound m Z0 o oa od

theorem Y_current_gain_agree (m : M2 K) (Z0 : K) (o : okd_Y_current_gain m Z0) (oa : ok_Y_A m Z0)
    (od : okd_A_current_gain (Y_to_A m Z0) Z0) : Y_current_gain m Z0 = A_current_gain (Y_to_A m Z0) Z0 :=
  agree_via_A Y_current_gain_sound A_current_gain_sound Y_to_A_sound m Z0 o oa od

theorem Y_forward_current_gain_agree (m : M2 K) (Z0 : K) (o : okd_Y_forward_current_gain m Z0) (oa : ok_Y_A m Z0)
    (od : okd_A_forward_current_gain (Y_to_A m Z0) Z0) : Y_forward_current_gain m Z0 = A_forward_current_gain (Y_to_A m Z0) Z0 :=
  agree_via_A Y_forward_current_gain_sound A_forward_current_gain_sound Y_to_A_sound m Z0 o oa od

theorem Y_reverse_current_gain_agree (m : M2 K) (Z0 : K) (o : okd_Y_reverse_current_gain m Z0) (oa : ok_Y_A m Z0)
    (od : okd_A_reverse_current_gain (Y_to_A m Z0) Z0) : Y_reverse_current_gain m Z0 = A_reverse_current_gain (Y_to_A m Z0) Z0 :=
  agree_via_A Y_reverse_current_gain_sound A_reverse_current_gain_sound Y_to_A_sound m Z0 o oa od

theorem Y_transadmittance_agree (m : M2 K) (Z0 : K) (o : okd_Y_transadmittance m Z0) (oa : ok_Y_A m Z0)
    (od : okd_A_transadmittance (Y_to_A m Z0) Z0) : Y_transadmittance m Z0 = A_transadmittance (Y_to_A m Z0) Z0 :=
  agree_via_A Y_transadmittance_sound A_transadmittance_sound Y_to_A_sound m Z0 o oa od

theorem Y_transimpedance_agree (m : M2 K) (Z0 : K) (o : okd_Y_transimpedance m Z0) (oa : ok_Y_A m Z0)
    (od : okd_A_transimpedance (Y_to_A m Z0) Z0) : Y_transimpedance m Z0 = A_transimpedance (Y_to_A m Z0) Z0 :=
  agree_via_A Y_transimpedance_sound A_transimpedance_sound Y_to_A_sound m Z0 o oa od

theorem Z_Z1oc_agree (m : M2 K) (Z0 : K) (o : okd_Z_Z1oc m Z0) (oa : ok_Z_A m Z0)
    (od : okd_A_Z1oc (Z_to_A m Z0) Z0) : Z_Z1oc m Z0 = A_Z1oc (Z_to_A m Z0) Z0 :=
  agree_via_A Z_Z1oc_sound A_Z1oc_sound Z_to_A_sound m Z0 o oa od

theorem Z_Z1sc_agree (m : M2 K) (Z0 : K) (o : okd_Z_Z1sc m Z0) (oa : ok_Z_A m Z0)
    (od : okd_A_Z1sc (Z_to_A m Z0) Z0) : Z_Z1sc m Z0 = A_Z1sc (Z_to_A m Z0) Z0 :=
  rfl

theorem Z_Z2oc_agree (m : M2 K) (Z0 : K) (o : okd_Z_Z2oc m Z0) (oa : ok_Z_A m Z0)
    (od : okd_A_Z2oc (Z_to_A m Z0) Z0) : Z_Z2oc m Z0 = A_Z2oc (Z_to_A m Z0) Z0 :=
  agree_via_A Z_Z2oc_sound A_Z2oc_sound Z_to_A_sound m Z0 o oa od

theorem Z_Z2sc_agree (m : M2 K) (Z0 : K) (o : okd_Z_Z2sc m Z0) (oa : ok_Z_A m Z0)
    (od : okd_A_Z2sc (Z_to_A m Z0) Z0) : Z_Z2sc m Z0 = A_Z2sc (Z_to_A m Z0) Z0 :=
  rfl

theorem Z_Vgain12_agree (m : M2 K) (Z0 : K) (o : okd_Z_Vgain12 m Z0) (oa : ok_Z_A m Z0)
    (od : okd_A_Vgain12 (Z_to_A m Z0) Z0) : Z_Vgain12 m Z0 = A_Vgain12 (Z_to_A m Z0) Z0 :=
  agree_via_A Z_Vgain12_sound A_Vgain12_sound Z_to_A_sound m Z0 o oa od

theorem Z_Vgain21_agree (m : M2 K) (Z0 : K) (o : okd_Z_Vgain21 m Z0) (oa : ok_Z_A m Z0)
    (od : okd_A_Vgain21 (Z_to_A m Z0) Z0) : Z_Vgain21 m Z0 = A_Vgain21 (Z_to_A m Z0) Z0 :=
  agree_via_A Z_Vgain21_sound A_Vgain21_sound Z_to_A_sound m Z0 o oa od

theorem Z_Igain12_agree (m : M2 K) (Z0 : K) (o : okd_Z_Igain12 m Z0) (oa : ok_Z_A m Z0)
    (od : okd_A_Igain12 (Z_to_A m Z0) Z0) : Z_Igain12 m Z0 = A_Igain12 (Z_to_A m Z0) Z0 :=
  agree_via_A Z_Igain12_sound A_Igain12_sound Z_to_A_sound m Z0 o oa od

theorem Z_Igain21_agree (m : M2 K) (Z0 : K) (o : okd_Z_Igain21 m Z0) (oa : ok_Z_A m Z0)
    (od : okd_A_Igain21 (Z_to_A m Z0) Z0) : Z_Igain21 m Z0 = A_Igain21 (Z_to_A m Z0) Z0 :=
  agree_via_A Z_Igain21_sound A_Igain21_sound Z_to_A_sound m Z0 o oa od

theorem Z_forward_transadmittance_agree (m : M2 K) (Z0 : K) (o : okd_Z_forward_transadmittance m Z0) (oa : ok_Z_A m Z0)
    (od : okd_A_forward_transadmittance (Z_to_A m Z0) Z0) : Z_forward_transadmittance m Z0 = A_forward_transadmittance (Z_to_A m Z0) Z0 :=
  agree_via_A Z_forward_transadmittance_sound A_forward_transadmittance_sound Z_to_A_sound m Z0 o oa od

theorem Z_reverse_transadmittance_agree (m : M2 K) (Z0 : K) (o : okd_Z_reverse_transadmittance m Z0) (oa : ok_Z_A m Z0)
    (od : okd_A_reverse_transadmittance (Z_to_A m Z0) Z0) : Z_reverse_transadmittance m Z0 = A_reverse_transadmittance (Z_to_A m Z0) Z0 :=
  agree_via_A Z_reverse_transadmittance_sound A_reverse_transadmittance_sound Z_to_A_sound m Z0 o oa od

theorem Z_forward_transimpedance_agree (m : M2 K) (Z0 : K) (o : okd_Z_forward_transimpedance m Z0) (oa : ok_Z_A m Z0)
    (od : okd_A_forward_transimpedance (Z_to_A m Z0) Z0) : Z_forward_transimpedance m Z0 = A_forward_transimpedance (Z_to_A m Z0) Z0 :=
  agree_via_A Z_forward_transimpedance_sound A_forward_transimpedance_sound Z_to_A_sound m Z0 o oa od

theorem Z_reverse_transimpedance_agree (m : M2 K) (Z0 : K) (o : okd_Z_reverse_transimpedance m Z0) (oa : ok_Z_A m Z0)
    (od : okd_A_reverse_transimpedance (Z_to_A m Z0) Z0) : Z_reverse_transimpedance m Z0 = A_reverse_transimpedance (Z_to_A m Z0) Z0 :=
  agree_via_A Z_reverse_transimpedance_sound A_reverse_transimpedance_sound Z_to_A_sound m Z0 o oa od

theorem Z_voltage_gain_agree (m : M2 K) (Z0 : K) (o : okd_Z_voltage_gain m Z0) (oa : ok_Z_A m Z0)
    (od : okd_A_voltage_gain (Z_to_A m Z0) Z0) : Z_voltage_gain m Z0 = A_voltage_gain (Z_to_A m Z0) Z0 :=
  agree_via_A Z_voltage_gain_sound A_voltage_gain_sound Z_to_A_sound m Z0 o oa od

theorem Z_forward_voltage_gain_agree (m : M2 K) (Z0 : K) (o : okd_Z_forward_voltage_gain m Z0) (oa : ok_Z_A m Z0)
    (od : okd_A_forward_voltage_gain (Z_to_A m Z0) Z0) : Z_forward_voltage_gain m Z0 = A_forward_voltage_gain (Z_to_A m Z0) Z0 :=
  agree_via_A Z_forward_voltage_gain_sound A_forward_voltage_gain_sound Z_to_A_sound m Z0 o oa od

theorem Z_reverse_voltage_gain_agree (m : M2 K) (Z0 : K) (o : okd_Z_reverse_voltage_gain m Z0) (oa : ok_Z_A m Z0)
    (od : okd_A_reverse_voltage_gain (Z_to_A m Z0) Z0) : Z_reverse_voltage_gain m Z0 = A_reverse_voltage_gain (Z_to_A m Z0) Z0 :=
  agree_via_A Z_reverse_voltage_gain_sound A_reverse_voltage_gain_sound Z_to_A_sound m Z0 o oa od

theorem Z_current_gain_agree (m : M2 K) (Z0 : K) (o : okd_Z_current_gain m Z0) (oa : ok_Z_A m Z0)
    (od : okd_A_current_gain (Z_to_A m Z0) Z0) : Z_current_gain m Z0 = A_current_gain (Z_to_A m Z0) Z0 :=
  agree_via_A Z_current_gain_sound A_current_gain_sound Z_to_A_sound m Z0 o oa od

theorem Z_forward_current_gain_agree (m : M2 K) (Z0 : K) (o : okd_Z_forward_current_gain m Z0) (oa : ok_Z_A m Z0)
    (od : okd_A_forward_current_gain (Z_to_A m Z0) Z0) : Z_forward_current_gain m Z0 = A_forward_current_gain (Z_to_A m Z0) Z0 :=
  agree_via_A Z_forward_current_gain_sound A_forward_current_gain_sound Z_to_A_sound m Z0 o oa od

theorem Z_reverse_current_gain_agree (m : M2 K) (Z0 : K) (o : okd_Z_reverse_current_gain m Z0) (oa : ok_Z_A m Z0)
    (od : okd_A_reverse_current_gain (Z_to_A m Z0) Z0) : Z_reverse_current_gain m Z0 = A_reverse_current_gain (Z_to_A m Z0) Z0 :=
  agree_via_A Z_reverse_current_gain_sound A_reverse_current_gain_sound Z_to_A_sound m Z0 o oa od

theorem Z_transadmittance_agree (m : M2 K) (Z0 : K) (o : okd_Z_transadmittance m Z0) (oa : ok_Z_A m Z0)
    (od : okd_A_transadmittance (Z_to_A m Z0) Z0) : Z_transadmittance m Z0 = A_transadmittance (Z_to_A m Z0) Z0 :=
  agree_via_A Z_transadmittance_sound A_transadmittance_sound Z_to_A_sound m Z0 o oa od

theorem Z_transimpedance_agree (m : M2 K) (Z0 : K) (o : okd_Z_transimpedance m Z0) (oa : ok_Z_A m Z0)
    (od : okd_A_transimpedance (Z_to_A m Z0) Z0) : Z_transimpedance m Z0 = A_transimpedance (Z_to_A m Z0) Z0 :=
  agree_via_A Z_transimpedance_sound A_transimpedance_sound Z_to_A_sound m Z0 o oa od

/-- e.g. the forward voltage gain computed from Z and from Y parameters of the same two-port -/
example (z y a : M2 K) (Z0 : K) (oz : okd_Z_Vgain12 z Z0) (oy : okd_Y_Vgain12 y Z0)
    (hz : ∀ p, rel .Z z Z0 p ↔ rel .A a Z0 p) (hy : ∀ p, rel .Y y Z0 p ↔ rel .A a Z0 p) (ha : a.a11 ≠ 0) :
    Z_Vgain12 z Z0 = Y_Vgain12 y Z0 :=
  attr_agree Z_Vgain12_sound Y_Vgain12_sound z y a Z0 oz oy hz hy ha

/-- e.g. the open-circuit input impedance from S parameters and from the H matrix obtained by conversion -/
example (m : M2 K) (Z0 : K) (o : okd_S_Z1oc m Z0) (o' : okd_H_Z1oc (S_to_H m Z0) Z0) (of : ok_S_H m Z0)
    (og : ok_S_A m Z0) (hpin : (S_to_A m Z0).a21 ≠ 0) : S_Z1oc m Z0 = H_Z1oc (S_to_H m Z0) Z0 :=
  attr_agree_conv S_Z1oc_sound H_Z1oc_sound S_to_H_sound S_to_A_sound m Z0 o o' of og hpin

/-! ## 4. Cascading multiplies chain matrices in signal order -/

/-- the port seen across a cascade: port 2 of the first stage drives port 1 of the second -/
def Cascade (p q r : Port K) : Prop :=
  q.V1 = p.V2 ∧ q.I1 = -p.I2 ∧ r.V1 = p.V1 ∧ r.I1 = p.I1 ∧ r.V2 = q.V2 ∧ r.I2 = q.I2

theorem A_chain_sound (a b : M2 K) (Z0 : K) (p q r : Port K) (hc : Cascade p q r)
    (ha : rel .A a Z0 p) (hb : rel .A b Z0 q) : rel .A (A_chain a b) Z0 r := by
  obtain ⟨c1, c2, c3, c4, c5, c6⟩ := hc
  show lin (M2.mul a b) r.V1 r.I1 r.V2 (-r.I2)
  rw [c3, c4, c5, c6]
  exact lin_mul ha (by rw [← c1, ← c2]; exact hb)

/-- conversely every port behaviour of the product comes from an intermediate port -/
theorem A_chain_complete (a b : M2 K) (Z0 : K) (r : Port K) (h : rel .A (A_chain a b) Z0 r) :
    ∃ p q, Cascade p q r ∧ rel .A a Z0 p ∧ rel .A b Z0 q := by
  obtain ⟨V1, I1, V2, I2⟩ := r
  obtain ⟨h1, h2⟩ := h
  refine ⟨⟨V1, I1, b.a11 * V2 + b.a12 * (-I2), -(b.a21 * V2 + b.a22 * (-I2))⟩,
          ⟨b.a11 * V2 + b.a12 * (-I2), b.a21 * V2 + b.a22 * (-I2), V2, I2⟩,
          ⟨rfl, (neg_neg _).symm, rfl, rfl, rfl, rfl⟩, ⟨?_, ?_⟩, ⟨rfl, rfl⟩⟩
  · rw [h1]; simp only [A_chain, M2.mul, neg_neg]; ring
  · rw [h2]; simp only [A_chain, M2.mul, neg_neg]; ring

/-- `BMatrix.chain` multiplies in the reverse order, which is again signal order for B -/
theorem B_chain_sound (a b : M2 K) (Z0 : K) (p q r : Port K) (hc : Cascade p q r)
    (ha : rel .B a Z0 p) (hb : rel .B b Z0 q) : rel .B (B_chain a b) Z0 r := by
  obtain ⟨c1, c2, c3, c4, c5, c6⟩ := hc
  show lin (M2.mul b a) r.V2 (-r.I2) r.V1 r.I1
  rw [c3, c4, c5, c6]
  exact lin_mul (by rw [← c1, ← c2]; exact hb) ha

/-- the `cascade` spelling of both chain-matrix classes is the same signal-order product -/
theorem A_cascade_sound (a b : M2 K) (Z0 : K) (p q r : Port K) (hc : Cascade p q r)
    (ha : rel .A a Z0 p) (hb : rel .A b Z0 q) : rel .A (A_cascade a b) Z0 r :=
  A_chain_sound a b Z0 p q r hc ha hb

theorem B_cascade_sound (a b : M2 K) (Z0 : K) (p q r : Port K) (hc : Cascade p q r)
    (ha : rel .B a Z0 p) (hb : rel .B b Z0 q) : rel .B (B_cascade a b) Z0 r :=
  B_chain_sound a b Z0 p q r hc ha hb

/-- (table check over the regenerated table) `AMatrix.chain(TP)` / `BMatrix.chain(TP)` bring their
    argument to their own representation before multiplying (its raw entries are NOT used whatever its class) -/
theorem chainArgConv_match : Gen.chainArgConv = [("A", "Aparams"), ("B", "Bparams")] := by decide

/-- cascading an A matrix with a matrix given in ANY representation X (converted by a sound `f`) -/
theorem A_chain_conv_sound {X : Rep} {f : M2 K → K → M2 K} {ok : M2 K → K → Prop} (hf : SoundConv X .A f ok)
    (a b : M2 K) (Z0 : K) (p q r : Port K) (hc : Cascade p q r) (o : ok b Z0)
    (ha : rel .A a Z0 p) (hb : rel X b Z0 q) : rel .A (A_chain a (f b Z0)) Z0 r :=
  A_chain_sound a _ Z0 p q r hc ha ((hf b Z0 q o).mp hb)

theorem B_chain_conv_sound {X : Rep} {f : M2 K → K → M2 K} {ok : M2 K → K → Prop} (hf : SoundConv X .B f ok)
    (a b : M2 K) (Z0 : K) (p q r : Port K) (hc : Cascade p q r) (o : ok b Z0)
    (ha : rel .B a Z0 p) (hb : rel X b Z0 q) : rel .B (B_chain a (f b Z0)) Z0 r :=
  B_chain_sound a _ Z0 p q r hc ha ((hf b Z0 q o).mp hb)

/-- chains of three associate, so "signal order" is well defined -/
theorem A_chain_assoc (a b c : M2 K) : A_chain (A_chain a b) c = A_chain a (A_chain b c) :=
  M2_mul_assoc a b c

theorem B_chain_assoc (a b c : M2 K) : B_chain (B_chain a b) c = B_chain a (B_chain b c) :=
  (M2_mul_assoc c b a).symm

theorem A_chain3_sound (a b c : M2 K) (Z0 : K) (p q r s t : Port K)
    (h1 : Cascade p q s) (h2 : Cascade s r t)
    (ha : rel .A a Z0 p) (hb : rel .A b Z0 q) (hc : rel .A c Z0 r) :
    rel .A (A_chain (A_chain a b) c) Z0 t :=
  A_chain_sound _ _ Z0 s r t h2 (A_chain_sound a b Z0 p q s h1 ha hb) hc

/-- (definition check, `rfl`: not a claim about behaviour) `BMatrix.chain` of the inverses is the
    product of the inverses in the reverse order, as generated -/
theorem chain_A_B_consistent (a b : M2 K) :
    B_chain (M2.inv a) (M2.inv b) = M2.mul (M2.inv b) (M2.inv a) := rfl

/-! ## 5. Non-vacuity: the side conditions are met by concrete non-trivial two-ports -/

def sample : M2 ℚ := ⟨2, 3, 5, 11⟩

theorem sample_ok_A_B : ok_A_B sample 7 := by unfold ok_A_B; decide +kernel
theorem sample_ok_A_H : ok_A_H sample 7 := by unfold ok_A_H; decide +kernel
theorem sample_ok_A_G : ok_A_G sample 7 := ⟨sample_ok_A_H, by decide +kernel⟩
theorem sample_ok_A_S : ok_A_S sample 7 := by unfold ok_A_S; decide +kernel
theorem sample_ok_S_T : ok_S_T sample 7 := by unfold ok_S_T; decide +kernel
theorem sample_ok_A_T : ok_A_T sample 7 := ⟨sample_ok_A_S, by unfold ok_S_T; decide +kernel⟩
theorem sample_ok_A_Y : ok_A_Y sample 7 := by unfold ok_A_Y; decide +kernel
theorem sample_ok_A_Z : ok_A_Z sample 7 := by unfold ok_A_Z; decide +kernel
theorem sample_ok_B_A : ok_B_A sample 7 := by unfold ok_B_A; decide +kernel
theorem sample_ok_B_G : ok_B_G sample 7 := by unfold ok_B_G; decide +kernel
theorem sample_ok_B_H : ok_B_H sample 7 := by unfold ok_B_H; decide +kernel
theorem sample_ok_B_S : ok_B_S sample 7 := ⟨sample_ok_B_A, by unfold ok_A_S; decide +kernel⟩
theorem sample_ok_B_T : ok_B_T sample 7 := ⟨sample_ok_B_S, by unfold ok_S_T; decide +kernel⟩
theorem sample_ok_B_Y : ok_B_Y sample 7 := by unfold ok_B_Y; decide +kernel
theorem sample_ok_B_Z : ok_B_Z sample 7 := by unfold ok_B_Z; decide +kernel
theorem sample_ok_G_A : ok_G_A sample 7 := by unfold ok_G_A; decide +kernel
theorem sample_ok_G_B : ok_G_B sample 7 := by unfold ok_G_B; decide +kernel
theorem sample_ok_G_H : ok_G_H sample 7 := by unfold ok_G_H; decide +kernel
theorem sample_ok_G_S : ok_G_S sample 7 := ⟨sample_ok_G_A, by unfold ok_A_S; decide +kernel⟩
theorem sample_ok_G_T : ok_G_T sample 7 := ⟨sample_ok_G_S, by unfold ok_S_T; decide +kernel⟩
theorem sample_ok_H_Y : ok_H_Y sample 7 := by unfold ok_H_Y; decide +kernel
theorem sample_ok_G_Y : ok_G_Y sample 7 := ⟨sample_ok_G_H, by unfold ok_H_Y; decide +kernel⟩
theorem sample_ok_H_Z : ok_H_Z sample 7 := by unfold ok_H_Z; decide +kernel
theorem sample_ok_G_Z : ok_G_Z sample 7 := ⟨sample_ok_G_H, by unfold ok_H_Z; decide +kernel⟩
theorem sample_ok_H_A : ok_H_A sample 7 := by unfold ok_H_A; decide +kernel
theorem sample_ok_H_B : ok_H_B sample 7 := by unfold ok_H_B; decide +kernel
theorem sample_ok_H_G : ok_H_G sample 7 := by unfold ok_H_G; decide +kernel
theorem sample_ok_H_S : ok_H_S sample 7 := ⟨sample_ok_H_A, by unfold ok_A_S; decide +kernel⟩
theorem sample_ok_H_T : ok_H_T sample 7 := ⟨sample_ok_H_S, by unfold ok_S_T; decide +kernel⟩
theorem sample_ok_S_A : ok_S_A sample 7 := by unfold ok_S_A; decide +kernel
theorem sample_ok_S_B : ok_S_B sample 7 := ⟨sample_ok_S_A, by decide +kernel⟩
theorem sample_ok_S_H : ok_S_H sample 7 := ⟨sample_ok_S_A, by unfold ok_A_H; decide +kernel⟩
theorem sample_ok_S_G : ok_S_G sample 7 := ⟨sample_ok_S_H, by decide +kernel⟩
theorem sample_ok_S_Z : ok_S_Z sample 7 := ⟨sample_ok_S_A, by unfold ok_A_Z; decide +kernel⟩
theorem sample_ok_S_Y : ok_S_Y sample 7 := ⟨sample_ok_S_Z, by decide +kernel⟩
theorem sample_ok_T_S : ok_T_S sample 7 := by unfold ok_T_S; decide +kernel
theorem sample_ok_T_A : ok_T_A sample 7 := ⟨sample_ok_T_S, by unfold ok_S_A; decide +kernel⟩
theorem sample_ok_T_B : ok_T_B sample 7 := ⟨sample_ok_T_A, by decide +kernel⟩
theorem sample_ok_T_H : ok_T_H sample 7 := ⟨sample_ok_T_A, by unfold ok_A_H; decide +kernel⟩
theorem sample_ok_T_G : ok_T_G sample 7 := ⟨sample_ok_T_H, by decide +kernel⟩
theorem sample_ok_T_Z : ok_T_Z sample 7 := ⟨sample_ok_T_A, by unfold ok_A_Z; decide +kernel⟩
theorem sample_ok_T_Y : ok_T_Y sample 7 := ⟨sample_ok_T_Z, by decide +kernel⟩
theorem sample_ok_Y_A : ok_Y_A sample 7 := by unfold ok_Y_A; decide +kernel
theorem sample_ok_Y_B : ok_Y_B sample 7 := by unfold ok_Y_B; decide +kernel
theorem sample_ok_Y_H : ok_Y_H sample 7 := by unfold ok_Y_H; decide +kernel
theorem sample_ok_Y_G : ok_Y_G sample 7 := ⟨sample_ok_Y_H, by decide +kernel⟩
theorem sample_ok_Y_S : ok_Y_S sample 7 := ⟨sample_ok_Y_A, by unfold ok_A_S; decide +kernel⟩
theorem sample_ok_Y_T : ok_Y_T sample 7 := ⟨sample_ok_Y_S, by unfold ok_S_T; decide +kernel⟩
theorem sample_ok_Y_Z : ok_Y_Z sample 7 := by unfold ok_Y_Z; decide +kernel
theorem sample_ok_Z_A : ok_Z_A sample 7 := by unfold ok_Z_A; decide +kernel
theorem sample_ok_Z_B : ok_Z_B sample 7 := by unfold ok_Z_B; decide +kernel
theorem sample_ok_Z_H : ok_Z_H sample 7 := by unfold ok_Z_H; decide +kernel
theorem sample_ok_Z_G : ok_Z_G sample 7 := ⟨sample_ok_Z_H, by decide +kernel⟩
theorem sample_ok_Z_S : ok_Z_S sample 7 := ⟨sample_ok_Z_A, by unfold ok_A_S; decide +kernel⟩
theorem sample_ok_Z_T : ok_Z_T sample 7 := ⟨sample_ok_Z_S, by unfold ok_S_T; decide +kernel⟩
theorem sample_ok_Z_Y : ok_Z_Y sample 7 := by unfold ok_Z_Y; decide +kernel

example : ok_A_A sample 7 := trivial

example : ok_A_B sample 7 := sample_ok_A_B

example : ok_A_G sample 7 := sample_ok_A_G

example : ok_A_H sample 7 := sample_ok_A_H

example : ok_A_S sample 7 := sample_ok_A_S

example : ok_A_T sample 7 := sample_ok_A_T

example : ok_A_Y sample 7 := sample_ok_A_Y

example : ok_A_Z sample 7 := sample_ok_A_Z

example : ok_B_A sample 7 := sample_ok_B_A

example : ok_B_B sample 7 := trivial

example : ok_B_G sample 7 := sample_ok_B_G

example : ok_B_H sample 7 := sample_ok_B_H

example : ok_B_S sample 7 := sample_ok_B_S

example : ok_B_T sample 7 := sample_ok_B_T

example : ok_B_Y sample 7 := sample_ok_B_Y

example : ok_B_Z sample 7 := sample_ok_B_Z

example : ok_G_A sample 7 := sample_ok_G_A

example : ok_G_B sample 7 := sample_ok_G_B

example : ok_G_G sample 7 := trivial

example : ok_G_H sample 7 := sample_ok_G_H

example : ok_G_S sample 7 := sample_ok_G_S

example : ok_G_T sample 7 := sample_ok_G_T

example : ok_G_Y sample 7 := sample_ok_G_Y

example : ok_G_Z sample 7 := sample_ok_G_Z

example : ok_H_A sample 7 := sample_ok_H_A

example : ok_H_B sample 7 := sample_ok_H_B

example : ok_H_G sample 7 := sample_ok_H_G

example : ok_H_H sample 7 := trivial

example : ok_H_S sample 7 := sample_ok_H_S

example : ok_H_T sample 7 := sample_ok_H_T

example : ok_H_Y sample 7 := sample_ok_H_Y

example : ok_H_Z sample 7 := sample_ok_H_Z

example : ok_S_A sample 7 := sample_ok_S_A

example : ok_S_B sample 7 := sample_ok_S_B

example : ok_S_G sample 7 := sample_ok_S_G

example : ok_S_H sample 7 := sample_ok_S_H

example : ok_S_S sample 7 := trivial

example : ok_S_T sample 7 := sample_ok_S_T

example : ok_S_Y sample 7 := sample_ok_S_Y

example : ok_S_Z sample 7 := sample_ok_S_Z

example : ok_T_A sample 7 := sample_ok_T_A

example : ok_T_B sample 7 := sample_ok_T_B

example : ok_T_G sample 7 := sample_ok_T_G

example : ok_T_H sample 7 := sample_ok_T_H

example : ok_T_S sample 7 := sample_ok_T_S

example : ok_T_T sample 7 := trivial

example : ok_T_Y sample 7 := sample_ok_T_Y

example : ok_T_Z sample 7 := sample_ok_T_Z

example : ok_Y_A sample 7 := sample_ok_Y_A

example : ok_Y_B sample 7 := sample_ok_Y_B

example : ok_Y_G sample 7 := sample_ok_Y_G

example : ok_Y_H sample 7 := sample_ok_Y_H

example : ok_Y_S sample 7 := sample_ok_Y_S

example : ok_Y_T sample 7 := sample_ok_Y_T

example : ok_Y_Y sample 7 := trivial

example : ok_Y_Z sample 7 := sample_ok_Y_Z

example : ok_Z_A sample 7 := sample_ok_Z_A

example : ok_Z_B sample 7 := sample_ok_Z_B

example : ok_Z_G sample 7 := sample_ok_Z_G

example : ok_Z_H sample 7 := sample_ok_Z_H

example : ok_Z_S sample 7 := sample_ok_Z_S

example : ok_Z_T sample 7 := sample_ok_Z_T

example : ok_Z_Y sample 7 := sample_ok_Z_Y

example : ok_Z_Z sample 7 := trivial

end Lcapy.C08
