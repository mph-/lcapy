/-
  C06: the LINE-LEVEL round trip  parse (print c) = c  for every rule of the grammar table,
  generic in the rule.
  PARTIAL (hence the `_partial` names): the quantifier `normalCpt` / `optsNormal` is smaller than "every netlist
  Lcapy accepts".  Excluded although parser and printer accept them (covered by correspondence and oracle only):
    (i)   namespaced names (`a.R1 1 2 3`; `nameOK` forbids `.`),
    (ii)  anonymous components (`W 1 2`, `R? 1 2`) and directive / comment / blank lines,
    (iii) option values containing `{`, `}` or `,` and the `def` key (`l={R_1}`, `l={a, b}`) -- a proof
          convenience of `optStrOK`, not a defect: model and code round-trip them,
  and, corresponding to the known findings C06-e / C06-a / C06-b, values that are empty, start with `{` or `"`,
  contain a top-level `=`, equal a keyword of the type, or (SW) equal the component name.
-/
import Lcapy.Props.C06
namespace Lcapy.C06
open Lcapy.Parser Lcapy.Spec.Netlist

theorem argFormat_eq_plain (ds : List Char) (v w : Str) (hw : w.head? ≠ some '{') (h : argFormat ds v = w) : v = w := by
  unfold argFormat at h
  split at h
  · exact h
  · split at h
    · subst h; simp at hw
    · exact h

/-- the printed arguments after the elision of a sole argument equal to the name -/
def printedArgs (ds : List Char) (relname : Str) (vals : List (Option Str)) : List Str :=
  if fmtElided ds relname vals then [] else fmtArgs ds vals

theorem fmtArgs_length_le (ds : List Char) (vals : List (Option Str)) : (fmtArgs ds vals).length ≤ vals.length := by
  induction vals with
  | nil => simp [fmtArgs]
  | cons x rest ih =>
    cases rest with
    | nil => cases x <;> simp [fmtArgs]
    | cons y r => cases x <;> simp [fmtArgs] <;> simpa using ih

/-- **print → parse of the arguments, including the elided name default.** -/
theorem args_roundtrip (ds : List Char) (hb : ds.contains '{' = false) (h0 : ds.contains '0' = false)
    (relname : Str) (hr0 : relname.head? ≠ some '0') (hr1 : relname.head? ≠ some '{')
    (C : List Param) (vals : List (Option Str)) (hlen : vals.length = C.length)
    (hok : ∀ v, some v ∈ vals → okValue ds v = true) (htr : trailingNoneOK C vals = true)
    (hel : fmtElided ds relname vals = true → (C.head?.bind (·.default)) = some ['n','a','m','e']) :
    ∃ args, assignPos (C.map (Arg.init · relname)) (printedArgs ds relname vals) = .ok (args, [])
      ∧ args.map (·.value) = normArgs vals := by
  unfold printedArgs
  by_cases he : fmtElided ds relname vals = true
  · simp only [he, ↓reduceIte]
    refine ⟨C.map (Arg.init · relname), by cases C <;> simp [assignPos], ?_⟩
    have hdef := hel he
    unfold fmtElided at he
    simp only [Bool.and_eq_true, beq_iff_eq] at he
    obtain ⟨hl, hh⟩ := he
    have h0' : '0' ∉ ds := by simpa using h0
    match vals, C, hlen with
    | [], _, _ => simp [fmtArgs] at hl
    | [none], _, _ => simp [fmtArgs] at hl
    | [some v], [p], _ =>
      simp only [fmtArgs, List.head?_cons, Option.some.injEq] at hh
      have hv := argFormat_eq_plain ds v relname hr1 hh
      simp only [List.head?_cons, Option.bind_some] at hdef
      simp [normArgs, Arg.init, hdef, hv]
    | [some v, none], [p, q], _ =>
      simp only [fmtArgs, List.head?_cons, Option.some.injEq] at hh
      have hv := argFormat_eq_plain ds v relname hr1 hh
      simp only [List.head?_cons, Option.bind_some] at hdef
      simp only [trailingNoneOK] at htr
      have hq : q.default = none := by simpa using htr
      simp [normArgs, Arg.init, hdef, hv, hq]
    | [none, none], _, _ =>
      simp only [fmtArgs, List.head?_cons, Option.some.injEq] at hh
      have : argFormat ds ['0'] = ['0'] := by simp [argFormat, h0']
      rw [this] at hh
      subst hh
      simp at hr0
    | [_, some w], _, _ => cases ‹Option Str› <;> simp [fmtArgs] at hl
    | a :: b :: c :: rest, _, _ =>
      have : 2 ≤ (fmtArgs ds (a :: b :: c :: rest)).length := by
        cases a <;> cases b <;> cases c <;> cases rest <;> simp [fmtArgs]
      omega
  · have he' : fmtElided ds relname vals = false := by simpa using he
    simp only [he', Bool.false_eq_true, ↓reduceIte]
    exact print_parse_args ds hb h0 relname C vals hlen hok htr


/-- **print → parse of the fields of one rule** (generic in the rule): the parameters are nodes `A`, an
    optional keyword `K`, nodes `B`, arguments `C`; the fields are laid out accordingly. -/
theorem process_roundtrip (r : Rule) (A K B C : List Param) (hparams : r.params = A ++ K ++ B ++ C)
    (hA : A.all (·.kind.isNode) = true) (hK : K.all (fun p => !p.kind.isNode && !p.kind.isArg) = true)
    (hB : B.all (·.kind.isNode) = true) (hC : C.all (·.kind.isArg) = true)
    (nA nB KW : List Str) (hlA : nA.length = A.length) (hlK : KW.length = K.length) (hlB : nB.length = B.length)
    (hdot : ∀ n ∈ nA ++ nB, n.head? ≠ some '.')
    (name relname : Str) (fa : List Str) (hfa : fa.length ≤ C.length)
    (hopt : (C.drop fa.length).all (·.optional) = true)
    (vals : List (Option Str)) (args : List Arg)
    (hassign : assignPos (C.map (Arg.init · relname)) fa = .ok (args, []))
    (hvals : args.map (·.value) = vals) :
    process r (nA ++ KW ++ nB ++ fa) name [] relname = .ok (nA ++ nB, vals) := by
  have hKn : K.all (fun p => !p.kind.isNode) = true := by
    simp only [List.all_eq_true] at hK ⊢
    intro x hx; have := hK x hx; simp only [Bool.and_eq_true] at this; exact this.1
  have hN : (A ++ K ++ B).all (fun p => !p.kind.isArg) = true := by
    simp only [List.all_append, Bool.and_eq_true, List.all_eq_true] at hA hK hB ⊢
    refine ⟨⟨?_, ?_⟩, ?_⟩
    · intro x hx; simp [isNode_not_isArg _ (hA x hx)]
    · intro x hx; exact (hK x hx).2
    · intro x hx; simp [isNode_not_isArg _ (hB x hx)]
  have hlenN : (A ++ K ++ B).length = (nA ++ KW ++ nB).length := by simp [hlA, hlK, hlB]
  have hnodes : extractNodes name [] r.params (nA ++ KW ++ nB ++ fa) = .ok (nA ++ nB) := by
    rw [hparams]
    have e1 : A ++ K ++ B ++ C = A ++ (K ++ (B ++ C)) := by simp only [List.append_assoc]
    have e2 : nA ++ KW ++ nB ++ fa = nA ++ (KW ++ (nB ++ fa)) := by simp only [List.append_assoc]
    rw [e1, e2]
    apply extractNodes_nodes name A hA nA hlA (fun n hn => hdot n (by simp [hn]))
    rw [extractNodes_skips name [] K hKn KW hlK]
    have := extractNodes_nodes name B hB nB hlB (fun n hn => hdot n (by simp [hn])) C fa [] (extractNodes_args name [] C hC fa)
    simpa using this
  have hm2 : m2Of r.params 0 0 = (A ++ K ++ B).length := by
    rw [hparams, m2Of_nonargs (A ++ K ++ B) hN C 0 0, m2Of_args C hC]
    cases h : (A ++ K ++ B) with
    | nil => simp
    | cons a b => simp
  have hmiss : missingArg r.params 0 (nA ++ KW ++ nB ++ fa).length = false := by
    rw [hparams, missingArg_nonargs (A ++ K ++ B) hN C 0]
    have : (nA ++ KW ++ nB ++ fa).length = (0 + (A ++ K ++ B).length) + fa.length := by
      rw [List.length_append, ← hlenN]; simp
    rw [this]
    refine missingArg_false C _ _ fun i p hp hi => ?_
    have : (C.drop fa.length)[i - fa.length]? = some p := by rw [List.getElem?_drop, ← hp]; congr 1; omega
    exact List.all_eq_true.mp hopt p (List.mem_of_getElem? this)
  have hfilter : r.params.filter (·.kind.isArg) = C := by
    rw [hparams, List.filter_append, List.filter_eq_self.mpr (fun a ha => List.all_eq_true.mp hC a ha),
      List.filter_eq_nil_iff.mpr (fun a ha => by simpa using List.all_eq_true.mp hN a ha)]
    rfl
  have hdrop : (nA ++ KW ++ nB ++ fa).drop (m2Of r.params 0 0) = fa := by
    rw [hm2, hlenN]; simp
  have hargs : extractArgs r (nA ++ KW ++ nB ++ fa) relname = .ok vals := by
    unfold extractArgs
    simp only [hmiss, Bool.false_eq_true, ↓reduceIte, hfilter, hdrop, hassign, assignNamed, hvals]
  have hlen : ¬ (nA ++ KW ++ nB ++ fa).length > r.params.length := by
    rw [hparams]
    have : (A ++ K ++ B ++ C).length = (A ++ K ++ B).length + C.length := by simp only [List.length_append]
    rw [this, List.length_append (as := nA ++ KW ++ nB), ← hlenN]
    omega
  unfold process
  simp only [hlen, ↓reduceIte, hnodes, hargs]


/-- `Parser.parse` on a line whose tokenisation, name analysis and rule list are known: what is left is
    `Rule.process` on the fields -/
theorem parse_eq_process (g : Grammar) (hok : g.ok = true) (used : List Str) (s head : Str) (sel : Option (Rule × Str))
    (tail : Option Str) (name0 : Str) (fields : List Str) (ty cid : Str) (r0 : Rule) (rs : List Rule)
    (hstrip : strip s = s) (hdir : isDirective g s = false)
    (hsf : splitFirst ';' s = (head, tail))
    (hsplit : split g.delimiters head = some (name0 :: fields))
    (hdot : splitOn '.' name0 = [name0])
    (hm : matchType g name0 = some ty)
    (hcid : (name0.drop ty.length).takeWhile isIdChar = cid)
    (hanon : ((cid.isEmpty && (ty == ['A'] || ty == ['W'] || ty == ['O'] || ty == ['P'])) || cid == ['?']) = false)
    (hrules : rulesOf g ty = r0 :: rs) (kp : Option Nat)
    (hsel : selectLoop fields (r0 :: rs) none = (sel, kp)) :
    parse g used [] s = (process ((sel.map (·.1)).getD r0) fields name0 [] name0).map fun na =>
      ((⟨((sel.map (·.1)).getD r0).classname, name0, ty, cid, na.1, na.2, kp, (sel.map (·.2)).getD [],
        (tail.map strip).getD [], s⟩ : Cpt), none) := by
  unfold parse
  simp only [hok, hstrip, hdir, hsf, hsplit, hdot]
  cases sel <;> cases tail <;> simp [hm, hcid, hanon, hrules, hsel] <;>
    cases process _ fields name0 [] name0 <;> rfl


/-! ### tokens of a printed line -/

/-- what a token must satisfy for the line-level argument: it is a `split` token, contains no `;`,
    and does not end in white space -/
def lineTok (ds : List Char) (t : Str) : Prop :=
  atomic ds t = true ∧ (∀ c ∈ t, c ≠ ';') ∧ (∀ c, t.getLast? = some c → isWs c = false)

theorem plainTok_spec (ds : List Char) (t : Str) (h : plainTok ds t = true) :
    t ≠ [] ∧ ∀ c ∈ t, ds.contains c = false ∧ c ≠ '{' ∧ c ≠ '}' ∧ c ≠ '"' ∧ c ≠ ';' ∧ isWs c = false := by
  unfold plainTok at h
  simp only [Bool.and_eq_true, Bool.not_eq_true', List.all_eq_true, bne_iff_ne, ne_eq] at h
  refine ⟨by intro e; subst e; simp at h, ?_⟩
  intro c hc
  have := h.2 c hc
  exact ⟨this.1.1.1.1.1, this.1.1.1.1.2, this.1.1.1.2, this.1.1.2, this.1.2, this.2⟩

theorem plainTok_lineTok (ds : List Char) (t : Str) (h : plainTok ds t = true) : lineTok ds t := by
  obtain ⟨hne, hc⟩ := plainTok_spec ds t h
  refine ⟨plain_atomic ds t hne (fun c hc' => ⟨(hc c hc').1, (hc c hc').2.1, (hc c hc').2.2.2.1, (hc c hc').2.2.1⟩),
    fun c hc' => (hc c hc').2.2.2.2.1, ?_⟩
  intro c hl
  exact (hc c (List.mem_of_getLast? hl)).2.2.2.2.2

theorem argFormat_lineTok (ds : List Char) (hb : ds.contains '{' = false) (v : Str) (hv : okValue ds v = true)
    (hl : lineChars ds v = true) : lineTok ds (argFormat ds v) := by
  have hat := (arg_format_roundtrip ds hb v hv).2
  unfold lineChars at hl
  simp only [List.all_eq_true, Bool.and_eq_true, bne_iff_ne, ne_eq, Bool.or_eq_true, Bool.not_eq_true'] at hl
  rw [argFormat_eq ds v ((okValue_iff ds v).mp hv).2.1] at hat ⊢
  split
  · rename_i hany
    rw [if_pos hany] at hat
    refine ⟨hat, fun c hc => ?_, fun c hc => ?_⟩
    · simp only [List.mem_cons, List.mem_append, List.not_mem_nil, or_false] at hc
      rcases hc with rfl | hc | rfl
      · decide
      · exact (hl c hc).1
      · decide
    · rw [← List.cons_append, List.getLast?_append] at hc
      simp at hc; subst hc; decide
  · rename_i hany
    rw [if_neg hany] at hat
    refine ⟨hat, fun c hc => (hl c hc).1, fun c hc => ?_⟩
    have hm := List.mem_of_getLast? hc
    exact (hl c hm).2.resolve_right fun h => hany (List.any_eq_true.mpr ⟨c, hm, h⟩)

theorem fmtArgs_mem (ds : List Char) (vals : List (Option Str)) (t : Str) (h : t ∈ fmtArgs ds vals) :
    ∃ v, (some v ∈ vals ∨ v = ['0']) ∧ t = argFormat ds v := by
  induction vals with
  | nil => simp [fmtArgs] at h
  | cons x rest ih =>
    cases rest with
    | nil =>
      cases x with
      | none => simp [fmtArgs] at h
      | some v => simp [fmtArgs] at h; exact ⟨v, Or.inl (by simp), h⟩
    | cons y r =>
      rw [fmtArgs_cons₂] at h
      rcases List.mem_cons.mp h with h | h
      · exact ⟨x.getD ['0'], by cases x <;> simp, h⟩
      · obtain ⟨v, hv, ht⟩ := ih h
        exact ⟨v, hv.imp (fun a => by simp [a]) id, ht⟩

theorem printedArgs_lineTok (ds : List Char) (hb : ds.contains '{' = false) (h0 : ds.contains '0' = false)
    (relname : Str) (vals : List (Option Str))
    (hok : ∀ v, some v ∈ vals → okValue ds v = true ∧ lineChars ds v = true) :
    ∀ t ∈ printedArgs ds relname vals, lineTok ds t := by
  intro t ht
  unfold printedArgs at ht
  split at ht
  · simp at ht
  · obtain ⟨v, hv, rfl⟩ := fmtArgs_mem ds vals t ht
    rcases hv with hv | rfl
    · exact argFormat_lineTok ds hb v (hok v hv).1 (hok v hv).2
    · have h0' : '0' ∉ ds := by simpa using h0
      exact argFormat_lineTok ds hb ['0'] (okValue_zero ds h0) (by simp [lineChars, isWs])

/-- a line made of line tokens: tokenises back, contains no `;`, and is not changed by `strip` when it
    starts with a non-blank -/
theorem line_of_tokens (ds : List Char) (hne : ds ≠ []) (hsp : ds.contains ' ' = true) (t0 : Str) (ts : List Str)
    (h : ∀ t ∈ t0 :: ts, lineTok ds t) :
    split ds (joinWith [' '] (t0 :: ts)) = some (t0 :: ts)
    ∧ (∀ c ∈ joinWith [' '] (t0 :: ts), c ≠ ';')
    ∧ (∀ c, (joinWith [' '] (t0 :: ts)).getLast? = some c → isWs c = false)
    ∧ (joinWith [' '] (t0 :: ts)).head? = t0.head? := by
  have hne' : ∀ t ∈ t0 :: ts, t ≠ [] := fun t ht => atomic_ne_nil (h t ht).1
  refine ⟨split_join ds ' ' hne hsp _ (fun t ht => (h t ht).1), ?_, ?_, joinWith_head _ _ _ (hne' t0 (by simp))⟩
  · intro c hc
    rcases joinWith_mem _ _ _ hc with hc | ⟨t, ht, hct⟩
    · simp at hc; subst hc; decide
    · exact (h t ht).2.1 c hct
  · intro c hc
    rw [joinWith_getLast [' '] (t0 :: ts) (by simp) hne'] at hc
    exact (h _ (List.getLast_mem _)).2.2 c hc


/-! ### rule selection on a printed line -/

theorem mem_rulesOf (g : Grammar) (r : Rule) (hr : r ∈ g.rules) : r ∈ rulesOf g r.type := by
  unfold rulesOf
  simp [List.mem_filter, hr]

theorem select_keyword (g : Grammar) (r : Rule) (hr : r ∈ g.rules) (fields : List Str) (p : Nat) (q : Param)
    (hpos : r.pos = some p) (hq : r.params[p]? = some q) (hf : fields[p]? = some q.name)
    (hsel : selOK g r fields = true) :
    selectLoop fields (rulesOf g r.type) none = (some (r, q.name), some p) := by
  obtain ⟨post, hsplit⟩ := mem_split_takeWhile _ r (mem_rulesOf g r hr)
  unfold selOK at hsel
  simp only [hpos] at hsel
  rw [hsplit]
  exact select_spec fields _ post r p q q.name hpos hq hf rfl (fun r' hr' => List.all_eq_true.mp hsel r' hr') none

theorem select_default (g : Grammar) (r : Rule) (fields : List Str) (hpos : r.pos = none)
    (hsel : selOK g r fields = true) :
    (selectLoop fields (rulesOf g r.type) none).1 = none := by
  unfold selOK at hsel
  simp only [hpos] at hsel
  exact select_none fields _ (fun r' hr' => List.all_eq_true.mp hsel r' hr') none


/-- the tokens of a component whose name has no namespace and is not an anonymous one -/
theorem netTokens_plain (g : Grammar) (c : Cpt) (hdot : splitOn '.' c.name = [c.name])
    (hrew : (match c.name with
       | c0 :: rest => (c0 == 'A' || c0 == 'O' || c0 == 'W' || c0 == 'P') && startsWith rest ['a','n','o','n']
       | [] => false) = false) :
    netTokens g c = c.name :: ((if c.kwpos == some 0 && !c.kw.isEmpty then [c.kw] else [])
      ++ nodesWithKw c.kwpos c.kw c.nodes 0 ++ printedArgs g.delimiters c.name c.args) := by
  unfold netTokens printedArgs fmtElided
  rw [hdot]
  cases hcn : c.name with
  | nil => simp [joinWith]
  | cons a t =>
    rw [hcn] at hrew
    simp only at hrew
    have hrew' : ¬ ((((a = 'A' ∨ a = 'O') ∨ a = 'W') ∨ a = 'P') ∧ startsWith t ['a','n','o','n'] = true) := by
      intro h
      simp [h.2] at hrew
      rcases h.1 with ((h | h) | h) | h <;> simp [h] at hrew
    simp [joinWith, hrew']

/-- For every grammar `g` satisfying `grammarWF` (checked for the extracted table by
    `table_wf2`), every rule `r` of it and every component `c` in normal form for `r` (`normalCpt`): parsing
    the printed line gives the component back -- same class, name, type, id, nodes, keyword, the arguments
    up to `normArgs` (an absent non-final value is read back as `0`), the option string in its canonical
    printed form -- whatever names are in use (`used`).
    PARTIAL: see the exclusions listed at the head of this file. -/
theorem line_roundtrip_partial (g : Grammar) (hg : grammarWF g = true) (r : Rule) (hr : r ∈ g.rules) (c : Cpt)
    (hn : normalCpt g r c = true) (s : Str) (hp : printCpt g c = some s) :
    ∃ kp os, (∀ used, parse g used [] s
        = .ok ({ c with args := normArgs c.args, kwpos := kp, opts := os, string := s }, none))
      ∧ (c.kw ≠ [] → kp = c.kwpos)
      ∧ (∃ o os', optsParse c.opts = .ok o ∧ optsFormat o = some os' ∧ os = strip os')
      ∧ strip s = s ∧ s.head? = c.name.head? ∧ c.name.head? ≠ some '.' ∧ c.name ≠ [] := by
  -- the grammar
  obtain ⟨gok, gwf, gdf, -, gb, -, -, -, g0, -, gsp, -⟩ := (grammarWF_iff g).mp hg
  have gne : g.delimiters ≠ [] := by intro e; rw [e] at gsp; simp at gsp
  obtain ⟨hC, hpos, hkwplain, -, -, hxx⟩ := (ruleWF2_iff _ r).mp (List.all_eq_true.mp gwf r hr)
  have hdf := List.all_eq_true.mp gdf r hr
  -- the component
  obtain ⟨ncls, nty, nname, nnm, nnl, nnodes, nkw, nkp, nal, nargs, ntr, nopt, nel, nsel⟩ := (normalCpt_iff g r c).mp hn
  simp only [nameOK, Bool.and_eq_true, Bool.not_eq_true', beq_iff_eq, bne_iff_ne, ne_eq, and_assoc] at nnm
  obtain ⟨manon, mid, mmatch, mrew, mplain, mdot, mdir, mzero⟩ := nnm
  rw [← nname] at mmatch mrew mplain mdot mdir mzero
  -- the name
  have hnameTok := plainTok_lineTok g.delimiters c.name mplain
  have hnamespec := plainTok_spec g.delimiters c.name mplain
  have hdotfree : ∀ ch ∈ c.name, ch ≠ '.' := fun ch hch => by simpa using List.all_eq_true.mp mdot ch hch
  have hsplitdot : splitOn '.' c.name = [c.name] := splitOn_nosep '.' c.name hdotfree
  have hcid : (c.name.drop r.type.length).takeWhile isIdChar = c.cid := by
    rw [nname]; simp only [List.drop_left]
    exact takeWhile_all _ _ mid
  have hr1 : c.name.head? ≠ some '{' := fun h => (hnamespec.2 '{' (List.mem_of_mem_head? h)).2.1 rfl
  have hargsok : ∀ v, some v ∈ c.args → okValue g.delimiters v = true ∧ lineChars g.delimiters v = true :=
    fun v hv => by simpa using List.all_eq_true.mp nargs (some v) hv
  have hnodesok : ∀ n ∈ c.nodes, plainTok g.delimiters n = true ∧ n.head? ≠ some '.' :=
    fun n hn => by simpa using List.all_eq_true.mp nnodes n hn
  have htoks := netTokens_plain g c hsplitdot mrew
  rw [htoks] at nsel nopt
  simp only [List.drop_one, List.tail_cons] at nsel nopt
  -- layout of the parameters and of the printed fields
  obtain ⟨hshape, hA, hB, hkk, hkB⟩ := shapeOf_spec r.params
  generalize hsh : shapeOf r.params = sh at *
  obtain ⟨A, k, B, C⟩ := sh
  simp only [Shape.params] at hshape
  simp only [nNodes, hsh] at nnl nopt
  simp only at hC hpos hkwplain nal ntr nel nopt hA hB hkk hkB
  obtain ⟨r0, rs, hrules⟩ := List.exists_cons_of_ne_nil (List.ne_nil_of_mem (mem_rulesOf g r hr))
  have hlA : (c.nodes.take A.length).length = A.length := by rw [List.length_take]; omega
  have hlB : (c.nodes.drop A.length).length = B.length := by rw [List.length_drop]; omega
  have hsplitnodes : c.nodes.take A.length ++ c.nodes.drop A.length = c.nodes := List.take_append_drop _ _
  -- keyword placement and rule selection, by cases on the rule having a keyword
  have hlayout : ∃ K KW sel kp,
      A ++ K ++ B ++ C = r.params
      ∧ (if (c.kwpos == some 0 && !List.isEmpty c.kw) = true then [c.kw] else []) ++ nodesWithKw c.kwpos c.kw c.nodes 0
          = c.nodes.take A.length ++ KW ++ c.nodes.drop A.length
      ∧ KW.length = K.length ∧ K.all (fun p => !p.kind.isNode && !p.kind.isArg) = true
      ∧ (∀ t ∈ KW, lineTok g.delimiters t)
      ∧ (if k.isSome then 1 else 0) = K.length
      ∧ selectLoop (c.nodes.take A.length ++ KW ++ c.nodes.drop A.length ++ printedArgs g.delimiters c.name c.args)
          (r0 :: rs) none = (sel, kp)
      ∧ (sel.map (·.1)).getD r0 = r ∧ (sel.map (·.2)).getD [] = c.kw ∧ (c.kw ≠ [] → kp = c.kwpos) := by
    cases k with
    | none =>
      have hkw : c.kw = [] := by rw [nkw]; simp [kwName, hsh]
      have hBnil : B = [] := hkB rfl
      subst hBnil
      simp only [List.length_nil, Nat.add_zero] at nnl
      have htake : c.nodes.take A.length = c.nodes := List.take_of_length_le (by omega)
      have hdrop : c.nodes.drop A.length = [] := List.drop_of_length_le (by omega)
      simp only [Option.map_none] at hpos
      have hfields : (if (c.kwpos == some 0 && !List.isEmpty c.kw) = true then [c.kw] else []) ++ nodesWithKw c.kwpos c.kw c.nodes 0
          = c.nodes := by simp [hkw, nodesWithKw_nokw]
      rw [hfields] at nsel
      have hs := select_default g r _ hpos nsel
      rw [hrules] at hs
      refine ⟨[], [], none, (selectLoop (c.nodes ++ printedArgs g.delimiters c.name c.args) (r0 :: rs) none).2, by simpa using hshape, ?_, rfl, rfl,
        by simp, by simp, ?_, ?_, by simp [hkw], by simp [hkw]⟩
      · rw [hfields, htake, hdrop]; simp
      · rw [htake, hdrop]
        simp only [List.append_nil]
        exact Prod.ext hs rfl
      · simp only [hpos, Option.isSome_none, Bool.false_or, hrules, List.head?_cons, beq_iff_eq, Option.some.injEq] at hdf
        simpa using hdf
    | some q =>
      simp only [Option.map_some] at hpos
      have hqk : q.kind = .keyword := hkk q rfl
      have hkw : c.kw = q.name := by rw [nkw]; simp [kwName, hsh]
      have hqplain : plainTok g.delimiters q.name = true := hkwplain q rfl
      have hkwne : c.kw ≠ [] := by rw [hkw]; exact (plainTok_spec _ _ hqplain).1
      have hkwe : c.kw.isEmpty = false := List.isEmpty_eq_false_iff.mpr hkwne
      have hkp : c.kwpos = some A.length := by
        simp only [hpos, Option.isNone_some, Bool.false_or, beq_iff_eq] at nkp; exact nkp
      have hfields : (if (c.kwpos == some 0 && !List.isEmpty c.kw) = true then [c.kw] else []) ++ nodesWithKw c.kwpos c.kw c.nodes 0
          = c.nodes.take A.length ++ [c.kw] ++ c.nodes.drop A.length := by
        rw [hkp]
        cases hAl : A with
        | nil => simp [hkwe, nodesWithKw_noinsert 0 c.kw c.nodes 0 (Nat.le_refl _)]
        | cons a A' =>
          rw [nodesWithKw_eq _ _ hkwne _ 0 (by simp) (by rw [hAl] at nnl; simp at nnl ⊢; omega)]
          simp
      rw [hfields] at nsel
      have hq : r.params[A.length]? = some q := by rw [← hshape]; simp
      have hf : (c.nodes.take A.length ++ [c.kw] ++ c.nodes.drop A.length ++ printedArgs g.delimiters c.name c.args)[A.length]? = some q.name := by
        rw [← hkw]
        simp only [List.append_assoc]
        rw [List.getElem?_append_right (by omega)]
        simp [hlA]
      have hs := select_keyword g r hr _ A.length q hpos hq hf nsel
      rw [hrules] at hs
      refine ⟨[q], [c.kw], some (r, q.name), some A.length, by simpa using hshape, hfields, rfl, by simp [hqk, Kind.isNode, Kind.isArg], ?_, by simp, hs,
        by simp, by simp [hkw], fun _ => hkp.symm⟩
      intro t ht
      simp only [List.mem_singleton] at ht; subst ht
      rw [hkw]; exact plainTok_lineTok _ _ hqplain
  obtain ⟨K, KW, sel, kp, hshapeK, hfields, hlK, hKall, hKWtok, hKlen, hselres, hselr, hselk, hkpc⟩ := hlayout
  rw [hfields] at htoks nopt
  have hfa_le : (printedArgs g.delimiters c.name c.args).length ≤ C.length := by
    rw [← nal]; unfold printedArgs
    split
    · simp
    · exact fmtArgs_length_le _ _
  have hopt : (C.drop (printedArgs g.delimiters c.name c.args).length).all (·.optional) = true := by
    have e : (c.nodes.take A.length ++ KW ++ c.nodes.drop A.length ++ printedArgs g.delimiters c.name c.args).length
        - (A.length + B.length + if k.isSome = true then 1 else 0) = (printedArgs g.delimiters c.name c.args).length := by
      simp only [List.length_append, hlA, hlB, hlK, hKlen]; omega
    rw [e] at nopt; exact nopt
  have hel : fmtElided g.delimiters c.name c.args = true →
      (C.head?.bind (·.default)) = some ['n','a','m','e'] := by
    intro h; simp only [h, Bool.not_true, Bool.false_or, beq_iff_eq] at nel; exact nel
  obtain ⟨args, hassign, hvals⟩ := args_roundtrip g.delimiters gb g0 c.name mzero hr1 C c.args nal
    (fun v hv => (hargsok v hv).1) ntr hel
  have hdotn : ∀ n ∈ c.nodes.take A.length ++ c.nodes.drop A.length, n.head? ≠ some '.' := by
    rw [hsplitnodes]; exact fun n hn => (hnodesok n hn).2
  have hproc := process_roundtrip r A K B C hshapeK.symm hA hKall hB hC _ _ KW hlA hlK hlB hdotn c.name c.name
    _ hfa_le hopt (normArgs c.args) args hassign hvals
  rw [hsplitnodes] at hproc
  -- the printed line
  have htokall : ∀ t ∈ c.name :: (c.nodes.take A.length ++ KW ++ c.nodes.drop A.length ++ printedArgs g.delimiters c.name c.args),
      lineTok g.delimiters t := by
    intro t ht
    simp only [List.mem_cons, List.mem_append] at ht
    rcases ht with rfl | ((ht | ht) | ht) | ht
    · exact hnameTok
    · exact plainTok_lineTok _ _ (hnodesok t (List.mem_of_mem_take ht)).1
    · exact hKWtok t ht
    · exact plainTok_lineTok _ _ (hnodesok t (List.mem_of_mem_drop ht)).1
    · exact printedArgs_lineTok g.delimiters gb g0 c.name c.args hargsok t ht
  obtain ⟨hsplit, hnosemi, hlast, hhead⟩ := line_of_tokens g.delimiters gne gsp _ _ htokall
  have hsplit' : split g.delimiters (joinWith [' '] (netTokens g c)) = some (c.name ::
      (c.nodes.take A.length ++ KW ++ c.nodes.drop A.length ++ printedArgs g.delimiters c.name c.args)) := by
    rw [htoks]; exact hsplit
  rw [← htoks] at hnosemi hlast hhead
  obtain ⟨a, t, hcn⟩ := List.exists_cons_of_ne_nil hnamespec.1
  obtain ⟨t', hnet⟩ := List.head?_eq_some_iff.mp (show _ = some a by rw [hhead, hcn]; rfl)
  have haws : isWs a = false := (hnamespec.2 a (by rw [hcn]; simp)).2.2.2.2.2
  have hdot1 : c.name.head? ≠ some '.' := fun h => hdotfree '.' (List.mem_of_mem_head? h) rfl
  have hdirnet : ∀ rest, isDirective g (a :: rest) = false := by
    intro rest; rw [hcn] at mdir; simpa [isDirective] using mdir
  -- unfold the printer
  unfold printCpt at hp
  have hxx' : (c.ctype == ['X','X']) = false := by rw [nty]; simpa using hxx
  simp only [hxx', Bool.false_eq_true, ↓reduceIte] at hp
  cases hop : optsParse c.opts with
  | error e => simp [hop] at hp
  | ok o =>
    simp only [hop] at hp
    cases hof : optsFormat o with
    | none => simp [hof] at hp
    | some os' =>
      simp only [hof, Option.some.injEq] at hp
      have hrec : ∀ os, (⟨r.classname, c.name, r.type, c.cid, c.nodes, normArgs c.args, kp, c.kw, os, s⟩ : Cpt)
          = { c with args := normArgs c.args, kwpos := kp, opts := os, string := s } := by
        intro os; rw [← ncls, ← nty]
      obtain ⟨hstrip, ⟨u, hsu⟩, tail, hsf, hos⟩ :=
        line_with_opts _ os' s a t' hnet haws hlast hnosemi hp
      refine ⟨kp, strip os', ?_, hkpc, ⟨o, os', rfl, hof, rfl⟩, hstrip, by rw [hsu, hcn]; rfl, hdot1, hnamespec.1⟩
      intro used
      rw [← hrec, parse_eq_process g gok used s (joinWith [' '] (netTokens g c)) sel tail c.name _ r.type c.cid r0 rs hstrip
        (by rw [hsu]; exact hdirnet u) hsf
        hsplit' hsplitdot mmatch hcid manon hrules kp hselres, hselr, hselk, hproc, hos]
      rfl


/-! ### option strings (opts.py) -/

/-- `Opts(format(o)) = o` for every option table in normal form (`optsNormal`:
    distinct keys without white space or `, = { }` and other than `def`; values either Booleans or
    strings without `, { }`, not blank at either end and not spelled `true/True/false/False`); the
    printed text is stripped. -/
theorem opts_format_parse (o : Opts) (hn : optsNormal o = true) :
    ∃ s, optsFormat o = some s ∧ optsParse s = .ok o ∧ strip s = s := by
  refine ⟨_, optsFormat_normal o hn, ?_, ?_⟩
  · cases o with
    | nil => simp [joinWith, optsParse]
    | cons e rest =>
      obtain ⟨k, v⟩ := e
      have hn' := hn
      simp only [optsNormal, Bool.and_eq_true, Bool.not_eq_true'] at hn'
      obtain ⟨⟨⟨hk, hv⟩, hfr⟩, hrest⟩ := hn'
      have hchars : ∀ t ∈ ((k, v) :: rest).map optTxt, ∀ c ∈ t, c ≠ ',' ∧ c ≠ '{' ∧ c ≠ '}' := by
        intro t ht
        obtain ⟨p, hp, rfl⟩ := List.mem_map.mp ht
        exact optTxt_chars p.1 p.2 (optsNormal_mem _ hn p hp).1 (optsNormal_mem _ hn p hp).2
      have hsplit := optsSplit_join (((k, v) :: rest).map optTxt) (by simp) hchars
      have hne : (joinWith [',', ' '] (((k, v) :: rest).map optTxt)).isEmpty = false := by
        cases h : optTxt (k, v) with
        | nil => exact absurd h (optTxt_ends k v hk hv).1
        | cons a t => cases rest <;> simp [joinWith, h]
      unfold optsParse
      simp only [hne, Bool.false_eq_true, ↓reduceIte, hsplit]
      simp only [List.map_cons, List.head_cons, List.tail_cons, List.foldl_cons]
      have h1 := optsAddPart_entry [] k v (optTxt (k, v)) [] (Or.inl rfl) hk hv (optFmt1_normal k v hv) (by simp)
      simp only [List.nil_append] at h1
      rw [h1, List.map_map]
      have := optsNormal_fold rest hrest [(k, v)] (fun p hp => by simp [key_ne_of_fresh hfr hp])
      simpa [Function.comp_def] using this
  · cases o with
    | nil => simp [joinWith, strip, lstrip, rstrip]
    | cons e rest =>
      refine strip_joinWith _ _ (by simp) fun t ht => ?_
      obtain ⟨p, hp, rfl⟩ := List.mem_map.mp ht
      exact optTxt_ends p.1 p.2 (optsNormal_mem _ hn p hp).1 (optsNormal_mem _ hn p hp).2

example : optsNormal [("right".toList, .s []), ("l".toList, .s "R_1=3 ohm".toList), ("mirror".toList, .b false),
    ("scale".toList, .s "0.5".toList)] = true := by decide

/-- printing an option table twice through the parser gives the same text (idempotence of `format`) -/
theorem opts_format_idempotent (o : Opts) (hn : optsNormal o = true) (s : Str) (hs : optsFormat o = some s) :
    ∃ o', optsParse s = .ok o' ∧ optsFormat o' = some s := by
  obtain ⟨s', h1, h2, _⟩ := opts_format_parse o hn
  rw [hs] at h1; cases h1
  exact ⟨o, h2, hs⟩

/-- The constants that the model of `Opts.add` / `Opts.format` / `value_parser` is
    written with are the ones in the checked-out `opts.py` / `valueparser.py` (extracted by the
    translator): the spellings read as Booleans, the list-valued key, the separator written by `format`,
    the characters of the local `split`, and the `Meg` / `K` suffix aliases. -/
theorem opts_constants :
    Gen.Grammar.optsTrue = [['t','r','u','e'], ['T','r','u','e']]
    ∧ Gen.Grammar.optsFalse = [['f','a','l','s','e'], ['F','a','l','s','e']]
    ∧ Gen.Grammar.optsListKey = ['d','e','f']
    ∧ Gen.Grammar.optsJoin = [',', ' ']
    ∧ Gen.Grammar.optsSplitChars = [',', '{', '}']
    ∧ Gen.Grammar.suffixAliases = [(['M','e','g'], ['M']), (['K'], ['k'])] := by decide

theorem optsEq_refl (o : Opts) (hn : optsNormal o = true) : optsEq o o = true := by
  induction o with
  | nil => rfl
  | cons e rest ih =>
    obtain ⟨k, v⟩ := e
    simp only [optsNormal, Bool.and_eq_true] at hn
    have hv : v.beq v = true := by
      cases v with
      | defs _ => have := hn.1.1.2; simp [optValOK] at this
      | s x => simp [OptVal.beq]
      | b x => simp [OptVal.beq]
    simp [optsEq, hv, ih hn.2]

theorem netTokens_reparsed (g : Grammar) (c : Cpt) (kp : Option Nat) (os s : Str) (hkp : c.kw ≠ [] → kp = c.kwpos) :
    netTokens g { c with args := normArgs c.args, kwpos := kp, opts := os, string := s } = netTokens g c := by
  unfold netTokens
  simp only [fmtArgs_normArgs]
  by_cases hk : c.kw = []
  · simp [hk, nodesWithKw_nokw]
  · rw [hkp hk]

/-- Line level, complete statement: for a component in normal form whose option
    table is in normal form, the printed line parses to a component that the specification identifies
    with the original (`sameCpt`: class, name, type, nodes, arguments up to `normArgs`, keyword, option
    table), and printing that component gives the same line again (print is idempotent).
    PARTIAL: see the exclusions listed at the head of this file. -/
theorem line_roundtrip_full_partial (g : Grammar) (hg : grammarWF g = true) (r : Rule) (hr : r ∈ g.rules) (c : Cpt)
    (hn : normalCpt g r c = true) (o : Opts) (ho : optsParse c.opts = .ok o) (hon : optsNormal o = true)
    (s : Str) (hp : printCpt g c = some s) :
    ∃ c', (∀ used, parse g used [] s = .ok (c', none)) ∧ sameCpt c c' = true ∧ printCpt g c' = some s
      ∧ c'.name = c.name ∧ (∃ o', optsParse c'.opts = .ok o')
      ∧ strip s = s ∧ s.head? = c.name.head? ∧ c.name.head? ≠ some '.' ∧ c.name ≠ [] := by
  obtain ⟨kp, os, hparse, hkp, ⟨o', os', ho', hof, hos⟩, hst1, hst2, hst3, hst4⟩ := line_roundtrip_partial g hg r hr c hn s hp
  rw [ho] at ho'; cases ho'
  obtain ⟨s', hf, hpo, hst⟩ := opts_format_parse o hon
  rw [hof] at hf; cases hf
  rw [hst] at hos; subst hos
  have hxx : (c.ctype == ['X','X']) = false := by
    have rwf := (ruleWF2_iff _ r).mp (List.all_eq_true.mp ((grammarWF_iff g).mp hg).2.1 r hr)
    rw [((normalCpt_iff g r c).mp hn).2.1]
    simpa using rwf.2.2.2.2.2
  refine ⟨_, hparse, ?_, ?_, rfl, ⟨o, hpo⟩, hst1, hst2, hst3, hst4⟩
  · have hkw : (c.kw.isEmpty || c.kwpos == kp) = true := by
      by_cases hk : c.kw = []
      · simp [hk]
      · simp [hkp hk]
    simp only [sameCpt, beq_self_eq_true, Bool.true_and, normArgs_idem, hkw, hxx, Bool.false_eq_true, ↓reduceIte,
      sameOpts, ho, hpo, optsEq_refl o hon]
  · unfold printCpt at hp ⊢
    simp only [hpo, hof, hxx, Bool.false_eq_true, ↓reduceIte]
    simp only [ho, hof, hxx, Bool.false_eq_true, ↓reduceIte] at hp
    rw [netTokens_reparsed g c kp os s hkp]
    exact hp


/-! ### a readable sufficient condition for `selOK` -/

/-- in a `kwDistinct` list, two different positions of the list never carry the same (pos, keyword) -/
theorem kwDistinct_pair (pre : List Rule) (r : Rule) (post : List Rule) (h : kwDistinct (pre ++ r :: post) = true)
    (r' : Rule) (hr' : r' ∈ pre) (p : Nat) (hp' : r'.pos = some p) (hp : r.pos = some p) :
    (r.params[p]?.map (fun q => lower q.name)) ≠ (r'.params[p]?.map (fun q => lower q.name)) := by
  induction pre with
  | nil => simp at hr'
  | cons a t ih =>
    simp only [List.cons_append, kwDistinct, Bool.and_eq_true] at h
    rcases List.mem_cons.mp hr' with rfl | hm
    · have h1 := h.1
      simp only [hp', List.all_eq_true, Bool.not_eq_true', Bool.and_eq_false_iff] at h1
      have := h1 r (by simp)
      rcases this with h2 | h2
      · simp [hp] at h2
      · intro e; rw [e] at h2; simp at h2
    · exact ih h.2 hm

/-- the keyword rules of every type of a well-formed grammar are distinguishable -/
theorem kwDistinct_rulesOf (g : Grammar) (hg : grammarWF g = true) (r : Rule) (hr : r ∈ g.rules) :
    kwDistinct (rulesOf g r.type) = true :=
  List.all_eq_true.mp ((grammarWF_iff g).mp hg).2.2.2.1 r.type
    (List.mem_eraseDups.mpr (List.mem_map.mpr ⟨r, hr, rfl⟩))

/-- Rule selection is not disturbed when no field other than the rule's own keyword
    is spelt like a keyword of the component type (this is where a value equal to a keyword --
    finding C06-a -- is excluded). -/
theorem selOK_of_fields (g : Grammar) (hg : grammarWF g = true) (r : Rule) (hr : r ∈ g.rules) (fields : List Str)
    (hown : ∀ p, r.pos = some p → ∃ q, r.params[p]? = some q ∧ fields[p]? = some q.name)
    (hother : ∀ i f, fields[i]? = some f → r.pos ≠ some i → (typeKeywords g r.type).contains (lower f) = false) :
    selOK g r fields = true := by
  have gwf := ((grammarWF_iff g).mp hg).2.1
  have hkd := kwDistinct_rulesOf g hg r hr
  -- a rule of the type does not react unless it is at r's own keyword position with r's own keyword
  have hno : ∀ r' ∈ rulesOf g r.type, (∀ p, r.pos = some p → r'.pos = some p →
      (r.params[p]?.map (fun q => lower q.name)) ≠ (r'.params[p]?.map (fun q => lower q.name))) → noMatch fields r' = true := by
    intro r' hr' hdiff
    have hr'g : r' ∈ g.rules := (List.mem_filter.mp hr').1
    unfold noMatch
    cases hp' : r'.pos with
    | none => rfl
    | some p' =>
      simp only
      cases hf : fields[p']? with
      | none => rfl
      | some f =>
        cases hq : r'.params[p']? with
        | none => rfl
        | some prm =>
          simp only [bne_iff_ne, ne_eq]
          by_cases hsame : r.pos = some p'
          · obtain ⟨q, hq1, hq2⟩ := hown p' hsame
            rw [hf] at hq2; cases hq2
            have := hdiff p' hsame hp'
            rw [hq1, hq] at this
            simpa using this
          · have hk := hother p' f hf hsame
            -- prm is a keyword parameter of a rule of the type
            have hprmk : prm.kind = .keyword := ruleWF2_pos_keyword (List.all_eq_true.mp gwf r' hr'g) hp' hq
            have hmem : lower prm.name ∈ typeKeywords g r.type :=
              List.mem_flatMap.mpr ⟨r', hr', List.mem_map.mpr
                ⟨prm, List.mem_filter.mpr ⟨List.mem_of_getElem? hq, by simp [hprmk]⟩, rfl⟩⟩
            intro e
            rw [e] at hk
            simp [hmem] at hk
  unfold selOK
  cases hp : r.pos with
  | none =>
    simp only [List.all_eq_true]
    intro r' hr'
    exact hno r' hr' (fun p h => by rw [hp] at h; cases h)
  | some p =>
    simp only [List.all_eq_true]
    intro r' hr'
    obtain ⟨post, hsplit⟩ := mem_split_takeWhile _ r (mem_rulesOf g r hr)
    have hmem : r' ∈ rulesOf g r.type := by rw [hsplit]; simp [hr']
    apply hno r' hmem
    intro p2 h1 h2
    rw [hp] at h1; cases h1
    rw [hsplit] at hkd
    exact kwDistinct_pair _ r post hkd r' hr' p h2 hp


/-- The grammar extracted from the checked-out `grammar.py` satisfies `grammarWF`: every
    rule is nodes / at most one keyword / nodes / arguments with `pos` at the keyword, keywords are
    plain tokens, a rule without keyword is the first of its type, keyword rules of a type are
    distinguishable, and the delimiters contain no bracket, quote, `=`, `;` or `0`.
    (Evaluated over the whole regenerated table, in `table_checks`: re-checked against the source on every run.) -/
theorem table_wf2 : grammarWF theGrammar = true := table_checks.1

/-! ### rejects, lifted to the level of `Parser.parse` (a LINE is rejected) -/

/-- A line with more fields than the selected rule has parameters is rejected
    by `parse` with "Too many args". -/
theorem rejects_too_many_line (g : Grammar) (hok : g.ok = true) (used : List Str) (s head : Str)
    (sel : Option (Rule × Str)) (tail : Option Str) (name0 : Str) (fields : List Str) (ty cid : Str) (r0 : Rule) (rs : List Rule)
    (hstrip : strip s = s) (hdir : isDirective g s = false) (hsf : splitFirst ';' s = (head, tail))
    (hsplit : split g.delimiters head = some (name0 :: fields)) (hdot : splitOn '.' name0 = [name0])
    (hm : matchType g name0 = some ty) (hcid : (name0.drop ty.length).takeWhile isIdChar = cid)
    (hanon : ((cid.isEmpty && (ty == ['A'] || ty == ['W'] || ty == ['O'] || ty == ['P'])) || cid == ['?']) = false)
    (hrules : rulesOf g ty = r0 :: rs) (rule : Rule) (kp : Option Nat)
    (hsel : selectLoop fields (r0 :: rs) none = (sel, kp)) (hrule : rule = (sel.map (·.1)).getD r0)
    (h : fields.length > rule.params.length) :
    parse g used [] s = .error .tooMany := by
  rw [parse_eq_process g hok used s head sel tail name0 fields ty cid r0 rs hstrip hdir hsf hsplit hdot hm hcid hanon hrules
    kp hsel, ← hrule, rejects_too_many rule fields name0 [] name0 h]
  rfl

/-- A line that has no field for some node / pin parameter of the selected
    rule is rejected by `parse` with "Missing node". -/
theorem rejects_too_few_nodes_line (g : Grammar) (hok : g.ok = true) (used : List Str) (s head : Str)
    (sel : Option (Rule × Str)) (tail : Option Str) (name0 : Str) (fields : List Str) (ty cid : Str) (r0 : Rule) (rs : List Rule)
    (hstrip : strip s = s) (hdir : isDirective g s = false) (hsf : splitFirst ';' s = (head, tail))
    (hsplit : split g.delimiters head = some (name0 :: fields)) (hdot : splitOn '.' name0 = [name0])
    (hm : matchType g name0 = some ty) (hcid : (name0.drop ty.length).takeWhile isIdChar = cid)
    (hanon : ((cid.isEmpty && (ty == ['A'] || ty == ['W'] || ty == ['O'] || ty == ['P'])) || cid == ['?']) = false)
    (hrules : rulesOf g ty = r0 :: rs) (rule : Rule) (kp : Option Nat)
    (hsel : selectLoop fields (r0 :: rs) none = (sel, kp)) (hrule : rule = (sel.map (·.1)).getD r0)
    (i : Nat) (p : Param) (hi : fields.length ≤ i) (hp : rule.params[i]? = some p) (hk : p.kind.isNode = true) :
    parse g used [] s = .error .missingNode := by
  rw [parse_eq_process g hok used s head sel tail name0 fields ty cid r0 rs hstrip hdir hsf hsplit hdot hm hcid hanon hrules
    kp hsel, ← hrule, rejects_too_few_nodes rule fields name0 [] name0 i p hi hp hk]
  rfl

/-- A line whose named-parameter part is refused (`rejects_unknown_named`: unknown
    parameter; `rejects_value_after_named`: a positional value after a named one) is rejected by `parse`
    with that error. -/
theorem rejects_named_line (g : Grammar) (hok : g.ok = true) (used : List Str) (s head : Str)
    (sel : Option (Rule × Str)) (tail : Option Str) (name0 : Str) (fields : List Str) (ty cid : Str) (r0 : Rule) (rs : List Rule)
    (hstrip : strip s = s) (hdir : isDirective g s = false) (hsf : splitFirst ';' s = (head, tail))
    (hsplit : split g.delimiters head = some (name0 :: fields)) (hdot : splitOn '.' name0 = [name0])
    (hm : matchType g name0 = some ty) (hcid : (name0.drop ty.length).takeWhile isIdChar = cid)
    (hanon : ((cid.isEmpty && (ty == ['A'] || ty == ['W'] || ty == ['O'] || ty == ['P'])) || cid == ['?']) = false)
    (hrules : rulesOf g ty = r0 :: rs) (rule : Rule) (kp : Option Nat)
    (hsel : selectLoop fields (r0 :: rs) none = (sel, kp)) (hrule : rule = (sel.map (·.1)).getD r0)
    (nodes : List Str) (args1 : List Arg) (rest : List Str) (e : Err)
    (hlen : ¬ fields.length > rule.params.length) (hnodes : extractNodes name0 [] rule.params fields = .ok nodes)
    (hmiss : missingArg rule.params 0 fields.length = false)
    (hpos : assignPos ((rule.params.filter (·.kind.isArg)).map (Arg.init · name0)) (fields.drop (m2Of rule.params 0 0)) = .ok (args1, rest))
    (hnamed : assignNamed args1 rest = .error e) :
    parse g used [] s = .error e := by
  rw [parse_eq_process g hok used s head sel tail name0 fields ty cid r0 rs hstrip hdir hsf hsplit hdot hm hcid hanon hrules
    kp hsel, ← hrule]
  -- an error of the named-parameter pass is the error of `Rule.process`
  unfold process extractArgs
  simp only [hlen, ↓reduceIte, hnodes, hmiss, Bool.false_eq_true, hpos, hnamed]
  rfl

/-- A line whose part before `;` does not tokenise (unbalanced braces / quotes,
    unmatched `}`) is rejected by `parse`. -/
theorem rejects_unbalanced_line (g : Grammar) (hok : g.ok = true) (used : List Str) (ns s : Str)
    (hdir : isDirective g (strip s) = false)
    (h : split g.delimiters (splitFirst ';' (strip s)).1 = none) :
    parse g used ns s = .error .unbalanced := by
  unfold parse
  simp only [hok, hdir]
  simp [h]

theorem bad_stays (ds : List Char) (t : Str) (s : St) (h : s.bad = true) : (t.foldl (step ds) s).bad = true := by
  induction t generalizing s with
  | nil => exact h
  | cons c t ih =>
    apply ih
    unfold step
    split
    · split <;> simp [h]
    · split
      · split <;> simp [h]
      · split
        · simp [h]
        · split
          · simp [h]
          · split <;> simp [h]

/-- An unmatched `}` outside any bracket makes `split` itself fail (lifting
    `stray_close_not_atomic` from the helper predicate to the tokeniser). -/
theorem split_stray_close (ds : List Char) (hd : ds.contains '}' = false) (a b : Str)
    (ha : scan ds a (none, []) = some (none, [])) : split ds (a ++ '}' :: b) = none := by
  have hd' : '}' ∉ ds := by simpa using hd
  have h1 := fold_scan ds a [] [] false (none, []) (none, []) ha
  have h2 : (step ds ⟨[], a.reverse ++ [], none, [], false⟩ '}').bad = true := by
    simp [step, hd']
  have h1' : a.foldl (step ds) ⟨[], [], none, [], false⟩ = ⟨[], a.reverse ++ [], none, [], false⟩ := h1
  have hrest : ∀ t : Str, ((a ++ '}' :: t).foldl (step ds) ⟨[], [], none, [], false⟩).bad = true := by
    intro t
    rw [List.foldl_append, List.foldl_cons, h1']
    exact bad_stays ds t _ h2
  have hall : (((a ++ '}' :: b) ++ [ds.headD ' ']).foldl (step ds) ⟨[], [], none, [], false⟩).bad = true := by
    have e : (a ++ '}' :: b) ++ [ds.headD ' '] = a ++ '}' :: (b ++ [ds.headD ' ']) := by simp
    rw [e]; exact hrest _
  unfold split
  simp only [hall, Bool.or_true, ↓reduceIte]


/-- `line_roundtrip_partial` for the checked-out grammar: for EVERY rule of the
    table and every component in normal form.
    PARTIAL: see the exclusions listed at the head of this file. -/
theorem line_roundtrip_table_partial (r : Rule) (hr : r ∈ theGrammar.rules) (c : Cpt)
    (hn : normalCpt theGrammar r c = true) (s : Str) (hp : printCpt theGrammar c = some s) :
    ∃ kp os, (∀ used, parse theGrammar used [] s
        = .ok ({ c with args := normArgs c.args, kwpos := kp, opts := os, string := s }, none))
      ∧ (c.kw ≠ [] → kp = c.kwpos)
      ∧ (∃ o os', optsParse c.opts = .ok o ∧ optsFormat o = some os' ∧ os = strip os')
      ∧ strip s = s ∧ s.head? = c.name.head? ∧ c.name.head? ≠ some '.' ∧ c.name ≠ [] :=
  line_roundtrip_partial theGrammar table_wf2 r hr c hn s hp

/-- The complete line-level statement for the checked-out grammar.
    PARTIAL: see the exclusions listed at the head of this file. -/
theorem line_roundtrip_full_table_partial (r : Rule) (hr : r ∈ theGrammar.rules) (c : Cpt)
    (hn : normalCpt theGrammar r c = true) (o : Opts) (ho : optsParse c.opts = .ok o) (hon : optsNormal o = true)
    (s : Str) (hp : printCpt theGrammar c = some s) :
    ∃ c', (∀ used, parse theGrammar used [] s = .ok (c', none)) ∧ sameCpt c c' = true
      ∧ printCpt theGrammar c' = some s ∧ c'.name = c.name := by
  obtain ⟨c', h1, h2, h3, h4, _⟩ := line_roundtrip_full_partial theGrammar table_wf2 r hr c hn o ho hon s hp
  exact ⟨c', h1, h2, h3, h4⟩

/-- THE idempotence statement (line level): for a component in
    normal form, print, parse the printed line, print again -- the second text is the first one.  (Corollary
    of `line_roundtrip_full_partial`; same exclusions.) -/
theorem print_parse_print_idempotent_partial (g : Grammar) (hg : grammarWF g = true) (r : Rule) (hr : r ∈ g.rules) (c : Cpt)
    (hn : normalCpt g r c = true) (o : Opts) (ho : optsParse c.opts = .ok o) (hon : optsNormal o = true)
    (s : Str) (hp : printCpt g c = some s) (used : List Str) :
    ∃ c', parse g used [] s = .ok (c', none) ∧ printCpt g c' = some s := by
  obtain ⟨c', h1, _, h3, _⟩ := line_roundtrip_full_partial g hg r hr c hn o ho hon s hp
  exact ⟨c', h1 used, h3⟩

/-- the same for the checked-out grammar -/
theorem print_parse_print_idempotent_table_partial (r : Rule) (hr : r ∈ theGrammar.rules) (c : Cpt)
    (hn : normalCpt theGrammar r c = true) (o : Opts) (ho : optsParse c.opts = .ok o) (hon : optsNormal o = true)
    (s : Str) (hp : printCpt theGrammar c = some s) (used : List Str) :
    ∃ c', parse theGrammar used [] s = .ok (c', none) ∧ printCpt theGrammar c' = some s :=
  print_parse_print_idempotent_partial theGrammar table_wf2 r hr c hn o ho hon s hp used

/-! non-vacuity: concrete components of several rule shapes satisfy every hypothesis -/

def exRule (cls : String) : Rule := (theGrammar.rules.find? (·.classname == cls.toList)).getD ⟨[], [], [], none⟩

def exCpt (cls name ty cid : String) (nodes : List String) (args : List (Option String)) (kp : Option Nat)
    (kw opts : String) : Cpt :=
  { classname := cls.toList, name := name.toList, ctype := ty.toList, cid := cid.toList, nodes := nodes.map (·.toList),
    args := args.map (·.map (·.toList)), kwpos := kp, kw := kw.toList, opts := opts.toList, string := [] }

/-- `exRule cls` is the placeholder with an empty class name unless `cls` is in the table; a component with a
    class name is in normal form only for a rule with that class name -/
theorem exRule_mem {cls : String} {c : Cpt} (hn : normalCpt theGrammar (exRule cls) c = true)
    (hc : c.classname ≠ []) : exRule cls ∈ theGrammar.rules := by
  rw [((normalCpt_iff _ _ _).mp hn).1] at hc
  unfold exRule at hc ⊢
  cases hf : theGrammar.rules.find? (·.classname == cls.toList) with
  | none => rw [hf] at hc; exact absurd rfl hc
  | some r => exact List.mem_of_find?_eq_some hf

/-- the normal-form checks of the examples below and of the netlist example in `C06Netlist`, evaluated together
    (one construction of the table) -/
theorem ex_normal :
    normalCpt theGrammar (exRule "Vac") (exCpt "Vac" "V1" "V" "1" ["1", "n_2"] [some "a + (b, c)", none, none] (some 2) "ac" "right=2, l=V_1") = true
    ∧ normalCpt theGrammar (exRule "C") (exCpt "C" "C_x" "C" "_x" ["a.b", "0"] [some "C_x", none] none "" "") = true
    ∧ normalCpt theGrammar (exRule "TFtap") (exCpt "TFtap" "TF1" "TF" "1" ["a", "b", "c", "d", "e", "f"] [some "10k"] (some 4) "tap" "down") = true
    ∧ normalCpt theGrammar (exRule "Uopamp") (exCpt "Uopamp" "U1" "U" "1" [] [] (some 0) "opamp" "right") = true
    ∧ normalCpt theGrammar (exRule "SPpm") (exCpt "SPpm" "SP2" "SP" "2" ["x", "y", "z"] [] (some 0) "pm" "") = true
    ∧ normalCpt theGrammar (exRule "V") (exCpt "V" "V1" "V" "1" ["1", "2"] [some "s"] (some 2) "" "") = false
    ∧ normalCpt theGrammar (exRule "SW") (exCpt "SW" "SW1" "SW" "1" ["1", "2"] [some "SW1"] (some 2) "" "") = false
    ∧ normalCpt theGrammar (exRule "Vac") (exCpt "Vac" "V1" "V" "1" ["1", "0"] [some "a + b", none, none] (some 2) "ac" "down") = true
    ∧ normalCpt theGrammar (exRule "R") (exCpt "R" "R1" "R" "1" ["1", "0"] [some "R1"] none "" "") = true := by
  decide +kernel

example : exRule "Vac" ∈ theGrammar.rules ∧
    normalCpt theGrammar (exRule "Vac") (exCpt "Vac" "V1" "V" "1" ["1", "n_2"] [some "a + (b, c)", none, none] (some 2) "ac" "right=2, l=V_1") = true
    ∧ printCpt theGrammar (exCpt "Vac" "V1" "V" "1" ["1", "n_2"] [some "a + (b, c)", none, none] (some 2) "ac" "right=2, l=V_1")
      = some "V1 1 n_2 ac {a + (b, c)} 0; right=2, l=V_1".toList :=
  ⟨exRule_mem ex_normal.1 (by decide), ex_normal.1, by decide +kernel⟩

example : exRule "C" ∈ theGrammar.rules ∧
    normalCpt theGrammar (exRule "C") (exCpt "C" "C_x" "C" "_x" ["a.b", "0"] [some "C_x", none] none "" "") = true
    ∧ printCpt theGrammar (exCpt "C" "C_x" "C" "_x" ["a.b", "0"] [some "C_x", none] none "" "") = some "C_x a.b 0".toList :=
  ⟨exRule_mem ex_normal.2.1 (by decide), ex_normal.2.1, by decide +kernel⟩

example : exRule "TFtap" ∈ theGrammar.rules ∧
    normalCpt theGrammar (exRule "TFtap") (exCpt "TFtap" "TF1" "TF" "1" ["a", "b", "c", "d", "e", "f"] [some "10k"] (some 4) "tap" "down") = true :=
  ⟨exRule_mem ex_normal.2.2.1 (by decide), ex_normal.2.2.1⟩

example : exRule "Uopamp" ∈ theGrammar.rules ∧
    normalCpt theGrammar (exRule "Uopamp") (exCpt "Uopamp" "U1" "U" "1" [] [] (some 0) "opamp" "right") = true :=
  ⟨exRule_mem ex_normal.2.2.2.1 (by decide), ex_normal.2.2.2.1⟩

example : exRule "SPpm" ∈ theGrammar.rules ∧
    normalCpt theGrammar (exRule "SPpm") (exCpt "SPpm" "SP2" "SP" "2" ["x", "y", "z"] [] (some 0) "pm" "") = true :=
  ⟨exRule_mem ex_normal.2.2.2.2.1 (by decide), ex_normal.2.2.2.2.1⟩

/-- the hypotheses exclude exactly the known defects: a value equal to a keyword of the type (C06-a) and a
    switch time equal to the component name (C06-b) are not in normal form -/
example : normalCpt theGrammar (exRule "V") (exCpt "V" "V1" "V" "1" ["1", "2"] [some "s"] (some 2) "" "") = false
    ∧ normalCpt theGrammar (exRule "SW") (exCpt "SW" "SW1" "SW" "1" ["1", "2"] [some "SW1"] (some 2) "" "") = false :=
  ⟨ex_normal.2.2.2.2.2.1, ex_normal.2.2.2.2.2.2.1⟩

end Lcapy.C06
