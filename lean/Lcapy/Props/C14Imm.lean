/-
  PROPERTY C14, clause "component impedances used in AC analysis are the s-domain impedances at s = jω":
  for EVERY one-port tree (series / parallel combinations of any depth and width of R, G, L, C, Y, Z, sources, CPE,
  crystal and ferrite-bead models) the phasor-domain impedance and admittance computed the textbook way
  (Model/ACImmittance.lean) equal the Laplace-domain impedance and admittance of C07's model (Model/OnePort.lean,
  mirror of lcapy/oneport.py) evaluated at the point s = jω of `Cx K`.  Structural induction over the tree.
-/
import Lcapy.Model.ACImmittance
import Lcapy.Proofs.Cx
namespace Lcapy.C14
open Lcapy.OnePort Lcapy.Cx
variable {K : Type} [Field K]
set_option linter.unusedSimpArgs false

/-- **leaf_imp_at_jw**: jωL, 1/(jωC) = −j/(ωC), … are the s-domain leaf impedances at s = jω -/
theorem leaf_imp_at_jw (w : K) (l : Leaf K) : l.acImp w = l.toCx.imp (jw w) := by
  cases l with
  | R r => rfl
  | G g => simp [Leaf.acImp, Leaf.toCx, Leaf.imp, ofReal, inv_rx]
  | L l i0 => simp [Leaf.acImp, Leaf.toCx, Leaf.imp, jw_mul_ofReal]
  | C c v0 => simp only [Leaf.acImp, Leaf.toCx, Leaf.imp, jw_mul_ofReal, inv_jx]
  | Y y => simp [Leaf.acImp, Leaf.toCx, Leaf.imp, ofReal, inv_rx]
  | Z z => rfl
  | V k e => rfl
  | I k j => rfl
  | CPE k a => rfl
  | Xtal c0 r1 l1 c1 =>
    simp only [Leaf.acImp, Leaf.toCx, Leaf.imp, serRLC, jw_mul_ofReal, inv_inv_jx]
    rw [inv_jx, serRLC_at_jw]
  | FB rs rp cp lp =>
    simp only [Leaf.acImp, Leaf.toCx, Leaf.imp, parRLC, jw_mul_ofReal]
    rw [inv_inv_jx, inv_jx]
    congr 2
    ext <;> simp [ofReal, normSq, x_div_sq]
    ring

theorem leaf_adm_at_jw (w : K) (l : Leaf K) : l.acAdm w = l.toCx.adm (jw w) := by
  cases l <;> simp only [Leaf.acAdm, Leaf.adm, Leaf.toCx, ← leaf_imp_at_jw] <;> first | rfl | skip
  all_goals simp only [Leaf.toCx, leaf_imp_at_jw]

mutual
/-- **net_imp_at_jw**: the phasor-domain impedance of every one-port tree is its Laplace-domain impedance at s = jω -/
theorem net_imp_at_jw (w : K) : (n : Net K) → n.acImp w = n.toCx.imp (jw w)
  | .leaf l => by simp only [Net.acImp, Net.toCx, Net.imp, leaf_imp_at_jw]
  | .ser as => by simp only [Net.acImp, Net.toCx, Net.imp, sumZ_at_jw]
  | .par as => by simp only [Net.acImp, Net.toCx, Net.imp, sumY_at_jw]
/-- **net_adm_at_jw**: and likewise the admittance -/
theorem net_adm_at_jw (w : K) : (n : Net K) → n.acAdm w = n.toCx.adm (jw w)
  | .leaf l => by simp only [Net.acAdm, Net.toCx, Net.adm, leaf_adm_at_jw]
  | .ser as => by simp only [Net.acAdm, Net.toCx, Net.adm, sumZ_at_jw]
  | .par as => by simp only [Net.acAdm, Net.toCx, Net.adm, sumY_at_jw]
theorem sumZ_at_jw (w : K) : (as : List (Net K)) → acSumZ w as = sumZ (jw w) (listToCx as)
  | [] => rfl
  | a :: t => by simp only [acSumZ, listToCx, sumZ, net_imp_at_jw w a, sumZ_at_jw w t]
theorem sumY_at_jw (w : K) : (as : List (Net K)) → acSumY w as = sumY (jw w) (listToCx as)
  | [] => rfl
  | a :: t => by simp only [acSumY, listToCx, sumY, net_adm_at_jw w a, sumY_at_jw w t]
end

/-- the familiar special cases, spelled out -/
theorem rlc_at_jw (w r l c : K) :
    (Net.ser [.leaf (.R r), .leaf (.L l none), .leaf (.C c none)]).acImp w = ⟨r, w * l - 1 / (w * c)⟩ := by
  simp only [Net.acImp, acSumZ, Leaf.acImp]
  ext <;> simp
  ring

/-- non-vacuity: R = 2 in series with C = 3, in parallel with L = 5, at ω = 3 (cf. the Lcapy session in the harness) -/
example : (Net.par [.ser [.leaf (.R (2 : ℚ)), .leaf (.C 3 none)], .leaf (.L 5 none)]).acImp 3 = ⟨3645 / 1828, 285 / 1828⟩ := by
  decide +kernel

end Lcapy.C14
