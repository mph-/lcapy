/-
  C17, last clause ("responses computed numerically ... converge to the symbolic response as the step shrinks"),
  part 1: the time-stepping simulator `cct.sim(tv)` (lcapy/simulator.py).

  Model: `Lcapy/Model/SimStep.lean` (`simStep`, `simRun`, `sim`) over the C01 MNA model at kind `.time`, with the
  companion formulas `geq/veq`, the step size `stepDt` and the stamp pattern GENERATED from the source text
  (`Lcapy/Generated/SimCompanion.lean`).  All theorems are for every netlist of the modelled vocabulary (any number of
  capacitors and inductors, any resistive rest), every grid (uniform or not), every (untrusted) linear solver.

  Not a theorem (harness): floating point (numpy.linalg.inv), and the limit statement itself; the convergence oracle
  compares `cct.sim` with the symbolic response on fine / coarse / non-uniform grids.
-/
import Lcapy.Proofs.SimStepBase
import Mathlib.Tactic.Ring
import Mathlib.Tactic.FieldSimp
import Mathlib.Tactic.LinearCombination
import Mathlib.Tactic.NormNum
import Mathlib.Algebra.Field.Basic
namespace Lcapy.C17
open Lcapy.MNA Ix Lcapy.Sim Lcapy.Gen.Sim
variable {K : Type} [Field K] [DecidableEq K]

/-! ### the source text: step size and stamp -/

omit [DecidableEq K] in
/-- the step size `Simulator._step` uses at step n is `t_n - t_{n-1}` (not `tv[1] - tv[0]`). -/
theorem step_dt_local (tcur tprev t1 t0 : K) : stepDt tcur tprev t1 t0 = tcur - tprev := rfl

omit [DecidableEq K] in
/-- the entries `SimulatedComponent.stamp` adds to A / Z are the MNA stamp of the admittance
    `Y n1 d geq` (matrix part) and of the source value of `V d n2 m veq` (right-hand side). -/
theorem stamp_is_companion (n1 d n2 m : Nat) (g v : K) :
    (stampA n1 d g).map (fun e => (node e.1, node e.2.1, e.2.2)) = (stamp .time (0 : K) (.Y n1 d g)).lhs ∧
    (stampZ m v).map (fun e => (br e.1, e.2)) = (stamp .time (0 : K) (.V d n2 m v)).rhs :=
  ⟨rfl, rfl⟩

/-! ### one accepted step -/

/-- an accepted step satisfies KCL at every non-ground node and the defining relation of every
    component of the companion netlist, whatever the solver. -/
theorem sim_step_solves (solver : List (Cpt K) → Ix → K) (meth : Method) (others : List (Cpt K))
    (rs : List (React K)) (dt : K) (st : List (K × K)) (x : Ix → K)
    (h : simStep solver meth others rs dt st = some x) :
    Laws .time 0 (others ++ companions meth rs dt st) x :=
  simStep_laws h

/-- in an accepted step the current of every reactive component is `geq` times the voltage
    across its companion conductance, and its companion source holds `veq`. -/
theorem sim_step_companion (solver : List (Cpt K) → Ix → K) (meth : Method) (others : List (Cpt K))
    (rs : List (React K)) (dt : K) (st : List (K × K)) (x : Ix → K)
    (h : simStep solver meth others rs dt st = some x) (j : Nat) (hj : j < rs.length) (hs : j < st.length) :
    x (br (rs[j]).m) = geq meth rs[j] dt st[j].1 st[j].2 * vd x rs[j].n1 rs[j].d ∧
    vd x rs[j].d rs[j].n2 = veq meth rs[j] dt st[j].1 st[j].2 := by
  obtain ⟨_, hd, _, _⟩ := simStep_some h
  exact companion_of_laws (dummiesOK_get meth _ dt rs st hd j hj hs) (simStep_laws h)

omit [DecidableEq K] in
/-- the algebra behind `sim_step_law`: the companion relations with the GENERATED `geq/veq` imply the discretised law -/
theorem companion_law (meth : Method) (r : React K) (dt v0 i0 u i w : K)
    (hi : i = geq meth r dt v0 i0 * u) (hw : w = veq meth r dt v0 i0)
    (hdt : dt ≠ 0) (hval : r.val ≠ 0) (h2 : (2 : K) ≠ 0) :
    lawDefect meth r.isInd r.val dt v0 i0 (u + w) i = 0 := by
  obtain ⟨isInd, n1, n2, d, m, val⟩ := r
  simp only at hval
  subst hi hw
  cases meth <;> cases isInd <;>
    simp only [lawDefect, geq, veq, geq_CapacitorTrapezoid, veq_CapacitorTrapezoid, geq_InductorTrapezoid,
      veq_InductorTrapezoid, geq_CapacitorBackwardEuler, veq_CapacitorBackwardEuler, geq_InductorBackwardEuler,
      veq_InductorBackwardEuler] <;>
    field_simp <;> ring

/-- an accepted step obeys the discretised element law (trapezoidal / backward Euler) of every
    reactive component, for the step size the step was given and the previous state it was given. -/
theorem sim_step_law (solver : List (Cpt K) → Ix → K) (meth : Method) (others : List (Cpt K))
    (rs : List (React K)) (dt : K) (st : List (K × K)) (x : Ix → K)
    (h : simStep solver meth others rs dt st = some x) (j : Nat) (hj : j < rs.length) (hs : j < st.length)
    (hdt : dt ≠ 0) (hval : rs[j].val ≠ 0) (h2 : (2 : K) ≠ 0) :
    lawDefect meth rs[j].isInd rs[j].val dt st[j].1 st[j].2 (vd x rs[j].n1 rs[j].n2) (x (br rs[j].m)) = 0 := by
  obtain ⟨hi, hv⟩ := sim_step_companion solver meth others rs dt st x h j hj hs
  have hV : vd x rs[j].n1 rs[j].n2 = vd x rs[j].n1 rs[j].d + vd x rs[j].d rs[j].n2 := by
    simp only [vd]; ring
  rw [hV]
  exact companion_law meth rs[j] dt st[j].1 st[j].2 _ _ _ hi hv hdt hval h2

/-- KCL of the ORIGINAL circuit at every node that is neither ground nor a dummy node, each
    reactive component carrying its solved current. -/
theorem sim_step_kirchhoff (solver : List (Cpt K) → Ix → K) (meth : Method) (others : List (Cpt K))
    (rs : List (React K)) (dt : K) (st : List (K × K)) (x : Ix → K)
    (h : simStep solver meth others rs dt st = some x) (k : Nat) (hk : k ≠ 0) (hkd : ∀ r ∈ rs, r.d ≠ k) :
    lsum (others.map (outflow .time 0 x k)) + lsum (rs.map (fun r => twoTerm r.n1 r.n2 k (x (br r.m)))) = 0 := by
  obtain ⟨_, hd, _, _⟩ := simStep_some h
  have hlen := dummiesOK_length meth _ dt rs st hd
  have kcl := (simStep_laws h).1 k hk
  rw [List.map_append, lsum_append] at kcl
  rw [← lsum_companions meth dt x k rs st hlen hkd
    (fun j hj hs => (sim_step_companion solver meth others rs dt st x h j hj hs).1)]
  exact kcl

/-! ### the whole run -/

/-- one step obeys the discretised law of every reactive component with a non-zero value, for step size `h` -/
def StepOK (meth : Method) (rs : List (React K)) (h : K) (st : List (K × K)) (x : Ix → K) : Prop :=
  ∀ j (hj : j < rs.length) (hs : j < st.length), rs[j].val ≠ 0 →
    lawDefect meth rs[j].isInd rs[j].val h st[j].1 st[j].2 (vd x rs[j].n1 rs[j].n2) (x (br rs[j].m)) = 0

/-- every step of a run obeys the law for ITS OWN step size `t_n - t_{n-1}` and the state read off the previous step,
    and solves the companion netlist with the sources at `t_n` -/
def RunOK (meth : Method) (others : K → List (Cpt K)) (rs : List (React K)) :
    K → List (K × K) → List K → List (Ix → K) → Prop
  | _, _, [], [] => True
  | tp, st, t :: ts, x :: xs =>
      StepOK meth rs (t - tp) st x ∧ Laws .time 0 (others t ++ companions meth rs (t - tp) st) x ∧
      RunOK meth others rs t (readState x rs) ts xs
  | _, _, _, _ => False

/-- no two consecutive grid points coincide (every step size is non-zero); the grid need not be uniform or increasing -/
def GridOK : K → List K → Prop
  | _, [] => True
  | tp, t :: ts => t ≠ tp ∧ GridOK t ts

/-- every step of an accepted run obeys the discretised laws with its own step size. -/
theorem sim_run_law (solver : List (Cpt K) → Ix → K) (meth : Method) (others : K → List (Cpt K))
    (rs : List (React K)) (t1 t0 tp : K) (st : List (K × K)) (grid : List K) (xs : List (Ix → K))
    (h2 : (2 : K) ≠ 0) (hinc : GridOK tp grid)
    (h : simRun solver meth others rs t1 t0 tp st grid = some xs) : RunOK meth others rs tp st grid xs := by
  induction grid generalizing tp st xs with
  | nil =>
    simp only [simRun, Option.some.injEq] at h
    subst h
    trivial
  | cons t ts ih =>
    simp only [simRun] at h
    split at h
    · cases h
    · rename_i x hstep
      split at h
      · cases h
      · rename_i xs' hrun
        simp only [Option.some.injEq] at h
        subst h
        rw [step_dt_local] at hstep
        refine ⟨?_, sim_step_solves _ _ _ _ _ _ _ hstep, ih t (readState x rs) xs' hinc.2 hrun⟩
        intro j hj hs hval
        exact sim_step_law _ _ _ _ _ _ _ hstep j hj hs (sub_ne_zero.mpr hinc.1) hval h2

/-- `Simulator.__call__(tv)`: step 0 is all zero, every later step obeys the discretised laws with its own
    step size. -/
theorem sim_law (solver : List (Cpt K) → Ix → K) (meth : Method) (others : K → List (Cpt K))
    (rs : List (React K)) (t0 : K) (ts : List K) (xs : List (Ix → K))
    (h2 : (2 : K) ≠ 0) (hinc : GridOK t0 ts)
    (h : sim solver meth others rs (t0 :: ts) = some xs) :
    ∃ xs', xs = (fun _ => 0) :: xs' ∧ RunOK meth others rs t0 (rs.map (fun _ => ((0 : K), (0 : K)))) ts xs' := by
  simp only [sim] at h
  split at h
  · cases h
  · rename_i xs' hrun
    simp only [Option.some.injEq] at h
    exact ⟨xs', h.symm, sim_run_law _ _ _ _ _ _ _ _ _ _ h2 hinc hrun⟩

/-! ### consistency of the discretised laws: polynomial identities in (t0, t1), no grid assumption -/

omit [DecidableEq K] in
theorem trap_exact_quadratic_cap (val a b c t0 t1 : K) (h2 : (2 : K) ≠ 0) :
    lawDefect .trapezoid false val (t1 - t0) (a + b * t0 + c * t0 ^ 2) (val * (b + 2 * c * t0))
      (a + b * t1 + c * t1 ^ 2) (val * (b + 2 * c * t1)) = 0 := by
  simp only [lawDefect]; field_simp; ring

/-- the signal pair (v, i) at time `t` of an element whose state variable (v of a capacitor, i of an inductor) is
    `p t` with derivative `dp t`: the other variable is `val * dp t` -/
def sigV (isInd : Bool) (val : K) (p dp : K → K) (t : K) : K := if isInd then val * dp t else p t
def sigI (isInd : Bool) (val : K) (p dp : K → K) (t : K) : K := if isInd then p t else val * dp t

omit [DecidableEq K] in
/-- the trapezoidal law is exact on every signal of degree ≤ 2, for all t0 t1. -/
theorem trap_exact_quadratic (isInd : Bool) (val a b c t0 t1 : K) (h2 : (2 : K) ≠ 0) :
    lawDefect .trapezoid isInd val (t1 - t0)
      (sigV isInd val (fun t => a + b * t + c * t ^ 2) (fun t => b + 2 * c * t) t0)
      (sigI isInd val (fun t => a + b * t + c * t ^ 2) (fun t => b + 2 * c * t) t0)
      (sigV isInd val (fun t => a + b * t + c * t ^ 2) (fun t => b + 2 * c * t) t1)
      (sigI isInd val (fun t => a + b * t + c * t ^ 2) (fun t => b + 2 * c * t) t1) = 0 := by
  cases isInd
  · simpa [sigV, sigI] using trap_exact_quadratic_cap val a b c t0 t1 h2
  · simpa [sigV, sigI, lawDefect_ind] using trap_exact_quadratic_cap val a b c t0 t1 h2

omit [DecidableEq K] in
/-- the backward-Euler law is exact on every signal of degree ≤ 1, for all t0 t1. -/
theorem be_exact_linear (isInd : Bool) (val a b t0 t1 : K) :
    lawDefect .backwardEuler isInd val (t1 - t0)
      (sigV isInd val (fun t => a + b * t) (fun _ => b) t0) (sigI isInd val (fun t => a + b * t) (fun _ => b) t0)
      (sigV isInd val (fun t => a + b * t) (fun _ => b) t1) (sigI isInd val (fun t => a + b * t) (fun _ => b) t1) = 0 := by
  cases isInd <;> simp only [lawDefect, sigV, sigI, if_true, Bool.false_eq_true, if_false] <;> ring

omit [DecidableEq K] in
/-- local defect of the trapezoidal law on t³: -C h³ / 2 (order 2), for all t0 t1. -/
theorem trap_defect_cubic (val t0 t1 : K) (h2 : (2 : K) ≠ 0) :
    lawDefect .trapezoid false val (t1 - t0) (t0 ^ 3) (val * (3 * t0 ^ 2)) (t1 ^ 3) (val * (3 * t1 ^ 2)) =
      -(val * (t1 - t0) ^ 3 / 2) := by
  simp only [lawDefect]; field_simp; ring

omit [DecidableEq K] in
theorem trap_defect_cubic_ind (val t0 t1 : K) (h2 : (2 : K) ≠ 0) :
    lawDefect .trapezoid true val (t1 - t0) (val * (3 * t0 ^ 2)) (t0 ^ 3) (val * (3 * t1 ^ 2)) (t1 ^ 3) =
      -(val * (t1 - t0) ^ 3 / 2) := by
  rw [lawDefect_ind]; exact trap_defect_cubic val t0 t1 h2

omit [DecidableEq K] in
/-- local defect of the backward-Euler law on t²: -C h² (order 1), for all t0 t1. -/
theorem be_defect_quadratic (val t0 t1 : K) :
    lawDefect .backwardEuler false val (t1 - t0) (t0 ^ 2) (val * (2 * t0)) (t1 ^ 2) (val * (2 * t1)) =
      -(val * (t1 - t0) ^ 2) := by
  simp only [lawDefect]; ring

omit [DecidableEq K] in
theorem be_defect_quadratic_ind (val t0 t1 : K) :
    lawDefect .backwardEuler true val (t1 - t0) (val * (2 * t0)) (t0 ^ 2) (val * (2 * t1)) (t1 ^ 2) =
      -(val * (t1 - t0) ^ 2) := by
  rw [lawDefect_ind]; exact be_defect_quadratic val t0 t1

/-! ### non-vacuity: the series RC circuit `V1 1 0 10; R1 1 2 5; C1 2 0 0.1` (dummy node 3, branch 1) over ℚ -/

def rcOthers : List (Cpt ℚ) := [.V 1 0 0 10, .R 1 2 5]
def rcReact : List (React ℚ) := [⟨false, 2, 0, 3, 1, 1 / 10⟩]

/-- the first trapezoidal step with dt = 1/10 from rest, computed by hand: geq = 2, veq = 0 -/
def rcSolver1 : List (Cpt ℚ) → Ix → ℚ := fun _ ix =>
  match ix with
  | .node 1 => 10 | .node 2 => 10 / 11 | .node 3 => 0 | .br 0 => -20 / 11 | .br 1 => 20 / 11 | _ => 0

/-- what any correct linear solver returns for `V 1 0 0 v; R 1 2 r; Y 2 3 g; V 3 0 1 e` -/
def rcSolver : List (Cpt ℚ) → Ix → ℚ
  | [.V _ _ _ v, .R _ _ r, .Y _ _ g, .V _ _ _ e] => fun ix =>
    match ix with
    | .node 1 => v
    | .node 2 => (v / r + g * e) / (g + 1 / r)
    | .node 3 => e
    | .br 0 => -(g * ((v / r + g * e) / (g + 1 / r) - e))
    | .br 1 => g * ((v / r + g * e) / (g + 1 / r) - e)
    | _ => 0
  | _ => fun _ => 0

/-- an accepted step -/
example : (simStep rcSolver1 .trapezoid rcOthers rcReact (1 / 10) [(0, 0)]).isSome = true := by decide +kernel

theorem rc_step : ∃ x, simStep rcSolver .trapezoid rcOthers rcReact (1 / 10) [(0, 0)] = some x :=
  Option.isSome_iff_exists.mp (by decide +kernel)

/-- the hypotheses of `sim_step_solves / _companion / _law / _kirchhoff` hold together on this step -/
example : ∃ x : Ix → ℚ, Laws .time 0 (rcOthers ++ companions .trapezoid rcReact (1 / 10) [(0, 0)]) x ∧
    lawDefect .trapezoid false (1 / 10) (1 / 10) 0 0 (vd x 2 0) (x (br 1)) = 0 ∧
    lsum (rcOthers.map (outflow .time 0 x 2)) + lsum (rcReact.map (fun r => twoTerm r.n1 r.n2 2 (x (br r.m)))) = 0 := by
  obtain ⟨x, hx⟩ := rc_step
  refine ⟨x, sim_step_solves _ _ _ _ _ _ _ hx, ?_, ?_⟩
  · exact sim_step_law _ _ _ _ _ _ _ hx 0 (by decide) (by decide) (by norm_num) (by norm_num [rcReact]) (by norm_num)
  · exact sim_step_kirchhoff _ _ _ _ _ _ _ hx 2 (by decide) (by simp [rcReact])

/-- a refused step: the solver's numbers do not solve the system -/
example : simStep (fun _ ix => match ix with | .node 1 => 10 | .node 2 => 1 | _ => 0) .trapezoid rcOthers rcReact
    (1 / 10) [(0, 0)] = none := by
  decide +kernel

/-- a refused netlist: the dummy node 3 is also used by another component -/
example : (simStep rcSolver .trapezoid (rcOthers ++ [.R 3 0 1]) rcReact (1 / 10) [(0, 0)]).isSome = false := by
  decide +kernel

/-- a refused netlist: state list shorter than the list of reactive components -/
example : (simStep rcSolver .trapezoid rcOthers rcReact (1 / 10) []).isSome = false := by decide +kernel

/-- a two-step run on a NON-uniform grid (steps 1/10 and 2/10) is accepted, with both integrators -/
theorem rc_run : ∃ xs, sim rcSolver .trapezoid (fun _ => rcOthers) rcReact [0, 1 / 10, 3 / 10] = some xs :=
  Option.isSome_iff_exists.mp (by decide +kernel)

example : (sim rcSolver .backwardEuler (fun _ => rcOthers) rcReact [0, 1 / 10, 3 / 10]).isSome = true := by
  decide +kernel

theorem rc_grid : GridOK (0 : ℚ) [1 / 10, 3 / 10] := ⟨by norm_num, by norm_num, trivial⟩

/-- the hypotheses of `sim_law` (hence of `sim_run_law`) hold together on this run -/
example : ∃ xs', RunOK .trapezoid (fun _ => rcOthers) rcReact 0 (rcReact.map (fun _ => ((0 : ℚ), (0 : ℚ))))
    [1 / 10, 3 / 10] xs' := by
  obtain ⟨xs, hxs⟩ := rc_run
  obtain ⟨xs', _, h⟩ := sim_law _ _ _ _ _ _ _ (by norm_num) rc_grid hxs
  exact ⟨xs', h⟩

end Lcapy.C17
