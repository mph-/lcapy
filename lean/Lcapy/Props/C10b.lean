/-
  C10 — more of `inverse_laplace.py` inside the model.

  * `iltQsrc`     the polynomial-part loop as written in the source (which coefficient list, which order expression:
                  flags read by tx_ilt on every run);
  * `dampedSin`   `do_damped_sin` (option `damped_sin=True`, second-order sections): ALL of its arithmetic
                  (`K`, `zeta`, `sigma1`, `omega1`, `kCd`, `kSd`, `kCdd`, `kSdd`, the three returned expressions) is
                  GENERATED from the source text by tx_ilt (Generated/ILTFlags.lean `Gen.dsRet*`), so a changed
                  coefficient breaks `damped_sin_value*` below;
  * `assumeMerge` the mutually exclusive assumptions `causal / ac / dc / unknown` (assumptions.py), through which the
                  keyword arguments of `inverse_laplace(**assumptions)` reach the transformer's `causal` switch.
-/
import Lcapy.Proofs.LaplaceDS
import Lcapy.Props.C10
import Mathlib.Data.Complex.Basic
import Mathlib.Tactic.IntervalCases
namespace Lcapy.C10
open Lcapy.Laplace

section
variable {K : Type} [Field K] (E : K → K)

/-- Polynomial part, as the source computes it: with `C = Qpoly.all_coeffs()` every coefficient `q_k` of the quotient
    becomes `q_k δ^{(k)}(t − T)`, whichever of the two recognised order expressions is used — for quotients of ANY
    degree with ANY pattern of zero coefficients.  `Gen.qCoeffsDense` is read from the source: with `coeffs()`
    (non-zero coefficients only) the `rfl` fails and this obligation breaks. -/
theorem improper_deltas_src [DecidableEq K] (T s : K) (q : Poly K) :
    Gen.qLoopTranslated = true ∧ L E (iltQsrc T q) s = E (-(s * T)) * Poly.eval q s :=
  ⟨rfl, L_iltQsrc E rfl T s q⟩

/-- `do_damped_sin`, biproper case `(b2 s² + b1 s + b0)/(a2 s² + a1 s + a0)`: the returned impulse plus damped
    sinusoid has exactly this transform, at every non-pole `s`, over any field with `j² = −1`, for any values
    `sq1`, `sq2` of the two square roots with `(sq1·sq2)² = a0/a2 − (a1/(2 a2))²` (see `damped_sin_sqrt`). -/
theorem damped_sin_value3 [DecidableEq K] {J : K} (hJ : J * J = -1) (h20 : (1 + 1 : K) ≠ 0)
    (b2 b1 b0 a2 a1 a0 sq1 sq2 T s : K) (c u : ExpPoly K)
    (h : dampedSin J [b2, b1, b0] [a2, a1, a0] sq1 sq2 T = some (c, u))
    (hb : b2 ≠ 0) (ha : a2 ≠ 0) (hsq1 : sq1 ≠ 0) (hsq2 : sq2 ≠ 0)
    (hsq : (sq1 * sq2) ^ 2 = a0 / a2 - (a1 / a2 / 2) ^ 2)
    (hden : a2 * s ^ 2 + a1 * s + a0 ≠ 0) :
    L E (c ++ u) s = E (-(s * T)) * ((b2 * s ^ 2 + b1 * s + b0) / (a2 * s ^ 2 + a1 * s + a0)) := by
  simp only [dampedSin] at h
  split at h
  · exact absurd h (by simp)
  · simp only [Option.some.injEq, Prod.mk.injEq] at h
    obtain ⟨rfl, rfl⟩ := h
    rw [L_ds_pair E hJ h20 _ _ _ _ _ _ _ _ _ _ _ _ ha hsq1 hsq hden]
    congr 1
    have h2' : (2 : K) ≠ 0 := by rw [show (2 : K) = 1 + 1 by norm_num]; exact h20
    have h4' : (4 : K) ≠ 0 := by rw [show (4 : K) = 2 * 2 by norm_num]; exact mul_ne_zero h2' h2'
    have hw : sq1 ^ 2 * sq2 ^ 2 * (4 * a2 ^ 2) = 4 * a0 * a2 - a1 ^ 2 := by
      have : sq1 ^ 2 * sq2 ^ 2 = a0 / a2 - (a1 / a2 / 2) ^ 2 := by rw [← hsq]; ring
      rw [this]; field_simp; ring
    simp [Gen.dsRet3c, Gen.dsRet3u, dsInput, Gen.dsNumNormalised, Gen.dsDenNormalised, ofN, pw]
    obtain ⟨D, hD⟩ : ∃ D, D = a2 * s ^ 2 + a1 * s + a0 := ⟨_, rfl⟩
    rw [← hD] at hden ⊢
    field_simp
    rw [hD]
    linear_combination (-2 * b2) * hw

/-- first-order numerator -/
theorem damped_sin_value2 [DecidableEq K] {J : K} (hJ : J * J = -1) (h20 : (1 + 1 : K) ≠ 0)
    (b1 b0 a2 a1 a0 sq1 sq2 T s : K) (c u : ExpPoly K)
    (h : dampedSin J [b1, b0] [a2, a1, a0] sq1 sq2 T = some (c, u))
    (hb : b1 ≠ 0) (ha : a2 ≠ 0) (hsq1 : sq1 ≠ 0) (hsq2 : sq2 ≠ 0)
    (hsq : (sq1 * sq2) ^ 2 = a0 / a2 - (a1 / a2 / 2) ^ 2)
    (hden : a2 * s ^ 2 + a1 * s + a0 ≠ 0) :
    L E (c ++ u) s = E (-(s * T)) * ((b1 * s + b0) / (a2 * s ^ 2 + a1 * s + a0)) := by
  simp only [dampedSin] at h
  split at h
  · exact absurd h (by simp)
  · simp only [Option.some.injEq, Prod.mk.injEq] at h
    obtain ⟨rfl, rfl⟩ := h
    rw [L_ds_pair E hJ h20 _ _ _ _ _ _ _ _ _ _ _ _ ha hsq1 hsq hden]
    congr 1
    have h2' : (2 : K) ≠ 0 := by rw [show (2 : K) = 1 + 1 by norm_num]; exact h20
    have h4' : (4 : K) ≠ 0 := by rw [show (4 : K) = 2 * 2 by norm_num]; exact mul_ne_zero h2' h2'
    simp [Gen.dsRet2c, Gen.dsRet2u, dsInput, Gen.dsNumNormalised, Gen.dsDenNormalised, ofN]
    obtain ⟨D, hD⟩ : ∃ D, D = a2 * s ^ 2 + a1 * s + a0 := ⟨_, rfl⟩
    rw [← hD] at hden ⊢
    field_simp
    ring

/-- constant numerator -/
theorem damped_sin_value1 [DecidableEq K] {J : K} (hJ : J * J = -1) (h20 : (1 + 1 : K) ≠ 0)
    (b0 a2 a1 a0 sq1 sq2 T s : K) (c u : ExpPoly K)
    (h : dampedSin J [b0] [a2, a1, a0] sq1 sq2 T = some (c, u))
    (ha : a2 ≠ 0) (hsq1 : sq1 ≠ 0) (hsq2 : sq2 ≠ 0)
    (hsq : (sq1 * sq2) ^ 2 = a0 / a2 - (a1 / a2 / 2) ^ 2)
    (hden : a2 * s ^ 2 + a1 * s + a0 ≠ 0) :
    L E (c ++ u) s = E (-(s * T)) * (b0 / (a2 * s ^ 2 + a1 * s + a0)) := by
  simp only [dampedSin] at h
  split at h
  · exact absurd h (by simp)
  · simp only [Option.some.injEq, Prod.mk.injEq] at h
    obtain ⟨rfl, rfl⟩ := h
    rw [L_ds_pair E hJ h20 _ _ _ _ _ _ _ _ _ _ _ _ ha hsq1 hsq hden]
    congr 1
    have h2' : (2 : K) ≠ 0 := by rw [show (2 : K) = 1 + 1 by norm_num]; exact h20
    have h4' : (4 : K) ≠ 0 := by rw [show (4 : K) = 2 * 2 by norm_num]; exact mul_ne_zero h2' h2'
    simp [Gen.dsRet1c, Gen.dsRet1u, dsInput, Gen.dsNumNormalised, Gen.dsDenNormalised]
    obtain ⟨D, hD⟩ : ∃ D, D = a2 * s ^ 2 + a1 * s + a0 := ⟨_, rfl⟩
    rw [← hD] at hden ⊢
    field_simp

/-- the hypothesis on `sq1, sq2` is what genuine square roots of the arguments the SOURCE passes to `sym.sqrt`
    (`Gen.dsSqrtArg1/2`, generated) satisfy: `sq1² = d2`, `sq2² = 1 − ζ²` with `ζ = d1/(2 sq1)`. -/
theorem damped_sin_sqrt (b2 b1 b0 a2 a1 a0 sq1 sq2 : K) (ha : a2 ≠ 0) (hsq1 : sq1 ≠ 0) (h20 : (1 + 1 : K) ≠ 0)
    (h1 : sq1 * sq1 = Gen.dsSqrtArg1 (dsInput b2 b1 b0 a2 a1 a0 sq1 sq2))
    (h2 : sq2 * sq2 = Gen.dsSqrtArg2 (dsInput b2 b1 b0 a2 a1 a0 sq1 sq2)) :
    (sq1 * sq2) ^ 2 = a0 / a2 - (a1 / a2 / 2) ^ 2 := by
  have h2' : (2 : K) ≠ 0 := by rw [show (2 : K) = 1 + 1 by norm_num]; exact h20
  simp [Gen.dsSqrtArg1, Gen.dsSqrtArg2, dsInput, Gen.dsDenNormalised, ofN, pw] at h1 h2
  rw [show (sq1 * sq2) ^ 2 = (sq1 * sq1) * (sq2 * sq2) by ring, h2]
  field_simp
  rw [show sq1 ^ 2 = sq1 * sq1 by ring, h1]
  field_simp
  ring

end

section executed
variable {K : Type} [Field K] (E : K → K)

/-- THE EXECUTED SYNTHESIS (what Driver/C10.lean `ilt.model` runs and what is compared with Lcapy on every case):
    polynomial part by the source-text loop `iltQsrc`, residue loop with conjugate pairing `ratfunLoop`.  Its forward transform
    is the partial-fraction expression it was synthesised from — all data, any delay, every point that is not a listed pole.
    (`ilt_laplace` of Props/C10.lean is the same statement for the plain synthesis `ilt pf` without pairing.) -/
theorem ilt_executed_laplace [DecidableEq K] {J : K} (hJ : J * J = -1) (h20 : (1 + 1 : K) ≠ 0) (conj : K → K)
    (Q : Poly K) (R : List (K × K × Nat)) (T s : K) (ho : ∀ x ∈ R, 0 < x.2.2) (hn : ∀ x ∈ R, s - x.2.1 ≠ 0) :
    L E (iltQsrc T Q ++ ratfunLoop J conj T (R.length + 1) R) s = evalPF E ⟨Q, R, T⟩ s := by
  rw [L_append, L_iltQsrc E rfl T s Q,
    ratfun_loop_sound' E rfl hJ h20 conj T s (R.length + 1) R (Nat.le_succ _) ho hn, evalPF]
  ring

/-- … and with data accepted by the verified checker (the `(Q, R, P, O)` Lcapy really returned) the executed synthesis
    inverts the input rational function times its delay factor, wherever the denominator does not vanish -/
theorem ilt_executed_inverts [DecidableEq K] {J : K} (hJ : J * J = -1) (h20 : (1 + 1 : K) ≠ 0) (conj : K → K)
    (B A Q : Poly K) (R : List (K × K × Nat)) (cofs : List (Poly K)) (T s : K)
    (h : pfCheck B A Q R cofs = true) (ho : ∀ x ∈ R, 0 < x.2.2) (hA : Poly.eval A s ≠ 0) :
    L E (iltQsrc T Q ++ ratfunLoop J conj T (R.length + 1) R) s = E (-(s * T)) * (Poly.eval B s / Poly.eval A s) := by
  have hs := C10.pf_check_sound B A Q R cofs h s hA
  rw [ilt_executed_laplace E hJ h20 conj Q R T s ho (fun x hx => hs.2 x hx (ho x hx)), evalPF, hs.1]

end executed

section causal_output
variable {K : Type} [Field K] [LinearOrder K] [IsStrictOrderedRing K] (E : K → K)

theorem causal_output_of_allDelay (c u : ExpPoly K) (T : K) (hT : 0 ≤ T) (hasDelay : Bool) (hall : AllDelay T (c ++ u)) :
    let res := makeModel true [termModel true hasDelay c u]
    Causal (res.cpart ++ res.upart) ∧ res.guarded = false ∧ ∀ t, t < 0 → evalAt E (res.cpart ++ res.upart) t = 0 := by
  intro res
  have : res.cpart ++ res.upart = c ++ u := by cases hasDelay <;> simp [res, makeModel, termModel]
  have hc : Causal (res.cpart ++ res.upart) := fun t ht => by rw [this] at ht; rw [hall t ht]; exact hT
  exact ⟨hc, make_causal' _, fun t ht => C10.causal_zero_before E _ hc t ht⟩

/-- The `causal=True` output of the executed model IS a causal signal: with a non-negative delay `T` the whole result of
    `term` + `make` (polynomial part, residue loop with pairing, everything moved to the part known for all `t`, no
    `t ≥ 0` condition) satisfies `Causal`; consequently it is zero before `t = 0` (`causal_zero_before`). -/
theorem ilt_causal_output (J : K) (conj : K → K) (Q : Poly K) (R : List (K × K × Nat)) (T : K) (hT : 0 ≤ T) (hasDelay : Bool) :
    let res := makeModel true [termModel true hasDelay (iltQsrc T Q) (ratfunLoop J conj T (R.length + 1) R)]
    Causal (res.cpart ++ res.upart) ∧ res.guarded = false ∧
      ∀ t, t < 0 → evalAt E (res.cpart ++ res.upart) t = 0 :=
  causal_output_of_allDelay E _ _ T hT hasDelay ((allDelay_iltQsrc T Q).append (allDelay_ratfunLoop J conj T _ R))

/-- the same for the `damped_sin=True` route -/
theorem damped_sin_causal_output (J : K) (nc dc : List K) (sq1 sq2 T : K) (hT : 0 ≤ T) (hasDelay : Bool) (c u : ExpPoly K)
    (h : dampedSin J nc dc sq1 sq2 T = some (c, u)) :
    let res := makeModel true [termModel true hasDelay c u]
    Causal (res.cpart ++ res.upart) ∧ res.guarded = false ∧ ∀ t, t < 0 → evalAt E (res.cpart ++ res.upart) t = 0 :=
  causal_output_of_allDelay E c u T hT hasDelay (allDelay_dampedSin J nc dc sq1 sq2 T c u h)

-- non-vacuity: 0 ≤ 2 over ℚ; (2s+1) + 3/(s+1)², delayed by 2
example : (0 : ℚ) ≤ 2 ∧ (iltQsrc (2 : ℚ) [1, 2] ++ ratfunLoop 0 id 2 2 [(3, -1, 2)]).length = 3 := by
  refine ⟨by norm_num, ?_⟩
  simp [iltQsrc, iltQgo, ratfunLoop, Gen.qCoeffsDense]

end causal_output

section g3
variable {K : Type} [Field K] (E : K → K)

/-- sums of differently delayed terms: `doit` inverts term by term, `term` shifts each by its own delay — for any
    number of terms, any delays, any partial-fraction data per term -/
theorem delay_sum (pfs : List (PF K)) (s : K) (ho : ∀ pf ∈ pfs, ∀ x ∈ pf.R, 0 < x.2.2) :
    L E (iltSum pfs) s = (pfs.map (fun pf => evalPF E pf s)).sum := L_iltSum E pfs s ho

/-- MODEL REMARK (bookkeeping of `term` + `make`, not a transform fact): a delayed term is multiplied by its step and put
    into the part known for all `t`; when every term of the sum is delayed nothing is left in the unilateral part and no
    `t ≥ 0` condition is attached, whatever `causal` says.  What ties the model to the code: `makeModel`'s two guard
    conditions are read from the source of `make` on every run (`Gen.makeGuardOnlyIfNotCausal`, `Gen.makeGuardOnlyIfUnilateral`;
    this proof needs the second: `rfl`), and the harness compares the model's `guarded` flag with the presence of
    `Piecewise((…, t >= 0))` in the real result for every case and option set. -/
theorem delayed_terms_unguarded [DecidableEq K] (causal : Bool) (parts : List (ExpPoly K × ExpPoly K)) :
    (makeModel causal (parts.map (fun cu => termModel causal true cu.1 cu.2))).guarded = false := by
  have : (parts.map (fun cu => termModel causal true cu.1 cu.2)).flatMap (fun x => x.2) = [] := by
    induction parts with
    | nil => rfl
    | cons x parts ih => simpa [termModel] using ih
  simp [makeModel, this, show Gen.makeGuardOnlyIfUnilateral = true from rfl]

/-- the convolution route (`F(s)·V(s)`, `V` an undefined transform): for EVERY concrete causal signal `g` put in place
    of `v`, the integral `∫₀ᵗ f(t−τ) g(τ) dτ` (upper limit `t`, the `causal=True` form) with `f` the inverse transform of
    the rational factor has the transform `F(s)·G(s)`.  (`convUpper false = Upper.inf`.) -/
theorem convolution_entry [DecidableEq K] (hE : IsExp E) (pf : PF K) (g : ExpPoly K) (s : K)
    (ho : ∀ x ∈ pf.R, 0 < x.2.2) (hf : NonPole (ilt pf) s) (hg : NonPole g s) :
    convUpper true = Upper.t ∧ L E (convEntry (ilt pf) g) s = evalPF E pf s * L E g s := by
  refine ⟨rfl, ?_⟩
  rw [convEntry, L_conv E hE s _ _ hf hg, ilt_laplace' E pf s ho]

/-- `s^n·V(s)` (`zero_initial_conditions=False`): `v^{(n)}(t) + Σ_{m<n} v^{(m)}(0) δ^{(n−1−m)}(t)` has the transform
    `s^n G(s)`, for every regular undelayed `g` put in place of `v`, every `n` -/
theorem deriv_entry [DecidableEq K] (hE : IsExp E) (g : ExpPoly K) (s : K) (hn : NonPole g s) (hr : Regular0 g) (n : Nat) :
    L E (derivEntry false n g) s = s ^ n * L E g s := L_derivEntry E hE g s hn hr n

/-- with `zero_initial_conditions=True` the impulses are dropped: right when `v(0) = … = v^{(n−1)}(0) = 0` -/
theorem deriv_entry_zic [DecidableEq K] (hE : IsExp E) (g : ExpPoly K) (s : K) (hn : NonPole g s) (hr : Regular0 g) (n : Nat)
    (h0 : ∀ m < n, val0plus (derivCN m g) = 0) :
    L E (derivEntry true n g) s = s ^ n * L E g s := L_derivEntry_zic E hE g s hn hr n h0

-- non-vacuity: g = t e^{-2t} is regular, undelayed, and g(0) = 0
example : Regular0 [Term.ep (1 : ℚ) 1 (-2) 0] ∧ ∀ m < 1, val0plus (derivCN m [Term.ep (1 : ℚ) 1 (-2) 0]) = 0 := by
  refine ⟨⟨?_, ?_⟩, ?_⟩
  · intro t ht; simp at ht; subst ht; trivial
  · intro t ht; simp at ht; subst ht; rfl
  · intro m hm; interval_cases m; simp [derivCN, val0plus]
example : NonPole [Term.ep (1 : ℚ) 1 (-2) 0] 3 := by
  intro t ht; simp at ht; subst ht; norm_num

end g3

/-- after any sequence of `Assumptions.set` calls (any keyword arguments in any order) at most one of
    `dc / ac / causal / unknown` is present -/
theorem assumptions_exclusive (kw : List (String × Bool)) : AtMostOneExclusive (assumeMerge [] kw) :=
  assumeMerge_inv kw [] (by simp [AtMostOneExclusive])

/-- "the last one overrides": after `…, a=True` exactly `a` of the four is present; so `causal` reaches the
    transformer iff no later `ac=True` / `dc=True` follows it -/
theorem assumption_last_overrides (kw : List (String × Bool)) (a b : String)
    (ha : a ∈ exclusiveAssumptions) (hb : b ∈ exclusiveAssumptions) :
    b ∈ assumeMerge [] (kw ++ [(a, true)]) ↔ b = a := by
  rw [assumeMerge_append]; exact assumeSet_true_mem _ a b ha hb

-- non-vacuity
example : effectiveCausal [("causal", true), ("ac", false)] = true ∧ effectiveCausal [("causal", true), ("dc", true)] = false := by
  decide
open Classical in
/-- the hypotheses of `damped_sin_value3` are jointly satisfiable: `(s² + 3s + 1)/(s² + 2s + 5)` over ℂ, `ω1 = 2` -/
example : Complex.I * Complex.I = -1 ∧ (1 + 1 : ℂ) ≠ 0 ∧
    (dampedSin Complex.I [1, 3, 1] [1, 2, 5] 1 2 (0 : ℂ)).isSome = true ∧ ((1 : ℂ) * 2) ^ 2 = 5 / 1 - (2 / 1 / 2) ^ 2 := by
  refine ⟨Complex.I_mul_I, by norm_num, ?_, by norm_num⟩
  simp only [dampedSin, dsInput, Gen.dsNumNormalised, Gen.dsDenNormalised]
  norm_num

end Lcapy.C10
