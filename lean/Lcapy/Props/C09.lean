/-
  C09 — the Laplace transform returned for a signal equals its defining integral.

  Setting.  `ExpPoly K` (Spec/Signal.lean): formal causal signals; `L E f s`: the formal unilateral
  transform from 0⁻, defined term-wise and anchored to the integral by `anchor_real`, `anchor_complex_k0`
  below.  `E` is any exponential (`IsExp E`: additive, `E 0 = 1`), so every statement holds for the real /
  complex exponential and for the driver's rational stand-in.  `sem` (Model/Laplace.lean) gives the signal denoted
  by a raw time-domain term, built from the operations `smul, delay, expWeight, tmul, deriv, scale, conv, integ`;
  `lcapyTerm` mirrors the dispatch of `LaplaceTransformer.term`; `Gen.*Entry` are generated from the source text
  of `LaplaceTransformer.function`.

  Three groups of theorems:
   (A) transform theorems of the specification (all signals, all non-pole points, any field);
   (B) every closed-form branch of the code's dispatch computes the transform of the signal its input denotes
       (const, exp, sin_cos incl. the e^β gain, the GENERATED function table, func, derivative_undef incl. scaled / shifted
       arguments, integral / convolution recognition, the DiracDelta·x(t) sifting branch, clip_step, reversed steps);
   (C) anchors: over ℂ with the true exponential the formal transform IS the defining integral on the whole delta-free
       exponential-polynomial class (`anchor_complex`, `lt_term_is_integral`, `lt_is_integral`), the operations with which `sem`
       builds signals are pointwise products (`smooth_factor_pointwise`), so the specification value of a product of smooth
       factors and a step is its integral (`smooth_product_is_integral`), and the code's sin_cos formula is that integral
       (`sin_cos_is_integral`).  Deltas stay formal pairs.
-/
import Lcapy.Proofs.Laplace
import Lcapy.Proofs.LaplaceEntries
import Lcapy.Proofs.LaplaceUndef
import Lcapy.Proofs.LaplaceWindow
import Lcapy.Proofs.LaplaceAnchor
import Lcapy.Proofs.LaplaceIntegral
import Lcapy.Proofs.LaplaceSemantics
namespace Lcapy.C09
open Lcapy.Laplace

section A
variable {K : Type} [Field K] (E : K → K)

/-- the transform is linear -/
theorem lt_linear (a b s : K) (f g : ExpPoly K) :
    L E (smul a f ++ smul b g) s = a * L E f s + b * L E g s := by
  rw [L_append, L_smul, L_smul]

/-- delay theorem: `L{f(t−T)}(s) = e^{−sT} L f(s)` -/
theorem lt_delay (hE : IsExp E) (T s : K) (f : ExpPoly K) :
    L E (delay T f) s = E (-(s * T)) * L E f s := L_delay E hE T s f

/-- exponential weighting: `L{e^{at} f(t)}(s) = L f (s − a)`, deltas and delayed terms included -/
theorem lt_exp_weight (hE : IsExp E) (a s : K) (f : ExpPoly K) :
    L E (expWeight E a f) s = L E f (s - a) := L_expWeight E hE a s f

/-- similarity theorem: `L{f(a t)}(s) = (1/a) L f (s/a)` -/
theorem lt_scale (a s : K) (ha : a ≠ 0) (f : ExpPoly K) :
    L E (scale a f) s = 1 / a * L E f (s / a) := L_scale E a s ha f

/-- multiplication by `t` is `−d/ds` (`negDL`: the formal derivative of the transform, term by term) -/
theorem lt_tmul (s : K) (f : ExpPoly K) : L E (tmul f) s = negDL E f s := L_tmul E s f

/-- derivative theorem for a signal given on the whole axis: `L{Dx}(s) = s·L x(s) − x(0⁻)` -/
theorem lt_deriv [DecidableEq K] (hE : IsExp E) (s : K) (x : Signal K) (h : NonPole x.post s) :
    (Signal.deriv x).L E s = s * x.L E s - pre0 x.pre := L_signal_deriv E hE s x h

/-- … and for a causal signal (distributional derivative, `x(0⁻) = 0`) -/
theorem lt_deriv_causal (s : K) (f : ExpPoly K) (h : NonPole f s) :
    L E (deriv f) s = s * L E f s := L_deriv E s f h

/-- running integral from 0⁻: `L{∫f}(s) = L f(s) / s` -/
theorem lt_integral [DecidableEq K] (hE : IsExp E) (s : K) (hs : s ≠ 0) (f : ExpPoly K) (hf : NonPole f s) :
    L E (integ f) s = L E f s / s := L_integ E hE s hs f hf

/-- convolution theorem on `ExpPoly` (equal and distinct poles of any order, deltas, delays) -/
theorem lt_convolution [DecidableEq K] (hE : IsExp E) (s : K) (f g : ExpPoly K)
    (hf : NonPole f s) (hg : NonPole g s) :
    L E (conv f g) s = L E f s * L E g s := L_conv E hE s f g hf hg

/-- the lower limit is 0⁻: an impulse at the origin is fully included.  DEFINITIONAL: this unfolds `Term.L` on `dl 1 0 0` — deltas are
    formal pairs (no integral anchor exists for them); the theorem records the convention of the specification, it is not derived -/
theorem lt_delta_at_origin (hE : IsExp E) (s : K) : L E [Term.dl 1 0 0] s = 1 := by
  simp [Term.L, pw, hE.zero]

/-- what the signal does before `t = 0` does not matter.  DEFINITIONAL (`rfl`): `Signal.L` is defined as `L x.post`; records the
    convention of the specification (the integral counterpart is `lt_is_integral`: the integral runs over `(0, ∞)` only) -/
theorem lt_ignores_negative_time (s : K) (pre₁ pre₂ : List (K × Nat × K)) (post : ExpPoly K) :
    (Signal.mk pre₁ post).L E s = (Signal.mk pre₂ post).L E s := rfl

-- non-vacuity: a concrete exponential stand-in on ℚ, a non-pole point, non-zero pre-history
example : IsExp (fun _ : ℚ => (1 : ℚ)) := isExp_one
example : NonPole [Term.ep (2 : ℚ) 1 (-3) 0, Term.dl 1 0 0] (1 : ℚ) := by
  intro t ht; simp at ht; rcases ht with rfl | rfl <;> norm_num
example : pre0 [((5 : ℚ), 0, (-1 : ℚ))] = 5 := by simp [pre0]

end A

/-! ### (B) the closed-form branches of `LaplaceTransformer.term` -/

section B
variable {K : Type} [Field K] [LinearOrder K] [IsStrictOrderedRing K]

/-- `expr == 1`:  `c ↦ c / s`  (at a non-pole point `s ≠ 0`: the totalised `c/0 = 0` is not relied on) -/
theorem const_entry (env : Env K) (hE : IsExp env.E) (c : K) (_hs : env.s ≠ 0) :
    lcapyTerm env (.prod c []) = (.const, some (c / env.s)) ∧
    specValue env (.prod c []) = some (c / env.s) := by
  refine ⟨rfl, ?_⟩
  show some (L env.E [Term.ep (c * 1) 0 0 0] env.s) = _
  simp only [L_cons, L_nil, Term.L, pw, hE.zero, mul_one, one_mul, mul_zero, neg_zero, sub_zero, add_zero]

/-- `exp(a t)`:  `c / (s − a)`  (at a non-pole point `s ≠ a`) -/
theorem exp_entry (env : Env K) (hE : IsExp env.E) (c a : K) (ha : a ≠ 0) (_hs : env.s - a ≠ 0) :
    lcapyTerm env (.prod c [.exp a]) = (.exp, some (c / (env.s - a))) ∧
    specValue env (.prod c [.exp a]) = some (c / (env.s - a)) := by
  constructor
  · simp [lcapyTerm, normAtoms, ha]
  · show some (L env.E (expWeight env.E a [Term.ep (c * 1) 0 0 0]) env.s) = _
    rw [L_expWeight env.E hE]
    simp only [L_cons, L_nil, Term.L, pw, hE.zero, mul_one, one_mul, mul_zero, neg_zero, sub_zero, add_zero]

-- (`sin_cos_entry`, the sin_cos fast path, is stated after this section over ANY field with an imaginary unit: an ordered
-- field has none, so a statement inside this section would be vacuous)

/-- The table of `LaplaceTransformer.function` (GENERATED from the source text on every run): each entry is
    the transform of the unit function composed with `t ↦ a t`, `a > 0`.  (`spec_*`: the signal denoted by
    `rect(a t)` etc. has the transform obtained from the unit entry by the similarity theorem `lt_scale`.) -/
theorem function_entry_rect (env : Env K) (hE : IsExp env.E) (a : K) (ha : 0 < a) (hs : env.s ≠ 0) :
    specValue env (.prod 1 [.fn .rect a 0]) = some (Gen.rectEntry env.E env.s a) := by
  rw [spec_rect env hE a ha hs]
  simp only [Gen.rectEntry, ofN_eq]; push_cast
  rw [show (-env.s / (2 * a)) = -(env.s * (1 / (2 * a))) by field_simp]

theorem function_entry_ramp (env : Env K) (hE : IsExp env.E) (a : K) (ha : 0 < a) (hs : env.s ≠ 0) :
    specValue env (.prod 1 [.fn .ramp a 0]) = some (Gen.rampEntry env.E env.s a) := by
  rw [spec_ramp env hE a ha hs]
  simp only [Gen.rampEntry, pw_eq]

theorem function_entry_tri (env : Env K) (hE : IsExp env.E) (a : K) (ha : 0 < a) (hs : env.s ≠ 0) :
    specValue env (.prod 1 [.fn .tri a 0]) = some (Gen.triEntry env.E env.s a) := by
  rw [spec_tri env hE a ha hs]
  simp only [Gen.triEntry, ofN_eq, pw_eq]; push_cast
  rw [show (-env.s / a) = -(env.s * (1 / a)) by field_simp]

theorem function_entry_rampstep (env : Env K) (hE : IsExp env.E) (a : K) (ha : 0 < a) (hs : env.s ≠ 0) :
    specValue env (.prod 1 [.fn .rampstep a 0]) = some (Gen.rampstepEntry env.E env.s a) := by
  rw [spec_rampstep env hE a ha hs]
  simp only [Gen.rampstepEntry, ofN_eq, pw_eq]; push_cast
  rw [show (-env.s / a) = -(env.s * (1 / a)) by field_simp]

/-- the table is only used for a positive scale: `function` refuses a time-reversed argument (GENERATED flag; the model's
    `lcapyTerm` follows it; finding C09-F26) -/
theorem fn_rejects_negative_scale : Gen.fnRejectsNegScale = true := by decide

/-- the unit entries themselves, e.g. `L{tri(t)} = 1/s − (1 − e^{−s})/s²`, and the similarity step -/
theorem function_entries_from_unit (env : Env K) (hE : IsExp env.E) (a : K) (ha : 0 < a) (hs : env.s ≠ 0) :
    specValue env (.prod 1 [.fn .tri a 0])
      = some (1 / a * (1 / (env.s / a) - (1 - env.E (-(env.s / a * 1))) / (env.s / a) ^ 2)) := by
  rw [spec_tri env hE a ha hs]
  rw [show -(env.s / a * 1) = -(env.s * (1 / a)) by field_simp]
  congr 1; field_simp

/-- `func`: `x(a t + b)` (a > 0, delay −b/a ≥ 0) ↦ `X(s/a)/a · e^{s b/a}` — for EVERY causal signal put for `x` -/
theorem func_entry (env : Env K) (hE : IsExp env.E) (c a b : K) (ha : a ≠ 0) (hb : b ≤ 0) :
    specValue env (.undef c a b) = (lcapyTerm env (.undef c a b)).2 := by
  simp only [specValue, sem, hb, if_true, Option.map, lcapyTerm, Xof, L_smul, L_delay env.E hE, L_scale env.E a _ ha]
  congr 1
  by_cases hb0 : b = 0
  · subst hb0; simp [hE.zero]; ring_nf; simp
  · simp only [hb0, if_false]
    rw [show -(env.s * -(b / a)) = env.s * b / a by ring]; ring

/-- `x(t)·e^{at}` ↦ `X(s − a)` -/
theorem func_exp_entry (env : Env K) (hE : IsExp env.E) (c a : K) :
    specValue env (.undefExp c a) = (lcapyTerm env (.undefExp c a)).2 := by
  simp only [specValue, sem, Option.map, lcapyTerm, Xof, L_smul, L_expWeight env.E hE]

/-- `derivative_undef` with initial conditions: `s^n X(s) − Σ_{m<n} s^{n−m−1} x^{(m)}(0⁻)`, any order `n`,
    any whole-axis signal put for `x` -/
theorem deriv_undef_entry (env : Env K) (hE : IsExp env.E) (hx : NonPole env.xsig.post env.s) (hz : env.zic = false)
    (c : K) (n : Nat) :
    specValue env (.dundef c n) = (lcapyTerm env (.dundef c n)).2 := by
  simp only [specValue, sem, Option.map, lcapyTerm, L_smul, deriv_undef_formula env hE hx hz n, Signal.L]

/-- … and with `zero_initial_conditions=True`: `s^n X(s)`, right when `x` vanishes before `t = 0` -/
theorem deriv_undef_entry_zic (env : Env K) (hx : NonPole env.xsig.post env.s) (hz : env.zic = true)
    (hpre : env.xsig.pre = []) (c : K) (n : Nat) :
    specValue env (.dundef c n) = (lcapyTerm env (.dundef c n)).2 := by
  have key : ∀ n, (signalDerivN n env.xsig).pre = [] ∧
      L env.E (signalDerivN n env.xsig).post env.s = Xof env env.s * pw env.s n ∧
      NonPole (signalDerivN n env.xsig).post env.s := by
    intro n
    induction n with
    | zero => exact ⟨hpre, by simp [signalDerivN, Xof, pw], hx⟩
    | succ n ih =>
      refine ⟨?_, ?_, NonPole_signalDerivN env.s env.xsig hx (n + 1)⟩
      · simp [signalDerivN, Signal.deriv, ih.1]
      · simp only [signalDerivN, Signal.deriv, L_append, L_deriv env.E env.s _ ih.2.2, ih.2.1, ih.1, pre0]
        simp [Term.L, pw]; ring
  simp only [specValue, sem, Option.map, lcapyTerm, L_smul, derivUndefFormula, hz, if_true, (key n).2.1]

/-- `integral`: running integral ↦ `X(s)/s`; convolutions ↦ products -/
theorem integral_entry (env : Env K) (hE : IsExp env.E) (c : K) (hs : env.s ≠ 0) (hx : NonPole env.xsig.post env.s) :
    specValue env (.iundef c) = (lcapyTerm env (.iundef c)).2 := by
  simp only [specValue, sem, Option.map, lcapyTerm, Xof, L_smul, L_integ env.E hE env.s hs _ hx]

theorem conv_entry (env : Env K) (hE : IsExp env.E) (c : K)
    (hx : NonPole env.xsig.post env.s) (hy : NonPole env.ysig env.s) :
    specValue env (.convXY c) = (lcapyTerm env (.convXY c)).2 := by
  simp only [specValue, sem, Option.map, lcapyTerm, Xof, Yof, L_smul, L_conv env.E hE env.s _ _ hx hy]

theorem conv_exp_entry (env : Env K) (hE : IsExp env.E) (c a : K) (ha : env.s - a ≠ 0)
    (hx : NonPole env.xsig.post env.s) :
    specValue env (.convExpX c a) = (lcapyTerm env (.convExpX c a)).2 := by
  have h1 : NonPole [Term.ep (1 : K) 0 a 0] env.s := by
    intro t ht; simp at ht; subst ht; exact ha
  simp only [specValue, sem, Option.map, lcapyTerm, Xof, L_smul, L_conv env.E hE env.s _ _ h1 hx]
  simp [Term.L, pw, hE.zero]

/-- `Derivative(x(a t + b), t, n)` — what the transform must be (x causal, delay −b/a ≥ 0): `c·sⁿ·X(s/a)/a·e^{s b/a}`
    (derivative theorem after the similarity and shift theorems) -/
theorem deriv_undef_at_spec (env : Env K) (hE : IsExp env.E) (c a b : K) (n : Nat) (ha : a ≠ 0) (hb : b ≤ 0)
    (hx : NonPole env.xsig.post (env.s / a)) :
    specValue env (.dundefAt c n a b)
      = some (c * (Xof env (env.s / a) / a * (if b = 0 then 1 else env.E (env.s * b / a)) * pw env.s n)) := by
  have hnp := NonPole_delay_scale (-(b / a)) ha hx
  simp only [specValue, sem, hb, if_true, Option.map, L_smul, (L_derivN env.E env.s n _ hnp).1, L_delay env.E hE,
    L_scale env.E a _ ha, Xof, pw_eq]
  by_cases hb0 : b = 0
  · subst hb0
    simp only [zero_div, neg_zero, mul_zero, hE.zero, if_true]
    congr 1; ring
  · simp only [hb0, if_false]
    rw [show -(env.s * -(b / a)) = env.s * b / a by ring]
    congr 1; ring

/-- … `derivative_undef` computes it when the source applies `self.func` to the differentiated function (flag GENERATED from the
    source text; finding C09-F24: the code wrote `X(s)` whatever the argument) … -/
theorem deriv_undef_at_entry (env : Env K) (hE : IsExp env.E) (hflag : Gen.derivAppliesShift = true) (hz : env.zic = true)
    (c a b : K) (n : Nat) (ha : a ≠ 0) (hb : b ≤ 0) (hx : NonPole env.xsig.post (env.s / a)) :
    specValue env (.dundefAt c n a b) = (lcapyTerm env (.dundefAt c n a b)).2 := by
  rw [deriv_undef_at_spec env hE c a b n ha hb hx]
  simp [lcapyTerm, hz, hflag]

/-- the source does (GENERATED flag, re-read on every run; finding C09-F24) -/
theorem deriv_undef_applies_shift : Gen.derivAppliesShift = true := by decide

/-- … and in either form for the plain argument `x(t)` -/
theorem deriv_undef_at_plain_entry (env : Env K) (hE : IsExp env.E) (hz : env.zic = true) (c : K) (n : Nat)
    (hx : NonPole env.xsig.post env.s) :
    specValue env (.dundefAt c n 1 0) = (lcapyTerm env (.dundefAt c n 1 0)).2 := by
  rw [deriv_undef_at_spec env hE c 1 0 n one_ne_zero (le_refl 0) (by simpa using hx)]
  simp [lcapyTerm, hz]

/-- sifting: `c·x(t)·δ(a t + b)` with the impulse at `τ = −b/a ≥ 0`, `x` continuous there, transforms to `c·x(τ)·e^{−sτ}/a`;
    an impulse before the origin contributes nothing -/
theorem delta_undef_spec (env : Env K) (c a b : K) (h0 : 0 ≤ -(b / a)) (hcont : contAt env.xsig.post (-(b / a)) = true) :
    specValue env (.deltaX c a b)
      = some (c * evalAt env.E env.xsig.post (-(b / a)) * env.E (-(env.s * -(b / a))) / a) := by
  simp only [specValue, sem]
  rw [if_pos h0, if_pos hcont]
  simp only [Option.map, L_cons, L_nil, Term.L, pw]
  congr 1; ring

theorem delta_undef_before_origin_spec (env : Env K) (c a b : K) (h0 : ¬ 0 ≤ -(b / a)) :
    specValue env (.deltaX c a b) = some 0 := by
  simp [specValue, sem, h0]

/-- the `DiracDelta * x(t)` branch of `term` computes it when the source implements the sifting property (flag GENERATED;
    finding C09-F25: the code returned the time function `x(t)`) -/
theorem delta_undef_entry (env : Env K) (hflag : Gen.deltaUndefSifts = true) (c a b : K) (h0 : 0 ≤ -(b / a))
    (hcont : contAt env.xsig.post (-(b / a)) = true) :
    specValue env (.deltaX c a b) = (lcapyTerm env (.deltaX c a b)).2 := by
  rw [delta_undef_spec env c a b h0 hcont]
  simp [lcapyTerm, hflag, h0]

/-- the source does (GENERATED flag; finding C09-F25) -/
theorem delta_undef_sifts : Gen.deltaUndefSifts = true := by decide

example : contAt [Term.ep (1 : ℚ) 0 (-3) 0] (1 / 2) = true := by norm_num [contAt]

/-! #### time-reversed steps (windows) and the `clip_step` rewriting -/

/-- Window: a signal switched off at `T`, `g(t)·u(t−τ)·u(T−t)` (the model's base `u(t−τ) − u(t−T)` multiplied by any
    product `g` of smooth factors), has the transform `L{g u(t−τ)} − L{g u(t−T)}`; the second term is the delayed
    signal of `lt_delay`. -/
theorem lt_window (E : K → K) (J c tau T s : K) (sm : List (Atom K)) :
    L E (sm.foldl (applySmooth E J) [.ep c 0 0 tau, .ep (-c) 0 0 T]) s
      = L E (sm.foldl (applySmooth E J) [.ep c 0 0 tau]) s + L E (sm.foldl (applySmooth E J) [.ep (-c) 0 0 T]) s := by
  have := foldSmooth_append_perm E J sm [Term.ep c 0 0 tau] [Term.ep (-c) 0 0 T]
  rw [show [Term.ep c 0 0 tau, Term.ep (-c) 0 0 T] = [Term.ep c 0 0 tau] ++ [Term.ep (-c) 0 0 T] from rfl,
    L_perm E this, L_append]

/-- … and that base really is the window: `c` on `τ ≤ t < T`, zero elsewhere -/
theorem window_pointwise (E : K → K) (hE0 : E 0 = 1) (c tau T t : K) (hT : tau ≤ T) :
    evalAt E [.ep c 0 0 tau, .ep (-c) 0 0 T] t = if tau ≤ t ∧ t < T then c else 0 := by
  simp only [evalAt, Term.at, pw, fact, zero_mul, hE0]
  by_cases h1 : tau ≤ t <;> by_cases h2 : T ≤ t
  · have : ¬ t < T := not_lt.mpr h2
    simp [h1, h2, this]
  · have : t < T := not_le.mp h2
    simp [h1, h2, this]
  · exact absurd (le_trans hT h2) h1
  · simp [h1, h2]

/-- `L{c·u(a t + b)}`, `a < 0 < b` (on until `T = −b/a`): `c (1 − e^{−sT}) / s` — the defining integral over `[0, T]` -/
theorem reversed_step_entry (env : Env K) (hE : IsExp env.E) (c a b : K) (ha : a < 0) (hb : 0 < b) (hs : env.s ≠ 0) :
    specValue env (.prod c [.step a b]) = some (c * (1 - env.E (-(env.s * -(b / a)))) / env.s) := by
  have h1 : ¬ (0 : K) ≤ a := not_le.mpr ha
  have h2 : ¬ -(b / a) ≤ 0 := not_le.mpr (neg_pos.mpr (div_neg_of_pos_of_neg hb ha))
  have hw : semSimple env.E env.J (c * 1) [.step a b] = some [.ep (c * 1) 0 0 0, .ep (-(c * 1)) 0 0 (-(b / a))] := by
    simp only [semSimple, List.filterMap_cons, List.filterMap_nil, deltaSel, stepSel, offSel, h1, h2, if_false, List.foldl_nil,
      List.filter_cons, List.filter_nil, isSmooth, Bool.false_eq_true]
  rw [specValue, sem, semProd_single _ _ _ rfl, hw, Option.map_some]
  simp only [L_cons, L_nil, Term.L, pw, hE.zero, mul_one, one_mul, mul_zero, neg_zero, sub_zero, add_zero]
  congr 1
  field_simp; ring

/-- `clip_step` (guard GENERATED from the source text of `LaplaceTransformer.term`): when the guard holds, replacing
    `Heaviside(a t + b)` by 1 does not change the signal on the unilateral axis.  Sound exactly because the guard
    implies `a > 0 ∧ b ≥ 0`; a guard that only looks at `b` would also drop time-reversed steps (next example). -/
theorem clip_step_sound (E : K → K) (J c a b : K) (atoms : List (Atom K)) (hg : Gen.clipGuard a b = true)
    (hd : NoDeltaAtoms atoms) :
    semSimple E J c (.step a b :: atoms) = semSimple E J c atoms := by
  have h : 0 < a ∧ 0 < b := by simpa [Gen.clipGuard, not_le] using hg
  exact drop_step_sound E J c a b atoms h.1 h.2.le hd

-- dropping a time-reversed step is NOT sound: u(1 − t) is not 1 on t ≥ 0
example : semSimple (K := ℚ) (fun _ => 1) 0 1 [.step (-1) 1] ≠ semSimple (K := ℚ) (fun _ => 1) 0 1 [] := by
  norm_num [semSimple, List.filterMap, deltaSel, stepSel, offSel, List.filter, isSmooth]
-- non-vacuity of the guard
example : Gen.clipGuard (2 : ℚ) (1 / 2) = true := by norm_num [Gen.clipGuard]

end B

/-! ### anchors: the term-wise definition is the integral -/

/-- `∫_0^∞ c·t^k/k!·e^{pt} · e^{−st} dt = L{ep c k p 0}(s)` for real `p < s` (region of convergence), all `k` -/
theorem anchor_real (c : ℝ) (k : ℕ) (p s : ℝ) (h : p < s) :
    ∫ t in Set.Ioi (0:ℝ), (c * t ^ k / (k.factorial : ℝ) * Real.exp (p * t)) * Real.exp (-(s * t))
      = L Real.exp [Term.ep c k p 0] s := anchor_real_L c k p s h

/-- complex rate (sin/cos, complex exponentials), order 0 -/
theorem anchor_complex_k0 (p s : ℂ) (h : p.re < s.re) :
    ∫ t : ℝ in Set.Ioi (0:ℝ), Complex.exp (p * t) * Complex.exp (-(s * t)) = 1 / (s - p) :=
  Lcapy.Laplace.anchor_complex_k0 p s h

/-- complex rate (sin/cos, damped sinusoids, complex exponentials), EVERY order `k`, on the half-plane `Re s > Re p`
    (induction on `k`, integration by parts from `integral_exp_mul_complex_Ioi`) -/
theorem anchor_complex (k : ℕ) (p s : ℂ) (h : p.re < s.re) :
    ∫ t : ℝ in Set.Ioi (0:ℝ), (t : ℂ) ^ k * Complex.exp (p * t) * Complex.exp (-(s * t))
      = (k.factorial : ℂ) / (s - p) ^ (k + 1) := Lcapy.Laplace.anchor_complex k p s h

/-- one delayed basis term `c (t−d)^k/k! e^{p(t−d)} u(t−d)`, `d ≥ 0`: `x(t) e^{−st}` is integrable on `(0,∞)` and its integral is
    the formal transform `c e^{−sd}/(s−p)^{k+1}` (the delay shifts the integral) -/
theorem lt_term_is_integral (c : ℂ) (k : ℕ) (p d s : ℂ) (hd : d.im = 0) (hd0 : 0 ≤ d.re) (h : p.re < s.re) :
    MeasureTheory.IntegrableOn (fun t : ℝ => (Term.ep c k p d).timeFn t * Complex.exp (-(s * t))) (Set.Ioi 0) ∧
    ∫ t : ℝ in Set.Ioi (0:ℝ), (Term.ep c k p d).timeFn t * Complex.exp (-(s * t)) = (Term.ep c k p d).L Complex.exp s :=
  Lcapy.Laplace.lt_term_is_integral c k p d s hd hd0 h

/-- **the formal transform IS the defining integral on the whole exponential-polynomial class**: for every delta-free formal signal
    with non-negative real delays (finite sums of `c (t−d)^k/k! e^{p(t−d)} u(t−d)`, `c`, `p` complex — polynomials, real and complex
    exponentials, sin/cos/sinh/cosh, damped sinusoids and their delayed versions) and every `s` to the right of all its poles,
    `x(t) e^{−st}` is integrable on `(0, ∞)` and `∫_0^∞ x(t) e^{−st} dt = L x (s)`  (`timeFn`: the signal as a function of real time,
    same reading as `Term.at`). Deltas stay formal. -/
theorem lt_is_integral (f : ExpPoly ℂ) (s : ℂ) (hnd : NoDelta f) (hd : RealDelays f) (hs : InROC f s) :
    MeasureTheory.IntegrableOn (fun t : ℝ => timeFn f t * Complex.exp (-(s * t))) (Set.Ioi 0) ∧
    ∫ t : ℝ in Set.Ioi (0:ℝ), timeFn f t * Complex.exp (-(s * t)) = L Complex.exp f s :=
  Lcapy.Laplace.lt_is_integral f s hnd hd hs

example : NoDelta [Term.ep 2 1 (-3 + 4 * Complex.I) 0, Term.ep 1 0 (-1) 1] ∧
    RealDelays [Term.ep 2 1 (-3 + 4 * Complex.I) 0, Term.ep 1 0 (-1) 1] ∧
    InROC [Term.ep 2 1 (-3 + 4 * Complex.I) 0, Term.ep 1 0 (-1) 1] 0 := by
  refine ⟨?_, ?_, ?_⟩ <;> (intro t ht; simp at ht; rcases ht with rfl | rfl <;> simp [Term.delayOf])

/-- the textbook pairs of the damped sinusoids, as instances of `lt_is_integral` -/
theorem anchor_damped_sin (al w : ℝ) (s : ℂ) (h : -al < s.re) :
    ∫ t : ℝ in Set.Ioi (0:ℝ), ((Real.exp (-al * t) * Real.sin (w * t) : ℝ) : ℂ) * Complex.exp (-(s * t))
      = w / ((s + al) ^ 2 + w ^ 2) := Lcapy.Laplace.anchor_damped_sin al w s h

theorem anchor_damped_cos (al w : ℝ) (s : ℂ) (h : -al < s.re) :
    ∫ t : ℝ in Set.Ioi (0:ℝ), ((Real.exp (-al * t) * Real.cos (w * t) : ℝ) : ℂ) * Complex.exp (-(s * t))
      = (s + al) / ((s + al) ^ 2 + w ^ 2) := Lcapy.Laplace.anchor_damped_cos al w s h

/-! ### the meaning function `sem` is the pointwise product, and the code's formulas are integrals -/

/-- every smooth factor of the raw-term language (`t^k`, `a t + b`, `e^{at}`, `sin/cos(ωt+φ)`, `sinh/cosh(at)`) acts on a delta-free
    signal as multiplication by the function of real time it denotes (`atomFn`) — the operations `tmul`, `expWeight`, `smul`
    with which `sem` builds signals mean what their names say -/
theorem smooth_factor_pointwise (x : Atom ℂ) (f : ExpPoly ℂ) (hf : Regular f) :
    Regular (applySmooth Complex.exp Complex.I f x) ∧
    ∀ t, timeFn (applySmooth Complex.exp Complex.I f x) t = atomFn x t * timeFn f t :=
  applySmooth_pointwise x f hf

/-- the specification value of `c · Π gᵢ(t) · u(t−τ)`, `τ ≥ 0`, is its defining integral at every `s` right of all poles -/
theorem smooth_product_is_integral (sm : List (Atom ℂ)) (c : ℂ) (tau : ℝ) (htau : 0 ≤ tau) (s : ℂ)
    (hs : InROC (sm.foldl (applySmooth Complex.exp Complex.I) [Term.ep c 0 0 (tau : ℂ)]) s) :
    ∫ t : ℝ in Set.Ioi (0:ℝ), ((sm.map (fun x => atomFn x t)).prod * (if tau ≤ t then c else 0)) * Complex.exp (-(s * t))
      = L Complex.exp (sm.foldl (applySmooth Complex.exp Complex.I) [Term.ep c 0 0 (tau : ℂ)]) s :=
  Lcapy.Laplace.smooth_product_is_integral sm c tau htau s hs

example : InROC ([Atom.tpow 2, Atom.exp (-1)].foldl (applySmooth Complex.exp Complex.I) [Term.ep 3 0 0 ((1 : ℝ) : ℂ)]) 0 := by
  intro x hx
  simp [applySmooth, iter, tmul, Term.tmul, expWeight, Term.expWeight] at hx
  rcases hx with rfl | rfl | rfl | rfl <;> simp

/-- the `sin_cos` fast path: `c·e^{αt}·sin/cos(ωt+φ)·u(t−τ)`, any phase, damping and delay (a negative `τ` is clipped to 0 on both
    sides), is the stated combination of the two conjugate exponentials `e^{(α ± jω)t}` — over ANY field with an imaginary unit `J`
    (ℂ, the driver's Gaussian rationals); the only fact about `≤` that is used is `0 ≤ 1` -/
theorem sin_cos_entry {K : Type} [Field K] [LE K] [DecidableLE K] [DecidableEq K]
    (env : Env K) (hE : IsExp env.E) (hJ : env.J * env.J = -1) (h01 : (0 : K) ≤ 1) (h20 : (2 : K) ≠ 0)
    (c al w ph tau : K) (isCos : Bool) (h1 : env.s - al - env.J * w ≠ 0) (h2 : env.s - al + env.J * w ≠ 0) :
    specValue env (.prod c [.exp al, .trig isCos w ph, .step 1 (-tau)]) = some (c * sinCosFormula env al isCos w ph tau) :=
  sin_cos_entry_gen env hE hJ h01 h20 c al w ph tau isCos h1 h2

/-- `sin_cos` with a constant in the exponent, `c·e^{αt+β}·sin/cos(ωt+φ)·u(t−τ)`: the code's extra factor `e^β`
    (`alpha, beta = scale_shift(exparg, t)` … `if beta != 0: E = exp(beta) * E`) -/
theorem sin_cos_entry_beta {K : Type} [Field K] [LE K] [DecidableLE K] [DecidableEq K]
    (env : Env K) (hE : IsExp env.E) (hJ : env.J * env.J = -1) (h01 : (0 : K) ≤ 1) (h20 : (2 : K) ≠ 0)
    (c al be w ph tau : K) (isCos : Bool) (h1 : env.s - al - env.J * w ≠ 0) (h2 : env.s - al + env.J * w ≠ 0) :
    specValue env (.prod c [.expb al be, .trig isCos w ph, .step 1 (-tau)])
      = some (c * (env.E be * sinCosFormula env al isCos w ph tau)) :=
  sin_cos_entry_beta' env hE hJ h01 h20 c al be w ph tau isCos h1 h2

-- non-vacuity: ℂ with the true exponential and `J = i`
example : IsExp Complex.exp ∧ Complex.I * Complex.I = -1 ∧ (2 : ℂ) ≠ 0 := ⟨isExp_cexp, by simp, two_ne_zero⟩

section
-- `sinCosFormula` compares the delay with 0: on ℂ this is Mathlib's order (`z ≤ w ↔ z.re ≤ w.re ∧ z.im = w.im`), the real order on real delays
open scoped ComplexOrder
attribute [local instance] Classical.propDecidable

/-- **the `sin_cos` fast path of the code is the defining integral**: the code's formula (`sinCosFormula`, the mirror of
    `LaplaceTransformer.sin_cos` that the correspondence compares with the real code on every run) for `c·e^{αt}·sin/cos(ωt+φ)·u(t−τ)`
    equals `∫_0^∞ c e^{αt} sin/cos(ωt+φ) u(t − max(τ,0)) e^{−st} dt` for all real `α, ω, φ, τ`, complex `c` and every `s` with `Re s > α` -/
theorem sin_cos_is_integral (s c : ℂ) (al w ph tau : ℝ) (isCos : Bool) (h : al < s.re) :
    c * sinCosFormula (cenv s) (al : ℂ) isCos (w : ℂ) (ph : ℂ) (tau : ℂ)
      = ∫ t : ℝ in Set.Ioi (0:ℝ), (Complex.exp (al * t) * ((if isCos then Complex.cos (w * t + ph) else Complex.sin (w * t + ph))
            * (if max tau 0 ≤ t then c else 0))) * Complex.exp (-(s * t)) :=
  Lcapy.Laplace.sin_cos_is_integral s c al w ph tau isCos h
end

end Lcapy.C09
