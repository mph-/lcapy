/-
  PROPERTY C03, noise clause at the level of the code's ARITHMETIC: "contributions of distinct noise sources add in
  power while those of the same noise source add in amplitude".  Model: Lcapy/Model/NoiseAlg.lean
  (`NoiseExpression` operators and the noise keys of a `Superposition`).  The spec-level statements about
  `noisePower` are in Props/C03.lean.
-/
import Lcapy.Proofs.NoiseAlg
import Lcapy.Spec.Noise
import Mathlib.Tactic.Ring
import Mathlib.Algebra.Field.Basic
import Mathlib.Tactic.NormNum
namespace Lcapy.C03
open Lcapy.Noise
variable {K : Type} [Field K] [DecidableEq K]

/-! ### operators on noise expressions -/

/-- **noise_sub_zero_left**: a zero left operand of the SAME identifier: `0 − x = −x` in amplitude
    (the sign matters as soon as the result is combined in amplitude with another contribution of that identifier). -/
theorem noise_sub_zero_left (f n : Nat) (a b : K) :
    sub f ⟨.amp 0 0, n⟩ ⟨.amp a b, n⟩ = neg ⟨.amp a b, n⟩ := by
  by_cases h : a = 0 ∧ b = 0
  · obtain ⟨rfl, rfl⟩ := h; simp [sub, neg, NVal.isZero]
  · have hz := isZero_amp_false a b h
    simp [sub, neg, hz]

/-- a zero left operand of the same identifier is neutral for `+` -/
theorem noise_add_zero_left (f n : Nat) (a b : K) :
    add f ⟨.amp 0 0, n⟩ ⟨.amp a b, n⟩ = some ⟨.amp a b, n⟩ := by
  by_cases h : a = 0 ∧ b = 0
  · obtain ⟨rfl, rfl⟩ := h; simp [add, NVal.isZero]
  · have hz := isZero_amp_false a b h
    simp [add, hz]

/-- a zero right operand (whatever its identifier) is neutral for `+` and `−`: value AND identifier are kept -/
theorem noise_add_zero_right (f m : Nat) (x : NE K) : add f x ⟨.amp 0 0, m⟩ = some x := by
  simp [add, NVal.isZero]

theorem noise_sub_zero_right (f m : Nat) (x : NE K) : sub f x ⟨.amp 0 0, m⟩ = some x := by
  simp [sub, NVal.isZero]

/-- same identifier: amplitudes add / subtract componentwise, the identifier is kept -/
theorem noise_add_same (f n : Nat) (a b c d : K) (h : ¬(c = 0 ∧ d = 0)) :
    add f ⟨.amp a b, n⟩ ⟨.amp c d, n⟩ = some ⟨.amp (a + c) (b + d), n⟩ := by
  have hz := isZero_amp_false c d h
  simp [add, hz]

theorem noise_sub_same (f n : Nat) (a b c d : K) (h : ¬(c = 0 ∧ d = 0)) :
    sub f ⟨.amp a b, n⟩ ⟨.amp c d, n⟩ = some ⟨.amp (a - c) (b - d), n⟩ := by
  have hz := isZero_amp_false c d h
  simp [sub, hz]

/-- `x − x = 0` for one realisation -/
theorem noise_sub_self (f n : Nat) (a b : K) :
    ∃ r, sub f ⟨.amp a b, n⟩ ⟨.amp a b, n⟩ = some r ∧ r.nid = n ∧ r.v.power = 0 := by
  by_cases h : a = 0 ∧ b = 0
  · obtain ⟨rfl, rfl⟩ := h; exact ⟨⟨.amp 0 0, n⟩, by simp [sub, NVal.isZero], rfl, by simp [NVal.power]⟩
  · exact ⟨_, noise_sub_same f n a b a b h, rfl, by simp [NVal.power]⟩

/-- distinct identifiers: POWERS add, under a fresh identifier — for `+` and for `−` alike -/
theorem noise_add_distinct (f n m : Nat) (x y : NVal K) (hnm : n ≠ m) (hy : y.isZero = false) :
    add f ⟨x, n⟩ ⟨y, m⟩ = some ⟨.rss (x.power + y.power), f⟩ := by
  simp [add, hy, hnm]

theorem noise_sub_distinct (f n m : Nat) (x y : NVal K) (hnm : n ≠ m) (hy : y.isZero = false) :
    sub f ⟨x, n⟩ ⟨y, m⟩ = some ⟨.rss (x.power + y.power), f⟩ := by
  simp [sub, add, hy, hnm]

/-- in particular a zero LEFT operand of ANOTHER identifier turns `x` into its magnitude under a fresh identifier:
    the power is kept, phase and identity are lost -/
theorem noise_sub_zero_left_distinct (f n m : Nat) (a b : K) (hnm : n ≠ m) (h : ¬(a = 0 ∧ b = 0)) :
    sub f ⟨.amp 0 0, n⟩ ⟨.amp a b, m⟩ = some ⟨.rss (a * a + b * b), f⟩ := by
  have hz := isZero_amp_false a b h
  rw [noise_sub_distinct f n m _ _ hnm hz]; simp [NVal.power]

/-- negation and scaling keep the identifier; the power scales by c² (so −x has the power of x) -/
theorem noise_neg_power (x r : NE K) (h : neg x = some r) : r.nid = x.nid ∧ r.v.power = x.v.power := by
  obtain ⟨v, n⟩ := x
  cases v with
  | amp a b => simp only [neg, Option.some.injEq] at h; subst h; simp [NVal.power]
  | rss p =>
    simp only [neg] at h
    split_ifs at h with hp
    simp only [Option.some.injEq] at h; subst h; simp

theorem noise_smul_power (c : K) (x r : NE K) (h : smul c x = some r) (hx : ∃ a b, x.v = .amp a b) :
    r.nid = x.nid ∧ r.v.power = c * c * x.v.power := by
  obtain ⟨v, n⟩ := x
  obtain ⟨a, b, rfl⟩ := hx
  simp only [smul, Option.some.injEq] at h; subst h
  simp only [NVal.power, true_and]; ring

/-- `(x + y) − y = x` for contributions of ONE identifier (the docstring's `a + b − b` is only wrong across identifiers) -/
theorem noise_add_sub_cancel (f n : Nat) (a b c d : K) (h : ¬(c = 0 ∧ d = 0)) :
    (add f ⟨.amp a b, n⟩ ⟨.amp c d, n⟩).bind (fun s => sub f s ⟨.amp c d, n⟩) = some ⟨.amp a b, n⟩ := by
  rw [noise_add_same f n a b c d h]
  simp only [Option.bind_some]
  rw [noise_sub_same f n _ _ c d h]
  simp

/-- scaling distributes over the amplitude sum of one identifier -/
theorem noise_smul_add (f n : Nat) (k a b c d : K) (hk : k ≠ 0) (h : ¬(c = 0 ∧ d = 0)) :
    (add f ⟨.amp a b, n⟩ ⟨.amp c d, n⟩).bind (smul k) =
      (smul k ⟨.amp a b, n⟩).bind (fun x => (smul k ⟨.amp c d, n⟩).bind (fun y => add f x y)) := by
  rw [noise_add_same f n a b c d h]
  have h' : ¬(k * c = 0 ∧ k * d = 0) := by
    rintro ⟨h1, h2⟩
    exact h ⟨(mul_eq_zero.mp h1).resolve_left hk, (mul_eq_zero.mp h2).resolve_left hk⟩
  simp only [smul, Option.bind_some]
  rw [noise_add_same f n _ _ _ _ h']
  simp [mul_add]

/-! ### the noise keys of a Superposition -/

/-- **lookup_addNoise**: adding a noise value to a superposition adds its complex amplitude to what is
    stored for ITS identifier and leaves every other identifier alone — whatever is already there, whether the sum
    vanishes (key popped) or not. -/
theorem lookup_addNoise (d : NDict K) (n : Nat) (v : K × K) (hd : (keys d).Nodup) (m : Nat) :
    lookup (addNoise d n v) m = if m = n then cadd (lookup d m) v else lookup d m := by
  induction d with
  | nil =>
    by_cases hv : v = czero
    · subst hv; simp [addNoise, lookup, cadd_zero]
    · by_cases hm : m = n
      · subst hm; simp only [addNoise, if_neg hv, lookup, if_true]; simp [cadd, czero]
      · simp only [addNoise, if_neg hv, lookup, if_neg (Ne.symm hm), if_neg hm]
  | cons p t ih =>
    obtain ⟨k, u⟩ := p
    simp only [keys, List.map_cons, List.nodup_cons] at hd
    by_cases hv : v = czero
    · subst hv; simp [addNoise, cadd_zero]
    · simp only [addNoise, hv, if_false]
      by_cases hk : k = n
      · subst hk
        by_cases hm : m = k
        · subst hm
          by_cases hs : cadd u v = czero
          · simp only [hs, if_true, lookup]
            rw [lookup_not_mem t m hd.1]
          · simp [hs, lookup]
        · have hkm : k ≠ m := Ne.symm hm
          by_cases hs : cadd u v = czero
          · simp [hs, lookup, hm, hkm]
          · simp [hs, lookup, hm, hkm]
      · simp only [hk, if_false, lookup]
        by_cases hkm : k = m
        · subst hkm; simp [hk]
        · simp only [hkm, if_false]; exact ih hd.2

/-- **lookup_superAdd**: combining per-source parts into a superposition (`P₁ + P₂ + …`, `Superposition.add`
    over any list of contributions, in any order, identifiers shared or not) stores for every identifier the SUM of the
    complex amplitudes contributed under that identifier. -/
theorem lookup_superAdd (d e : NDict K) (hd : (keys d).Nodup) (m : Nat) :
    lookup (superAdd d e) m = cadd (lookup d m) (contrib e m) := by
  induction e generalizing d with
  | nil => simp [superAdd, contrib, cadd_zero]
  | cons p t ih =>
    obtain ⟨k, v⟩ := p
    simp only [superAdd, List.foldl_cons] at ih ⊢
    rw [ih _ (addNoise_nodup d k v hd), lookup_addNoise d k v hd]
    simp only [contrib, List.foldr_cons]
    by_cases hk : k = m
    · subst hk; simp only [if_true, cadd, Prod.mk.injEq]; constructor <;> ring
    · simp [hk, Ne.symm hk]

/-- **lookup_superSub**: subtracting a part from the whole removes exactly that part's amplitude from its identifier -/
theorem lookup_superSub (d e : NDict K) (hd : (keys d).Nodup) (m : Nat) :
    lookup (superSub d e) m = cadd (lookup d m) (cneg (contrib e m)) := by
  rw [superSub, lookup_superAdd d _ hd]
  congr 1
  induction e with
  | nil => simp [superNeg, contrib, cneg, czero]
  | cons p t ih =>
    obtain ⟨k, v⟩ := p
    simp only [superNeg, List.map_cons, contrib, List.foldr_cons] at ih ⊢
    split_ifs
    · rw [ih]; simp only [cadd, cneg, Prod.mk.injEq]; constructor <;> ring
    · exact ih

/-- the reported `.n`² is the sum over the stored identifiers of the squared magnitude of what is stored -/
theorem totalPower_eq (d : NDict K) (hd : (keys d).Nodup) :
    totalPower d = ((keys d).map (fun k => normSq' (lookup d k))).sum := by
  induction d with
  | nil => simp [totalPower, keys]
  | cons p t ih =>
    obtain ⟨k, u⟩ := p
    simp only [keys, List.map_cons, List.nodup_cons] at hd
    simp only [totalPower, keys, List.map_cons, List.sum_cons, lookup, if_true]
    rw [ih hd.2]
    congr 1
    simp only [keys, List.map_map]
    congr 1
    apply List.map_congr_left
    intro q hq
    have : k ≠ q.1 := fun h => hd.1 (h ▸ List.mem_map.mpr ⟨q, hq, rfl⟩)
    simp [this]

/-- what is stored for an identifier is the spec's group sum of the contributions carrying that identifier -/
theorem contrib_eq_groupSum (e : NDict K) (m : Nat) :
    contrib e m = groupSum ((e.filter (fun p => p.1 = m)).map (fun p => (p.2, (1 : K)))) := by
  induction e with
  | nil => simp [contrib, groupSum, czero]
  | cons p t ih =>
    obtain ⟨k, u, v⟩ := p
    simp only [contrib, List.foldr_cons] at ih ⊢
    by_cases hk : k = m
    · subst hk
      have hf : List.filter (fun p : Nat × K × K => decide (p.1 = k)) ((k, u, v) :: t) =
          (k, u, v) :: List.filter (fun p => decide (p.1 = k)) t := by simp [List.filter_cons]
      rw [hf]
      simp only [if_true, List.map_cons, groupSum, ← ih]
      simp [cadd]
    · have hf : List.filter (fun p : Nat × K × K => decide (p.1 = m)) ((k, u, v) :: t) =
          List.filter (fun p => decide (p.1 = m)) t := by simp [List.filter_cons, hk]
      rw [hf]
      simp only [hk, if_false]
      exact ih

theorem noisePower_map {α : Type} (f : α → List ((K × K) × K)) (l : List α) :
    noisePower (l.map f) = (l.map (fun a => normSq (groupSum (f a)))).sum := by
  induction l with
  | nil => simp [noisePower]
  | cons a t ih => simp [noisePower, ih]

/-- **parts_power_is_noisePower** (code arithmetic = spec): the `.n`² of the superposition assembled from ANY list of
    per-source contributions (identifier, complex amplitude H_k a_k) is the spec's `noisePower` of the contributions
    grouped by identifier — amplitude within an identifier, power across identifiers. -/
theorem parts_power_is_noisePower (e : NDict K) :
    totalPower (superAdd [] e) =
      noisePower ((keys (superAdd [] e)).map (fun k => (e.filter (fun p => p.1 = k)).map (fun p => (p.2, (1 : K))))) := by
  have hn : (keys (superAdd ([] : NDict K) e)).Nodup := superAdd_nodup [] e (by simp [keys])
  rw [totalPower_eq _ hn, noisePower_map]
  congr 1
  apply List.map_congr_left
  intro k _
  rw [lookup_superAdd [] e (by simp [keys]), ← contrib_eq_groupSum]
  simp [lookup, cadd, czero, normSq', normSq]

/-- two parts of ONE identifier reassemble in amplitude: power |u + v|², cross term included (spec: `noise_cross_term`) -/
example : totalPower (superAdd ([] : NDict ℚ) [(1, (3, 0)), (1, (4, 0))]) = 49 := by
  norm_num [superAdd, addNoise, totalPower, normSq', cadd, czero]

/-- two identifiers: powers add -/
example : totalPower (superAdd ([] : NDict ℚ) [(1, (3, 0)), (2, (4, 0))]) = 25 := by
  norm_num [superAdd, addNoise, totalPower, normSq', cadd, czero]

/-- the situation of a voltage between two nodes whose positive node is noise-free: 0 − x, then + y of the same identifier -/
example : (sub 9 (⟨.amp 0 0, 1⟩ : NE ℚ) ⟨.amp 3 1, 1⟩).bind (fun r => add 9 r ⟨.amp 5 0, 1⟩) = some ⟨.amp 2 (-1), 1⟩ := by
  rw [noise_sub_zero_left]
  norm_num [neg, add, NVal.isZero]

end Lcapy.C03
