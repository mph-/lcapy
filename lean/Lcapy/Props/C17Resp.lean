/-
  C17, clause "responses computed numerically", part 2: `LaplaceDomainExpression.response` (lcapy/sexpr.py), the two
  numerical routes `_response_impulse_invariance` and `_response_bilinear`.

  Model: `Lcapy/Model/Response.lean` (`respIIConv`, `respII`, `respBilinear`, `respCoeffs`, spec side `convSum`) with the
  kernel sample times `iiKernelTimes` and the scale `iiScale` GENERATED from the source text
  (`Lcapy/Generated/SimCompanion.lean`).  All theorems over an arbitrary field, for every kernel function, every input
  vector, every numerator / denominator order.
-/
import Lcapy.Proofs.ResponseBase
import Lcapy.Props.C13b
namespace Lcapy.C17
open Lcapy Lcapy.DT Lcapy.Resp Lcapy.Gen.Sim Lcapy.SimBase
variable {K : Type} [Field K]

/-! ## 1. impulse invariance -/

/-- the kernel sample times are the lags `0, dt, 2 dt, ...` -- `rfl` on the GENERATED definition -/
theorem impulse_invariance_kernel_lags (tv : List K) (dt : K) : iiKernelTimes tv dt = lagTimes tv.length dt := rfl

omit [Field K] in
theorem impulse_invariance_scale (dt : K) : iiScale dt = dt := rfl

/-- translation invariance in `t[0]`: two time vectors of the same length give the same response -/
theorem impulse_invariance_start_invariant (kernel : K → K) (q x tv tv' : List K) (dt : K)
    (h : tv.length = tv'.length) : respII kernel q x tv dt = respII kernel q x tv' dt := by
  simp only [respII, respIIConv, impulse_invariance_kernel_lags, h]

/-- the n-th output is the causal convolution sum with the kernel sampled at the lags -/
theorem impulse_invariance_is_conv_sum (kernel : K → K) (x tv : List K) (dt : K) (n : ℕ)
    (hx : x.length = tv.length) (hn : n < tv.length) :
    (respIIConv kernel x tv dt).getD n 0 = convSum kernel x dt n := by
  have hx0 : x ≠ [] := by intro e; rw [e] at hx; simp at hx; omega
  rw [respIIConv_getD kernel x tv dt n hx0 hn, coeff_toPS_mul_toPS, convSum, lsum_map_range, mul_comm]
  congr 1
  apply Finset.sum_congr rfl
  intro k hk
  rw [lagKernel_getD kernel _ dt k (by have := Finset.mem_range.mp hk; omega), mul_comm]

/-- time invariance: the input delayed by m samples (zero-padded, time vector started m samples earlier) gives the
    output delayed by m samples -/
theorem impulse_invariance_shift (kernel : K → K) (x tv tvm : List K) (dt : K) (m : ℕ)
    (hx : x.length = tv.length) (hm : tvm.length = tv.length + m) (hne : x ≠ []) :
    respIIConv kernel (List.replicate m 0 ++ x) tvm dt = List.replicate m 0 ++ respIIConv kernel x tv dt := by
  have hne' : List.replicate m (0 : K) ++ x ≠ [] := by simp [hne]
  apply list_ext_getD
  · rw [respIIConv_length _ _ _ _ hne', List.length_append, respIIConv_length _ _ _ _ hne, List.length_replicate]
    omega
  · intro n hn
    rw [respIIConv_length _ _ _ _ hne'] at hn
    rw [respIIConv_getD kernel _ tvm dt n hne' hn, toPS_replicate_append, getD_replicate_append, mul_left_comm,
      PowerSeries.coeff_X_pow_mul']
    by_cases h : n < m
    · have : ¬ m ≤ n := by omega
      simp [h, this]
    · have h1 : m ≤ n := by omega
      have h2 : n - m < tv.length := by omega
      rw [if_pos h1, if_neg h, respIIConv_getD kernel x tv dt _ hne h2]
      congr 1
      apply coeff_toPS_mul_congr
      intro k hk
      rw [lagKernel_getD kernel _ dt k (by omega), lagKernel_getD kernel _ dt k (by omega)]

/-! ## 2. the bilinear family -/

/-- the coefficient lists `_response_bilinear` hands to `lfilter` are those of
    `H(s)` at `s = (1/dt) (1 - w) / (alpha + (1 - alpha) w)`, `w = 1/z` -/
theorem bilinear_coeffs_value (alpha dt : K) (num den : List K) (w : K) (hdt : dt ≠ 0)
    (hw : alpha + (1 - alpha) * w ≠ 0) :
    peval (respCoeffs alpha dt num den).1 w / peval (respCoeffs alpha dt num den).2 w
      = peval num (1 / dt * (1 - w) / (alpha + (1 - alpha) * w))
        / peval den (1 / dt * (1 - w) / (alpha + (1 - alpha) * w)) := by
  have hD : peval (gbtDen alpha dt) w ≠ 0 := by
    have e : peval (gbtDen alpha dt) w = dt * (alpha + (1 - alpha) * w) := by
      simp only [gbtDen, peval_cons, peval_nil]; ring
    rw [e]
    exact mul_ne_zero hdt hw
  have := C13.discretize_is_substitution num den gbtNum (gbtDen alpha dt) w hD
  rw [C13.gbt_documented_map alpha dt w hdt] at this
  exact this

/-- the output is the causal convolution of the input with the filter's impulse response (lag indices only) -/
theorem bilinear_is_convolution (alpha dt : K) (num den x : List K) (n : ℕ) (hn : n < x.length)
    (ha : (respCoeffs alpha dt num den).2.headD 0 ≠ 0) :
    (respBilinear alpha dt num den 0 x).getD n 0
      = ∑ p ∈ Finset.antidiagonal n,
          hCoeff (respCoeffs alpha dt num den).1 (respCoeffs alpha dt num den).2 p.1 * litZ x p.2 := by
  simp only [respBilinear, List.replicate_zero, List.nil_append, ↓reduceIte]
  exact lfilter_convolution _ _ x ha n hn

/-- time invariance: m leading zeros in the input give m leading zeros in the output, then the same response -/
theorem bilinear_shift (alpha dt : K) (num den x : List K) (m : ℕ)
    (ha : (respCoeffs alpha dt num den).2.headD 0 ≠ 0) :
    respBilinear alpha dt num den 0 (List.replicate m 0 ++ x)
      = List.replicate m 0 ++ respBilinear alpha dt num den 0 x := by
  simp only [respBilinear, List.replicate_zero, List.nil_append, ↓reduceIte]
  exact lfilter_shift _ _ x m ha

/-- a delay of `nd ≠ 0` whole samples: the last `nd` input samples are dropped, `nd` zeros are prepended -/
theorem bilinear_delay (alpha dt : K) (num den x : List K) (nd : ℕ) (hnd : nd ≠ 0) :
    respBilinear alpha dt num den nd x
      = List.replicate nd 0 ++ respBilinear alpha dt num den 0 (x.take (x.length - nd)) := by
  simp [respBilinear, hnd]

/-! ## 3. non-vacuity -/

-- (a) kernel h(t) = t, dt = 1: the start time of the time vector does not matter
example : respIIConv (fun t : ℚ => t) [1, 2, 3] [5, 6, 7] 1 = respIIConv (fun t : ℚ => t) [1, 2, 3] [0, 1, 2] 1 := by
  decide +kernel
example : respIIConv (fun t : ℚ => t) [1, 2, 3] [5, 6, 7] 1 = [0, 1, 4] := by decide +kernel
example : respII (fun t : ℚ => t) [2] [1, 2, 3] [5, 6, 7] 1 = respII (fun t : ℚ => t) [2] [1, 2, 3] [0, 1, 2] 1 :=
  impulse_invariance_start_invariant _ _ _ _ _ _ rfl
example : respII (fun t : ℚ => t) [2] [1, 2, 3] [5, 6, 7] 1 = [2, 5, 10] := by decide +kernel
example : (respIIConv (fun t : ℚ => t) [1, 2, 3] [5, 6, 7] 1).getD 2 0 = convSum (fun t : ℚ => t) [1, 2, 3] 1 2 :=
  impulse_invariance_is_conv_sum _ _ _ _ 2 rfl (by decide)
example : convSum (fun t : ℚ => t) [1, 2, 3] 1 2 = 4 := by decide +kernel

-- (b) `impulse_invariance_shift`, m = 2
example : respIIConv (fun t : ℚ => t) (List.replicate 2 0 ++ [1, 2, 3]) [3, 4, 5, 6, 7] 1
    = List.replicate 2 0 ++ respIIConv (fun t : ℚ => t) [1, 2, 3] [5, 6, 7] 1 :=
  impulse_invariance_shift _ _ _ _ _ 2 rfl rfl (by simp)
example : respIIConv (fun t : ℚ => t) [0, 0, 1, 2, 3] [3, 4, 5, 6, 7] 1 = [0, 0, 0, 1, 4] := by decide +kernel

-- (c) H = 1/s, alpha = 1/2, dt = 1: the trapezoidal rule applied to a ramp
example : respCoeffs (1 / 2 : ℚ) 1 [1] [0, 1] = ([1 / 2, 1 / 2], [1, -1, 0]) := by decide +kernel
example : (respCoeffs (1 / 2 : ℚ) 1 [1] [0, 1]).2.headD 0 ≠ 0 := by decide +kernel
example : respBilinear (1 / 2 : ℚ) 1 [1] [0, 1] 0 [0, 1, 2, 3] = [0, 1 / 2, 2, 9 / 2] := by decide +kernel
example (w : ℚ) (hw : 1 / 2 + (1 - 1 / 2) * w ≠ 0) :
    peval (respCoeffs (1 / 2 : ℚ) 1 [1] [0, 1]).1 w / peval (respCoeffs (1 / 2 : ℚ) 1 [1] [0, 1]).2 w
      = peval [1] (1 / 1 * (1 - w) / (1 / 2 + (1 - 1 / 2) * w)) / peval [0, 1] (1 / 1 * (1 - w) / (1 / 2 + (1 - 1 / 2) * w)) :=
  bilinear_coeffs_value _ _ _ _ w one_ne_zero hw

-- (d) `bilinear_shift`, m = 1, and `bilinear_delay`
example : respBilinear (1 / 2 : ℚ) 1 [1] [0, 1] 0 (List.replicate 1 0 ++ [1, 2, 3])
    = List.replicate 1 0 ++ respBilinear (1 / 2 : ℚ) 1 [1] [0, 1] 0 [1, 2, 3] :=
  bilinear_shift _ _ _ _ _ 1 (by decide +kernel)
example : respBilinear (1 / 2 : ℚ) 1 [1] [0, 1] 0 [1, 2, 3] = [1 / 2, 2, 9 / 2] := by decide +kernel
example : respBilinear (1 / 2 : ℚ) 1 [1] [0, 1] 1 [1, 2, 3, 4] = [0, 1 / 2, 2, 9 / 2] := by decide +kernel

end Lcapy.C17
