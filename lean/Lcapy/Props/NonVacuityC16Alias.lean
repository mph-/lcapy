/-
  Non-vacuity witnesses for Props/C16Alias.lean.
-/
import Lcapy.Props.C16Alias
set_option linter.defProp false
namespace Lcapy.NonVacuity.C16Alias
open Lcapy.C16

/-! ## Props/C16Alias.lean -/
section Alias
open Lcapy.Alias

/-- a DC voltage and an unrelated AC current on the heap -/
def heap0 : Heap := ⟨[⟨false, true, false⟩, ⟨false, false, true⟩]⟩

def nv_derive_keeps_all := derive_keeps_all heap0 ⟨0⟩ true 1 (by decide)
def nv_derivation_keeps_source := derivation_keeps_source heap0 ⟨0⟩ true (by decide)
def nv_derivations_keep_source := derivations_keep_source [true, false, true] heap0 ⟨0⟩ (by decide)

end Alias

end Lcapy.NonVacuity.C16Alias
