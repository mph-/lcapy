/-
  Machine-checked non-vacuity witnesses for Props/C08.lean: every side condition of every round-trip
  theorem and of every derived-attribute theorem is met by the concrete two-port `sample = [[2,3],[5,11]]`, Z0 = 7 over ℚ.
  The conditions are evaluated; a composite condition is assembled from the evaluated conditions it delegates to.
-/
import Lcapy.Props.C08
import Lcapy.Spec.TwoPortExec
namespace Lcapy.NonVacuity.C08
open Lcapy Lcapy.Spec Lcapy.Gen Lcapy.TwoPort Lcapy.C08


/-! ## round trips: BOTH side conditions (o1 and o2) hold for the sample -/
theorem nv_roundtrip_A_B : ok_A_B sample 7 ∧ ok_B_A (A_to_B sample 7) 7 :=
  ⟨sample_ok_A_B, by unfold ok_B_A; decide +kernel⟩
theorem nv_roundtrip_A_G : ok_A_G sample 7 ∧ ok_G_A (A_to_G sample 7) 7 :=
  ⟨sample_ok_A_G, by unfold ok_G_A; decide +kernel⟩
theorem nv_roundtrip_A_H : ok_A_H sample 7 ∧ ok_H_A (A_to_H sample 7) 7 :=
  ⟨sample_ok_A_H, by unfold ok_H_A; decide +kernel⟩
theorem nv_roundtrip_A_S : ok_A_S sample 7 ∧ ok_S_A (A_to_S sample 7) 7 :=
  ⟨sample_ok_A_S, by unfold ok_S_A; decide +kernel⟩
theorem nv_roundtrip_A_T : ok_A_T sample 7 ∧ ok_T_A (A_to_T sample 7) 7 :=
  ⟨sample_ok_A_T, by unfold ok_T_A ok_T_S ok_S_A; decide +kernel⟩
theorem nv_roundtrip_A_Y : ok_A_Y sample 7 ∧ ok_Y_A (A_to_Y sample 7) 7 :=
  ⟨sample_ok_A_Y, by unfold ok_Y_A; decide +kernel⟩
theorem nv_roundtrip_A_Z : ok_A_Z sample 7 ∧ ok_Z_A (A_to_Z sample 7) 7 :=
  ⟨sample_ok_A_Z, by unfold ok_Z_A; decide +kernel⟩
theorem nv_roundtrip_B_A : ok_B_A sample 7 ∧ ok_A_B (B_to_A sample 7) 7 :=
  ⟨sample_ok_B_A, by unfold ok_A_B; decide +kernel⟩
theorem nv_roundtrip_B_G : ok_B_G sample 7 ∧ ok_G_B (B_to_G sample 7) 7 :=
  ⟨sample_ok_B_G, by unfold ok_G_B; decide +kernel⟩
theorem nv_roundtrip_B_H : ok_B_H sample 7 ∧ ok_H_B (B_to_H sample 7) 7 :=
  ⟨sample_ok_B_H, by unfold ok_H_B; decide +kernel⟩
theorem nv_roundtrip_B_S : ok_B_S sample 7 ∧ ok_S_B (B_to_S sample 7) 7 :=
  ⟨sample_ok_B_S, by unfold ok_S_B ok_S_A; decide +kernel⟩
theorem nv_roundtrip_B_T : ok_B_T sample 7 ∧ ok_T_B (B_to_T sample 7) 7 :=
  ⟨sample_ok_B_T, by unfold ok_T_B ok_T_A ok_T_S ok_S_A; decide +kernel⟩
theorem nv_roundtrip_B_Y : ok_B_Y sample 7 ∧ ok_Y_B (B_to_Y sample 7) 7 :=
  ⟨sample_ok_B_Y, by unfold ok_Y_B; decide +kernel⟩
theorem nv_roundtrip_B_Z : ok_B_Z sample 7 ∧ ok_Z_B (B_to_Z sample 7) 7 :=
  ⟨sample_ok_B_Z, by unfold ok_Z_B; decide +kernel⟩
theorem nv_roundtrip_G_A : ok_G_A sample 7 ∧ ok_A_G (G_to_A sample 7) 7 :=
  ⟨sample_ok_G_A, by unfold ok_A_G ok_A_H; decide +kernel⟩
theorem nv_roundtrip_G_B : ok_G_B sample 7 ∧ ok_B_G (G_to_B sample 7) 7 :=
  ⟨sample_ok_G_B, by unfold ok_B_G; decide +kernel⟩
theorem nv_roundtrip_G_H : ok_G_H sample 7 ∧ ok_H_G (G_to_H sample 7) 7 :=
  ⟨sample_ok_G_H, by unfold ok_H_G; decide +kernel⟩
theorem nv_roundtrip_G_S : ok_G_S sample 7 ∧ ok_S_G (G_to_S sample 7) 7 :=
  ⟨sample_ok_G_S, by unfold ok_S_G ok_S_H ok_S_A ok_A_H; decide +kernel⟩
theorem nv_roundtrip_G_T : ok_G_T sample 7 ∧ ok_T_G (G_to_T sample 7) 7 :=
  ⟨sample_ok_G_T, by unfold ok_T_G ok_T_H ok_T_A ok_T_S ok_S_A ok_A_H; decide +kernel⟩
theorem nv_roundtrip_G_Y : ok_G_Y sample 7 ∧ ok_Y_G (G_to_Y sample 7) 7 :=
  ⟨sample_ok_G_Y, by unfold ok_Y_G ok_Y_H; decide +kernel⟩
theorem nv_roundtrip_G_Z : ok_G_Z sample 7 ∧ ok_Z_G (G_to_Z sample 7) 7 :=
  ⟨sample_ok_G_Z, by unfold ok_Z_G ok_Z_H; decide +kernel⟩
theorem nv_roundtrip_H_A : ok_H_A sample 7 ∧ ok_A_H (H_to_A sample 7) 7 :=
  ⟨sample_ok_H_A, by unfold ok_A_H; decide +kernel⟩
theorem nv_roundtrip_H_B : ok_H_B sample 7 ∧ ok_B_H (H_to_B sample 7) 7 :=
  ⟨sample_ok_H_B, by unfold ok_B_H; decide +kernel⟩
theorem nv_roundtrip_H_G : ok_H_G sample 7 ∧ ok_G_H (H_to_G sample 7) 7 :=
  ⟨sample_ok_H_G, by unfold ok_G_H; decide +kernel⟩
theorem nv_roundtrip_H_S : ok_H_S sample 7 ∧ ok_S_H (H_to_S sample 7) 7 :=
  ⟨sample_ok_H_S, by unfold ok_S_H ok_S_A ok_A_H; decide +kernel⟩
theorem nv_roundtrip_H_T : ok_H_T sample 7 ∧ ok_T_H (H_to_T sample 7) 7 :=
  ⟨sample_ok_H_T, by unfold ok_T_H ok_T_A ok_T_S ok_S_A ok_A_H; decide +kernel⟩
theorem nv_roundtrip_H_Y : ok_H_Y sample 7 ∧ ok_Y_H (H_to_Y sample 7) 7 :=
  ⟨sample_ok_H_Y, by unfold ok_Y_H; decide +kernel⟩
theorem nv_roundtrip_H_Z : ok_H_Z sample 7 ∧ ok_Z_H (H_to_Z sample 7) 7 :=
  ⟨sample_ok_H_Z, by unfold ok_Z_H; decide +kernel⟩
theorem nv_roundtrip_S_A : ok_S_A sample 7 ∧ ok_A_S (S_to_A sample 7) 7 :=
  ⟨sample_ok_S_A, by unfold ok_A_S; decide +kernel⟩
theorem nv_roundtrip_S_B : ok_S_B sample 7 ∧ ok_B_S (S_to_B sample 7) 7 :=
  ⟨sample_ok_S_B, by unfold ok_B_S ok_B_A ok_A_S; decide +kernel⟩
theorem nv_roundtrip_S_G : ok_S_G sample 7 ∧ ok_G_S (S_to_G sample 7) 7 :=
  ⟨sample_ok_S_G, by unfold ok_G_S ok_G_A ok_A_S; decide +kernel⟩
theorem nv_roundtrip_S_H : ok_S_H sample 7 ∧ ok_H_S (S_to_H sample 7) 7 :=
  ⟨sample_ok_S_H, by unfold ok_H_S ok_H_A ok_A_S; decide +kernel⟩
theorem nv_roundtrip_S_T : ok_S_T sample 7 ∧ ok_T_S (S_to_T sample 7) 7 :=
  ⟨sample_ok_S_T, by unfold ok_T_S; decide +kernel⟩
theorem nv_roundtrip_S_Y : ok_S_Y sample 7 ∧ ok_Y_S (S_to_Y sample 7) 7 :=
  ⟨sample_ok_S_Y, by unfold ok_Y_S ok_Y_A ok_A_S; decide +kernel⟩
theorem nv_roundtrip_S_Z : ok_S_Z sample 7 ∧ ok_Z_S (S_to_Z sample 7) 7 :=
  ⟨sample_ok_S_Z, by unfold ok_Z_S ok_Z_A ok_A_S; decide +kernel⟩
theorem nv_roundtrip_T_A : ok_T_A sample 7 ∧ ok_A_T (T_to_A sample 7) 7 :=
  ⟨sample_ok_T_A, by unfold ok_A_T ok_A_S ok_S_T; decide +kernel⟩
theorem nv_roundtrip_T_B : ok_T_B sample 7 ∧ ok_B_T (T_to_B sample 7) 7 :=
  ⟨sample_ok_T_B, by unfold ok_B_T ok_B_S ok_B_A ok_A_S ok_S_T; decide +kernel⟩
theorem nv_roundtrip_T_G : ok_T_G sample 7 ∧ ok_G_T (T_to_G sample 7) 7 :=
  ⟨sample_ok_T_G, by unfold ok_G_T ok_G_S ok_G_A ok_A_S ok_S_T; decide +kernel⟩
theorem nv_roundtrip_T_H : ok_T_H sample 7 ∧ ok_H_T (T_to_H sample 7) 7 :=
  ⟨sample_ok_T_H, by unfold ok_H_T ok_H_S ok_H_A ok_A_S ok_S_T; decide +kernel⟩
theorem nv_roundtrip_T_S : ok_T_S sample 7 ∧ ok_S_T (T_to_S sample 7) 7 :=
  ⟨sample_ok_T_S, by unfold ok_S_T; decide +kernel⟩
theorem nv_roundtrip_T_Y : ok_T_Y sample 7 ∧ ok_Y_T (T_to_Y sample 7) 7 :=
  ⟨sample_ok_T_Y, by unfold ok_Y_T ok_Y_S ok_Y_A ok_A_S ok_S_T; decide +kernel⟩
theorem nv_roundtrip_T_Z : ok_T_Z sample 7 ∧ ok_Z_T (T_to_Z sample 7) 7 :=
  ⟨sample_ok_T_Z, by unfold ok_Z_T ok_Z_S ok_Z_A ok_A_S ok_S_T; decide +kernel⟩
theorem nv_roundtrip_Y_A : ok_Y_A sample 7 ∧ ok_A_Y (Y_to_A sample 7) 7 :=
  ⟨sample_ok_Y_A, by unfold ok_A_Y; decide +kernel⟩
theorem nv_roundtrip_Y_B : ok_Y_B sample 7 ∧ ok_B_Y (Y_to_B sample 7) 7 :=
  ⟨sample_ok_Y_B, by unfold ok_B_Y; decide +kernel⟩
theorem nv_roundtrip_Y_G : ok_Y_G sample 7 ∧ ok_G_Y (Y_to_G sample 7) 7 :=
  ⟨sample_ok_Y_G, by unfold ok_G_Y ok_G_H ok_H_Y; decide +kernel⟩
theorem nv_roundtrip_Y_H : ok_Y_H sample 7 ∧ ok_H_Y (Y_to_H sample 7) 7 :=
  ⟨sample_ok_Y_H, by unfold ok_H_Y; decide +kernel⟩
theorem nv_roundtrip_Y_S : ok_Y_S sample 7 ∧ ok_S_Y (Y_to_S sample 7) 7 :=
  ⟨sample_ok_Y_S, by unfold ok_S_Y ok_S_Z ok_S_A ok_A_Z; decide +kernel⟩
theorem nv_roundtrip_Y_T : ok_Y_T sample 7 ∧ ok_T_Y (Y_to_T sample 7) 7 :=
  ⟨sample_ok_Y_T, by unfold ok_T_Y ok_T_Z ok_T_A ok_T_S ok_S_A ok_A_Z; decide +kernel⟩
theorem nv_roundtrip_Y_Z : ok_Y_Z sample 7 ∧ ok_Z_Y (Y_to_Z sample 7) 7 :=
  ⟨sample_ok_Y_Z, by unfold ok_Z_Y; decide +kernel⟩
theorem nv_roundtrip_Z_A : ok_Z_A sample 7 ∧ ok_A_Z (Z_to_A sample 7) 7 :=
  ⟨sample_ok_Z_A, by unfold ok_A_Z; decide +kernel⟩
theorem nv_roundtrip_Z_B : ok_Z_B sample 7 ∧ ok_B_Z (Z_to_B sample 7) 7 :=
  ⟨sample_ok_Z_B, by unfold ok_B_Z; decide +kernel⟩
theorem nv_roundtrip_Z_G : ok_Z_G sample 7 ∧ ok_G_Z (Z_to_G sample 7) 7 :=
  ⟨sample_ok_Z_G, by unfold ok_G_Z ok_G_H ok_H_Z; decide +kernel⟩
theorem nv_roundtrip_Z_H : ok_Z_H sample 7 ∧ ok_H_Z (Z_to_H sample 7) 7 :=
  ⟨sample_ok_Z_H, by unfold ok_H_Z; decide +kernel⟩
theorem nv_roundtrip_Z_S : ok_Z_S sample 7 ∧ ok_S_Z (Z_to_S sample 7) 7 :=
  ⟨sample_ok_Z_S, by unfold ok_S_Z ok_S_A ok_A_Z; decide +kernel⟩
theorem nv_roundtrip_Z_T : ok_Z_T sample 7 ∧ ok_T_Z (Z_to_T sample 7) 7 :=
  ⟨sample_ok_Z_T, by unfold ok_T_Z ok_T_A ok_T_S ok_S_A ok_A_Z; decide +kernel⟩
theorem nv_roundtrip_Z_Y : ok_Z_Y sample 7 ∧ ok_Y_Z (Z_to_Y sample 7) 7 :=
  ⟨sample_ok_Z_Y, by unfold ok_Y_Z; decide +kernel⟩
example : (7 : ℚ) ≠ 0 ∧ (2 : ℚ) ≠ 0 := by decide +kernel
/-! ## derived attributes: every `okd_X_attr` holds for the sample -/
theorem nv_okd_A_Z1oc : okd_A_Z1oc sample 7 := by unfold okd_A_Z1oc; decide +kernel
theorem nv_okd_A_Z1sc : okd_A_Z1sc sample 7 := by unfold okd_A_Z1sc; decide +kernel
theorem nv_okd_A_Z2oc : okd_A_Z2oc sample 7 := by unfold okd_A_Z2oc; decide +kernel
theorem nv_okd_A_Z2sc : okd_A_Z2sc sample 7 := by unfold okd_A_Z2sc; decide +kernel
theorem nv_okd_A_Vgain12 : okd_A_Vgain12 sample 7 := by unfold okd_A_Vgain12; decide +kernel
theorem nv_okd_A_Vgain21 : okd_A_Vgain21 sample 7 := by unfold okd_A_Vgain21; decide +kernel
theorem nv_okd_A_Igain12 : okd_A_Igain12 sample 7 := by unfold okd_A_Igain12; decide +kernel
theorem nv_okd_A_Igain21 : okd_A_Igain21 sample 7 := by unfold okd_A_Igain21; decide +kernel
theorem nv_okd_A_forward_transadmittance : okd_A_forward_transadmittance sample 7 := by unfold okd_A_forward_transadmittance; decide +kernel
theorem nv_okd_A_reverse_transadmittance : okd_A_reverse_transadmittance sample 7 := by unfold okd_A_reverse_transadmittance; decide +kernel
theorem nv_okd_A_forward_transimpedance : okd_A_forward_transimpedance sample 7 := sample_ok_A_Z
theorem nv_okd_A_reverse_transimpedance : okd_A_reverse_transimpedance sample 7 := sample_ok_A_Z
theorem nv_okd_A_voltage_gain : okd_A_voltage_gain sample 7 := nv_okd_A_Vgain12
theorem nv_okd_A_forward_voltage_gain : okd_A_forward_voltage_gain sample 7 := nv_okd_A_Vgain12
theorem nv_okd_A_reverse_voltage_gain : okd_A_reverse_voltage_gain sample 7 := nv_okd_A_Vgain21
theorem nv_okd_A_current_gain : okd_A_current_gain sample 7 := nv_okd_A_Igain12
theorem nv_okd_A_forward_current_gain : okd_A_forward_current_gain sample 7 := nv_okd_A_Igain12
theorem nv_okd_A_reverse_current_gain : okd_A_reverse_current_gain sample 7 := nv_okd_A_Igain21
theorem nv_okd_A_transadmittance : okd_A_transadmittance sample 7 := sample_ok_A_Y
theorem nv_okd_A_transimpedance : okd_A_transimpedance sample 7 := sample_ok_A_Z
theorem nv_okd_B_Z1oc : okd_B_Z1oc sample 7 := by unfold okd_B_Z1oc; decide +kernel
theorem nv_okd_B_Z1sc : okd_B_Z1sc sample 7 := by unfold okd_B_Z1sc; decide +kernel
theorem nv_okd_B_Z2oc : okd_B_Z2oc sample 7 := by unfold okd_B_Z2oc; decide +kernel
theorem nv_okd_B_Z2sc : okd_B_Z2sc sample 7 := by unfold okd_B_Z2sc; decide +kernel
theorem nv_okd_B_Vgain12 : okd_B_Vgain12 sample 7 := by unfold okd_B_Vgain12; decide +kernel
theorem nv_okd_B_Vgain21 : okd_B_Vgain21 sample 7 := by unfold okd_B_Vgain21; decide +kernel
theorem nv_okd_B_Igain12 : okd_B_Igain12 sample 7 := by unfold okd_B_Igain12; decide +kernel
theorem nv_okd_B_Igain21 : okd_B_Igain21 sample 7 := by unfold okd_B_Igain21; decide +kernel
theorem nv_okd_B_forward_transadmittance : okd_B_forward_transadmittance sample 7 := by unfold okd_B_forward_transadmittance; decide +kernel
theorem nv_okd_B_reverse_transadmittance : okd_B_reverse_transadmittance sample 7 := by unfold okd_B_reverse_transadmittance; decide +kernel
theorem nv_okd_B_forward_transimpedance : okd_B_forward_transimpedance sample 7 := sample_ok_B_Z
theorem nv_okd_B_reverse_transimpedance : okd_B_reverse_transimpedance sample 7 := sample_ok_B_Z
theorem nv_okd_B_voltage_gain : okd_B_voltage_gain sample 7 := nv_okd_B_Vgain12
theorem nv_okd_B_forward_voltage_gain : okd_B_forward_voltage_gain sample 7 := nv_okd_B_Vgain12
theorem nv_okd_B_reverse_voltage_gain : okd_B_reverse_voltage_gain sample 7 := nv_okd_B_Vgain21
theorem nv_okd_B_current_gain : okd_B_current_gain sample 7 := nv_okd_B_Igain12
theorem nv_okd_B_forward_current_gain : okd_B_forward_current_gain sample 7 := nv_okd_B_Igain12
theorem nv_okd_B_reverse_current_gain : okd_B_reverse_current_gain sample 7 := nv_okd_B_Igain21
theorem nv_okd_B_transadmittance : okd_B_transadmittance sample 7 := sample_ok_B_Y
theorem nv_okd_B_transimpedance : okd_B_transimpedance sample 7 := sample_ok_B_Z
theorem nv_okd_G_Z1oc : okd_G_Z1oc sample 7 := ⟨sample_ok_G_A, by unfold okd_A_Z1oc; decide +kernel⟩
theorem nv_okd_G_Z1sc : okd_G_Z1sc sample 7 := ⟨sample_ok_G_A, by unfold okd_A_Z1sc; decide +kernel⟩
theorem nv_okd_G_Z2oc : okd_G_Z2oc sample 7 := ⟨sample_ok_G_A, by unfold okd_A_Z2oc; decide +kernel⟩
theorem nv_okd_G_Z2sc : okd_G_Z2sc sample 7 := ⟨sample_ok_G_A, by unfold okd_A_Z2sc; decide +kernel⟩
theorem nv_okd_G_Vgain12 : okd_G_Vgain12 sample 7 := ⟨sample_ok_G_A, by unfold okd_A_Vgain12; decide +kernel⟩
theorem nv_okd_G_Vgain21 : okd_G_Vgain21 sample 7 := ⟨sample_ok_G_A, by unfold okd_A_Vgain21; decide +kernel⟩
theorem nv_okd_G_Igain12 : okd_G_Igain12 sample 7 := ⟨sample_ok_G_A, by unfold okd_A_Igain12; decide +kernel⟩
theorem nv_okd_G_Igain21 : okd_G_Igain21 sample 7 := ⟨sample_ok_G_A, by unfold okd_A_Igain21; decide +kernel⟩
theorem nv_okd_G_forward_transadmittance : okd_G_forward_transadmittance sample 7 := sample_ok_G_Y
theorem nv_okd_G_reverse_transadmittance : okd_G_reverse_transadmittance sample 7 := sample_ok_G_Y
theorem nv_okd_G_forward_transimpedance : okd_G_forward_transimpedance sample 7 := sample_ok_G_Z
theorem nv_okd_G_reverse_transimpedance : okd_G_reverse_transimpedance sample 7 := sample_ok_G_Z
theorem nv_okd_G_voltage_gain : okd_G_voltage_gain sample 7 := nv_okd_G_Vgain12
theorem nv_okd_G_forward_voltage_gain : okd_G_forward_voltage_gain sample 7 := nv_okd_G_Vgain12
theorem nv_okd_G_reverse_voltage_gain : okd_G_reverse_voltage_gain sample 7 := nv_okd_G_Vgain21
theorem nv_okd_G_current_gain : okd_G_current_gain sample 7 := nv_okd_G_Igain12
theorem nv_okd_G_forward_current_gain : okd_G_forward_current_gain sample 7 := nv_okd_G_Igain12
theorem nv_okd_G_reverse_current_gain : okd_G_reverse_current_gain sample 7 := nv_okd_G_Igain21
theorem nv_okd_G_transadmittance : okd_G_transadmittance sample 7 := sample_ok_G_Y
theorem nv_okd_G_transimpedance : okd_G_transimpedance sample 7 := sample_ok_G_Z
theorem nv_okd_H_Z1oc : okd_H_Z1oc sample 7 := ⟨sample_ok_H_A, by unfold okd_A_Z1oc; decide +kernel⟩
theorem nv_okd_H_Z1sc : okd_H_Z1sc sample 7 := ⟨sample_ok_H_A, by unfold okd_A_Z1sc; decide +kernel⟩
theorem nv_okd_H_Z2oc : okd_H_Z2oc sample 7 := ⟨sample_ok_H_A, by unfold okd_A_Z2oc; decide +kernel⟩
theorem nv_okd_H_Z2sc : okd_H_Z2sc sample 7 := ⟨sample_ok_H_A, by unfold okd_A_Z2sc; decide +kernel⟩
theorem nv_okd_H_Vgain12 : okd_H_Vgain12 sample 7 := ⟨sample_ok_H_A, by unfold okd_A_Vgain12; decide +kernel⟩
theorem nv_okd_H_Vgain21 : okd_H_Vgain21 sample 7 := ⟨sample_ok_H_A, by unfold okd_A_Vgain21; decide +kernel⟩
theorem nv_okd_H_Igain12 : okd_H_Igain12 sample 7 := ⟨sample_ok_H_A, by unfold okd_A_Igain12; decide +kernel⟩
theorem nv_okd_H_Igain21 : okd_H_Igain21 sample 7 := ⟨sample_ok_H_A, by unfold okd_A_Igain21; decide +kernel⟩
theorem nv_okd_H_forward_transadmittance : okd_H_forward_transadmittance sample 7 := sample_ok_H_Y
theorem nv_okd_H_reverse_transadmittance : okd_H_reverse_transadmittance sample 7 := sample_ok_H_Y
theorem nv_okd_H_forward_transimpedance : okd_H_forward_transimpedance sample 7 := sample_ok_H_Z
theorem nv_okd_H_reverse_transimpedance : okd_H_reverse_transimpedance sample 7 := sample_ok_H_Z
theorem nv_okd_H_voltage_gain : okd_H_voltage_gain sample 7 := nv_okd_H_Vgain12
theorem nv_okd_H_forward_voltage_gain : okd_H_forward_voltage_gain sample 7 := nv_okd_H_Vgain12
theorem nv_okd_H_reverse_voltage_gain : okd_H_reverse_voltage_gain sample 7 := nv_okd_H_Vgain21
theorem nv_okd_H_current_gain : okd_H_current_gain sample 7 := nv_okd_H_Igain12
theorem nv_okd_H_forward_current_gain : okd_H_forward_current_gain sample 7 := nv_okd_H_Igain12
theorem nv_okd_H_reverse_current_gain : okd_H_reverse_current_gain sample 7 := nv_okd_H_Igain21
theorem nv_okd_H_transadmittance : okd_H_transadmittance sample 7 := sample_ok_H_Y
theorem nv_okd_H_transimpedance : okd_H_transimpedance sample 7 := sample_ok_H_Z
theorem nv_okd_S_Z1oc : okd_S_Z1oc sample 7 := ⟨sample_ok_S_A, by unfold okd_A_Z1oc; decide +kernel⟩
theorem nv_okd_S_Z1sc : okd_S_Z1sc sample 7 := ⟨sample_ok_S_A, by unfold okd_A_Z1sc; decide +kernel⟩
theorem nv_okd_S_Z2oc : okd_S_Z2oc sample 7 := ⟨sample_ok_S_A, by unfold okd_A_Z2oc; decide +kernel⟩
theorem nv_okd_S_Z2sc : okd_S_Z2sc sample 7 := ⟨sample_ok_S_A, by unfold okd_A_Z2sc; decide +kernel⟩
theorem nv_okd_S_Vgain12 : okd_S_Vgain12 sample 7 := ⟨sample_ok_S_A, by unfold okd_A_Vgain12; decide +kernel⟩
theorem nv_okd_S_Vgain21 : okd_S_Vgain21 sample 7 := ⟨sample_ok_S_A, by unfold okd_A_Vgain21; decide +kernel⟩
theorem nv_okd_S_Igain12 : okd_S_Igain12 sample 7 := ⟨sample_ok_S_A, by unfold okd_A_Igain12; decide +kernel⟩
theorem nv_okd_S_Igain21 : okd_S_Igain21 sample 7 := ⟨sample_ok_S_A, by unfold okd_A_Igain21; decide +kernel⟩
theorem nv_okd_S_forward_transadmittance : okd_S_forward_transadmittance sample 7 := sample_ok_S_Y
theorem nv_okd_S_reverse_transadmittance : okd_S_reverse_transadmittance sample 7 := sample_ok_S_Y
theorem nv_okd_S_forward_transimpedance : okd_S_forward_transimpedance sample 7 := sample_ok_S_Z
theorem nv_okd_S_reverse_transimpedance : okd_S_reverse_transimpedance sample 7 := sample_ok_S_Z
theorem nv_okd_S_voltage_gain : okd_S_voltage_gain sample 7 := nv_okd_S_Vgain12
theorem nv_okd_S_forward_voltage_gain : okd_S_forward_voltage_gain sample 7 := nv_okd_S_Vgain12
theorem nv_okd_S_reverse_voltage_gain : okd_S_reverse_voltage_gain sample 7 := nv_okd_S_Vgain21
theorem nv_okd_S_current_gain : okd_S_current_gain sample 7 := nv_okd_S_Igain12
theorem nv_okd_S_forward_current_gain : okd_S_forward_current_gain sample 7 := nv_okd_S_Igain12
theorem nv_okd_S_reverse_current_gain : okd_S_reverse_current_gain sample 7 := nv_okd_S_Igain21
theorem nv_okd_S_transadmittance : okd_S_transadmittance sample 7 := sample_ok_S_Y
theorem nv_okd_S_transimpedance : okd_S_transimpedance sample 7 := sample_ok_S_Z
theorem nv_okd_T_Z1oc : okd_T_Z1oc sample 7 := ⟨sample_ok_T_A, by unfold okd_A_Z1oc; decide +kernel⟩
theorem nv_okd_T_Z1sc : okd_T_Z1sc sample 7 := ⟨sample_ok_T_A, by unfold okd_A_Z1sc; decide +kernel⟩
theorem nv_okd_T_Z2oc : okd_T_Z2oc sample 7 := ⟨sample_ok_T_A, by unfold okd_A_Z2oc; decide +kernel⟩
theorem nv_okd_T_Z2sc : okd_T_Z2sc sample 7 := ⟨sample_ok_T_A, by unfold okd_A_Z2sc; decide +kernel⟩
theorem nv_okd_T_Vgain12 : okd_T_Vgain12 sample 7 := ⟨sample_ok_T_A, by unfold okd_A_Vgain12; decide +kernel⟩
theorem nv_okd_T_Vgain21 : okd_T_Vgain21 sample 7 := ⟨sample_ok_T_A, by unfold okd_A_Vgain21; decide +kernel⟩
theorem nv_okd_T_Igain12 : okd_T_Igain12 sample 7 := ⟨sample_ok_T_A, by unfold okd_A_Igain12; decide +kernel⟩
theorem nv_okd_T_Igain21 : okd_T_Igain21 sample 7 := ⟨sample_ok_T_A, by unfold okd_A_Igain21; decide +kernel⟩
theorem nv_okd_T_forward_transadmittance : okd_T_forward_transadmittance sample 7 := sample_ok_T_Y
theorem nv_okd_T_reverse_transadmittance : okd_T_reverse_transadmittance sample 7 := sample_ok_T_Y
theorem nv_okd_T_forward_transimpedance : okd_T_forward_transimpedance sample 7 := sample_ok_T_Z
theorem nv_okd_T_reverse_transimpedance : okd_T_reverse_transimpedance sample 7 := sample_ok_T_Z
theorem nv_okd_T_voltage_gain : okd_T_voltage_gain sample 7 := nv_okd_T_Vgain12
theorem nv_okd_T_forward_voltage_gain : okd_T_forward_voltage_gain sample 7 := nv_okd_T_Vgain12
theorem nv_okd_T_reverse_voltage_gain : okd_T_reverse_voltage_gain sample 7 := nv_okd_T_Vgain21
theorem nv_okd_T_current_gain : okd_T_current_gain sample 7 := nv_okd_T_Igain12
theorem nv_okd_T_forward_current_gain : okd_T_forward_current_gain sample 7 := nv_okd_T_Igain12
theorem nv_okd_T_reverse_current_gain : okd_T_reverse_current_gain sample 7 := nv_okd_T_Igain21
theorem nv_okd_T_transadmittance : okd_T_transadmittance sample 7 := sample_ok_T_Y
theorem nv_okd_T_transimpedance : okd_T_transimpedance sample 7 := sample_ok_T_Z
theorem nv_okd_Y_Z1oc : okd_Y_Z1oc sample 7 := ⟨sample_ok_Y_A, by unfold okd_A_Z1oc; decide +kernel⟩
theorem nv_okd_Y_Z1sc : okd_Y_Z1sc sample 7 := by unfold okd_Y_Z1sc; decide +kernel
theorem nv_okd_Y_Z2oc : okd_Y_Z2oc sample 7 := ⟨sample_ok_Y_A, by unfold okd_A_Z2oc; decide +kernel⟩
theorem nv_okd_Y_Z2sc : okd_Y_Z2sc sample 7 := by unfold okd_Y_Z2sc; decide +kernel
theorem nv_okd_Y_Vgain12 : okd_Y_Vgain12 sample 7 := by unfold okd_Y_Vgain12; decide +kernel
theorem nv_okd_Y_Vgain21 : okd_Y_Vgain21 sample 7 := by unfold okd_Y_Vgain21; decide +kernel
theorem nv_okd_Y_Igain12 : okd_Y_Igain12 sample 7 := by unfold okd_Y_Igain12; decide +kernel
theorem nv_okd_Y_Igain21 : okd_Y_Igain21 sample 7 := by unfold okd_Y_Igain21; decide +kernel
theorem nv_okd_Y_forward_transadmittance : okd_Y_forward_transadmittance sample 7 := trivial
theorem nv_okd_Y_reverse_transadmittance : okd_Y_reverse_transadmittance sample 7 := trivial
theorem nv_okd_Y_forward_transimpedance : okd_Y_forward_transimpedance sample 7 := sample_ok_Y_Z
theorem nv_okd_Y_reverse_transimpedance : okd_Y_reverse_transimpedance sample 7 := sample_ok_Y_Z
theorem nv_okd_Y_voltage_gain : okd_Y_voltage_gain sample 7 := nv_okd_Y_Vgain12
theorem nv_okd_Y_forward_voltage_gain : okd_Y_forward_voltage_gain sample 7 := nv_okd_Y_Vgain12
theorem nv_okd_Y_reverse_voltage_gain : okd_Y_reverse_voltage_gain sample 7 := nv_okd_Y_Vgain21
theorem nv_okd_Y_current_gain : okd_Y_current_gain sample 7 := nv_okd_Y_Igain12
theorem nv_okd_Y_forward_current_gain : okd_Y_forward_current_gain sample 7 := nv_okd_Y_Igain12
theorem nv_okd_Y_reverse_current_gain : okd_Y_reverse_current_gain sample 7 := nv_okd_Y_Igain21
theorem nv_okd_Y_transadmittance : okd_Y_transadmittance sample 7 := trivial
theorem nv_okd_Y_transimpedance : okd_Y_transimpedance sample 7 := sample_ok_Y_Z
theorem nv_okd_Z_Z1oc : okd_Z_Z1oc sample 7 := trivial
theorem nv_okd_Z_Z1sc : okd_Z_Z1sc sample 7 := ⟨sample_ok_Z_A, by unfold okd_A_Z1sc; decide +kernel⟩
theorem nv_okd_Z_Z2oc : okd_Z_Z2oc sample 7 := trivial
theorem nv_okd_Z_Z2sc : okd_Z_Z2sc sample 7 := ⟨sample_ok_Z_A, by unfold okd_A_Z2sc; decide +kernel⟩
theorem nv_okd_Z_Vgain12 : okd_Z_Vgain12 sample 7 := by unfold okd_Z_Vgain12; decide +kernel
theorem nv_okd_Z_Vgain21 : okd_Z_Vgain21 sample 7 := by unfold okd_Z_Vgain21; decide +kernel
theorem nv_okd_Z_Igain12 : okd_Z_Igain12 sample 7 := by unfold okd_Z_Igain12; decide +kernel
theorem nv_okd_Z_Igain21 : okd_Z_Igain21 sample 7 := by unfold okd_Z_Igain21; decide +kernel
theorem nv_okd_Z_forward_transadmittance : okd_Z_forward_transadmittance sample 7 := sample_ok_Z_Y
theorem nv_okd_Z_reverse_transadmittance : okd_Z_reverse_transadmittance sample 7 := sample_ok_Z_Y
theorem nv_okd_Z_forward_transimpedance : okd_Z_forward_transimpedance sample 7 := trivial
theorem nv_okd_Z_reverse_transimpedance : okd_Z_reverse_transimpedance sample 7 := trivial
theorem nv_okd_Z_voltage_gain : okd_Z_voltage_gain sample 7 := nv_okd_Z_Vgain12
theorem nv_okd_Z_forward_voltage_gain : okd_Z_forward_voltage_gain sample 7 := nv_okd_Z_Vgain12
theorem nv_okd_Z_reverse_voltage_gain : okd_Z_reverse_voltage_gain sample 7 := nv_okd_Z_Vgain21
theorem nv_okd_Z_current_gain : okd_Z_current_gain sample 7 := nv_okd_Z_Igain12
theorem nv_okd_Z_forward_current_gain : okd_Z_forward_current_gain sample 7 := nv_okd_Z_Igain12
theorem nv_okd_Z_reverse_current_gain : okd_Z_reverse_current_gain sample 7 := nv_okd_Z_Igain21
theorem nv_okd_Z_transadmittance : okd_Z_transadmittance sample 7 := sample_ok_Z_Y
theorem nv_okd_Z_transimpedance : okd_Z_transimpedance sample 7 := trivial

/-! ## derived attributes are PINNED by their port definition

  `DerivedSound X d q ok` only says `rel X m p → d.holds (q m) p`, and `d.holds q p` is an implication
  (`p.I2 = 0 → p.V1 = q * p.I1` …).  It determines the value of `q m Z0` exactly when some port of the two-port
  meets the premise with a NON-ZERO input variable.  Below: a generic uniqueness lemma and, for the sample and
  each of the 8 × 12 (representation, attribute) pairs, such a port.  Hence every `X_attr_sound` theorem of
  Props/C08.lean fixes the value of the attribute (a wrong formula could not satisfy it). -/

def premise : Derived → Port ℚ → ℚ
  | .Z1oc, p => p.I2 | .Z1sc, p => p.V2 | .Z2oc, p => p.I1 | .Z2sc, p => p.V1
  | .Vgain12, p => p.I2 | .Vgain21, p => p.I1 | .Igain12, p => p.V2 | .Igain21, p => p.V1
  | .fwdTransadmittance, p => p.V2 | .revTransadmittance, p => p.V1
  | .fwdTransimpedance, p => p.I2 | .revTransimpedance, p => p.I1
def outVar : Derived → Port ℚ → ℚ
  | .Z1oc, p => p.V1 | .Z1sc, p => p.V1 | .Z2oc, p => p.V2 | .Z2sc, p => p.V2
  | .Vgain12, p => p.V2 | .Vgain21, p => p.V1 | .Igain12, p => p.I2 | .Igain21, p => p.I1
  | .fwdTransadmittance, p => p.I2 | .revTransadmittance, p => p.I1
  | .fwdTransimpedance, p => p.V2 | .revTransimpedance, p => p.V1
def inVar : Derived → Port ℚ → ℚ
  | .Z1oc, p => p.I1 | .Z1sc, p => p.I1 | .Z2oc, p => p.I2 | .Z2sc, p => p.I2
  | .Vgain12, p => p.V1 | .Vgain21, p => p.V2 | .Igain12, p => p.I1 | .Igain21, p => p.I2
  | .fwdTransadmittance, p => p.V1 | .revTransadmittance, p => p.V2
  | .fwdTransimpedance, p => p.I1 | .revTransimpedance, p => p.I2

theorem holds_iff (d : Derived) (q : ℚ) (p : Port ℚ) : d.holds q p ↔ (premise d p = 0 → outVar d p = q * inVar d p) := by
  cases d <;> exact Iff.rfl

/-- the port `p` of the sample two-port (representation `X`) meets the premise of `d` with input variable 1 -/
def Pins (X : Rep) (d : Derived) (p : Port ℚ) : Prop := rel X sample 7 p ∧ premise d p = 0 ∧ inVar d p = 1

/-- a derived-attribute soundness theorem determines the value on the sample: it is the ratio on the pinning port -/
theorem derived_value_pinned {X : Rep} {d : Derived} {q : M2 ℚ → ℚ → ℚ} {ok : M2 ℚ → ℚ → Prop}
    (h : DerivedSound X d q ok) (hok : ok sample 7) {p : Port ℚ} (hp : Pins X d p) : q sample 7 = outVar d p := by
  have := (holds_iff d _ p).mp (h sample 7 p hok hp.1) hp.2.1
  rw [hp.2.2, mul_one] at this
  exact this.symm


instance (X : Rep) (d : Derived) (p : Port ℚ) : Decidable (Pins X d p) := by unfold Pins; infer_instance

theorem pin_A_Z1oc : Pins .A .Z1oc (⟨(2/5), 1, (1/5), 0⟩ : Port ℚ) := by decide +kernel
theorem pin_A_Z1sc : Pins .A .Z1sc (⟨(3/11), 1, 0, (-1/11)⟩ : Port ℚ) := by decide +kernel
theorem pin_A_Z2oc : Pins .A .Z2oc (⟨(7/5), 0, (11/5), 1⟩ : Port ℚ) := by decide +kernel
theorem pin_A_Z2sc : Pins .A .Z2sc (⟨0, (-7/2), (3/2), 1⟩ : Port ℚ) := by decide +kernel
theorem pin_A_Vgain12 : Pins .A .Vgain12 (⟨1, (5/2), (1/2), 0⟩ : Port ℚ) := by decide +kernel
theorem pin_A_Vgain21 : Pins .A .Vgain21 (⟨(7/11), 0, 1, (5/11)⟩ : Port ℚ) := by decide +kernel
theorem pin_A_Igain12 : Pins .A .Igain12 (⟨(3/11), 1, 0, (-1/11)⟩ : Port ℚ) := by decide +kernel
theorem pin_A_Igain21 : Pins .A .Igain21 (⟨0, (-7/2), (3/2), 1⟩ : Port ℚ) := by decide +kernel
theorem pin_A_fwdTransadmittance : Pins .A .fwdTransadmittance (⟨1, (11/3), 0, (-1/3)⟩ : Port ℚ) := by decide +kernel
theorem pin_A_revTransadmittance : Pins .A .revTransadmittance (⟨0, (-7/3), 1, (2/3)⟩ : Port ℚ) := by decide +kernel
theorem pin_A_fwdTransimpedance : Pins .A .fwdTransimpedance (⟨(2/5), 1, (1/5), 0⟩ : Port ℚ) := by decide +kernel
theorem pin_A_revTransimpedance : Pins .A .revTransimpedance (⟨(7/5), 0, (11/5), 1⟩ : Port ℚ) := by decide +kernel
theorem pin_B_Z1oc : Pins .B .Z1oc (⟨(-11/5), 1, (-7/5), 0⟩ : Port ℚ) := by decide +kernel
theorem pin_B_Z1sc : Pins .B .Z1sc (⟨(-3/2), 1, 0, (-7/2)⟩ : Port ℚ) := by decide +kernel
theorem pin_B_Z2oc : Pins .B .Z2oc (⟨(-1/5), 0, (-2/5), 1⟩ : Port ℚ) := by decide +kernel
theorem pin_B_Z2sc : Pins .B .Z2sc (⟨0, (-1/11), (-3/11), 1⟩ : Port ℚ) := by decide +kernel
theorem pin_B_Vgain12 : Pins .B .Vgain12 (⟨1, (-5/11), (7/11), 0⟩ : Port ℚ) := by decide +kernel
theorem pin_B_Vgain21 : Pins .B .Vgain21 (⟨(1/2), 0, 1, (-5/2)⟩ : Port ℚ) := by decide +kernel
theorem pin_B_Igain12 : Pins .B .Igain12 (⟨(-3/2), 1, 0, (-7/2)⟩ : Port ℚ) := by decide +kernel
theorem pin_B_Igain21 : Pins .B .Igain21 (⟨0, (-1/11), (-3/11), 1⟩ : Port ℚ) := by decide +kernel
theorem pin_B_fwdTransadmittance : Pins .B .fwdTransadmittance (⟨1, (-2/3), 0, (7/3)⟩ : Port ℚ) := by decide +kernel
theorem pin_B_revTransadmittance : Pins .B .revTransadmittance (⟨0, (1/3), 1, (-11/3)⟩ : Port ℚ) := by decide +kernel
theorem pin_B_fwdTransimpedance : Pins .B .fwdTransimpedance (⟨(-11/5), 1, (-7/5), 0⟩ : Port ℚ) := by decide +kernel
theorem pin_B_revTransimpedance : Pins .B .revTransimpedance (⟨(-1/5), 0, (-2/5), 1⟩ : Port ℚ) := by decide +kernel
theorem pin_G_Z1oc : Pins .G .Z1oc (⟨(1/2), 1, (5/2), 0⟩ : Port ℚ) := by decide +kernel
theorem pin_G_Z1sc : Pins .G .Z1sc (⟨(11/7), 1, 0, (-5/7)⟩ : Port ℚ) := by decide +kernel
theorem pin_G_Z2oc : Pins .G .Z2oc (⟨(-3/2), 0, (7/2), 1⟩ : Port ℚ) := by decide +kernel
theorem pin_G_Z2sc : Pins .G .Z2sc (⟨0, 3, 11, 1⟩ : Port ℚ) := by decide +kernel
theorem pin_G_Vgain12 : Pins .G .Vgain12 (⟨1, 2, 5, 0⟩ : Port ℚ) := by decide +kernel
theorem pin_G_Vgain21 : Pins .G .Vgain21 (⟨(-3/7), 0, 1, (2/7)⟩ : Port ℚ) := by decide +kernel
theorem pin_G_Igain12 : Pins .G .Igain12 (⟨(11/7), 1, 0, (-5/7)⟩ : Port ℚ) := by decide +kernel
theorem pin_G_Igain21 : Pins .G .Igain21 (⟨0, 3, 11, 1⟩ : Port ℚ) := by decide +kernel
theorem pin_G_fwdTransadmittance : Pins .G .fwdTransadmittance (⟨1, (7/11), 0, (-5/11)⟩ : Port ℚ) := by decide +kernel
theorem pin_G_revTransadmittance : Pins .G .revTransadmittance (⟨0, (3/11), 1, (1/11)⟩ : Port ℚ) := by decide +kernel
theorem pin_G_fwdTransimpedance : Pins .G .fwdTransimpedance (⟨(1/2), 1, (5/2), 0⟩ : Port ℚ) := by decide +kernel
theorem pin_G_revTransimpedance : Pins .G .revTransimpedance (⟨(-3/2), 0, (7/2), 1⟩ : Port ℚ) := by decide +kernel
theorem pin_H_Z1oc : Pins .H .Z1oc (⟨(7/11), 1, (-5/11), 0⟩ : Port ℚ) := by decide +kernel
theorem pin_H_Z1sc : Pins .H .Z1sc (⟨2, 1, 0, 5⟩ : Port ℚ) := by decide +kernel
theorem pin_H_Z2oc : Pins .H .Z2oc (⟨(3/11), 0, (1/11), 1⟩ : Port ℚ) := by decide +kernel
theorem pin_H_Z2sc : Pins .H .Z2sc (⟨0, (-3/7), (2/7), 1⟩ : Port ℚ) := by decide +kernel
theorem pin_H_Vgain12 : Pins .H .Vgain12 (⟨1, (11/7), (-5/7), 0⟩ : Port ℚ) := by decide +kernel
theorem pin_H_Vgain21 : Pins .H .Vgain21 (⟨3, 0, 1, 11⟩ : Port ℚ) := by decide +kernel
theorem pin_H_Igain12 : Pins .H .Igain12 (⟨2, 1, 0, 5⟩ : Port ℚ) := by decide +kernel
theorem pin_H_Igain21 : Pins .H .Igain21 (⟨0, (-3/7), (2/7), 1⟩ : Port ℚ) := by decide +kernel
theorem pin_H_fwdTransadmittance : Pins .H .fwdTransadmittance (⟨1, (1/2), 0, (5/2)⟩ : Port ℚ) := by decide +kernel
theorem pin_H_revTransadmittance : Pins .H .revTransadmittance (⟨0, (-3/2), 1, (7/2)⟩ : Port ℚ) := by decide +kernel
theorem pin_H_fwdTransimpedance : Pins .H .fwdTransimpedance (⟨(7/11), 1, (-5/11), 0⟩ : Port ℚ) := by decide +kernel
theorem pin_H_revTransimpedance : Pins .H .revTransimpedance (⟨(3/11), 0, (1/11), 1⟩ : Port ℚ) := by decide +kernel
theorem pin_Y_Z1oc : Pins .Y .Z1oc (⟨(11/7), 1, (-5/7), 0⟩ : Port ℚ) := by decide +kernel
theorem pin_Y_Z1sc : Pins .Y .Z1sc (⟨(1/2), 1, 0, (5/2)⟩ : Port ℚ) := by decide +kernel
theorem pin_Y_Z2oc : Pins .Y .Z2oc (⟨(-3/7), 0, (2/7), 1⟩ : Port ℚ) := by decide +kernel
theorem pin_Y_Z2sc : Pins .Y .Z2sc (⟨0, (3/11), (1/11), 1⟩ : Port ℚ) := by decide +kernel
theorem pin_Y_Vgain12 : Pins .Y .Vgain12 (⟨1, (7/11), (-5/11), 0⟩ : Port ℚ) := by decide +kernel
theorem pin_Y_Vgain21 : Pins .Y .Vgain21 (⟨(-3/2), 0, 1, (7/2)⟩ : Port ℚ) := by decide +kernel
theorem pin_Y_Igain12 : Pins .Y .Igain12 (⟨(1/2), 1, 0, (5/2)⟩ : Port ℚ) := by decide +kernel
theorem pin_Y_Igain21 : Pins .Y .Igain21 (⟨0, (3/11), (1/11), 1⟩ : Port ℚ) := by decide +kernel
theorem pin_Y_fwdTransadmittance : Pins .Y .fwdTransadmittance (⟨1, 2, 0, 5⟩ : Port ℚ) := by decide +kernel
theorem pin_Y_revTransadmittance : Pins .Y .revTransadmittance (⟨0, 3, 1, 11⟩ : Port ℚ) := by decide +kernel
theorem pin_Y_fwdTransimpedance : Pins .Y .fwdTransimpedance (⟨(11/7), 1, (-5/7), 0⟩ : Port ℚ) := by decide +kernel
theorem pin_Y_revTransimpedance : Pins .Y .revTransimpedance (⟨(-3/7), 0, (2/7), 1⟩ : Port ℚ) := by decide +kernel
theorem pin_Z_Z1oc : Pins .Z .Z1oc (⟨2, 1, 5, 0⟩ : Port ℚ) := by decide +kernel
theorem pin_Z_Z1sc : Pins .Z .Z1sc (⟨(7/11), 1, 0, (-5/11)⟩ : Port ℚ) := by decide +kernel
theorem pin_Z_Z2oc : Pins .Z .Z2oc (⟨3, 0, 11, 1⟩ : Port ℚ) := by decide +kernel
theorem pin_Z_Z2sc : Pins .Z .Z2sc (⟨0, (-3/2), (7/2), 1⟩ : Port ℚ) := by decide +kernel
theorem pin_Z_Vgain12 : Pins .Z .Vgain12 (⟨1, (1/2), (5/2), 0⟩ : Port ℚ) := by decide +kernel
theorem pin_Z_Vgain21 : Pins .Z .Vgain21 (⟨(3/11), 0, 1, (1/11)⟩ : Port ℚ) := by decide +kernel
theorem pin_Z_Igain12 : Pins .Z .Igain12 (⟨(7/11), 1, 0, (-5/11)⟩ : Port ℚ) := by decide +kernel
theorem pin_Z_Igain21 : Pins .Z .Igain21 (⟨0, (-3/2), (7/2), 1⟩ : Port ℚ) := by decide +kernel
theorem pin_Z_fwdTransadmittance : Pins .Z .fwdTransadmittance (⟨1, (11/7), 0, (-5/7)⟩ : Port ℚ) := by decide +kernel
theorem pin_Z_revTransadmittance : Pins .Z .revTransadmittance (⟨0, (-3/7), 1, (2/7)⟩ : Port ℚ) := by decide +kernel
theorem pin_Z_fwdTransimpedance : Pins .Z .fwdTransimpedance (⟨2, 1, 5, 0⟩ : Port ℚ) := by decide +kernel
theorem pin_Z_revTransimpedance : Pins .Z .revTransimpedance (⟨3, 0, 11, 1⟩ : Port ℚ) := by decide +kernel
theorem pin_S_Z1oc : Pins .S .Z1oc (⟨21, 1, (-14), 0⟩ : Port ℚ) := by decide +kernel
theorem pin_S_Z1sc : Pins .S .Z1sc (⟨49, 1, 0, (-10/3)⟩ : Port ℚ) := by decide +kernel
theorem pin_S_Z2oc : Pins .S .Z2oc (⟨(-42/5), 0, (-21/5), 1⟩ : Port ℚ) := by decide +kernel
theorem pin_S_Z2sc : Pins .S .Z2sc (⟨0, (2/5), (-49/5), 1⟩ : Port ℚ) := by decide +kernel
theorem pin_S_Vgain12 : Pins .S .Vgain12 (⟨1, (1/21), (-2/3), 0⟩ : Port ℚ) := by decide +kernel
theorem pin_S_Vgain21 : Pins .S .Vgain21 (⟨2, 0, 1, (-5/21)⟩ : Port ℚ) := by decide +kernel
theorem pin_S_Igain12 : Pins .S .Igain12 (⟨49, 1, 0, (-10/3)⟩ : Port ℚ) := by decide +kernel
theorem pin_S_Igain21 : Pins .S .Igain21 (⟨0, (2/5), (-49/5), 1⟩ : Port ℚ) := by decide +kernel
theorem pin_S_fwdTransadmittance : Pins .S .fwdTransadmittance (⟨1, (1/49), 0, (-10/147)⟩ : Port ℚ) := by decide +kernel
theorem pin_S_revTransadmittance : Pins .S .revTransadmittance (⟨0, (-2/49), 1, (-5/49)⟩ : Port ℚ) := by decide +kernel
theorem pin_S_fwdTransimpedance : Pins .S .fwdTransimpedance (⟨21, 1, (-14), 0⟩ : Port ℚ) := by decide +kernel
theorem pin_S_revTransimpedance : Pins .S .revTransimpedance (⟨(-42/5), 0, (-21/5), 1⟩ : Port ℚ) := by decide +kernel
theorem pin_T_Z1oc : Pins .T .Z1oc (⟨(147/11), 1, (14/11), 0⟩ : Port ℚ) := by decide +kernel
theorem pin_T_Z1sc : Pins .T .Z1sc (⟨(49/5), 1, 0, (-2/5)⟩ : Port ℚ) := by decide +kernel
theorem pin_T_Z2oc : Pins .T .Z2oc (⟨(98/11), 0, (35/11), 1⟩ : Port ℚ) := by decide +kernel
theorem pin_T_Z2sc : Pins .T .Z2sc (⟨0, (-2/3), (7/3), 1⟩ : Port ℚ) := by decide +kernel
theorem pin_T_Vgain12 : Pins .T .Vgain12 (⟨1, (11/147), (2/21), 0⟩ : Port ℚ) := by decide +kernel
theorem pin_T_Vgain21 : Pins .T .Vgain21 (⟨(14/5), 0, 1, (11/35)⟩ : Port ℚ) := by decide +kernel
theorem pin_T_Igain12 : Pins .T .Igain12 (⟨(49/5), 1, 0, (-2/5)⟩ : Port ℚ) := by decide +kernel
theorem pin_T_Igain21 : Pins .T .Igain21 (⟨0, (-2/3), (7/3), 1⟩ : Port ℚ) := by decide +kernel
theorem pin_T_fwdTransadmittance : Pins .T .fwdTransadmittance (⟨1, (5/49), 0, (-2/49)⟩ : Port ℚ) := by decide +kernel
theorem pin_T_revTransadmittance : Pins .T .revTransadmittance (⟨0, (-2/7), 1, (3/7)⟩ : Port ℚ) := by decide +kernel
theorem pin_T_fwdTransimpedance : Pins .T .fwdTransimpedance (⟨(147/11), 1, (14/11), 0⟩ : Port ℚ) := by decide +kernel
theorem pin_T_revTransimpedance : Pins .T .revTransimpedance (⟨(98/11), 0, (35/11), 1⟩ : Port ℚ) := by decide +kernel

/-- an instance of the clause "the same value whichever representation it is computed from" (`attr_agree` in
    Props/C08.lean): Z1oc computed from A and from Z (after conversion) agree on the sample -/
example : A_Z1oc sample 7 = Z_Z1oc (A_to_Z sample 7) 7 := by decide +kernel

/-- the value that `A_Z1oc_sound` pins: a11/a21 = 2/5 -/
example : A_Z1oc sample 7 = 2 / 5 := by
  rw [derived_value_pinned A_Z1oc_sound nv_okd_A_Z1oc pin_A_Z1oc]; rfl

/-! ## remaining theorems with hypotheses -/

/-- `inv_pair` / `SoundConv.thenInv`: a listed pair and det ≠ 0 -/
example : (Rep.G, Rep.H) ∈ [(Rep.A, Rep.B), (.B, .A), (.G, .H), (.H, .G), (.Y, .Z), (.Z, .Y)] ∧ sample.det ≠ 0 := by
  decide +kernel

/-- `entry_sound`: a port of the Y two-port `sample` with V2 = 0 and V1 = 1 (so the entry a21 = 5 is read off) -/
example : rel .Y sample 7 (⟨1, 2, 0, 5⟩ : Port ℚ) ∧ (Derived.fwdTransadmittance).holds (M2.a21 sample) (⟨1, 2, 0, 5⟩ : Port ℚ) := by
  decide +kernel

/-- `A_chain_sound`, `A_cascade_sound`, `A_chain_complete`: a cascade of two A stages with a non-trivial intermediate port -/
def stA : M2 ℚ := ⟨2, 3, 5, 11⟩
def stB : M2 ℚ := ⟨1, 4, 0, 1⟩
def pA : Port ℚ := ⟨2 * 9 + 3 * 2, 5 * 9 + 11 * 2, 9, -2⟩      -- V2 = 9, -I2 = 2
def pB : Port ℚ := ⟨9, 2, 1, -2⟩                               -- V1 = 1*1 + 4*2, I1 = 2
def pR : Port ℚ := ⟨pA.V1, pA.I1, pB.V2, pB.I2⟩
theorem nv_A_chain_sound : Lcapy.C08.Cascade pA pB pR ∧ rel .A stA 7 pA ∧ rel .A stB 7 pB := by
  unfold Cascade; decide +kernel
example : rel .A (A_chain stA stB) 7 pR := A_chain_sound stA stB 7 pA pB pR nv_A_chain_sound.1 nv_A_chain_sound.2.1 nv_A_chain_sound.2.2

/-- `B_chain_sound`, `B_cascade_sound` -/
def qA : Port ℚ := ⟨1, 2, 2 * 1 + 3 * 2, -(5 * 1 + 11 * 2)⟩    -- B: (V2, -I2) = m (V1, I1)
def qB : Port ℚ := ⟨8, 27, 1 * 8 + 4 * 27, -(0 * 8 + 1 * 27)⟩
def qR : Port ℚ := ⟨qA.V1, qA.I1, qB.V2, qB.I2⟩
theorem nv_B_chain_sound : Lcapy.C08.Cascade qA qB qR ∧ rel .B stA 7 qA ∧ rel .B stB 7 qB := by
  unfold Cascade; decide +kernel

/-- `A_chain3_sound`: three stages -/
def stC : M2 ℚ := ⟨1, 0, 3, 1⟩
def p3C : Port ℚ := ⟨1, 3 * 1 + 1 * 2, 1, -2⟩                   -- V2 = 1, -I2 = 2: V1 = 1, I1 = 5
def p3B : Port ℚ := ⟨1 * 1 + 4 * 5, 5, 1, -5⟩                   -- V2 = 1, -I2 = 5
def p3A : Port ℚ := ⟨2 * 21 + 3 * 5, 5 * 21 + 11 * 5, 21, -5⟩
def p3S : Port ℚ := ⟨p3A.V1, p3A.I1, p3B.V2, p3B.I2⟩
def p3T : Port ℚ := ⟨p3S.V1, p3S.I1, p3C.V2, p3C.I2⟩
theorem nv_A_chain3_sound : Lcapy.C08.Cascade p3A p3B p3S ∧ Lcapy.C08.Cascade p3S p3C p3T ∧
    rel .A stA 7 p3A ∧ rel .A stB 7 p3B ∧ rel .A stC 7 p3C := by
  unfold Cascade; decide +kernel

end Lcapy.NonVacuity.C08
