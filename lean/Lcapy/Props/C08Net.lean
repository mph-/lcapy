/-
  PROPERTY C08, TwoPort NETWORK level: property theorems with the side conditions they are stated
  under and non-vacuity examples; the lemmas about affine port relations are in Lcapy/Proofs/TwoPortNet.lean.

  Every definition named `TPN_…`, `equationVectors`, `modelVectors`, `modelSources` is GENERATED from
  /repo/lcapy/twoport.py on every run (Lcapy/Generated/TwoPortNet.lean, harness/translate/tx_tpnet.py).
-/
import Lcapy.Proofs.TwoPortNet
import Lcapy.Spec.TwoPortNetExec
namespace Lcapy.C08
open Lcapy Lcapy.Spec Lcapy.Gen Lcapy.TwoPort
variable {K : Type} [Field K]

/-! ## 0. The code's equations are the spec's -/

/-- `XMatrix.equation()` of all eight classes, with the sign of every entry -/
theorem equationVectors_match : Gen.equationVectors = Spec.relVectorsRaw := by decide

/-- (definition check, `Iff.rfl` per case: two spellings of the SPEC, no claim about the code) the spec
    relation is the evaluation of those vectors: `lhs = M * rhs` -/
theorem rel_eq_relVec (X : Rep) (m : M2 K) (Z0 : K) (p : Port K) : rel X m Z0 p ↔ relVec X m Z0 p := by
  cases X <;> exact Iff.rfl

/-- … so what `X.equation()` states, read on a port, is exactly `rel X` -/
theorem equation_is_rel (X : Rep) :
    (Gen.equationVectors.lookup X.name =
      some ([(relVectors X).1.1.raw, (relVectors X).1.2.raw], [(relVectors X).2.1.raw, (relVectors X).2.2.raw])) ∧
    ∀ (m : M2 K) (Z0 : K) (p : Port K), rel X m Z0 p ↔
      lin m ((relVectors X).1.1.eval Z0 p) ((relVectors X).1.2.eval Z0 p)
            ((relVectors X).2.1.eval Z0 p) ((relVectors X).2.2.eval Z0 p) := by
  refine ⟨?_, fun m Z0 p => rel_eq_relVec X m Z0 p⟩
  rw [equationVectors_match]; cases X <;> decide

/-- class attributes `model / output / input / offset` of TwoPortAModel … TwoPortZModel (what
    `TwoPort.equation()` prints): `output = params * input + offset` with the spec's vectors -/
theorem modelVectors_match : Gen.modelVectors = Spec.modelVectorsRaw := by decide

/-- the constructors store the source vector in the documented order -/
theorem modelSources_match :
    Gen.modelSources = MRep.all.map (fun r => (r.name, [r.offsetNames.1, r.offsetNames.2])) := by decide

/-- the affine relation of a model is its homogeneous relation plus the offset -/
theorem arel_zero_sources (N : MRep) (m : M2 K) (Z0 : K) (p : Port K) :
    arel N m 0 0 p ↔ rel N.toRep m Z0 p := arel_zero N m Z0 p

/-- `TwoPort.Aparams … TwoPort.Zparams` (dispatch on the class of the native matrix, overrides in the
    model classes): the matrix returned describes the homogeneous port relation of the two-port -/
theorem TPN_params_sound (P : Rep) (t : Stage K) (Z0 : K) (h : okc8 t.rep P t.m Z0) (p : Port K) :
    rel t.rep.toRep t.m Z0 p ↔ rel P (tpnParams P t Z0) Z0 p := by
  rw [tpnParams_eq]; exact conv8_sound t.rep P t.m Z0 p h

/-! ## 1. Scattering representations with the documented normalised wave variables -/

/-- dividing all four waves by 2 r (r a square root of Z0) does not change the S / T relation -/
theorem relN_iff_rel (X : Rep) (m : M2 K) (Z0 r : K) (hr : r * r = Z0) (hz : Z0 ≠ 0) (h2 : (2 : K) ≠ 0)
    (p : Port K) : relN X m Z0 r p ↔ rel X m Z0 p := by
  have hr0 : 2 * r ≠ 0 := mul_ne_zero h2 (by rintro rfl; exact hz (by rw [← hr]; ring))
  cases X <;> first | exact Iff.rfl | exact lin_div m hr0 _ _ _ _

/-- hence every conversion to or from S / T proved in Props/C08.lean holds verbatim for the
    normalised waves, for any reference impedance with a square root in the field -/
theorem SoundConv.normalised {X P : Rep} {f : M2 K → K → M2 K} {ok : M2 K → K → Prop}
    (h : SoundConv X P f ok) (m : M2 K) (Z0 r : K) (hr : r * r = Z0) (hz : Z0 ≠ 0) (h2 : (2 : K) ≠ 0)
    (o : ok m Z0) (p : Port K) : relN X m Z0 r p ↔ relN P (f m Z0) Z0 r p := by
  rw [relN_iff_rel X m Z0 r hr hz h2, relN_iff_rel P _ Z0 r hr hz h2]; exact h m Z0 p o

/-! ## 2. Two-port models with sources -/

/-- the source vector of every model class, converted to B form (`V2b`, `I2b`), describes the same
    affine port relation -/
theorem sources_to_B_sound (N : MRep) (m : M2 K) (s1 s2 Z0 : K) (h : okc N .B m Z0) (p : Port K) :
    arel N m s1 s2 p ↔
      arel .B (conv N .B m Z0) (TPN_V2b ⟨N, m, s1, s2⟩ Z0) (TPN_I2b ⟨N, m, s1, s2⟩ Z0) p := by
  refine affine_transfer N .B Z0 (fun p => conv_sound N .B m Z0 p h) (basePort N s1 s2)
    (arel_basePort N m s1 s2) ?_ p
  -- the base port satisfies the B relation with the converted sources: identities of the source formulas
  cases N <;>
    simp only [arel, lin2, basePort, conv, TPN_V2b, TPN_I2b,
      TPN_A_V2b, TPN_A_I2b, TPN_A_V1a, TPN_A_I1a, TPN_B_V2b, TPN_B_I2b, TPN_G_V2b, TPN_G_I2b,
      TPN_H_V2b, TPN_H_I2b, TPN_H_V1h, TPN_H_I2h, TPN_Y_V2b, TPN_Y_I2b, TPN_Y_I1y, TPN_Y_I2y,
      TPN_Z_V2b, TPN_Z_I2b, TPN_Z_V1z, TPN_Z_V2z, B_to_B, H_to_B, Y_to_B, Z_to_B] <;>
    constructor <;> ring

/-- the inherited (TwoPort) formulas that produce the A, G, H, Y, Z source vectors from (V2b, I2b) -/
theorem sources_from_B_sound (P : MRep) (b : M2 K) (v i Z0 : K) (h : okc .B P b Z0) (p : Port K) :
    arel .B b v i p ↔ (modelOf P ⟨.B, b, v, i⟩ Z0).rel p := by
  rw [modelOf_rel]
  refine affine_transfer .B P Z0 (fun p => conv_sound .B P b Z0 p h) (basePort .B v i)
    (arel_basePort .B b v i) ?_ p
  cases P <;>
    simp only [modelOf, TPN_Amodel, TPN_Bmodel, TPN_Gmodel, TPN_Hmodel, TPN_Ymodel, TPN_Zmodel,
      TPN_V1a, TPN_I1a, TPN_V2b, TPN_I2b, TPN_I1g, TPN_V2g, TPN_V1h, TPN_I2h, TPN_I1y, TPN_I2y, TPN_V1z, TPN_V2z,
      TPN_B_V1a, TPN_B_I1a, TPN_B_V2b, TPN_B_I2b, TPN_B_I1g, TPN_B_V2g, TPN_B_V1h, TPN_B_I2h, TPN_B_I1y, TPN_B_I2y,
      TPN_B_V1z, TPN_B_V2z,
      arel, lin2, basePort, conv, B_to_B, B_to_G, B_to_H, B_to_Y, B_to_Z] <;>
    constructor <;> ring

theorem stage_viaB (N P : MRep) (hne : N ≠ P) (m : M2 K) (s1 s2 Z0 : K) (h1 : okc N .B m Z0) (h2 : okc N P m Z0)
    (h3 : okc .B P (conv N .B m Z0) Z0) :
    modelOf P ⟨.B, conv N .B m Z0, TPN_V2b ⟨N, m, s1, s2⟩ Z0, TPN_I2b ⟨N, m, s1, s2⟩ Z0⟩ Z0
      = modelOf P ⟨N, m, s1, s2⟩ Z0 := by
  have e := conv_via N .B P m Z0 h1 h3 h2
  cases N <;> cases P <;> first | exact absurd rfl hne | skip
  all_goals show Stage.mk _ _ _ _ = Stage.mk _ _ _ _; congr 1
  all_goals first | exact e.symm | skip
  -- to A: the class formulas mention `X_to_A m`, the B stage has `B_to_A (X_to_B m)`
  any_goals
    simp only [conv] at e
    simp only [TPN_V1a, TPN_I1a, TPN_B_V1a, TPN_B_I1a, TPN_G_V1a, TPN_G_I1a, TPN_H_V1a, TPN_H_I1a, TPN_Y_V1a, TPN_Y_I1a,
      TPN_Z_V1a, TPN_Z_I1a, TPN_V2b, TPN_I2b, TPN_B_V2b, TPN_B_I2b, conv, e]
  -- Z → Y: the class computes (I1y, I2y) from Z directly, not through the B stage
  all_goals
    simp only [okc, ok_Z_B, ok_Z_Y, M2.det] at h1 h2
    obtain ⟨d, hd⟩ : ∃ d, d = m.a11 * m.a22 - m.a12 * m.a21 := ⟨_, rfl⟩
    simp only [TPN_I1y, TPN_I2y, TPN_B_I1y, TPN_B_I2y, TPN_Z_I1y, TPN_Z_I2y, TPN_B_V2b, TPN_B_I2b, TPN_Z_V2b, TPN_Z_I2b,
      TPN_Z_V1z, TPN_Z_V2z, Z_to_B, M2.det, ← hd] at h2 ⊢
    field_simp
    (try rw [hd]); ring

/-- side condition of an X-model conversion: the matrices must exist, and (because the code routes
    every source vector through the B form) so must the B form -/
def okModel (N P : MRep) (m : M2 K) (Z0 : K) : Prop :=
  N = P ∨ (okc N .B m Z0 ∧ okc N P m Z0 ∧ okc .B P (conv N .B m Z0) Z0)

/-- `t.Amodel … t.Zmodel` of a two-port held in any native representation: matrix and source
    vector together describe the same affine port relation (all 36 pairs) -/
theorem model_sound (P : MRep) (t : Stage K) (Z0 : K) (h : okModel t.rep P t.m Z0) (p : Port K) :
    t.rel p ↔ (modelOf P t Z0).rel p := by
  obtain ⟨N, m, s1, s2⟩ := t
  by_cases hne : N = P
  · subst hne; rw [model_same]
  · rcases h with h | ⟨h1, h2, h3⟩
    · exact absurd h hne
    · rw [Stage.rel, sources_to_B_sound N m s1 s2 Z0 h1 p, sources_from_B_sound P _ _ _ Z0 h3 p, stage_viaB N P hne m s1 s2 Z0 h1 h2 h3]


/-! ## 3. Cascades -/

/-- two stages in any native representations -/
theorem chain2 (a b : Stage K) (Z0 : K) (ha : okModel a.rep .B a.m Z0) (hb : okModel b.rep .B b.m Z0)
    (V1 I1 V2 I2 : K) :
    (∃ Vm Im, a.rel ⟨V1, I1, Vm, Im⟩ ∧ b.rel ⟨Vm, -Im, V2, I2⟩) ↔ (TPN_chain a b Z0).rel ⟨V1, I1, V2, I2⟩ := by
  have ea := fun p => model_sound .B a Z0 ha p
  have eb := fun p => model_sound .B b Z0 hb p
  simp only [ea, eb]
  simp only [modelOf, TPN_Bmodel, Stage.rel, TPN_chain, TPN_Chain]
  exact B_chain_affine _ _ _ _ _ _ _ _ _ _

/-- any bracketing of a cascade -/
inductive CTree (K : Type) where
  | leaf : Stage K → CTree K
  | node : CTree K → CTree K → CTree K

def CTree.leaves : CTree K → List (Stage K)
  | .leaf t => [t]
  | .node l r => l.leaves ++ r.leaves

/-- what `l.chain(r)` computes, recursively -/
def CTree.eval (Z0 : K) : CTree K → Stage K
  | .leaf t => t
  | .node l r => TPN_chain (l.eval Z0) (r.eval Z0) Z0

/-- (helper, `Or.inl rfl`) the result of a chain is B-native, so its side condition is trivial -/
theorem okModel_chain (a b : Stage K) (Z0 : K) : okModel (TPN_chain a b Z0).rep .B (TPN_chain a b Z0).m Z0 :=
  Or.inl rfl

/-- what a tree evaluates to has a B model: a leaf by hypothesis, a chain because it is B-native -/
theorem okModel_eval (tr : CTree K) (Z0 : K) (hok : ∀ t ∈ tr.leaves, okModel t.rep .B t.m Z0) :
    okModel (tr.eval Z0).rep .B (tr.eval Z0).m Z0 := by
  cases tr with
  | leaf t => exact hok t (List.mem_singleton_self t)
  | node a b => exact okModel_chain _ _ Z0

theorem cascade_tree (tr : CTree K) (Z0 : K) (hok : ∀ t ∈ tr.leaves, okModel t.rep .B t.m Z0)
    (V1 I1 V2 I2 : K) :
    cascRel tr.leaves V1 I1 V2 I2 ↔ (tr.eval Z0).rel ⟨V1, I1, V2, I2⟩ := by
  induction tr generalizing V1 I1 V2 I2 with
  | leaf t => exact cascRel_single t V1 I1 V2 I2
  | node l r ihl ihr =>
    have hl : ∀ t ∈ l.leaves, okModel t.rep .B t.m Z0 := fun t ht => hok t (List.mem_append_left _ ht)
    have hr : ∀ t ∈ r.leaves, okModel t.rep .B t.m Z0 := fun t ht => hok t (List.mem_append_right _ ht)
    simp only [CTree.leaves, CTree.eval]
    rw [cascRel_append, ← chain2 _ _ Z0 (okModel_eval l Z0 hl) (okModel_eval r Z0 hr)]
    simp only [ihl hl, ihr hr]

/-- product of the inverse chain matrices, last stage leftmost -/
def prodB (Z0 : K) : List (Stage K) → M2 K
  | [] => ⟨1, 0, 0, 1⟩
  | t :: ts => M2.mul (prodB Z0 ts) (TPN_Bparams t Z0)


theorem prodB_append (Z0 : K) (l1 l2 : List (Stage K)) :
    prodB Z0 (l1 ++ l2) = M2.mul (prodB Z0 l2) (prodB Z0 l1) := by
  induction l1 with
  | nil => simp [prodB, M2_mul_one]
  | cons t rest ih => simp only [List.cons_append, prodB, ih, M2_mul_assoc]

theorem chain_matrix_is_product (tr : CTree K) (Z0 : K) :
    TPN_Bparams (tr.eval Z0) Z0 = prodB Z0 tr.leaves := by
  induction tr with
  | leaf t => simp [CTree.eval, CTree.leaves, prodB, M2_one_mul]
  | node l r ihl ihr =>
    simp only [CTree.eval, CTree.leaves, prodB_append, ← ihl, ← ihr]
    simp only [TPN_chain, TPN_Chain, TPN_Bparams]


/-- (table check, four `rfl`s on the GENERATED aliases: fails to build if the source changes an alias)
    `append`, `cascade`, `*` are `chain`; `prepend` is `chain` with the operands exchanged -/
theorem chain_spellings (a b : Stage K) (Z0 : K) :
    TPN_append a b Z0 = TPN_chain a b Z0 ∧ TPN_cascade a b Z0 = TPN_chain a b Z0 ∧
    TPN_mul a b Z0 = TPN_chain a b Z0 ∧ TPN_prepend a b Z0 = TPN_chain b a Z0 :=
  ⟨rfl, rfl, rfl, rfl⟩

/-- the witness form used by the oracle implies the relational cascade -/
theorem cascWit_sound (ts : List (Stage K)) (ws : List (K × K)) (V1 I1 V2 I2 : K)
    (h : cascWit ts ws V1 I1 V2 I2) : cascRel ts V1 I1 V2 I2 := by
  induction ts generalizing ws V1 I1 with
  | nil => cases ws with
    | nil => exact h
    | cons w ws => exact h.elim
  | cons t rest ih => cases ws with
    | nil => exact h.elim
    | cons w ws =>
      obtain ⟨Vm, Im⟩ := w
      exact ⟨Vm, Im, h.1, ih ws Vm (-Im) h.2⟩

/-! ## 4. Parallel, series, hybrid and inverse-hybrid connections, with sources -/

/-- parallel connection -/
theorem par2_sound (a b : Stage K) (Z0 : K) (ha : okModel a.rep .Y a.m Z0) (hb : okModel b.rep .Y b.m Z0)
    (c : Conn K) (hc : c.par) (hp : a.rel c.p) (hq : b.rel c.q) : (TPN_Par2 a b Z0).rel c.r :=
  lin2_add ((model_sound .Y a Z0 ha c.p).mp hp) ((model_sound .Y b Z0 hb c.q).mp hq) hc

/-- series connection -/
theorem ser2_sound (a b : Stage K) (Z0 : K) (ha : okModel a.rep .Z a.m Z0) (hb : okModel b.rep .Z b.m Z0)
    (c : Conn K) (hc : c.ser) (hp : a.rel c.p) (hq : b.rel c.q) : (TPN_Ser2 a b Z0).rel c.r :=
  lin2_add ((model_sound .Z a Z0 ha c.p).mp hp) ((model_sound .Z b Z0 hb c.q).mp hq) hc

/-- hybrid connection (series input, parallel output) -/
theorem hybrid2_sound (a b : Stage K) (Z0 : K) (ha : okModel a.rep .H a.m Z0) (hb : okModel b.rep .H b.m Z0)
    (c : Conn K) (hc : c.hyb) (hp : a.rel c.p) (hq : b.rel c.q) : (TPN_Hybrid2 a b Z0).rel c.r :=
  lin2_add ((model_sound .H a Z0 ha c.p).mp hp) ((model_sound .H b Z0 hb c.q).mp hq) hc

/-- inverse hybrid connection (parallel input, series output) -/
theorem inverse_hybrid2_sound (a b : Stage K) (Z0 : K) (ha : okModel a.rep .G a.m Z0) (hb : okModel b.rep .G b.m Z0)
    (c : Conn K) (hc : c.invhyb) (hp : a.rel c.p) (hq : b.rel c.q) : (TPN_InverseHybrid2 a b Z0).rel c.r :=
  lin2_add ((model_sound .G a Z0 ha c.p).mp hp) ((model_sound .G b Z0 hb c.q).mp hq) hc

/-- (table check, four `rfl`s on the GENERATED aliases) the method spellings of the four connections -/
theorem connection_spellings (a b : Stage K) (Z0 : K) :
    TPN_parallel a b Z0 = TPN_Par2 a b Z0 ∧ TPN_series a b Z0 = TPN_Ser2 a b Z0 ∧
    TPN_hybrid a b Z0 = TPN_Hybrid2 a b Z0 ∧ TPN_inverse_hybrid a b Z0 = TPN_InverseHybrid2 a b Z0 :=
  ⟨rfl, rfl, rfl, rfl⟩

/-- `TwoPortZModel.I1y / I2y` are computed directly from Z (not through B): only det Z ≠ 0 is needed -/
theorem Zmodel_Ymodel_direct (m : M2 K) (s1 s2 Z0 : K) (h : ok_Z_Y m Z0) (p : Port K) :
    arel .Z m s1 s2 p ↔ (TPN_Ymodel ⟨.Z, m, s1, s2⟩ Z0).rel p := by
  rw [show TPN_Ymodel ⟨.Z, m, s1, s2⟩ Z0 = modelOf .Y ⟨.Z, m, s1, s2⟩ Z0 from rfl, modelOf_rel]
  refine affine_transfer .Z .Y Z0 (fun p => conv_sound .Z .Y m Z0 p h) (basePort .Z s1 s2)
    (arel_basePort .Z m s1 s2) ?_ p
  simp only [ok_Z_Y] at h
  obtain ⟨d, hd⟩ : ∃ d, d = m.det := ⟨_, rfl⟩
  rw [← hd] at h
  simp only [modelOf, TPN_Ymodel, TPN_I1y, TPN_I2y, TPN_Z_I1y, TPN_Z_I2y, TPN_Z_V1z, TPN_Z_V2z, arel, lin2, basePort,
    conv, Z_to_Y, ← hd]
  constructor <;> (field_simp; ring)


/-! ## 5. Existence pivots: representation P of an X matrix exists iff `pivot X P m ≠ 0` -/
/-- (necessity) if the pivot vanishes no `P` matrix describes the two-port -/
theorem pivot_necessary (X P : MRep) (m : M2 K) (Z0 : K) (h0 : pivot X P m = 0) :
    ¬ ∃ z : M2 K, ∀ p, rel X.toRep m Z0 p ↔ rel P.toRep z Z0 p := by
  rintro ⟨z, h⟩
  by_cases hd : (X, P) ∈ [(MRep.A, MRep.B), (.B, .A), (.G, .H), (.H, .G), (.Y, .Z), (.Z, .Y)]
  · have hdet : m.det = 0 := by
      simp only [List.mem_cons, Prod.mk.injEq, List.mem_nil_iff, or_false] at hd
      rcases hd with ⟨rfl, rfl⟩ | ⟨rfl, rfl⟩ | ⟨rfl, rfl⟩ | ⟨rfl, rfl⟩ | ⟨rfl, rfl⟩ | ⟨rfl, rfl⟩ <;> exact h0
    obtain ⟨x, y, hxy, k1, k2⟩ := ker_of_det_zero m hdet
    have := (h (relPort X m x y)).mp (relPort_rel X m Z0 x y)
    simp only [List.mem_cons, Prod.mk.injEq, List.mem_nil_iff, or_false] at hd
    -- the kernel vector is a port with both right-hand variables of `P` zero, so it must vanish
    rcases hd with ⟨rfl, rfl⟩ | ⟨rfl, rfl⟩ | ⟨rfl, rfl⟩ | ⟨rfl, rfl⟩ | ⟨rfl, rfl⟩ | ⟨rfl, rfl⟩ <;>
      simp only [relPort, rel, lin, MRep.toRep, k1, k2, neg_zero, mul_zero, add_zero, neg_neg] at this <;>
      exact hxy.elim (· this.1) (· this.2)
  · -- the right-hand unit vector of `X` in whose column the pivot entry stands (`pivot` of the matrix with ones in
    -- that column is 1): on that port both right-hand variables of `P` vanish with the pivot, a left-hand one is ±1
    have := (h (relPort X m (pivot X P ⟨1, 0, 1, 0⟩) (pivot X P ⟨0, 1, 0, 1⟩))).mp (relPort_rel X m Z0 _ _)
    cases X <;> cases P <;> simp only [pivot] at h0 <;>
      first
        | exact absurd h0 one_ne_zero
        | exact absurd (by decide) hd
        | simp only [pivot, relPort, rel, lin, MRep.toRep, h0, mul_zero, mul_one, add_zero, zero_add, neg_zero,
            one_ne_zero, neg_eq_zero, false_and, and_false] at this

/-- (sufficiency) if the pivot is non-zero the `P` matrix exists -/
theorem pivot_sufficient (X P : MRep) (m : M2 K) (Z0 : K) (h : pivot X P m ≠ 0) :
    ∃ z : M2 K, ∀ p, rel X.toRep m Z0 p ↔ rel P.toRep z Z0 p := by
  cases hd : directConv X P m with
  | some z => exact ⟨z, directConv_sound X P m z Z0 hd h⟩
  | none =>
    refine ⟨conv X P m Z0, fun p => conv_sound X P m Z0 p ?_⟩
    -- for these pairs the side condition of Lcapy's route is the pivot itself
    cases X <;> cases P <;> first | exact h | exact trivial | exact absurd hd (Option.some_ne_none _)

/-- representation `P` of the two-port with `X` matrix `m` exists exactly when the pivot is non-zero -/
theorem pivot_exact (X P : MRep) (m : M2 K) (Z0 : K) :
    (∃ z : M2 K, ∀ p, rel X.toRep m Z0 p ↔ rel P.toRep z Z0 p) ↔ pivot X P m ≠ 0 :=
  ⟨fun h h0 => pivot_necessary X P m Z0 h0 h, pivot_sufficient X P m Z0⟩

/-- the side condition of every Lcapy route implies the pivot (Lcapy never returns a finite matrix
    that does not exist); for the five delegated pairs it is strictly stronger -/
theorem okc_implies_pivot (X P : MRep) (m : M2 K) (Z0 : K) (h : okc X P m Z0) : pivot X P m ≠ 0 :=
  (pivot_exact X P m Z0).mp ⟨conv X P m Z0, fun p => conv_sound X P m Z0 p h⟩

/-- e.g. an ideal transformer (A = diag(n, 1/n)) has neither Z nor Y; a series impedance alone
    (A = [[1, Z], [0, 1]]) has Y but no Z -/
example : pivot .A .Z (⟨2, 0, 0, 1/2⟩ : M2 ℚ) = 0 ∧ pivot .A .Y (⟨2, 0, 0, 1/2⟩ : M2 ℚ) = 0 := by
  decide +kernel
example : pivot .A .Z (⟨1, 5, 0, 1⟩ : M2 ℚ) = 0 ∧ pivot .A .Y (⟨1, 5, 0, 1⟩ : M2 ℚ) ≠ 0 := by
  decide +kernel
/-- G of A = [[2, 3], [5, 0]] exists (a11 ≠ 0) although Lcapy's route through H does not (a22 = 0) -/
example : pivot .A .G (⟨2, 3, 5, 0⟩ : M2 ℚ) ≠ 0 ∧ ¬ okc .A .G (⟨2, 3, 5, 0⟩ : M2 ℚ) 1 := by
  show _ ∧ ¬ ok_A_G _ _
  unfold ok_A_G ok_A_H; decide +kernel

/-! ## 6. Constructors of the model classes keep the entries they are given -/

/-- (table check over the complete regenerated table) every scalar argument of the six
    `TwoPort?Model.__init__` is defaulted only when it is missing (`None`), never because it is falsy -/
theorem ctorRules_keep_given :
    Gen.ctorRules = MRep.all.map (fun r => (r.name, [ArgRule.ifNone, .ifNone, .ifNone, .ifNone], [ArgRule.ifNone, .ifNone])) := by
  decide

/-- a rule that substitutes the default for falsy arguments loses a zero entry … -/
theorem ifFalsy_loses_zero [DecidableEq K] : ArgRule.ifFalsy.apply (some (0 : K)) = none := by
  simp [ArgRule.apply]

/-- … the rule the code uses keeps every given value, zero included: the native matrix of
    `TwoPort?Model(x11, x12, x21, x22, s1, s2)` has exactly the entries and sources given -/
theorem ctor_keeps_entries [DecidableEq K] (N : MRep) :
    ∃ e, Gen.ctorRules.lookup N.name = some e ∧ e.1.length = 4 ∧ e.2.length = 2 ∧
      ∀ r ∈ e.1 ++ e.2, ∀ v : K, r.apply (some v) = some v := by
  rw [ctorRules_keep_given]
  cases N <;> refine ⟨_, rfl, rfl, rfl, ?_⟩ <;> intro r hr v <;>
    simp only [List.cons_append, List.nil_append, List.mem_cons, List.mem_nil_iff, or_false, or_self] at hr <;>
    subst hr <;> rfl

/-! ## 7. Non-vacuity -/
def zSample : Stage ℚ := ⟨.Z, ⟨5, 2, 7, 3⟩, 3, -4⟩
def ySample : Stage ℚ := ⟨.Y, ⟨1, 2, 3, 5⟩, 2, 1⟩
def hSample : Stage ℚ := ⟨.H, ⟨2, 1/3, -4/5, 3/7⟩, 2, -3⟩
def gSample : Stage ℚ := ⟨.G, ⟨2, 1/3, -4/5, 3/7⟩, 2, -3⟩
def aSample : Stage ℚ := ⟨.A, ⟨2, 3, 5, 11⟩, 1, -2⟩

theorem okModel_zSample_B : okModel zSample.rep .B zSample.m 1 :=
  Or.inr (by
    show ok_Z_B zSample.m 1 ∧ ok_Z_B zSample.m 1 ∧ ok_B_B (Z_to_B zSample.m 1) 1
    unfold ok_Z_B ok_B_B; decide +kernel)
theorem okModel_ySample_B : okModel ySample.rep .B ySample.m 1 :=
  Or.inr (by
    show ok_Y_B ySample.m 1 ∧ ok_Y_B ySample.m 1 ∧ ok_B_B (Y_to_B ySample.m 1) 1
    unfold ok_Y_B ok_B_B; decide +kernel)
theorem okModel_hSample_B : okModel hSample.rep .B hSample.m 1 :=
  Or.inr (by
    show ok_H_B hSample.m 1 ∧ ok_H_B hSample.m 1 ∧ ok_B_B (H_to_B hSample.m 1) 1
    unfold ok_H_B ok_B_B; decide +kernel)
theorem okModel_zSample_H : okModel zSample.rep .H zSample.m 1 :=
  Or.inr (by
    show ok_Z_B zSample.m 1 ∧ ok_Z_H zSample.m 1 ∧ ok_B_H (Z_to_B zSample.m 1) 1
    unfold ok_Z_B ok_Z_H ok_B_H; decide +kernel)
theorem okModel_zSample_G : okModel zSample.rep .G zSample.m 1 :=
  Or.inr (by
    show ok_Z_B zSample.m 1 ∧ ok_Z_G zSample.m 1 ∧ ok_B_G (Z_to_B zSample.m 1) 1
    unfold ok_Z_B ok_Z_G ok_Z_H ok_B_G; decide +kernel)
theorem okModel_hSample_Y : okModel hSample.rep .Y hSample.m 1 :=
  Or.inr (by
    show ok_H_B hSample.m 1 ∧ ok_H_Y hSample.m 1 ∧ ok_B_Y (H_to_B hSample.m 1) 1
    unfold ok_H_B ok_H_Y ok_B_Y; decide +kernel)
theorem okModel_gSample_Z : okModel gSample.rep .Z gSample.m 1 :=
  Or.inr (by
    show ok_G_B gSample.m 1 ∧ ok_G_Z gSample.m 1 ∧ ok_B_Z (G_to_B gSample.m 1) 1
    unfold ok_G_B ok_G_Z ok_G_H ok_H_Z ok_B_Z; decide +kernel)

example : okModel zSample.rep .B zSample.m 1 := okModel_zSample_B
example : okModel ySample.rep .B ySample.m 1 := okModel_ySample_B
example : okModel hSample.rep .B hSample.m 1 := okModel_hSample_B
example : okModel gSample.rep .B gSample.m 1 :=
  Or.inr (by
    show ok_G_B gSample.m 1 ∧ ok_G_B gSample.m 1 ∧ ok_B_B (G_to_B gSample.m 1) 1
    unfold ok_G_B ok_B_B; decide +kernel)
example : okModel aSample.rep .B aSample.m 1 :=
  Or.inr (by
    show ok_A_B aSample.m 1 ∧ ok_A_B aSample.m 1 ∧ ok_B_B (A_to_B aSample.m 1) 1
    unfold ok_A_B ok_B_B; decide +kernel)
example : okModel zSample.rep .H zSample.m 1 := okModel_zSample_H
example : okModel zSample.rep .G zSample.m 1 := okModel_zSample_G
example : okModel hSample.rep .Y hSample.m 1 := okModel_hSample_Y
example : okModel gSample.rep .Z gSample.m 1 := okModel_gSample_Z
example : okModel aSample.rep .G aSample.m 1 :=
  Or.inr (by
    show ok_A_B aSample.m 1 ∧ ok_A_G aSample.m 1 ∧ ok_B_G (A_to_B aSample.m 1) 1
    unfold ok_A_B ok_A_G ok_A_H ok_B_G; decide +kernel)
example : okModel ySample.rep .A ySample.m 1 :=
  Or.inr (by
    show ok_Y_B ySample.m 1 ∧ ok_Y_A ySample.m 1 ∧ ok_B_A (Y_to_B ySample.m 1) 1
    unfold ok_Y_B ok_Y_A ok_B_A; decide +kernel)
/-- a concrete mixed cascade satisfies the hypotheses of `cascade_tree` -/
example : ∀ t ∈ (CTree.node (.node (.leaf zSample) (.leaf ySample)) (.leaf hSample)).leaves,
    okModel t.rep .B t.m (1 : ℚ) := by
  intro t ht
  simp only [CTree.leaves, List.cons_append, List.nil_append, List.mem_cons, List.mem_nil_iff, or_false] at ht
  rcases ht with rfl | rfl | rfl
  exacts [okModel_zSample_B, okModel_ySample_B, okModel_hSample_B]
/-- wave normalisation: r = 3 is a square root of Z0 = 9 -/
example : (3 : ℚ) * 3 = 9 ∧ (9 : ℚ) ≠ 0 ∧ (2 : ℚ) ≠ 0 := by decide +kernel
/-- a concrete port of the Z sample -/
example : zSample.rel ⟨3 + 5 * 1 + 2 * 2, 1, -4 + 7 * 1 + 3 * 2, 2⟩ := by
  decide +kernel

end Lcapy.C08
