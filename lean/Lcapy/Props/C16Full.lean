/-
  C16 -- the FULL property at the generated configuration.  This module builds iff lcapy's
  source satisfies the side conditions of `fresh_refinement`:
    * `_invalidate` clears every memoised member   (finding F14a when false: `_components`, `_sim`)
    * `_cpt_add` detaches an overridden component   (finding F14b when false)
    * `Node.remove` never raises half way           (the failed-remove defect when false)
    * `remove` / override detach from every node     (C16Tables; a sliced loop breaks `remove_detaches_all_nodes`)
    * no read-only member mutates a cached object    (C16Tables `shared_cached_objects_not_mutated`)
  While it does not build, the check reports these theorems as broken obligations; they count as
  explained only if the oracle exhibits the corresponding failing history on the real code.
-/
import Lcapy.Props.C16Tables
namespace Lcapy.C16
open Lcapy.Cache Lcapy.Gen.Caches

/-- every memoised member is dropped by `_invalidate` -/
theorem memoised_subset_cleared : ∀ p ∈ config.memoised, config.isCleared p.1 = true := by decide +kernel

/-- re-adding an existing name detaches the old component from its nodes -/
theorem override_detaches : config.overrideDetaches = true := by decide

/-- `Node.remove` deletes a node only when nothing is connected to it any more, so that
    `Netlist.remove` cannot raise half way (fails while the failed-remove defect is open) -/
theorem node_delete_guarded : config.keepConnectedNode = true := by decide

/-- CURRENT CODE, FULL: every query after every exception-free history of public operations
    answers as on a freshly built circuit -/
theorem fresh_refinement_current (ops : List Op) (hpub : ∀ op ∈ ops, op.isPublic)
    (hok : NoRaise config World.empty ops)
    (i : Nat) (inst : Inst) (hi : (run config World.empty ops).insts[i]? = some inst) (q : String) :
    answer config (run config World.empty ops) i q = answer config (build inst.elts) 0 q :=
  (fresh_refinement config memoised_subset_cleared add_invalidates add_multi_invalidates remove_invalidates override_detaches
    remove_detaches_all_nodes override_detaches_all_nodes no_query_damages_cache
    ops hpub hok i inst hi).1 q

/-- CURRENT CODE, with the non-empty observation (slots read + elements) of EVERY query, also the memo-less ones -/
theorem fresh_refinement_observation_current (ops : List Op) (hpub : ∀ op ∈ ops, op.isPublic)
    (hok : NoRaise config World.empty ops)
    (i : Nat) (inst : Inst) (hi : (run config World.empty ops).insts[i]? = some inst) (q : String) :
    observation config (run config World.empty ops) i q = observation config (build inst.elts) 0 q :=
  (fresh_refinement_observation config memoised_subset_cleared add_invalidates add_multi_invalidates remove_invalidates
    override_detaches remove_detaches_all_nodes override_detaches_all_nodes no_query_damages_cache ops hpub hok i inst hi q).1

/-- CURRENT CODE: the generated configuration meets the side conditions of `query_transparent` for every slot -/
theorem cfg_ok_current : CfgOK config (fun _ => true) :=
  cfgOK_all memoised_subset_cleared no_query_damages_cache

/-- CURRENT CODE: a query (of any kind, on any instance) inserted anywhere in an exception-free history of public
    operations changes no later answer -/
theorem query_transparent_current (pre post : List Op) (i : Nat) (q : String)
    (hpub : ∀ op ∈ pre ++ post, op.isPublic) (hok : NoRaise config World.empty (pre ++ post)) (j : Nat) (q' : String) :
    answer config (run config World.empty (pre ++ .query i q :: post)) j q' =
      answer config (run config World.empty (pre ++ post)) j q' :=
  query_transparent config (fun _ => true) cfg_ok_current pre post i q
    (runOK_of_flags config add_invalidates add_multi_invalidates remove_invalidates override_detaches
      remove_detaches_all_nodes override_detaches_all_nodes _ _ hpub hok) j q' (fun _ _ => rfl)

end Lcapy.C16
