/-
  PROPERTY C04, clause "driving-point impedance, admittance and transfer functions … do not depend on which
  terminal is grounded" (`ground_independent`).

  Re-grounding a netlist at node `g` = the node renaming that exchanges `g` and `0` (`reground`, Model/PortOps.lean;
  in Lcapy: a netlist without a node `0`, to which `_add_ground(Nm)` adds `W Nm 0`).  For every netlist of any size
  whose components are `GroundFree` (every component kind of Spec/Laws.lean except the three that are DEFINED
  with respect to ground: the common-mode gain of a VCVS, `TR`, `SP`), in every analysis kind:

      x obeys the laws of the netlist   ⇔   x shifted by −x(g) obeys the laws of the re-grounded netlist

  (`reground_laws_iff`), because every component law and `outflow` read node voltages only through differences and
  because KCL at all nodes but one implies KCL at the remaining node (`kcl_remaining_node`).  Hence every quantity
  measured as a voltage difference or a branch current in a probe experiment — impedance, admittance, transfer,
  voltage_gain, transimpedance, current_gain, transadmittance — has the same value whichever node is ground.
-/
import Lcapy.Proofs.Ground
import Lcapy.Props.C01
import Lcapy.Proofs.Witness
import Mathlib.Tactic.Linarith
namespace Lcapy.C04
open Lcapy.MNA Ix
variable {K : Type} [Field K]
set_option linter.unusedSimpArgs false
set_option linter.unusedSectionVars false

/-- **reground_laws**: a solution of the netlist, shifted by −x(g), is a solution of the netlist re-grounded at `g`. -/
theorem reground_laws (kind : Kind) (s : K) (g : Nat) (cs : List (Cpt K)) (x : Ix → K)
    (hgf : ∀ c ∈ cs, c.GroundFree) (h : Laws kind s cs x) :
    Laws kind s (reground g cs) (regroundSol g x) := by
  obtain ⟨hk, hl⟩ := h
  -- KCL holds at EVERY node of the original, the ground node included
  have hall : ∀ k, lsum (cs.map (outflow kind s x k)) = 0 := by
    intro k
    by_cases hk0 : k = 0
    · subst hk0; exact kcl_remaining_node kind s cs x 0 hk
    · exact hk k hk0
  refine ⟨fun k _ => ?_, fun c hc p hp => ?_⟩
  · rw [← hall (swap0 g k)]
    simp only [reground, List.map_map]
    congr 1
    apply List.map_congr_left
    intro c hc
    have := outflow_reground kind s g x (swap0 g k) c (hgf c hc)
    simpa using this
  · obtain ⟨c0, hc0, rfl⟩ := List.mem_map.mp hc
    rw [laws_reground kind s g x c0 (hgf c0 hc0)] at hp
    exact hl c0 hc0 p hp

/-- **reground_laws_iff** (`ground_independent`, solution level): for a netlist of ground-free components,
    `x` obeys Kirchhoff's laws and every component relation with node 0 as the reference  iff  `x` shifted by −x(g)
    obeys them with node `g` as the reference.  Any netlist size, any analysis kind, any point s. -/
theorem reground_laws_iff (kind : Kind) (s : K) (g : Nat) (cs : List (Cpt K)) (x : Ix → K)
    (hgf : ∀ c ∈ cs, c.GroundFree) :
    Laws kind s cs x ↔ Laws kind s (reground g cs) (regroundSol g x) := by
  refine ⟨reground_laws kind s g cs x hgf, fun h => ?_⟩
  have := reground_laws kind s g (reground g cs) (regroundSol g x) (groundFree_reground g cs hgf) h
  rw [reground_reground] at this
  exact laws_congr_ground kind s cs _ x (regroundSol_regroundSol g x) this

/-- voltage differences between (renamed) nodes and all branch currents are the same in the two solutions -/
theorem reground_observables (g : Nat) (x : Ix → K) :
    (∀ a b, vd (regroundSol g x) (swap0 g a) (swap0 g b) = vd x a b) ∧ (∀ m, regroundSol g x (br m) = x (br m)) :=
  ⟨fun a b => vd_regroundSol g x a b, fun _ => rfl⟩

/-- `q` is the value of the experiment: the probed circuit has a solution and every solution reads `q`
    (no appeal to the totalised inverse of a singular matrix) -/
def Measures (kind : Kind) (s : K) (e : Experiment K) (q : K) : Prop :=
  (∃ x, Laws kind s e.ckt x) ∧ ∀ x, Laws kind s e.ckt x → e.obs.read x = q

/-- **measure_ground_independent**: whatever a probe experiment on a ground-free netlist measures (a voltage
    difference or a branch current), the same experiment on the netlist re-grounded at ANY node `g` measures the same
    value. -/
theorem measure_ground_independent (kind : Kind) (s : K) (g : Nat) (e : Experiment K) (q : K)
    (hgf : ∀ c ∈ e.ckt, c.GroundFree) :
    Measures kind s e q ↔ Measures kind s (e.reground g) q := by
  constructor
  · rintro ⟨⟨x, hx⟩, hall⟩
    refine ⟨⟨regroundSol g x, reground_laws kind s g e.ckt x hgf hx⟩, fun y hy => ?_⟩
    have hy' := reground_laws kind s g _ y (groundFree_reground g e.ckt hgf) hy
    simp only [Experiment.reground, reground_reground] at hy'
    have := hall _ hy'
    rw [← this]
    show (e.obs.mapNodes (swap0 g)).read y = e.obs.read (regroundSol g y)
    rw [← read_regroundSol g y (e.obs.mapNodes (swap0 g)), obs_mapNodes_swap0_swap0]
  · rintro ⟨⟨y, hy⟩, hall⟩
    have hy' := reground_laws kind s g _ y (groundFree_reground g e.ckt hgf) hy
    simp only [Experiment.reground, reground_reground] at hy'
    refine ⟨⟨_, hy'⟩, fun x hx => ?_⟩
    have := hall _ (reground_laws kind s g e.ckt x hgf hx)
    rw [← this]
    exact (read_regroundSol g x e.obs).symm

/-! ### the seven quantities of netlistopsmixin.py -/

/-- **impedance_ground_independent**: the driving-point impedance between `p` and `m` (sources and initial
    conditions killed, 1 A test source) is the same with node `g` as the reference node. -/
theorem impedance_ground_independent (kind : Kind) (s : K) (g : Nat) (cs : List (Cpt K)) (p m : Nat) (Z : K)
    (hgf : ∀ c ∈ cs, c.GroundFree) :
    Measures kind s (impedanceExp cs p m) Z ↔
      Measures kind s (impedanceExp (reground g cs) (swap0 g p) (swap0 g m)) Z := by
  rw [measure_ground_independent kind s g _ Z
    (groundFree_append _ _ (groundFree_killAll cs hgf) (by simp [Cpt.GroundFree]))]
  simp only [Experiment.reground, impedanceExp, zProbe, reground_append, reground_killAll, Obs.mapNodes]
  simp [reground, Cpt.mapNodes]

/-- **admittance_ground_independent** (1 V test source on the fresh branch `b`, current delivered by it). -/
theorem admittance_ground_independent (kind : Kind) (s : K) (g : Nat) (cs : List (Cpt K)) (p m b : Nat) (Y : K)
    (hgf : ∀ c ∈ cs, c.GroundFree) :
    Measures kind s (admittanceExp cs p m b) Y ↔
      Measures kind s (admittanceExp (reground g cs) (swap0 g p) (swap0 g m) b) Y := by
  rw [measure_ground_independent kind s g _ Y
    (groundFree_append _ _ (groundFree_killAll cs hgf) (by simp [Cpt.GroundFree]))]
  simp only [Experiment.reground, admittanceExp, reground_append, reground_killAll, Obs.mapNodes]
  simp [reground, Cpt.mapNodes]

/-- **transfer_ground_independent** (`transfer` and `voltage_gain`: V(p2) − V(m2) for a 1 V test source across
    (p1, m1), voltage sources across the input pair removed, the rest killed). -/
theorem transfer_ground_independent (kind : Kind) (s : K) (g : Nat) (cs : List (Cpt K)) (p1 m1 p2 m2 b : Nat) (H : K)
    (hgf : ∀ c ∈ cs, c.GroundFree) :
    Measures kind s (transferExp cs p1 m1 p2 m2 b) H ↔
      Measures kind s (transferExp (reground g cs) (swap0 g p1) (swap0 g m1) (swap0 g p2) (swap0 g m2) b) H := by
  rw [measure_ground_independent kind s g _ H
    (groundFree_append _ _ (groundFree_killAll _ (groundFree_filter cs _ hgf)) (by simp [Cpt.GroundFree]))]
  simp only [Experiment.reground, transferExp, vProbe, reground_append, reground_killAll, reground_filter_across,
    Obs.mapNodes]
  simp [reground, Cpt.mapNodes]

theorem transimpedance_ground_independent (kind : Kind) (s : K) (g : Nat) (cs : List (Cpt K)) (p1 m1 p2 m2 : Nat) (H : K)
    (hgf : ∀ c ∈ cs, c.GroundFree) :
    Measures kind s (transimpedanceExp cs p1 m1 p2 m2) H ↔
      Measures kind s (transimpedanceExp (reground g cs) (swap0 g p1) (swap0 g m1) (swap0 g p2) (swap0 g m2)) H := by
  rw [measure_ground_independent kind s g _ H
    (groundFree_append _ _ (groundFree_killAll cs hgf) (by simp [Cpt.GroundFree]))]
  simp only [Experiment.reground, transimpedanceExp, zProbe, reground_append, reground_killAll, Obs.mapNodes]
  simp [reground, Cpt.mapNodes]

/-- **current_gain_ground_independent** (short-circuit current at port 2 through `Vshort_` on the fresh branch `bs`). -/
theorem current_gain_ground_independent (kind : Kind) (s : K) (g : Nat) (cs : List (Cpt K)) (p1 m1 p2 m2 bs : Nat) (H : K)
    (hgf : ∀ c ∈ cs, c.GroundFree) :
    Measures kind s (currentGainExp cs p1 m1 p2 m2 bs) H ↔
      Measures kind s (currentGainExp (reground g cs) (swap0 g p1) (swap0 g m1) (swap0 g p2) (swap0 g m2) bs) H := by
  rw [measure_ground_independent kind s g _ H
    (groundFree_append _ _ (groundFree_append _ _ (groundFree_killAll cs hgf) (by simp [Cpt.GroundFree]))
      (by simp [Cpt.GroundFree]))]
  simp only [Experiment.reground, currentGainExp, zProbe, reground_append, reground_killAll, Obs.mapNodes]
  simp [reground, Cpt.mapNodes]

theorem transadmittance_ground_independent (kind : Kind) (s : K) (g : Nat) (cs : List (Cpt K))
    (p1 m1 p2 m2 b bs : Nat) (H : K) (hgf : ∀ c ∈ cs, c.GroundFree) :
    Measures kind s (transadmittanceExp cs p1 m1 p2 m2 b bs) H ↔
      Measures kind s
        (transadmittanceExp (reground g cs) (swap0 g p1) (swap0 g m1) (swap0 g p2) (swap0 g m2) b bs) H := by
  rw [measure_ground_independent kind s g _ H
    (groundFree_append _ _
      (groundFree_append _ _ (groundFree_killAll _ (groundFree_filter cs _ hgf)) (by simp [Cpt.GroundFree]))
      (by simp [Cpt.GroundFree]))]
  simp only [Experiment.reground, transadmittanceExp, vProbe, reground_append, reground_killAll,
    reground_filter_across, Obs.mapNodes]
  simp [reground, Cpt.mapNodes]

/-! ### the guard is necessary, and the theorem is not vacuous -/

/-- a block defined with respect to ground, `TR 1 2` (V(2) = 3·V(1)), is outside the guard -/
example : ¬ (Cpt.TR 1 2 0 (3 : ℚ)).GroundFree := by simp [Cpt.GroundFree]

/-- non-vacuity: a divider `V1 1 0 6; R1 1 2 1; R2 2 0 2` solved with node 0 as reference (V(1) = 6, V(2) = 4,
    J = −2) and, by the theorem, with node 2 as reference (V(1) = 2, V(old ground) = −4). -/
def exDivider : List (Cpt ℚ) := [.V 1 0 0 6, .R 1 2 1, .R 2 0 2]

def exDividerSol : Ix → ℚ := fun i => match i with | node 1 => 6 | node 2 => 4 | br 0 => -2 | _ => 0

example : Laws .dc 0 exDivider exDividerSol :=
  laws_of_range 3 (by decide) (by decide +kernel) (by decide +kernel)

example : (∀ c ∈ exDivider, c.GroundFree) := groundFree_of_all _ (by decide +kernel)

example : regroundSol 2 exDividerSol (node 1) = 2 ∧ regroundSol 2 exDividerSol (node 2) = -4 := by
  norm_num [regroundSol, swap0, volt, exDividerSol]

/-- non-vacuity of `Measures`: the driving-point impedance of `R1 1 0 5` is 5 -/
example : Measures .dc (0 : ℚ) (impedanceExp [.R 1 0 5] 1 0) 5 := by
  refine ⟨⟨fun i => match i with | node 1 => 5 | _ => 0, laws_of_range 2 (by decide) (by decide +kernel) (by decide +kernel)⟩, fun x hx => ?_⟩
  have k1 := hx.1 1 (by decide)
  simp [impedanceExp, zProbe, killAll, Cpt.mapSrc, outflow, twoTerm, lsum] at k1
  simp only [impedanceExp, Obs.read]
  linarith

end Lcapy.C04
