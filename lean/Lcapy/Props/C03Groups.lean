/-
  PROPERTY C03, "however the sources are grouped".
  HEADLINE statements are about the EXECUTED model (Model/Groups.lean: `srcKinds`, `sourceGroups`, `analysisGroups`,
  `partLap` — what the driver runs and the harness compares with `_analysis_groups()` / `cct.sub` / `select`):
  `srcKinds_partition`, `srcKinds_partition_terms`, `sourceGroups_lists`, `analysisGroups_ivp/_time/_kinds`.
  `groups_partition`, `term_in_exactly_one_group`, `termKinds_ok` are TERM-LEVEL lemmas about the Props-local
  `selectTerms`/`termKinds` (raw terms, keys that cover them); `groups_superpose_partial` adds group solutions that
  live in ONE common analysis (kind, s): the initial-value branch, or all parts transformed to one point.  The
  recombination of groups solved in DIFFERENT kinds (dc at dc, ω at s = jω, transient in the Laplace kind) into
  V(s) = dc/s + Σ phasor transforms + transient is a definition of `SuperSolve.run`, tied to the code by the
  correspondence `sup.solve` and the LAP oracle, not by a theorem.
-/
import Lcapy.Proofs.Groups
import Lcapy.Props.C03
import Lcapy.Props.C03Lap
namespace Lcapy.C03
open Lcapy.MNA Lcapy.Groups Lcapy.Decompose
set_option linter.unusedSimpArgs false
variable {K : Type} [Field K]

/-- the terms of a source value that the group of kind `k` takes (`Superposition.select(kind)`) -/
def selectTerms (k : Key) (ts : List (Term Rat)) : List (Term Rat) := ts.filter (fun t => decide (kindOf t = k))

/-- the kinds present in a term list, without repetition -/
def termKinds (ts : List (Term Rat)) : List Key := (ts.map kindOf).dedup

/-- REMARK (term level, list fact): among duplicate-free keys that include the term's kind exactly one selects the
    term.  The statement about Lcapy's groups is `sourceGroups_lists`. -/
theorem term_in_exactly_one_group (G : List Key) (hG : G.Nodup) (t : Term Rat) (ht : kindOf t ∈ G) :
    (G.filter (fun k => decide (kindOf t = k))).length = 1 := by
  induction G with
  | nil => simp at ht
  | cons g rest ih =>
    simp only [List.nodup_cons] at hG
    rcases List.mem_cons.mp ht with h | h
    · subst h
      have hnone : rest.filter (fun k => decide (kindOf t = k)) = [] := by
        rw [List.filter_eq_nil_iff]
        intro k hk; simp only [decide_eq_true_eq]; intro hkk; exact hG.1 (hkk ▸ hk)
      rw [List.filter_cons]
      simp only [decide_true, if_true, List.length_cons, hnone, List.length_nil]
    · have : kindOf t ≠ g := fun hh => hG.1 (hh ▸ h)
      simp [List.filter_cons, this, ih hG.2 h]

/-- **groups_partition** (TERM level, Props-local `selectTerms`; needs keys that COVER the raw kinds — the keys the
    code reports drop cancelled kinds, for them use `srcKinds_partition`): for ANY reading `f` of the terms (value at an instant, transform at a point, the
    right-hand side a source contributes to an MNA row …) the parts taken by the groups add up to the whole value —
    for every term list, any number of groups, whenever the group keys are duplicate-free and cover the kinds present. -/
theorem groups_partition (f : Term Rat → K) (G : List Key) (hG : G.Nodup) (ts : List (Term Rat))
    (hcover : ∀ t ∈ ts, kindOf t ∈ G) :
    (G.map (fun k => ((selectTerms k ts).map f).sum)).sum = (ts.map f).sum := by
  induction ts with
  | nil => simp [selectTerms]
  | cons t rest ih =>
    have hstep : ∀ k, ((selectTerms k (t :: rest)).map f).sum =
        (if kindOf t = k then f t else 0) + ((selectTerms k rest).map f).sum := by
      intro k
      by_cases h : kindOf t = k <;> simp [selectTerms, List.filter_cons, h]
    simp only [hstep, List.map_cons, List.sum_cons]
    rw [List.sum_map_add, sum_indicator G hG (kindOf t) (hcover t (by simp)) (f t),
      ih (fun u hu => hcover u (by simp [hu]))]

/-- the kinds present in a term list are duplicate-free and cover it: `groups_partition` applies to them -/
theorem termKinds_ok (ts : List (Term Rat)) : (termKinds ts).Nodup ∧ ∀ t ∈ ts, kindOf t ∈ termKinds ts := by
  refine ⟨List.nodup_dedup _, fun t ht => ?_⟩
  simp only [termKinds, List.mem_dedup, List.mem_map]
  exact ⟨t, ht, rfl⟩

/-- the keys of a non-noise source, as the model computes them -/
theorem srcKinds_eq (s : Src) (hn : ∀ nid, s.form ≠ .noise nid) :
    srcKinds s =
      (if (decompose s.terms).dc != 0 then [Key.dc] else []) ++
      (((decompose s.terms).ac.filter (fun p => p.2.1 != 0 || p.2.2 != 0)).map (fun p => Key.ac p.1)) ++
      (if (decompose s.terms).tr.isEmpty then [] else [Key.transient]) := by
  unfold srcKinds
  cases hf : s.form with
  | noise nid => exact absurd hf (hn nid)
  | _ => rfl

/-- **srcKinds_sound**: the keys the model (and the code: `Voc.kinds(transform=True)`) reports for a non-noise source
    are kinds of its raw terms: a group never receives a source that has no term of its kind.  (Conversely a kind
    whose accumulated value is exactly zero is dropped by the code — `if dc != 0` — and contributes nothing.) -/
theorem srcKinds_sound (s : Src) (hn : ∀ nid, s.form ≠ .noise nid) : ∀ k ∈ srcKinds s, k ∈ termKinds s.terms := by
  intro k hk
  have hmem : ∀ k, (∃ t ∈ s.terms, kindOf t = k) → k ∈ termKinds s.terms := by
    intro k ⟨t, ht, hkt⟩
    simp only [termKinds, List.mem_dedup, List.mem_map]; exact ⟨t, ht, hkt⟩
  apply hmem
  by_contra hno
  have hall : ∀ t ∈ s.terms, kindOf t ≠ k := fun t ht hkt => hno ⟨t, ht, hkt⟩
  rw [srcKinds_eq s hn] at hk
  simp only [List.mem_append, List.mem_map, List.mem_filter] at hk
  rcases hk with (hk | ⟨p, ⟨hp, _⟩, rfl⟩) | hk
  · split_ifs at hk with hdc
    · simp only [List.mem_singleton] at hk; subst hk
      have := fold_dc_unchanged s.terms ⟨0, [], []⟩ hall
      simp only [decompose] at hdc
      rw [this] at hdc
      simp at hdc
    · simp at hk
  · have := fold_ac_keys s.terms ⟨0, [], []⟩ p.1 hall (by
      simp only [acKeys, List.mem_map]; exact ⟨p, hp, rfl⟩)
    simp [acKeys] at this
  · split_ifs at hk with htr
    · simp at hk
    · simp only [List.mem_singleton] at hk; subst hk
      have := fold_tr_unchanged s.terms ⟨0, [], []⟩ hall
      simp only [decompose] at htr
      rw [this] at htr
      simp at htr

/-! ### the EXECUTED classification (`Model/Groups.lean`: what the driver runs and the harness compares with
`_analysis_groups()` / `cct.sub`) -/

/-- **srcKinds_partition** (groups of the executed model, cancelling kinds included): for every non-noise source, the
    Laplace-domain values of the parts that ITS reported groups take (`partLap`: what `SuperSolve.run` feeds to the
    dc, ω and transient sub-netlists, transformed as `Superposition.laplace()` does) add up to the Laplace form of the
    whole decomposition.  A kind whose accumulated value is zero (`2 − 2 + cos 3t`) is not reported and contributes 0.
    With `reassemble_laplace` the right-hand side is the sum of the transforms of the raw terms. -/
theorem srcKinds_partition (s : Src) (hn : ∀ nid, s.form ≠ .noise nid) (XL : Nat → Rat) (s0 : Rat) :
    ((srcKinds s).map (partLap XL s0 (decompose s.terms))).sum = decompLap XL s0 (decompose s.terms) := by
  rw [srcKinds_eq s hn]
  simp only [List.map_append, List.sum_append]
  rw [ac_parts_sum XL s0 _ (decompose_ac_nodup s.terms)]
  unfold decompLap
  congr 1
  · congr 1
    by_cases hdc : (decompose s.terms).dc = 0
    · simp [hdc]
    · simp [hdc, partLap]
  · by_cases htr : (decompose s.terms).tr = []
    · simp [htr, sumK]
    · have : (decompose s.terms).tr.isEmpty = false := by
        cases h : (decompose s.terms).tr with
        | nil => exact absurd h htr
        | cons _ _ => rfl
      simp [this, partLap, trPart]

/-- … and therefore the parts taken by the reported groups add up to the sum of the transforms of the RAW terms -/
theorem srcKinds_partition_terms (s : Src) (hn : ∀ nid, s.form ≠ .noise nid) (XL : Nat → Rat) (s0 : Rat)
    (hreg : RegularPoint s0 s.terms) :
    ((srcKinds s).map (partLap XL s0 (decompose s.terms))).sum = sumK (s.terms.map (termLap XL s0)) := by
  rw [srcKinds_partition s hn, reassemble_laplace XL s0 s.terms hreg]

/-- **sourceGroups_lists**: `independent_source_groups(True)` as executed: the group of kind `k` lists the name `n`
    iff some source called `n` has the kind `k` — every (source, kind) pair lands in its group and nothing else does. -/
theorem sourceGroups_lists (ls : List Line) (k : Key) (n : String) :
    listed (sourceGroups ls) k n ↔ ∃ s ∈ sources ls, k ∈ srcKinds s ∧ n = s.name := by
  unfold sourceGroups
  rw [foldSrcs_listed]
  simp [listed]

/-- the three branches of `_analysis_groups()` as executed.  Initial-value problem: ONE group 'ivp' that lists every
    non-noise (source, kind) pair — it takes the WHOLE value of every source (`SuperSolve.run` feeds `decompLap` of the
    whole decomposition, `srcKinds_partition` says that this is the sum of the per-kind parts); noise sources are dropped. -/
theorem analysisGroups_ivp (ls : List Line) (h : hasIC ls = true) :
    analysisGroups ls = [(Key.ivp, ((sourceGroups ls).filter (fun p => !p.1.isNoise)).flatMap (·.2))] := by
  simp [analysisGroups, h]

/-- no reactive component and no s-domain source: ONE group 'time' with the same listing, the noise groups kept -/
theorem analysisGroups_time (ls : List Line) (h : hasIC ls = false) (hr : reactive ls = false) (hs : hasS ls = false) :
    analysisGroups ls = (Key.time, ((sourceGroups ls).filter (fun p => !p.1.isNoise)).flatMap (·.2)) ::
      (sourceGroups ls).filter (fun p => p.1.isNoise) := by
  simp [analysisGroups, h, hr, hs]

/-- otherwise the groups are the per-kind groups of `sourceGroups_lists` -/
theorem analysisGroups_kinds (ls : List Line) (h : hasIC ls = false) (hr : reactive ls = true ∨ hasS ls = true) :
    analysisGroups ls = sourceGroups ls := by
  rcases hr with hr | hr <;> simp [analysisGroups, h, hr]

/-- **groups_superpose_partial** — PARTIAL: all groups are solved in ONE common analysis `(kind, s)`.  That is the
    initial-value branch (`analysisGroups_ivp`: one Laplace analysis, every source carries the sum of its parts) and
    any splitting of source VALUES inside one analysis.  NOT covered: Lcapy's per-kind groups solved in different
    kinds/points (dc, s = jω per ω, Laplace) and recombined as signals — see the file header.
    Statement: for ANY netlist `cs` and any family of source valuations `ws` (the valuation of group g gives the source
    at position p the part of its value that g takes, 0 if none), if `xs` solve the group netlists then their sum
    solves the netlist whose sources carry the SUMS of the parts.  Any number of groups, netlists of any size. -/
theorem groups_superpose_partial (kind : Kind) (s : K) (cs : List (Cpt K)) (ws : List (Nat → K)) (xs : List (Ix → K))
    (h : List.Forall₂ (fun w x => Solves kind s (assignAt w 0 cs) x) ws xs) :
    Solves kind s (assignAt (sumW ws) 0 cs) (sumX xs) := by
  induction h with
  | nil =>
    simp only [sumW, sumX, assignAt_zero]
    exact killAll_solved_by_zero kind s cs
  | cons hwx _ ih =>
    simp only [sumW, sumX]
    rw [← assignAt_add]
    exact superposition kind s _ _ _ _ (assignAt_sameShape _ _ 0 cs) hwx ih

/-- **scaling_one_source**: in the single-source netlist of a component (every OTHER independent quantity killed, as
    `kill_except` builds it; `pre`/`post` are the components listed before/after it) scaling that one source by `a`
    scales the whole response by `a`. -/
theorem scaling_one_source (kind : Kind) (s a : K) (pre post : List (Cpt K)) (c : Cpt K) (x : Ix → K)
    (h : Solves kind s (killAll pre ++ c :: killAll post) x) :
    Solves kind s (killAll pre ++ c.mapSrc (fun v => a * v) :: killAll post) (fun i => a * x i) := by
  have := scaling kind s a _ x h
  simpa only [List.map_append, List.map_cons, killAll_scale] using this

/-- **scaling_one_of_many**: a netlist with any number of sources in which ONE component `c` is scaled by `a`: if `x₀`
    solves the netlist with `c` killed and `x₁` solves the single-source netlist of `c`, then `x₀ + a·x₁` solves the
    netlist with `c` scaled — the contribution of the scaled source, and only it, scales (what the harness oracle
    checks: total + (a − 1)·part). -/
theorem scaling_one_of_many (kind : Kind) (s a : K) (pre post : List (Cpt K)) (c : Cpt K) (x0 x1 : Ix → K)
    (h0 : Solves kind s (pre ++ c.zeroSrc :: post) x0)
    (h1 : Solves kind s (killAll pre ++ c :: killAll post) x1) :
    Solves kind s (List.zipWith Cpt.addSrc (pre ++ c.zeroSrc :: post)
      (killAll pre ++ c.mapSrc (fun v => a * v) :: killAll post)) (fun i => x0 i + a * x1 i) := by
  have hshape : List.Forall₂ SameShape (pre ++ c.zeroSrc :: post)
      (killAll pre ++ c.mapSrc (fun v => a * v) :: killAll post) := by
    refine List.rel_append (sameShape_killAll pre) (List.Forall₂.cons ?_ (sameShape_killAll post))
    unfold SameShape Cpt.zeroSrc; rw [mapSrc_comp, mapSrc_comp]; rfl
  exact superposition kind s _ _ x0 _ hshape h0 (scaling_one_source kind s a pre post c x1 h1)

/-- non-vacuity of `srcKinds_partition` on a CANCELLING source `2 − 2 + cos 3t`: the code reports only the ω = 3 group,
    the hypotheses hold (texpr form; s = 1 is a regular point) and the single reported part carries the whole value -/
example : srcKinds ⟨"V1", "1", "0", .texpr, [.dc 2, .dc (-2), .ac 3 1 0]⟩ = [.ac 3] := by decide +kernel
example : RegularPoint (1 : ℚ) [.dc 2, .dc (-2), .ac 3 1 0] :=
  ⟨one_ne_zero, by
    intro t ht w a b h
    simp only [List.mem_cons, List.mem_nil_iff, or_false] at ht
    rcases ht with rfl | rfl | rfl <;> cases h <;> norm_num⟩

/-- non-vacuity: 2 + 3 cos 2t + sin 2t + 5 x₀ is split over the groups dc, ω = 2, transient -/
example : termKinds [.dc 2, .ac 2 3 0, .tr 0 5, .ac 2 0 1] = [.dc, .transient, .ac 2] := by decide +kernel

example : selectTerms (.ac 2) [.dc 2, .ac 2 3 0, .tr 0 5, .ac 2 0 1] = [.ac 2 3 0, .ac 2 0 1] := by
  simp [selectTerms, List.filter_cons, kindOf]

/-- non-vacuity of `groups_superpose_partial`: `V1 1 0; R1 1 2; I1 2 0` — dc group (V1 ↦ 6, I1 ↦ 0) and a second group
    (V1 ↦ 0, I1 ↦ 3): the valuations add to (6, ·, 3) -/
example : assignAt (sumW [fun p => if p = 0 then (6 : ℚ) else 0, fun p => if p = 2 then 3 else 0]) 0
    [.V 1 0 0 1, .R 1 2 2, .I 2 0 1] = [.V 1 0 0 6, .R 1 2 2, .I 2 0 3] := by
  simp [assignAt, sumW, Cpt.mapSrc]

end Lcapy.C03
