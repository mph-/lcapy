/-
  PROPERTY C01, the value guard.

  `Spec/Laws.lean` writes the current of a resistor as `V / r`.  In a field `V / 0 = 0`, so for `R n1 n2 0` both sides of
  `mna_iff_laws` read a zero-ohm resistor as an OPEN circuit (`NonVacuity.C01.e_R_zero_is_open`) -- true, but for the wrong reason.
  Here the resistor relation is stated the way the documentation gives it, v = r·i, with the resistor current `i` a quantity of
  its own (`LawsOhm`); under the guard `ValOK` (every resistance non-zero -- exactly the netlists the front-end accepts; for a
  zero resistance Lcapy's matrix contains `zoo`) the two readings coincide (`laws_iff_ohm`), the MNA system is solved exactly by
  the assignments obeying KCL + v = r·i + the other component relations (`mna_iff_ohm`), and outside the guard they differ:
  under v = r·i a zero-ohm resistor is a short circuit (`zero_ohm_is_short`), under `Laws` it carries no current
  (`zero_ohm_open_in_laws`).  Only property theorems (and the definitions they are stated with) live here.
-/
import Lcapy.Props.C01
namespace Lcapy.C01
open Lcapy.MNA Ix
variable {K : Type} [Field K]

/-- current leaving node `k` through the `i`-th component of the netlist, a resistor carrying the current `cur i` -/
def outflowOhm (kind : Kind) (s : K) (x : Ix → K) (cur : Nat → K) (k : Nat) (ic : Cpt K × Nat) : K :=
  match ic.1 with
  | .R n1 n2 _ => twoTerm n1 n2 k (cur ic.2)
  | c => outflow kind s x k c

/-- Ohm's law for the `i`-th component: v = r·i -/
def ohm (x : Ix → K) (cur : Nat → K) (ic : Cpt K × Nat) : Prop :=
  match ic.1 with
  | .R n1 n2 r => vd x n1 n2 = r * cur ic.2
  | _ => True

/-- KCL + v = r·i for every resistor + the defining relation of every other component -/
def LawsOhm (kind : Kind) (s : K) (cs : List (Cpt K)) (x : Ix → K) : Prop :=
  ∃ cur : Nat → K,
    (∀ ic ∈ cs.zipIdx, ohm x cur ic) ∧
    (∀ k, k ≠ 0 → lsum (cs.zipIdx.map (outflowOhm kind s x cur k)) = 0) ∧
    (∀ c ∈ cs, ∀ p ∈ laws kind s x c, p.2 = 0)

theorem lsum_zipIdx_congr (cs : List (Cpt K)) (f : Cpt K × Nat → K) (g : Cpt K → K)
    (h : ∀ ic ∈ cs.zipIdx, f ic = g ic.1) : lsum (cs.zipIdx.map f) = lsum (cs.map g) := by
  have : cs.zipIdx.map f = cs.zipIdx.map (fun ic => g ic.1) := List.map_congr_left h
  have h2 : cs.zipIdx.map (fun ic => g ic.1) = (cs.zipIdx.map Prod.fst).map g := by rw [List.map_map]; rfl
  rw [this, h2, List.zipIdx_map_fst]

/-- **laws_iff_ohm**: under the value guard the spec `Laws` (resistor current written V/r) says exactly KCL + v = r·i. -/
theorem laws_iff_ohm (kind : Kind) (s : K) (cs : List (Cpt K)) (x : Ix → K) (hval : ValOK cs) :
    Laws kind s cs x ↔ LawsOhm kind s cs x := by
  constructor
  · rintro ⟨hk, hl⟩
    refine ⟨fun i => match cs[i]? with | some (.R n1 n2 r) => vd x n1 n2 / r | _ => 0, ?_, ?_, hl⟩
    · rintro ⟨c, i⟩ hic
      have hget : cs[i]? = some c := List.mem_zipIdx_iff_getElem?.mp hic
      have hc : c ∈ cs := List.mem_of_getElem? hget
      cases c <;> simp only [ohm] <;> try trivial
      rename_i n1 n2 r
      have hr : r ≠ 0 := hval _ hc
      simp only [hget]; field_simp
    · intro k hk0
      rw [← hk k hk0]
      apply lsum_zipIdx_congr
      rintro ⟨c, i⟩ hic
      have hget : cs[i]? = some c := List.mem_zipIdx_iff_getElem?.mp hic
      cases c <;> simp only [outflowOhm, outflow, hget]
  · rintro ⟨cur, ho, hk, hl⟩
    refine ⟨?_, hl⟩
    intro k hk0
    rw [← hk k hk0]
    symm
    apply lsum_zipIdx_congr
    rintro ⟨c, i⟩ hic
    have hc : c ∈ cs := List.mem_of_getElem? (List.mem_zipIdx_iff_getElem?.mp hic)
    have h1 := ho _ hic
    cases c <;> simp only [outflowOhm, outflow]
    rename_i n1 n2 r
    have hr : r ≠ 0 := hval _ hc
    simp only [ohm] at h1
    rw [h1]; congr 1; field_simp

/-- **mna_iff_ohm**: for every well-formed netlist of any size WHOSE RESISTANCES ARE NON-ZERO, in every kind, at every s, an
    assignment solves the assembled MNA system iff it obeys Kirchhoff's current law, v = r·i for every resistor and the defining
    relation of every other component.  (The hypothesis `ValOK` is necessary: `zero_ohm_is_short` / `zero_ohm_open_in_laws`.) -/
theorem mna_iff_ohm (kind : Kind) (s : K) (cs : List (Cpt K)) (x : Ix → K) (hwf : WF cs) (hval : ValOK cs) :
    Solves kind s cs x ↔ LawsOhm kind s cs x :=
  (mna_iff_laws kind s cs x hwf).trans (laws_iff_ohm kind s cs x hval)

/-- outside the guard, reading 1: under v = r·i a zero-ohm resistor is a short circuit -/
theorem zero_ohm_is_short (kind : Kind) (s : K) (cs : List (Cpt K)) (x : Ix → K) (n1 n2 : Nat)
    (hmem : Cpt.R n1 n2 0 ∈ cs) (h : LawsOhm kind s cs x) : vd x n1 n2 = 0 := by
  obtain ⟨cur, ho, _, _⟩ := h
  obtain ⟨i, hi⟩ := List.getElem?_of_mem hmem
  have := ho (Cpt.R n1 n2 0, i) (List.mem_zipIdx_iff_getElem?.mpr hi)
  simpa [ohm] using this

/-- outside the guard, reading 2: in `Laws` (and so in the MNA model, whose stamp writes the admittance 1/0 = 0) the same
    component carries no current whatever the voltage across it -- the two readings disagree, which is why `ValOK` is a
    hypothesis and why the front-end rejects the netlist -/
theorem zero_ohm_open_in_laws (kind : Kind) (s : K) (x : Ix → K) (n1 n2 k : Nat) :
    outflow kind s x k (Cpt.R n1 n2 0) = 0 := by
  simp [outflow, twoTerm]

/-- non-vacuity: the divider `V1 1 0 6; R1 1 2 2; R2 2 0 4` satisfies the guard, and its solution obeys v = r·i -/
example : ValOK ([.V 1 0 0 6, .R 1 2 2, .R 2 0 4] : List (Cpt ℚ)) := by
  intro c hc; simp at hc; rcases hc with rfl | rfl | rfl <;> simp [Cpt.valOK]

example : LawsOhm (K := ℚ) .dc 0 [.V 1 0 0 6, .R 1 2 2, .R 2 0 4]
    (fun i => match i with | node 1 => 6 | node 2 => 4 | br 0 => -1 | _ => 0) := by
  refine ⟨fun i => 1, ?_, ?_, ?_⟩
  · intro ic hic
    simp [List.zipIdx] at hic
    rcases hic with rfl | rfl | rfl <;> norm_num [ohm, vd, volt]
  · intro k hk
    rcases k with _ | _ | _ | k
    · exact absurd rfl hk
    · norm_num [List.zipIdx, lsum, outflowOhm, outflow, twoTerm]
    · norm_num [List.zipIdx, lsum, outflowOhm, outflow, twoTerm]
    · simp [List.zipIdx, lsum, outflowOhm, outflow, twoTerm]
  · intro c hc p hp
    simp at hc
    rcases hc with rfl | rfl | rfl <;> simp [laws] at hp
    subst hp; norm_num [vd, volt]

end Lcapy.C01
