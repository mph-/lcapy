/-
  C02 — time-domain responses satisfy the circuit ODEs, initial state and causality.

  Spec   `LawsT E tcs x`      (Spec/LawsT.lean): KCL at every non-ground node and every component law on formal signals,
                              i = C·D v, v = L·D i + Σ M·D i', D the distributional derivative seen from the state at 0⁻;
                              equality of signals = equality of their formal unilateral transforms at every point that is
                              not a pole of a circuit signal or of a source (`Regular`).
         `LawsTFormal tcs x`  (Model/TimeDomain.lean): every residual has the empty normal form; decided by the driver on
                              the real Lcapy's closed forms.
  C01    `Laws .ivp s cs X`   (Spec/Laws.lean): the s-domain laws with initial-condition sources C·v0, L·i0, M·i0'.
  C09    `lt_deriv`           `L{Dx}(s) = s·X(s) − x(0⁻)` (its lemma `L_signal_deriv`, Proofs/Laplace.lean, is used directly so that
                              this module does not depend on the generated C09 tables);   C10  `ilt_laplace`, `causal_zero_before`.

  Only property theorems live here; helper lemmas are in Proofs/TimeDomain.lean.
-/
import Lcapy.Proofs.TimeDomain
import Lcapy.Proofs.TimeDomainAnchor
import Lcapy.Props.C01
import Lcapy.Props.C10
import Mathlib.Tactic.NormNum
namespace Lcapy.C02
open Lcapy.MNA Lcapy.Laplace Lcapy.TD

section transform
variable {K : Type} [Field K] (E : K → K)

/-- **The ivp capacitor law IS the transform of `i = C·D v` with `v(0⁻) = v0`.**  The source term `C·v0` of
    `capCurrent .ivp` is the `x(0⁻)` of the derivative theorem `lt_deriv`. -/
theorem cap_law_is_transform (hE : IsExp E) (x : Ix → Signal K) (n1 n2 : Nat) (c v0 s : K)
    (hx : ∀ ix, NonPole (x ix).post s) :
    L E (capCurrentT x n1 n2 c (some v0)) s = capCurrent .ivp s c (some v0) (vd (transformOf E x s) n1 n2) := by
  simp only [capCurrentT, L_smul, L_stateDeriv E hE _ s _ (NonPole_vpost hx n1 n2), L_vpost, capCurrent, stateOf]
  ring

/-- … and the same statement through `C09.lt_deriv` itself: the whole-axis signal whose pre-history sits at `v0`. -/
theorem cap_law_via_lt_deriv [DecidableEq K] (hE : IsExp E) (c v0 s : K) (v : ExpPoly K) (hv : NonPole v s) :
    c * (Signal.deriv ⟨[(v0, 0, 0)], v⟩).L E s = capCurrent .ivp s c (some v0) (L E v s) := by
  rw [L_signal_deriv E hE s ⟨[(v0, 0, 0)], v⟩ hv]   -- the lemma quoted as `C09.lt_deriv`
  simp [capCurrent, pre0, Signal.L]; ring

/-- **The ivp inductor law, mutual terms included, IS the transform of `v = L·D i + Σ M·D i'`** with
    `i(0⁻) = i0` and, for every coupled inductor, `i'(0⁻) = i0'`: the s-domain relation contains
    `−L·i0 − Σ M·i0'`.  (A stamp without the `M·i0'` term is therefore NOT the transform of the coupled-inductor
    law when the partner carries an initial current: finding C02-mutual-ic.) -/
theorem ind_law_is_transform (hE : IsExp E) (x : Ix → Signal K) (s : K) (hx : ∀ ix, NonPole (x ix).post s)
    (n1 n2 m : Nat) (l : K) (i0 : Option K) (coup : List (Nat × K × Option K)) (w : Signal K)
    (hr : RestC x (.Ind n1 n2 m l i0 coup, w)) :
    (lawsT x (.Ind n1 n2 m l i0 coup, w)).map (fun p => (p.1, L E p.2 s))
      = laws .ivp s (transformOf E x s) (.Ind n1 n2 m l i0 coup) :=
  laws_transform E hE x s hx (.Ind n1 n2 m l i0 coup, w) hr

/-- **laws_s_of_laws_t** (pointwise lemma at ONE regular point `s`).  READING (F3/F4): `LawsT E` is "the time-domain
    laws" only together with `FinitePoles` (otherwise the set of regular points may be empty) and, for DELAYED sources, only
    for an `E` whose delay factors are independent — `Real.exp` (`delayIndep_real`); over ℚ `IsExp E` forces `E = 1`, which
    forgets every delay.  The claimed statements are `C02.lawsTime_iff_formal`, `laws_time_of_laws_s`, `formal_lawsTime`
    (Props/C02Inj.lean), the `…_real` ones, and `lawsTW_iff_formal` (delays as indeterminates).
    Signals that satisfy the time-domain laws (from the initial state written in the netlist;
    at rest where none is written) have transforms that satisfy the ivp s-domain laws of C01 at every regular point,
    the sources being replaced by the transforms of their waveforms.  Any netlist, any size. -/
theorem laws_s_of_laws_t (hE : IsExp E) (tcs : List (TCpt K)) (x : Ix → Signal K)
    (hrest : RestWhereUnspecified tcs x) (h : LawsT E tcs x) (s : K) (hs : Regular tcs x s) :
    Laws .ivp s (tcs.map (atS E s)) (transformOf E x s) :=
  (laws_at_iff E hE tcs x hrest s hs.1).mpr (h s hs)

/-- **laws_t_of_laws_s** (transform level; meaningful with `FinitePoles`: see `C02.laws_time_of_laws_s`): conversely, if the transforms satisfy the ivp s-domain laws at every regular point then the
    signals satisfy the time-domain laws (equality of signals being equality of transforms at every regular point). -/
theorem laws_t_of_laws_s (hE : IsExp E) (tcs : List (TCpt K)) (x : Ix → Signal K)
    (hrest : RestWhereUnspecified tcs x)
    (h : ∀ s, Regular tcs x s → Laws .ivp s (tcs.map (atS E s)) (transformOf E x s)) :
    LawsT E tcs x :=
  fun s hs => (laws_at_iff E hE tcs x hrest s hs.1).mp (h s hs)

/-- composition with C01: at every regular point the transforms of a time-domain solution solve the MNA system that
    the `_stamp` methods assemble in ivp analysis (so they ARE Lcapy's s-domain solution when that system is regular,
    `C01.mna_unique`). -/
theorem transforms_solve_mna (hE : IsExp E) (tcs : List (TCpt K)) (x : Ix → Signal K)
    (hrest : RestWhereUnspecified tcs x) (h : LawsT E tcs x) (s : K) (hs : Regular tcs x s)
    (hwf : C01.WF (tcs.map (atS E s))) :
    Solves .ivp s (tcs.map (atS E s)) (transformOf E x s) :=
  (C01.mna_iff_laws .ivp s _ _ hwf).mpr (laws_s_of_laws_t E hE tcs x hrest h s hs)

/-- **response_unique_at**: two time-domain solutions of one netlist (same sources, same initial state) have the same
    transform at every point that is regular for both and at which the MNA system is non-singular on the unknowns `U`
    (`C01.NonsingularOn`; for `U = C01.Unknown …` this is `C01.Nonsingular`) — i.e. the time
    response is THE inverse transform of the unique s-domain solution.  Equality of the signals themselves (as normal
    forms) follows by injectivity of `L`: `C02.response_unique` (Props/C02Inj.lean). -/
theorem response_unique_at (hE : IsExp E) (U : Ix → Prop) (tcs : List (TCpt K)) (x y : Ix → Signal K)
    (hrx : RestWhereUnspecified tcs x) (hry : RestWhereUnspecified tcs y)
    (hx : LawsT E tcs x) (hy : LawsT E tcs y) (s : K) (hsx : Regular tcs x s) (hsy : Regular tcs y s)
    (hwf : C01.WF (tcs.map (atS E s))) (hns : C01.NonsingularOn U .ivp s (tcs.map (atS E s))) :
    ∀ i, U i → L E (x i).post s = L E (y i).post s :=
  C01.laws_unique_on U .ivp s _ _ _ hwf hns (laws_s_of_laws_t E hE tcs x hrx hx s hsx) (laws_s_of_laws_t E hE tcs y hry hy s hsy)

/-- **response_is_ilt** (`TD.response` = the model's `ilt`, executed by Driver/C10, not by Driver/C02; transform-level
    conclusion, see `C02.response_is_ilt_time` for the form with `FinitePoles`): the time response obtained by inverting (`ilt`, the mirror of
    `InverseLaplaceTransformer.ratfun`) partial-fraction data of an s-domain solution satisfies the time-domain laws.
    `X ix s = Σ evalPF` is the s-domain solution written in partial fractions (one `PF` per delay factor);
    orders are numbered from 1 as `as_QRPO` does. -/
theorem response_is_ilt (hE : IsExp E) (tcs : List (TCpt K)) (pre : Ix → List (K × Nat × K)) (pfs : Ix → List (PF K))
    (hpos : ∀ ix, ∀ pf ∈ pfs ix, ∀ r ∈ pf.R, 0 < r.2.2)
    (hrest : RestWhereUnspecified tcs (fun ix => ⟨pre ix, response (pfs ix)⟩))
    (hS : ∀ s, Regular tcs (fun ix => ⟨pre ix, response (pfs ix)⟩) s →
      Laws .ivp s (tcs.map (atS E s)) (fun ix => lsum ((pfs ix).map (fun pf => evalPF E pf s)))) :
    LawsT E tcs (fun ix => ⟨pre ix, response (pfs ix)⟩) := by
  apply laws_t_of_laws_s E hE tcs _ hrest
  intro s hs
  have : transformOf E (fun ix => (⟨pre ix, response (pfs ix)⟩ : Signal K)) s
      = fun ix => lsum ((pfs ix).map (fun pf => evalPF E pf s)) := by
    funext ix
    simp only [transformOf, response, L_flatMap_lsum]
    congr 1
    apply List.map_congr_left
    intro pf hpf
    exact C10.ilt_laplace E pf s (hpos ix pf hpf)
  rw [this]
  exact hS s hs

end transform

/-! ### hand-over of the state at a switching instant -/

section handover
variable {K : Type} [Field K] [DecidableEq K]

/-- **handover**: `convert_IVP` / `initialize` write into the post-switch netlist the capacitor voltages and inductor
    currents (for couplings: the partner's current) of the pre-switch solution `X` at the switching instant — for a
    steady (dc) pre-switch circuit `X` is its C01 `Laws .dc` solution, which is what the harness computes with the Lean
    C01 model (`mna.solve dc`, checked by `residual`) and compares with what Lcapy wrote (oracle `state-handover`); for a
    pre-switch response that is still moving `X` is `evalAt` of that (law-checked) response at the switching instant.
    For signals whose pre-history ends in `X` this initial-value problem has EXACTLY the
    solutions of the post-switch netlist with no initial condition written, i.e. of the circuit continued from its own
    state at 0⁻: the initial conditions handed over are the values at t = 0⁻ of the pre-switch solution, nothing else.
    (A hand-over of any other value, e.g. the solution at a later instant, breaks this: seeded change C02-3.) -/
theorem handover (X : Ix → K) (cs : List (Cpt K × Signal K)) (x : Ix → Signal K) (h : StartsFrom X x) :
    LawsTFormal (cs.map (fun c => (initializeFrom X c.1, c.2))) x ↔ LawsTFormal (cs.map (fun c => (clearIC c.1, c.2))) x := by
  have hk : ∀ k, kclT x k (cs.map (fun c => (initializeFrom X c.1, c.2))) = kclT x k (cs.map (fun c => (clearIC c.1, c.2))) := by
    intro k
    simp only [kclT, List.flatMap_map]
    exact congrArg (List.flatMap · cs) (funext fun c => outflowT_handover h k c.1 c.2)
  simp only [LawsTFormal, hk, List.forall_mem_map, lawsT_handover h]

/-- **handover_at_partial**: the same for a switch operated at an instant `T` of the pre-switch time axis (the `T > 0`
    and two-switch families of the harness).  The post-switch problem lives on the time axis `τ = t − T`; the state handed
    over is `evalAt E (xp ·).post T`, the pre-switch response `xp` AT `T` — what `initialize(before, T)` substitutes and what
    the oracle `state-handover-T` recomputes with the Lean `evalAt`.  PARTIAL: the identification of the value at `T⁻` with
    `evalAt … T` (which takes u(0) = 1) assumes that no term of `xp` switches exactly at `T` and no impulse sits there; the
    shift of the SOURCES to the new time axis is not modelled (Lcapy does not shift them either: only sources that are
    constant for t > 0 are generated). -/
theorem handover_at_partial [LinearOrder K] (E : K → K) (T : K) (xp : Ix → Signal K) (cs : List (Cpt K × Signal K))
    (x : Ix → Signal K) (h : StartsFrom (fun ix => evalAt E (xp ix).post T) x) :
    LawsTFormal (cs.map (fun c => (initializeFrom (fun ix => evalAt E (xp ix).post T) c.1, c.2))) x
      ↔ LawsTFormal (cs.map (fun c => (clearIC c.1, c.2))) x :=
  handover _ cs x h

/-- the constant continuation of `X` starts from `X` -/
example (X : Ix → ℚ) : StartsFrom X (constSignals X) := fun ix => by simp [constSignals, pre0]

end handover

/-! ### the decision procedure of the driver -/

section formal
variable {K : Type} [Field K] [DecidableEq K]

/-- **formal_lawsT**: what the driver decides implies the transform-level laws, for every `E` (with `FinitePoles`:
    `C02.formal_lawsTime`; the formal laws are the stronger statement, cf. `lawsTW_iff_formal`). -/
theorem formal_lawsT (E : K → K) (tcs : List (TCpt K)) (x : Ix → Signal K) (h : LawsTFormal tcs x) : LawsT E tcs x := by
  intro s _
  exact ⟨fun k hk => L_of_formalZero E (h.1 k hk) s, fun c hc p hp => L_of_formalZero E (h.2 c hc p hp) s⟩

/-- soundness of the verdict `ok` of `checkLawsT`: KCL at the nodes `1 … nNodes−1` and all component laws hold formally -/
theorem checkLawsT_ok (tcs : List (TCpt K)) (x : Ix → Signal K) (n : Nat) (h : checkLawsT tcs x n = .ok) :
    (∀ k, k ≠ 0 → k < n → FormalZero (kclT x k tcs)) ∧ (∀ c ∈ tcs, ∀ p ∈ lawsT x c, FormalZero p.2) := by
  have hz {f : ExpPoly K} {v : VerdictT K} (h : (if (nf f).isEmpty then none else some v) = none) : FormalZero f :=
    List.isEmpty_iff.mp (by by_contra hne; rw [if_neg hne] at h; exact nomatch h)
  unfold checkLawsT at h
  simp only at h
  split at h
  · rename_i heq
    subst h
    obtain ⟨a, _, ha⟩ := List.exists_of_findSome?_eq_some heq
    split_ifs at ha <;> simp at ha
  · rename_i hk
    split at h
    · rename_i heq
      subst h
      obtain ⟨a, _, ha⟩ := List.exists_of_findSome?_eq_some heq
      obtain ⟨q, _, hq⟩ := List.exists_of_findSome?_eq_some ha
      split_ifs at hq <;> simp at hq
    · rename_i hl
      constructor
      · intro k hk0 hkn
        have := (List.findSome?_eq_none_iff.mp hk) k (List.mem_range.mpr hkn)
        rw [if_neg hk0] at this
        exact hz this
      · intro c hc p hp
        obtain ⟨i, hi1, hi2⟩ := List.mem_iff_getElem.mp hc
        have hmem : (c, i) ∈ tcs.zipIdx := by
          rw [List.mem_zipIdx_iff_getElem?]; simp [hi2, hi1]
        exact hz ((List.findSome?_eq_none_iff.mp ((List.findSome?_eq_none_iff.mp hl) (c, i) hmem)) p hp)

/-- **checkLawsT_sound**: the verdict `ok` on a netlist whose components sit on the nodes `0 … n−1` only IS `LawsTFormal`
    (KCL at a node no component touches is the empty residual). -/
theorem checkLawsT_sound (tcs : List (TCpt K)) (x : Ix → Signal K) (n : Nat) (h : checkLawsT tcs x n = .ok)
    (hn : nodesBelow n tcs = true) : LawsTFormal tcs x := by
  obtain ⟨hk, hl⟩ := checkLawsT_ok tcs x n h
  refine ⟨fun k hk0 => ?_, hl⟩
  by_cases hlt : k < n
  · exact hk k hk0 hlt
  · rw [kclT_nil x k hk0 tcs (not_mem_nodesOf_of_nodesBelow hn (Nat.le_of_not_lt hlt))]
    rfl

/-- **tdCheck_sound** — soundness of the oracle AS THE DRIVER RUNS IT (`td.laws full|smooth`): `tdCheck` applies the
    time-domain reading of a capacitor-controlled CCVS (`capControl`), in `smooth` mode the pre-history reading
    (`clearIC`, `smoothSignals`), refuses inconsistent coupling records and components outside the node range, and runs
    `checkLawsT`; the verdict `ok` implies `LawsTFormal` of exactly the problem `tdProblem` it was decided on.
    (Carrier: any field; the driver's carrier `GQ` is the Gaussian rationals with an error value — no verdict is
    issued on an error value since it never equals 0.) -/
theorem tdCheck_sound (smooth : Bool) (brs : List String) (nNodes : Nat) (tcs : List (String × TCpt K)) (x : Ix → Signal K)
    (h : tdCheck smooth brs nNodes tcs x = some .ok) :
    LawsTFormal ((tdProblem smooth brs nNodes tcs x).1.map (fun c => c.2)) (tdProblem smooth brs nNodes tcs x).2.1 := by
  unfold tdCheck at h
  simp only at h
  split_ifs at h with hc
  simp only [Bool.and_eq_true] at hc
  exact checkLawsT_sound _ _ _ (Option.some.inj h) hc.2

/-- **ic_start** (formal coefficient version; the statement about the VALUE at 0⁺ is `ic_start_value`, which adds `Causal`:
    `val0plus` is the value at 0⁺ only when no term has a negative delay).  If `i = C·D v` holds formally, the voltage is impulse-free and the current has no
    impulse at the origin, then the capacitor voltage at 0⁺ is its state at 0⁻ : the initial condition `v0` of the
    netlist when there is one, otherwise the value of its own pre-history (continuity across t = 0). -/
theorem ic_start (x : Ix → Signal K) (n1 n2 : Nat) (c : K) (v0 : Option K) (i : ExpPoly K) (hc : c ≠ 0)
    (hlaw : FormalZero (subP i (capCurrentT x n1 n2 c v0)))
    (hv : NoDelta (vpost x n1 n2)) (hi : impulse0 i = 0) :
    val0plus (vpost x n1 n2) = stateOf v0 (vpre0 x n1 n2) := by
  have := impulse_balance i _ [] c _ (by rwa [List.append_nil]) hv hi
  rw [show impulse0 ([] : ExpPoly K) = 0 from rfl, add_zero] at this
  exact sub_eq_zero.mp ((mul_eq_zero.mp this).resolve_left hc)

/-- … for an inductor that is not coupled: no impulse in its voltage ⇒ `i_L(0⁺)` is its state at 0⁻. -/
theorem ic_start_inductor (x : Ix → Signal K) (n1 n2 m : Nat) (l : K) (i0 : Option K) (w : Signal K) (hl : l ≠ 0)
    (hlaw : ∀ p ∈ lawsT x (.Ind n1 n2 m l i0 [], w), FormalZero p.2)
    (hi : NoDelta (x (.br m)).post) (hv : impulse0 (vpost x n1 n2) = 0) :
    val0plus (x (.br m)).post = stateOf i0 (pre0 (x (.br m)).pre) := by
  have := impulse_balance _ _ _ l _ (hlaw _ (List.mem_singleton.mpr rfl)) hi hv
  rw [show impulse0 (mutualDropT x []) = 0 from rfl, add_zero] at this
  exact sub_eq_zero.mp ((mul_eq_zero.mp this).resolve_left hl)

/-- **ic_start_flux**: coupled inductors.  If `v = L·D i + Σ M·D i'` holds formally, the currents are impulse-free and
    the inductor's voltage has no impulse at the origin, then the flux linkage `L·i + Σ M·i'` at 0⁺ equals its value at
    0⁻ (computed from `i0` and the partners' `i0'`):  `L·(i(0⁺) − i0) + Σ M·(i'(0⁺) − i0') = 0`.
    (An individual coupled current may jump when a partner's voltage carries an impulse; the flux may not.) -/
theorem ic_start_flux (x : Ix → Signal K) (n1 n2 m : Nat) (l : K) (i0 : Option K) (coup : List (Nat × K × Option K))
    (w : Signal K)
    (hlaw : ∀ p ∈ lawsT x (.Ind n1 n2 m l i0 coup, w), FormalZero p.2)
    (hi : NoDelta (x (.br m)).post) (hc : ∀ p ∈ coup, NoDelta (x (.br p.1)).post)
    (hv : impulse0 (vpost x n1 n2) = 0) :
    l * (val0plus (x (.br m)).post - stateOf i0 (pre0 (x (.br m)).pre)) +
      lsum (coup.map (fun p => p.2.1 * (val0plus (x (.br p.1)).post - stateOf p.2.2 (pre0 (x (.br p.1)).pre)))) = 0 :=
  impulse0_mutualDropT x coup hc ▸ impulse_balance _ _ _ l _ (hlaw _ (List.mem_singleton.mpr rfl)) hi hv

end formal

section ordered
variable {K : Type} [Field K] [LinearOrder K] [IsStrictOrderedRing K] (E : K → K)

/-- **formal_pointwise**: what the driver decides also gives the laws pointwise: every residual vanishes at every
    instant `t` (`evalAt`; impulses do not contribute to pointwise values). -/
theorem formal_pointwise (tcs : List (TCpt K)) (x : Ix → Signal K) (h : LawsTFormal tcs x) (t : K) :
    (∀ k, k ≠ 0 → evalAt E (kclT x k tcs) t = 0) ∧ (∀ c ∈ tcs, ∀ p ∈ lawsT x c, evalAt E p.2 t = 0) :=
  ⟨fun k hk => evalAt_of_formalZero E (h.1 k hk) t, fun c hc p hp => evalAt_of_formalZero E (h.2 c hc p hp) t⟩

/-- e.g. for a capacitor whose current is the signal `i`: `i(t) = C · (D v)(t)` at every instant -/
theorem cap_pointwise (x : Ix → Signal K) (n1 n2 : Nat) (c : K) (v0 : Option K) (i : ExpPoly K)
    (hlaw : FormalZero (subP i (capCurrentT x n1 n2 c v0))) (t : K) :
    evalAt E i t = c * evalAt E (deriv (vpost x n1 n2)) t := by
  have := evalAt_of_formalZero E hlaw t
  rw [evalAt_subP, capCurrentT, evalAt_smul, evalAt_stateDeriv] at this
  exact sub_eq_zero.mp this

/-! #### initial state as a VALUE: `val0plus` is the value at 0⁺ only for causal signals (no negative delay; F5 —
    for `post = 3u(t) + 7u(t+1)` it is 3 while the signal is 10 at 0⁺), so the claimed statements carry `Causal` and
    conclude about `evalAt … 0` (u(0) = 1, i.e. the right-hand value). -/

/-- **ic_start_value**: `i = C·D v` formally, voltage impulse-free and CAUSAL, no current impulse at the origin ⇒ the
    capacitor voltage AT 0⁺ is its state at 0⁻ (the netlist's `v0`, else its own pre-history: continuity). -/
theorem ic_start_value (hE0 : E 0 = 1) (x : Ix → Signal K) (n1 n2 : Nat) (c : K) (v0 : Option K) (i : ExpPoly K) (hc : c ≠ 0)
    (hlaw : FormalZero (subP i (capCurrentT x n1 n2 c v0)))
    (hv : NoDelta (vpost x n1 n2)) (hi : impulse0 i = 0) (hcz : Causal (vpost x n1 n2)) :
    evalAt E (vpost x n1 n2) 0 = stateOf v0 (vpre0 x n1 n2) := by
  rw [evalAt_zero_of_causal E hE0 _ hcz]
  exact ic_start x n1 n2 c v0 i hc hlaw hv hi

/-- **ic_start_inductor_value**: an uncoupled inductor with impulse-free causal current and no voltage impulse at the
    origin: `i_L(0⁺)` is its state at 0⁻. -/
theorem ic_start_inductor_value (hE0 : E 0 = 1) (x : Ix → Signal K) (n1 n2 m : Nat) (l : K) (i0 : Option K) (w : Signal K)
    (hl : l ≠ 0) (hlaw : ∀ p ∈ lawsT x (.Ind n1 n2 m l i0 [], w), FormalZero p.2)
    (hi : NoDelta (x (.br m)).post) (hv : impulse0 (vpost x n1 n2) = 0) (hcz : Causal (x (.br m)).post) :
    evalAt E (x (.br m)).post 0 = stateOf i0 (pre0 (x (.br m)).pre) := by
  rw [evalAt_zero_of_causal E hE0 _ hcz]
  exact ic_start_inductor x n1 n2 m l i0 w hl hlaw hi hv

/-- **ic_start_flux_value**: coupled inductors with causal impulse-free currents: the flux linkage `L·i + Σ M·i'` AT 0⁺
    equals its value at 0⁻. -/
theorem ic_start_flux_value (hE0 : E 0 = 1) (x : Ix → Signal K) (n1 n2 m : Nat) (l : K) (i0 : Option K)
    (coup : List (Nat × K × Option K)) (w : Signal K)
    (hlaw : ∀ p ∈ lawsT x (.Ind n1 n2 m l i0 coup, w), FormalZero p.2)
    (hi : NoDelta (x (.br m)).post) (hc : ∀ p ∈ coup, NoDelta (x (.br p.1)).post)
    (hv : impulse0 (vpost x n1 n2) = 0) (hcz : Causal (x (.br m)).post) (hcc : ∀ p ∈ coup, Causal (x (.br p.1)).post) :
    l * (evalAt E (x (.br m)).post 0 - stateOf i0 (pre0 (x (.br m)).pre)) +
      lsum (coup.map (fun p => p.2.1 * (evalAt E (x (.br p.1)).post 0 - stateOf p.2.2 (pre0 (x (.br p.1)).pre)))) = 0 := by
  rw [evalAt_zero_of_causal E hE0 _ hcz]
  have : coup.map (fun p => p.2.1 * (evalAt E (x (.br p.1)).post 0 - stateOf p.2.2 (pre0 (x (.br p.1)).pre)))
      = coup.map (fun p => p.2.1 * (val0plus (x (.br p.1)).post - stateOf p.2.2 (pre0 (x (.br p.1)).pre))) := by
    apply List.map_congr_left
    intro p hp
    rw [evalAt_zero_of_causal E hE0 _ (hcc p hp)]
  rw [this]
  exact ic_start_flux x n1 n2 m l i0 coup w hlaw hi hc hv

/-- the inverse transform of data with non-negative delays is a causal signal.  PARTIAL (F6): `ilt` copies `pf.T` into
    the delay of every term, so the hypothesis is the conclusion for the data; that the partial-fraction data of a circuit
    with causal sources and zero state has `0 ≤ T` is NOT derived here — it is the oracle `td.causal` on Lcapy's output. -/
theorem ilt_causal_partial (pf : PF K) (hT : 0 ≤ pf.T) : Causal (ilt pf) := by
  intro t ht
  simp only [ilt, List.mem_append] at ht
  rcases ht with h | h
  · have : ∀ (n : Nat) (q : Poly K), ∀ t ∈ iltQ pf.T n q, t.delayOf = pf.T := by
      intro n q
      induction q generalizing n with
      | nil => intro t ht; simp [iltQ] at ht
      | cons a q ih =>
        intro t ht
        simp only [iltQ, List.mem_cons] at ht
        rcases ht with rfl | ht
        · rfl
        · exact ih (n + 1) t ht
    rw [this 0 pf.Q t h]; exact hT
  · simp only [iltR, List.mem_map] at h
    obtain ⟨r, _, rfl⟩ := h
    exact hT

/-- **causal_response_partial**: a response synthesised (`TD.response`, the model's `ilt`; run by Driver/C10, not by Driver/C02)
    from partial-fraction data whose delays are non-negative is causal, and vanishes before t = 0
    (`C10.causal_zero_before`).  PARTIAL: see `ilt_causal_partial`; the property clause "causal sources and zero state ⇒
    zero for t < 0" is checked on Lcapy's output by the oracle `td.causal`, not derived from circuit hypotheses. -/
theorem causal_response_partial (pfs : Ix → List (PF K)) (hT : ∀ ix, ∀ pf ∈ pfs ix, 0 ≤ pf.T) (ix : Ix) :
    Causal (response (pfs ix)) ∧ ∀ t, t < 0 → evalAt E (response (pfs ix)) t = 0 := by
  have hc : Causal (response (pfs ix)) := by
    intro t ht
    simp only [response, List.mem_flatMap] at ht
    obtain ⟨pf, hpf, ht⟩ := ht
    exact ilt_causal_partial pf (hT ix pf hpf) t ht
  exact ⟨hc, fun t ht => C10.causal_zero_before E _ hc t ht⟩

end ordered

/-! ### anchor: the formal derivative is the classical one -/

/-- **deriv_is_classical**: with the real exponential, at every instant that is not a switching instant of the signal
    (the delays of its terms), the pointwise value of the formal derivative is the derivative of the pointwise value. -/
theorem deriv_is_classical (f : ExpPoly ℝ) (t : ℝ) (h : ∀ y ∈ f, t ≠ y.delayOf) :
    HasDerivAt (fun τ => evalAt Real.exp f τ) (evalAt Real.exp (Laplace.deriv f) t) t := evalAt_hasDerivAt f t h

/-- **cap_ode_real**: consequently a capacitor whose law holds formally obeys the ODE `i(t) = C·dv/dt` in the classical
    sense at every instant t that is not a switching instant of its voltage (for an undelayed response: every t ≠ 0). -/
theorem cap_ode_real (x : Ix → Signal ℝ) (n1 n2 : Nat) (c : ℝ) (v0 : Option ℝ) (i : ExpPoly ℝ)
    (hlaw : FormalZero (subP i (capCurrentT x n1 n2 c v0))) (t : ℝ) (h : ∀ y ∈ vpost x n1 n2, t ≠ y.delayOf) :
    ∃ v' : ℝ, HasDerivAt (fun τ => evalAt Real.exp (vpost x n1 n2) τ) v' t ∧ evalAt Real.exp i t = c * v' :=
  ⟨_, deriv_is_classical _ t h, cap_pointwise Real.exp x n1 n2 c v0 i hlaw t⟩

/-! ### non-vacuity: a concrete circuit, its exact response, every hypothesis used above -/

section examples

/-- `V1 1 0 step 5 ; R1 1 2 2 ; C1 2 0 1/2 3` : v_C = 5 − 2e^{−t} from v_C(0⁻) = 3, i = e^{−t} -/
def exTcs : List (TCpt ℚ) :=
  [(.V 1 0 0 0, ⟨[], [.ep 5 0 0 0]⟩), (.R 1 2 2, ⟨[], []⟩), (.Cap 2 0 (1 / 2) (some 3), ⟨[], []⟩)]

def exX : Ix → Signal ℚ
  | .node 1 => ⟨[], [.ep 5 0 0 0]⟩
  | .node 2 => ⟨[], [.ep 5 0 0 0, .ep (-2) 0 (-1) 0]⟩
  | .br 0 => ⟨[], [.ep (-1) 0 (-1) 0]⟩
  | _ => ⟨[], []⟩

/-- a predicate on signals holds for all of `exX` when it holds for the four it takes -/
theorem exX_post {P : ExpPoly ℚ → Prop} (h0 : P []) (h1 : P [.ep 5 0 0 0]) (h2 : P [.ep 5 0 0 0, .ep (-2) 0 (-1) 0])
    (h3 : P [.ep (-1) 0 (-1) 0]) : ∀ ix, P (exX ix).post
  | .node 0 | .node (_ + 3) | .br (_ + 1) => h0
  | .node 1 => h1
  | .node 2 => h2
  | .br 0 => h3

theorem exTcs_post {P : ExpPoly ℚ → Prop} (h0 : P []) (h1 : P [.ep 5 0 0 0]) : ∀ c ∈ exTcs, P c.2.post := by
  simp [exTcs, h0, h1]

/-- the poles of the example are 0 and −1 -/
theorem ex_regular (s : ℚ) (h0 : s ≠ 0) (h1 : s ≠ -1) : Regular exTcs exX s := by
  have h1' : s + 1 ≠ 0 := fun h => h1 (eq_neg_of_add_eq_zero_left h)
  refine ⟨exX_post (P := (NonPole · s)) ?_ ?_ ?_ ?_, exTcs_post (P := (NonPole · s)) ?_ ?_⟩ <;> simp [h0, h1']

example : (checkLawsT exTcs exX 3).isOk = true := by decide +kernel

/-- the example circuit and its response satisfy the formal time-domain laws (all nodes, all components) … -/
theorem ex_lawsTFormal : LawsTFormal exTcs exX := by
  constructor
  · intro k hk
    match k, hk with
    | 0, h => exact absurd rfl h
    | 1, _ => decide +kernel
    | 2, _ => decide +kernel
    | (k + 3), _ => simp [kclT, exTcs, outflowT, twoTermT, subP, smul, FormalZero, nf, normalForm]
  · intro c hc p hp
    simp only [exTcs, List.mem_cons, List.not_mem_nil, or_false] at hc
    rcases hc with rfl | rfl | rfl
    · simp only [lawsT, List.mem_singleton] at hp; subst hp; decide +kernel
    · simp [lawsT] at hp
    · simp [lawsT] at hp

/-- … hence `LawsT`, and (by `laws_s_of_laws_t`) its transforms satisfy the ivp s-domain laws at every regular point -/
example : LawsT (fun _ : ℚ => (1 : ℚ)) exTcs exX := formal_lawsT _ _ _ ex_lawsTFormal
example : RestWhereUnspecified exTcs exX := by
  intro c hc
  simp only [exTcs, List.mem_cons, List.not_mem_nil, or_false] at hc
  rcases hc with rfl | rfl | rfl <;> trivial
example : IsExp (fun _ : ℚ => (1 : ℚ)) := isExp_one
/-- regular points exist: `s = 2` is not a pole of any signal of the example (poles 0 and −1) -/
example : Regular exTcs exX 2 := ex_regular 2 (by norm_num) (by norm_num)
-- the hypotheses of `ic_start` on the example: the capacitor current e^{−t} has no impulse, v_C(0⁺) = 3 = v0
example : impulse0 ([.ep 1 0 (-1) 0] : ExpPoly ℚ) = 0 := by decide +kernel
example : FormalZero (subP ([.ep 1 0 (-1) 0] : ExpPoly ℚ) (capCurrentT exX 2 0 (1 / 2) (some 3))) := by decide +kernel
example : val0plus (vpost exX 2 0) = 3 := by decide +kernel
example : NoDelta (vpost exX 2 0) := by
  intro t ht
  simp [vpost, subP, voltT, exX, smul, Signal.zero] at ht
  rcases ht with rfl | rfl <;> trivial

-- `ic_start_value` on the example: v_C is causal, and its value at 0⁺ is the initial condition 3
example : Causal (vpost exX 2 0) := by
  intro t ht
  simp [vpost, subP, voltT, exX, smul, Signal.zero] at ht
  rcases ht with rfl | rfl <;> simp [Term.delayOf]
example : evalAt (fun _ : ℚ => (1 : ℚ)) (vpost exX 2 0) 0 = 3 := by decide +kernel

/-- the oracle as the driver runs it returns `ok` on the example, hence (`tdCheck_sound`) the formal laws -/
def exNamed : List (String × TCpt ℚ) :=
  [("V1", (.V 1 0 0 0, ⟨[], [.ep 5 0 0 0]⟩)), ("R1", (.R 1 2 2, ⟨[], []⟩)), ("C1", (.Cap 2 0 (1 / 2) (some 3), ⟨[], []⟩))]
example : (tdCheck false ["V1"] 3 exNamed exX).map VerdictT.isOk = some true := by decide +kernel
example : nodesBelow 3 exTcs = true := by decide +kernel

end examples

end Lcapy.C02
