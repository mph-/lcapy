/-
  PROPERTY C03, reassembly clause in the LAPLACE domain: "the decomposition of a response into DC,
  per-frequency AC, transient parts reassembles to the same time-domain AND Laplace-domain signal".
  Model: Lcapy/Model/Reassemble.lean (`Superposition.laplace()` = sum of the transforms of the parts;
  `PhasorDomainExpression.laplace()` = transform of a cos ωt − b sin ωt).  Formal signals and their
  unilateral transform `L`: Lcapy/Spec/Signal.lean.
-/
import Lcapy.Proofs.Reassemble
import Mathlib.Tactic.LinearCombination
import Mathlib.Data.Complex.Basic
namespace Lcapy.C03
open Lcapy.Decompose Lcapy.Laplace
variable {K : Type} [Field K]

/-- **phasor_laplace**: over any field with a square root `j` of −1 (and 2 ≠ 0), the unilateral transform of
    `Re(X e^{jωt})`, `X = a + j b`, is `(a s − b ω)/(s² + ω²)` at every point that is not one of the poles `±jω`.
    (The quadrature term carries a MINUS sign.) -/
theorem phasor_laplace (E : K → K) (hE0 : E 0 = 1) (j a b w s : K) (hj : j * j = -1) (h2 : (1 + 1 : K) ≠ 0)
    (hp : s - j * w ≠ 0) (hm : s + j * w ≠ 0) :
    L E (phasorSig j a b w) s = phasorLap a b w s := by
  have hd : s * s + w * w = (s - j * w) * (s + j * w) := by
    linear_combination (w * w) * hj
  have hm' : s - -(j * w) ≠ 0 := by rwa [sub_neg_eq_add]
  simp only [phasorSig, L_cons, L_nil, Term.L, mul_zero, neg_zero, hE0, pw, phasorLap, hd, sub_neg_eq_add]
  field_simp
  linear_combination (2 * b * w) * hj

/-- the formal signal `phasorSig` IS `a cos ωt − b sin ωt` when cos and sin are read off the exponential `E`:
    with `c = (E(jθ) + E(−jθ))/2` and `j·sn = (E(jθ) − E(−jθ))/2`, at every instant
    `(X E(jθ) + X̄ E(−jθ))/2 = a c − b sn`. -/
theorem phasor_time (j a b ep em c sn : K) (hj : j * j = -1) (h2 : (1 + 1 : K) ≠ 0)
    (hc : c = (ep + em) / (1 + 1)) (hs : j * sn = (ep - em) / (1 + 1)) :
    (a + j * b) / (1 + 1) * ep + (a - j * b) / (1 + 1) * em = a * c - b * sn := by
  have hsn : sn = -(j * ((ep - em) / (1 + 1))) := by
    have : j * (j * sn) = j * ((ep - em) / (1 + 1)) := by rw [hs]
    rw [← mul_assoc, hj] at this
    rw [← this]; ring
  rw [hc, hsn]
  field_simp
  ring

section
variable [DecidableEq K]

/-- `s` is a regular point of the closed forms of the term list: not the dc pole 0 and not a phasor pole (s² + ω² ≠ 0).
    (The transient transforms enter through their VALUES `XL i`; their poles are guarded where `XL` is instantiated,
    `reassemble_laplace_transform`.) -/
def RegularPoint (s : K) (ts : List (Decompose.Term K)) : Prop :=
  s ≠ 0 ∧ ∀ t ∈ ts, ∀ w a b, t = Decompose.Term.ac w a b → s * s + w * w ≠ 0

/-- REMARK (pure linearity): the identity below holds for every `s`, also AT the poles, where both sides are sums of
    totalised quotients x/0 = 0 — it must not be quoted there as "V(s) is the transform"; use `reassemble_laplace`. -/
theorem reassemble_laplace_linear (XL : Nat → K) (s : K) (ts : List (Decompose.Term K)) :
    decompLap XL s (decompose ts) = sumK (ts.map (termLap XL s)) := by
  have gen : ∀ (d : Decomp K), decompLap XL s (ts.foldl step d) =
      decompLap XL s d + sumK (ts.map (termLap XL s)) := by
    induction ts with
    | nil => intro d; simp [sumK]
    | cons t ts ih => intro d; simp only [List.foldl_cons, List.map_cons, sumK, ih, step_lap]; ring
  rw [decompose, gen]; simp [decompLap, sumK]

/-- **reassemble_laplace** (closed form, as the code computes it): for EVERY term list (any length, any mix of
    kinds, several sinusoids of one frequency), at every REGULAR point, the Laplace form of the decomposition — dc/s +
    the transform of every accumulated phasor + the transforms of the transient terms — is the sum of the transforms
    of the terms. -/
theorem reassemble_laplace (XL : Nat → K) (s : K) (ts : List (Decompose.Term K)) (_hreg : RegularPoint s ts) :
    decompLap XL s (decompose ts) = sumK (ts.map (termLap XL s)) :=
  reassemble_laplace_linear XL s ts

/-- at a regular point the Laplace form does not depend on how the terms are ordered / grouped -/
theorem grouping_invariant_laplace (XL : Nat → K) (s : K) (ts ts' : List (Decompose.Term K)) (h : ts.Perm ts')
    (_hreg : RegularPoint s ts) :
    decompLap XL s (decompose ts) = decompLap XL s (decompose ts') := by
  rw [reassemble_laplace_linear, reassemble_laplace_linear]
  exact sumK_perm (h.map _)

/-! ### the same statement on formal signals: transform of the reassembled signal = sum of the transforms of the parts -/

/-- REMARK (pure linearity of the formal transform; holds for every `s`, see `reassemble_laplace_signal`):
    the unilateral transform of the time-domain signal reassembled from the
    decomposition (`sigDecomp`: dc + every accumulated phasor converted to a cos ωt − b sin ωt + the transient terms)
    equals the sum of the transforms of the signals of the terms — linearity over the term list, any length.
    No guard is needed: both sides are the same formal expression in `E`, `s`. -/
theorem reassemble_laplace_signal_linear (E : K → K) (j : K) (X : Nat → ExpPoly K) (s : K) (ts : List (Decompose.Term K)) :
    L E (sigDecomp j X (decompose ts)) s = sumK (ts.map (fun t => L E (sigTerm j X t) s)) := by
  have gen : ∀ (d : Decomp K), L E (sigDecomp j X (ts.foldl step d)) s =
      L E (sigDecomp j X d) s + sumK (ts.map (fun t => L E (sigTerm j X t) s)) := by
    induction ts with
    | nil => intro d; simp [sumK]
    | cons t ts ih => intro d; simp only [List.foldl_cons, List.map_cons, sumK, ih, step_L]; ring
  rw [decompose, gen]
  simp [sigDecomp, dcSig, Term.L, sumK]

/-- **reassemble_laplace_signal**: at a point that is no pole of the reassembled signal (in particular not 0, not
    ±jω, no pole of a transient waveform) the unilateral transform of the time-domain signal reassembled from the
    decomposition equals the sum of the transforms of the signals of the terms — any length. -/
theorem reassemble_laplace_signal (E : K → K) (j : K) (X : Nat → ExpPoly K) (s : K) (ts : List (Decompose.Term K))
    (_hnp : NonPole (sigDecomp j X (decompose ts)) s) :
    L E (sigDecomp j X (decompose ts)) s = sumK (ts.map (fun t => L E (sigTerm j X t) s)) :=
  reassemble_laplace_signal_linear E j X s ts

/-- the closed forms ARE the transforms of the formal signals: at a point `s ≠ 0`, `s ≠ ±jω` for every
    frequency of the list, `termLap` (dc c ↦ c/s, a cos + b sin ↦ (a s + b ω)/(s²+ω²), transient ↦ its transform)
    is the transform of `sigTerm`. -/
theorem termLap_is_transform (E : K → K) (hE0 : E 0 = 1) (j : K) (hj : j * j = -1) (h2 : (1 + 1 : K) ≠ 0)
    (X : Nat → ExpPoly K) (s : K) (t : Decompose.Term K)
    (hs : s ≠ 0) (hw : ∀ w a b, t = .ac w a b → s - j * w ≠ 0 ∧ s + j * w ≠ 0) :
    L E (sigTerm j X t) s = termLap (fun i => L E (X i) s) s t := by
  cases t with
  | dc c => simp [sigTerm, dcSig, Term.L, termLap, hE0, pw]
  | ac w a b =>
    obtain ⟨h1, h2'⟩ := hw w a b rfl
    simp only [sigTerm, termLap]
    exact phasor_laplace E hE0 j a (-b) w s hj h2 h1 h2'
  | tr i c => simp [sigTerm, termLap, L_smul]

/-- **reassemble_laplace_transform**: V(s) as the code assembles it (`decompLap` of the decomposition) equals the
    unilateral transform of the reassembled time-domain signal V(t), at every regular point. -/
theorem reassemble_laplace_transform (E : K → K) (hE0 : E 0 = 1) (j : K) (hj : j * j = -1) (h2 : (1 + 1 : K) ≠ 0)
    (X : Nat → ExpPoly K) (s : K) (ts : List (Decompose.Term K)) (hs : s ≠ 0)
    (hw : ∀ t ∈ ts, ∀ w a b, t = .ac w a b → s - j * w ≠ 0 ∧ s + j * w ≠ 0) :
    decompLap (fun i => L E (X i) s) s (decompose ts) = L E (sigDecomp j X (decompose ts)) s := by
  rw [reassemble_laplace_linear, reassemble_laplace_signal_linear]
  congr 1
  apply List.map_congr_left
  intro t ht
  exact (termLap_is_transform E hE0 j hj h2 X s t hs (hw t ht)).symm
end

/-- non-vacuity of the hypotheses of `phasor_laplace` / `termLap_is_transform`: ℂ with j = i, ω = 3, s = 1 -/
example : ∃ (j w s : ℂ), j * j = -1 ∧ (1 + 1 : ℂ) ≠ 0 ∧ s ≠ 0 ∧ s - j * w ≠ 0 ∧ s + j * w ≠ 0 := by
  refine ⟨Complex.I, 3, 1, Complex.I_mul_I, ?_, one_ne_zero, ?_, ?_⟩
  · norm_num
  · intro h
    have := congrArg Complex.re h
    simp at this
  · intro h
    have := congrArg Complex.re h
    simp at this

/-- the closed form itself:
    X = 3 + 4j at ω = 3, s = 1: (3·1 − 4·3)/(1 + 9) = −9/10 -/
example : phasorLap (3 : ℚ) 4 3 1 = -9 / 10 := by norm_num [phasorLap]

/-- non-vacuity of `reassemble_laplace`: 2 + 3cos 3t − 4 sin 3t + cos 3t, transient 5·x₀ -/
example : decompLap (fun _ => (1 / 2 : ℚ)) 1 (decompose [.dc 2, .ac 3 3 (-4), .tr 0 5, .ac 3 1 0]) = 2 + (4 - 12) / 10 + 5 / 2 := by
  norm_num [decompLap, decompose, step, acInsert, sumK, phasorLap]

end Lcapy.C03
