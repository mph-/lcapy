/-
  C16 -- hash-seed independence of `simplify` at the generated configuration.  Builds iff the
  simplify mixin never turns a set into a list without sorting it (finding F7 when false).
-/
import Lcapy.Props.C16Tables
namespace Lcapy.C16
open Lcapy.Gen.Caches

/-- no `list(<set>)` in the simplify mixin: iteration order never depends on PYTHONHASHSEED -/
theorem no_hash_order_iteration : hashOrderSites = [] := by decide

end Lcapy.C16
