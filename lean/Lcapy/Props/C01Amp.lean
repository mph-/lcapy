/-
  PROPERTY C01, the fully-differential-opamp and instrumentation-amplifier forms of `E`
  (`Efdopamp._expand`, `Einamp._expand` in lcapy/mnacpts.py; the front-end mirrors them in
  `Netlist.expandRaw` and the expansion text is tied by correspondence with `Netlist.expand()`).

  `Laws` of the expanded sub-netlist imply the amplifier relation documented in doc/netlists.rst.
  NOTE: this version of Lcapy cannot ANALYSE these two forms (their `_expand` emits `opamp` forms and
  `Netlist.expand()` expands only once: RuntimeError 'component not expanded'), so nothing is reported for them and
  there is nothing to judge by the oracle; the theorems say what the expansion means once it is expanded fully.
  Only property theorems (and the definitions they are stated with) live here.
-/
import Lcapy.Props.C01
import Lcapy.Model.Netlist
import Mathlib.Tactic.LinearCombination
import Mathlib.Tactic.FieldSimp
import Mathlib.Tactic.NormNum
namespace Lcapy.C01
open Lcapy Lcapy.MNA Lcapy.Netlist Ix
variable {K : Type} [Field K]
set_option linter.unusedSimpArgs false

/-! ### the EXECUTED expansion: `Netlist.expandRaw` (what the driver runs on the parsed line)

The three theorems after this block (`fdopamp_expand_law`, `inamp_expand_law`, and `opamp_expand_law` in Props/C01.lean) are
stated about component lists (`fdopampExpand`, `inampExpand`, `[E o …, R o …]`).  The theorems here say that the front-end
function the driver executes produces exactly the lines with that wiring: names, types, node order and arguments.
What remains between the two is the reading of a plain `E` / `R` line as `.E` / `.R` (`elabOne`, a string-level function whose
acceptance cannot be evaluated in the kernel); that step is tied by the correspondence (`mna.expand`, `mna.solve`). -/

/-- `'{%s / 2}' % Ad` as the front-end evaluates it -/
def halfOf (ad : String) : String := match parseVal ad with | some r => ratToStr (r / 2) | none => ad

/-- **fdopamp_expandRaw**: one round of `expandRaw` on a parsed `fdopamp` line: two `opamp` lines of gain Ad/2 around Nocm -/
theorem fdopamp_expandRaw (name np nm nip nim nocm ad ac : String) :
    expandRaw ⟨name, "Efdopamp", [np, nm, nip, nim, nocm], [ad, ac]⟩ =
      [⟨"Ep__" ++ name, "Eopamp", [np, nocm, nip, nim], [halfOf ad, ac, "0"]⟩,
       ⟨"Em__" ++ name, "Eopamp", [nocm, nm, nip, nim], [halfOf ad, ac, "0"]⟩] := by
  simp only [expandRaw, halfOf]
  cases h : parseVal ad <;> simp [h]

/-- **inamp_expandRaw**: one round on a parsed `inamp` line: the wiring of `inampExpand` -/
theorem inamp_expandRaw (name np nm nip nim nrp nrm ad ac rf : String) :
    expandRaw ⟨name, "Einamp", [np, nm, nip, nim, nrp, nrm], [ad, ac, rf]⟩ =
      [⟨"Ep__" ++ name, "Eopamp", ["_nodeanon_" ++ name ++ "_7", "0", nip, nrp], [ad, "0", "0"]⟩,
       ⟨"Em__" ++ name, "Eopamp", ["_nodeanon_" ++ name ++ "_8", "0", nim, nrm], [ad, "0", "0"]⟩,
       ⟨"Ed__" ++ name, "Eopamp", [np, nm, "_nodeanon_" ++ name ++ "_7", "_nodeanon_" ++ name ++ "_8"], ["1", ac, "0"]⟩,
       ⟨"Rfp__" ++ name, "R", [nrp, "_nodeanon_" ++ name ++ "_7"], [rf]⟩,
       ⟨"Rfm__" ++ name, "R", [nrm, "_nodeanon_" ++ name ++ "_8"], [rf]⟩] := by
  simp [expandRaw]

/-- **opamp_expandRaw_Ro0**: an `opamp` line with Ro = 0 is one VCVS … -/
theorem opamp_expandRaw_Ro0 (name np nm ncp ncm ad ac ro : String) (hro : parseVal ro = some 0) :
    expandRaw ⟨name, "Eopamp", [np, nm, ncp, ncm], [ad, ac, ro]⟩ = [⟨"E__" ++ name, "E", [np, nm, ncp, ncm], [ad, ac]⟩] := by
  simp [expandRaw, hro]

/-- … and with Ro ≠ 0 a VCVS from a fresh internal node plus Ro to the output node (the list of `opamp_expand_law`) -/
theorem opamp_expandRaw_Ro (name np nm ncp ncm ad ac ro : String) (hro : parseVal ro ≠ some 0) :
    expandRaw ⟨name, "Eopamp", [np, nm, ncp, ncm], [ad, ac, ro]⟩ =
      [⟨"E__" ++ name, "E", ["_nodeanon_" ++ name, nm, ncp, ncm], [ad, ac]⟩, ⟨"R__" ++ name, "R", ["_nodeanon_" ++ name, np], [ro]⟩] := by
  simp [expandRaw, hro]

/-- **fdopamp_expand_full**: both rounds (what a fully expanding Lcapy analyses): the two VCVS lines of `fdopampExpand`
    (`parseVal "0" = some 0` is a fact about the string parser that the kernel cannot evaluate; `#eval` confirms it) -/
theorem fdopamp_expand_full (h0 : parseVal "0" = some 0) (name np nm nip nim nocm ad ac : String) :
    expandOnce (expandOnce [⟨name, "Efdopamp", [np, nm, nip, nim, nocm], [ad, ac]⟩]) =
      [⟨"E__" ++ ("Ep__" ++ name), "E", [np, nocm, nip, nim], [halfOf ad, ac]⟩,
       ⟨"E__" ++ ("Em__" ++ name), "E", [nocm, nm, nip, nim], [halfOf ad, ac]⟩] := by
  simp only [expandOnce, List.flatMap_cons, List.flatMap_nil, List.append_nil, fdopamp_expandRaw, List.cons_append,
    List.nil_append, opamp_expandRaw_Ro0 _ _ _ _ _ _ _ _ h0]

/-- `Efdopamp._expand`: `Ename Np Nm fdopamp Nip Nim Nocm Ad Ac` becomes two opamps with gain Ad/2 (output
    resistance 0, so each is one VCVS): `Ep` from Nocm up to Np and `Em` from Nm up to Nocm -/
def fdopampExpand (np nm nip nim nocm mp mm : Nat) (Ad Ac : K) : List (Cpt K) :=
  [.E np nocm nip nim mp (Ad / 2) Ac, .E nocm nm nip nim mm (Ad / 2) Ac]

/-- **fdopamp_expand_law**: the expansion of a fully differential opamp obeys the documented relation: the differential
    output is `Ad·(Vip − Vim)` plus the common-mode term of both halves, and the output common-mode voltage
    `(V(Np) + V(Nm))/2` is the voltage of node Nocm. -/
theorem fdopamp_expand_law (kind : Kind) (s : K) (x : Ix → K) (np nm nip nim nocm mp mm : Nat) (Ad Ac : K)
    (h2 : (2 : K) ≠ 0)
    (hlaw : ∀ c ∈ fdopampExpand np nm nip nim nocm mp mm Ad Ac, ∀ p ∈ laws kind s x c, p.2 = 0) :
    vd x np nm = Ad * vd x nip nim + 2 * (Ac * ((volt x nip + volt x nim) / 2)) ∧
    volt x np + volt x nm = 2 * volt x nocm := by
  obtain ⟨a, rfl⟩ : ∃ a, Ad = 2 * a := ⟨Ad / 2, by field_simp⟩
  have h1 := hlaw (.E np nocm nip nim mp (2 * a / 2) Ac) (by simp [fdopampExpand]) _ (by simp [laws]; rfl)
  have h3 := hlaw (.E nocm nm nip nim mm (2 * a / 2) Ac) (by simp [fdopampExpand]) _ (by simp [laws]; rfl)
  simp only [vd, mul_div_cancel_left₀ _ h2] at h1 h3 ⊢
  constructor
  · linear_combination h1 + h3
  · linear_combination h1 - h3

/-- `Einamp._expand`: `Ename Np Nm inamp Nip Nim Nrp Nrm Ad Ac Rf` becomes two input opamps `Ep`, `Em` (gain Ad,
    outputs on fresh internal nodes n7, n8 w.r.t. ground, inverting inputs on the gain-resistor nodes), an output
    stage `Ed` of differential gain 1 and common-mode gain Ac, and the feedback resistors Rf from each
    gain-resistor node to the corresponding internal node -/
def inampExpand (np nm nip nim nrp nrm n7 n8 mp mm md : Nat) (Ad Ac Rf : K) : List (Cpt K) :=
  [.E n7 0 nip nrp mp Ad 0, .E n8 0 nim nrm mm Ad 0, .E np nm n7 n8 md 1 Ac, .R nrp n7 Rf, .R nrm n8 Rf]

/-- **inamp_expand_law**: with the external gain resistor Rg between Nrp and Nrm (and nothing else on those two nodes),
    the expansion obeys the documented instrumentation-amplifier relation: the output is
    `D + Ac·(V7 + V8)/2` where the differential stage voltage `D = V7 − V8` satisfies
    `D·(1 + G/Ad) = G·(Vip − Vim)` with the closed-loop gain `G = 1 + 2·Rf/Rg` -- so `D → G·(Vip − Vim)` as Ad → ∞. -/
theorem inamp_expand_law (kind : Kind) (s : K) (x : Ix → K) (np nm nip nim nrp nrm n7 n8 mp mm md : Nat)
    (Ad Ac Rf Rg : K) (hAd : Ad ≠ 0) (hRf : Rf ≠ 0) (hRg : Rg ≠ 0)
    (hrp : nrp ≠ 0) (hrm : nrm ≠ 0) (hpm : nrp ≠ nrm) (h7p : n7 ≠ nrp) (h7m : n7 ≠ nrm) (h8p : n8 ≠ nrp) (h8m : n8 ≠ nrm)
    (hnp : np ≠ nrp) (hnm : nm ≠ nrp) (hnp' : np ≠ nrm) (hnm' : nm ≠ nrm)
    (hkclp : lsum ((inampExpand np nm nip nim nrp nrm n7 n8 mp mm md Ad Ac Rf ++ [Cpt.R nrp nrm Rg]).map (outflow kind s x nrp)) = 0)
    (hkclm : lsum ((inampExpand np nm nip nim nrp nrm n7 n8 mp mm md Ad Ac Rf ++ [Cpt.R nrp nrm Rg]).map (outflow kind s x nrm)) = 0)
    (hlaw : ∀ c ∈ inampExpand np nm nip nim nrp nrm n7 n8 mp mm md Ad Ac Rf, ∀ p ∈ laws kind s x c, p.2 = 0) :
    let D := volt x n7 - volt x n8
    let G := 1 + 2 * Rf / Rg
    vd x np nm = D + Ac * ((volt x n7 + volt x n8) / 2) ∧ D * (1 + G / Ad) = G * vd x nip nim := by
  have h1 := hlaw (.E n7 0 nip nrp mp Ad 0) (by simp [inampExpand]) _ (by simp [laws]; rfl)
  have h2 := hlaw (.E n8 0 nim nrm mm Ad 0) (by simp [inampExpand]) _ (by simp [laws]; rfl)
  have h3 := hlaw (.E np nm n7 n8 md 1 Ac) (by simp [inampExpand]) _ (by simp [laws]; rfl)
  simp only [inampExpand, List.cons_append, List.nil_append, List.map_cons, List.map_nil, lsum, outflow, twoTerm] at hkclp hkclm
  simp [hrp, hrm, hpm, Ne.symm hpm, h7p, h7m, h8p, h8m, Ne.symm hrp, Ne.symm hrm, hnp, hnm, hnp', hnm'] at hkclp hkclm
  have v0 : volt x 0 = 0 := rfl
  intro D G
  simp only [vd, v0, sub_zero, mul_zero, add_zero, zero_div, one_mul] at h1 h2 h3 hkclp hkclm ⊢
  constructor
  · simp only [D]; linear_combination h3
  · simp only [D, G]
    field_simp at hkclp hkclm ⊢
    linear_combination (Rg + Rf * 2) * (h1 - h2) - Ad * (hkclp - hkclm)

/-- non-vacuity (fdopamp): Ad = 4, Ac = 0, Vip − Vim = 1, Nocm held at 5: outputs 7 and 3 -/
example : ∀ c ∈ fdopampExpand (K := ℚ) 3 4 1 2 5 0 1 4 0, ∀ p ∈ laws .dc 0
    (fun i => match i with | node 1 => 1 | node 2 => 0 | node 3 => 7 | node 4 => 3 | node 5 => 5 | _ => 0) c, p.2 = 0 := by
  intro c hc p hp
  simp only [fdopampExpand, List.mem_cons, List.mem_nil_iff, or_false] at hc
  rcases hc with rfl | rfl <;> simp only [laws, List.mem_singleton] at hp <;> subst hp <;> norm_num [vd, volt]

/-- non-vacuity (inamp): Ad = 2, Ac = 3, Rf = 1, Rg = 2 (G = 2), Vip = 1, Vim = 0 -/
def exInampX : Ix → ℚ := fun i => match i with
  | node 1 => 1 | node 2 => 0 | node 3 => 7/12 | node 4 => 1/12 | node 5 => 5/6 | node 6 => -1/6 | node 7 => 2 | _ => 0

example : (∀ c ∈ inampExpand (K := ℚ) 7 0 1 2 3 4 5 6 0 1 2 2 3 1, ∀ p ∈ laws .dc 0 exInampX c, p.2 = 0) ∧
    lsum ((inampExpand (K := ℚ) 7 0 1 2 3 4 5 6 0 1 2 2 3 1 ++ [Cpt.R 3 4 2]).map (outflow .dc 0 exInampX 3)) = 0 ∧
    lsum ((inampExpand (K := ℚ) 7 0 1 2 3 4 5 6 0 1 2 2 3 1 ++ [Cpt.R 3 4 2]).map (outflow .dc 0 exInampX 4)) = 0 := by
  refine ⟨?_, ?_, ?_⟩
  · intro c hc p hp
    simp only [inampExpand, List.mem_cons, List.mem_nil_iff, or_false] at hc
    rcases hc with rfl | rfl | rfl | rfl | rfl <;> simp [laws] at hp <;> subst hp <;> norm_num [vd, volt, exInampX]
  · norm_num [inampExpand, lsum, outflow, twoTerm, vd, volt, exInampX]
  · norm_num [inampExpand, lsum, outflow, twoTerm, vd, volt, exInampX]

end Lcapy.C01
