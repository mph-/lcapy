/-
  PROPERTY C04, clause "when the original is replaced by either model, the voltage and current delivered to an ARBITRARY
  external load are unchanged".

  `load_substitution`: in a circuit `cs ++ load` whose load part touches the rest only at the two port nodes p and m
  (the load may have any number of interior nodes and any components: sources, reactive elements, dependent sources …),
  every solution of the whole is a solution of `cs` with the load REPLACED BY A CURRENT SOURCE that delivers the current
  J the load delivers into p.  (KCL at the interior nodes of the load and conservation of current — the currents a
  sub-netlist draws from all its nodes add up to zero — give that the same J returns through m.)
  `thevenin_any_load`: hence, by `port_affine_unique`, the port voltage and that current lie on the Thevenin line
  v = Voc + Zth·J of `cs` — the same line on which the Thevenin and Norton models keep them (`thevenin_port`,
  `norton_port`, which by the same substitution hold for an arbitrary load too: `model_any_load`).
-/
import Lcapy.Props.C04
import Lcapy.Proofs.Ground
import Lcapy.Proofs.PortOps
import Lcapy.Props.C04Ground
import Lcapy.Proofs.Witness
import Mathlib.Tactic.LinearCombination
import Mathlib.Tactic.Linarith
namespace Lcapy.C04
open Lcapy.MNA Ix
variable {K : Type} [Field K]

theorem load_substitution (kind : Kind) (s : K) (cs load : List (Cpt K)) (p m : Nat) (z : Ix → K) (hpm : p ≠ m)
    (hsep : ∀ c ∈ load, ∀ n ∈ nodesOf c, n = p ∨ n = m ∨ ∀ c' ∈ cs, ∀ n' ∈ nodesOf c', n' ≠ n)
    (h : Laws kind s (cs ++ load) z) :
    Laws kind s (cs ++ [.I p m (-(kclAt kind s load z p))]) z := by
  obtain ⟨hk, hl⟩ := h
  -- KCL of the whole circuit at EVERY node, ground included
  have hall : ∀ k, lsum (cs.map (outflow kind s z k)) + kclAt kind s load z k = 0 := by
    intro k
    have : lsum ((cs ++ load).map (outflow kind s z k)) = 0 := by
      by_cases hk0 : k = 0
      · subst hk0; exact kcl_remaining_node kind s _ z 0 hk
      · exact hk k hk0
    rwa [lsum_map_append] at this
  -- the load draws no net current at any node other than p and m
  have hLk : ∀ k, k ≠ p → k ≠ m → kclAt kind s load z k = 0 := by
    intro k hkp hkm
    by_cases hn : ∃ c ∈ load, ∃ n ∈ nodesOf c, n = k
    · obtain ⟨c, hc, n, hn, rfl⟩ := hn
      rcases hsep c hc n hn with h1 | h1 | h1
      · exact absurd h1 hkp
      · exact absurd h1 hkm
      · have := hall n
        rw [lsum_outflow_zero kind s z n cs h1, zero_add] at this
        exact this
    · apply lsum_outflow_zero
      intro c hc n hn' hnk
      exact hn ⟨c, hc, n, hn', hnk⟩
  -- conservation: what enters the load at p leaves it at m
  have hLm : kclAt kind s load z m = -(kclAt kind s load z p) := by
    have hkcl : ∀ k, k ≠ m → lsum ((load ++ [Cpt.I p m (kclAt kind s load z p)]).map (outflow kind s z k)) = 0 := by
      intro k hkm
      rw [lsum_map_append]
      by_cases hkp : k = p
      · subst hkp
        simp [lsum, outflow, twoTerm, Ne.symm hpm, kclAt]
      · have := hLk k hkp hkm
        simp only [kclAt] at this
        simp [lsum, outflow, twoTerm, this, Ne.symm hkp, Ne.symm hkm]
    have := kcl_remaining_node kind s _ z m hkcl
    rw [lsum_map_append] at this
    simp [lsum, outflow, twoTerm, hpm] at this
    show lsum (load.map (outflow kind s z m)) = _
    linear_combination this
  -- so at EVERY node the load draws what the current source `I p m (−J)` draws
  have hL : ∀ k, kclAt kind s load z k = twoTerm p m k (kclAt kind s load z p) := by
    intro k
    by_cases hkp : k = p
    · subst hkp; simp [twoTerm, Ne.symm hpm]
    · by_cases hkm : k = m
      · subst hkm; simp [twoTerm, hpm, hLm]
      · simp [twoTerm, Ne.symm hkp, Ne.symm hkm, hLk k hkp hkm]
  refine ⟨fun k _ => ?_, fun c hc q hq => ?_⟩
  · rw [lsum_map_append]
    simpa [lsum, outflow, hL k] using hall k
  · rcases List.mem_append.mp hc with hc | hc
    · exact hl c (List.mem_append.mpr (Or.inl hc)) q hq
    · simp only [List.mem_cons, List.mem_nil_iff, or_false] at hc
      subst hc
      simp [laws] at hq

/-- **thevenin_any_load**: whatever is connected across the port (p, m) of a non-singular circuit `cs`, the port voltage
    v and the current J the load delivers into p satisfy v = Voc + Zth·J, with Voc the open-circuit voltage (sources
    on) and Zth the driving-point impedance (sources and initial conditions killed, 1 A test source) of `cs` alone. -/
theorem thevenin_any_load (kind : Kind) (s : K) (cs load : List (Cpt K)) (p m : Nat) (z x0 xu : Ix → K) (hpm : p ≠ m)
    (hwf : C01.WF cs)
    (hsep : ∀ c ∈ load, ∀ n ∈ nodesOf c, n = p ∨ n = m ∨ ∀ c' ∈ cs, ∀ n' ∈ nodesOf c', n' ≠ n)
    (h : Laws kind s (cs ++ load) z)
    (h0 : Solves kind s (withProbe cs p m 0) x0)
    (hu : Solves kind s (withProbe (killAll cs) p m 1) xu)
    (hns : C01.Nonsingular kind s (withProbe cs p m (-(kclAt kind s load z p)))) :
    vd z p m = vd x0 p m + -(kclAt kind s load z p) * vd xu p m := by
  have hsub := load_substitution kind s cs load p m z hpm hsep h
  have hwf' : C01.WF (withProbe cs p m (-(kclAt kind s load z p))) := (wf_append_unowned rfl).mpr hwf
  have hz : Solves kind s (withProbe cs p m (-(kclAt kind s load z p))) z :=
    (C01.mna_iff_laws kind s _ z hwf').mpr hsub
  exact port_affine_unique kind s cs p m x0 xu z _ h0 hu hz hns

/-- **model_any_load**: the Thevenin model (V source Voc from the internal node 2 to the reference, Zth from the
    terminal 1 to node 2) and the Norton model (Isc = Voc/Zth in parallel with 1/Zth) keep an arbitrary load on the
    SAME line: replacing the original by either model leaves the load's (v, J) constraint unchanged. -/
theorem model_any_load (kind : Kind) (s Voc Zth : K) (hZ : Zth ≠ 0) (load : List (Cpt K)) (zt zn : Ix → K)
    (hsept : ∀ c ∈ load, ∀ n ∈ nodesOf c, n = 1 ∨ n = 0 ∨
      ∀ c' ∈ [Cpt.V 2 0 0 Voc, .Y 1 2 (1 / Zth)], ∀ n' ∈ nodesOf c', n' ≠ n)
    (hsepn : ∀ c ∈ load, ∀ n ∈ nodesOf c, n = 1 ∨ n = 0 ∨
      ∀ c' ∈ [Cpt.I 1 0 (Voc / Zth), .Y 1 0 (1 / Zth)], ∀ n' ∈ nodesOf c', n' ≠ n)
    (ht : Laws kind s ([.V 2 0 0 Voc, .Y 1 2 (1 / Zth)] ++ load) zt)
    (hn : Laws kind s ([.I 1 0 (Voc / Zth), .Y 1 0 (1 / Zth)] ++ load) zn) :
    vd zt 1 0 = Voc + Zth * -(kclAt kind s load zt 1) ∧ vd zn 1 0 = Voc + Zth * -(kclAt kind s load zn 1) := by
  have h1 := load_substitution kind s _ load 1 0 zt (by decide) hsept ht
  have h2 := load_substitution kind s _ load 1 0 zn (by decide) hsepn hn
  constructor
  · exact thevenin_port kind s Voc Zth _ hZ zt h1
  · rw [norton_port kind s (Voc / Zth) (1 / Zth) _ (one_div_ne_zero hZ) zn h2]; field_simp

/-! ### Thevenin–Norton consistency of the MEASURED quantities -/

/-- **isc_voc_zth**: "open-circuit voltage = short-circuit current × driving-point impedance" for the MEASURED
    short-circuit current — the branch current of `Vshort_ p m` (branch `b`), which is what `Isc` of netlistopsmixin.py
    reads — for any netlist: the short circuit is just one more load (`thevenin_any_load` with the load `[V p m b 0]`). -/
theorem isc_voc_zth (kind : Kind) (s : K) (cs : List (Cpt K)) (p m b : Nat)
    (z x0 xu : Ix → K) (hpm : p ≠ m) (hwf : C01.WF cs)
    (h : Laws kind s (cs ++ [.V p m b 0]) z)
    (h0 : Solves kind s (withProbe cs p m 0) x0)
    (hu : Solves kind s (withProbe (killAll cs) p m 1) xu)
    (hns : C01.Nonsingular kind s (withProbe cs p m (-(kclAt kind s [.V p m b 0] z p)))) :
    vd x0 p m = z (br b) * vd xu p m := by
  have h1 := thevenin_any_load kind s cs [.V p m b 0] p m z x0 xu hpm hwf (by simp [nodesOf]) h h0 hu hns
  have e : kclAt kind s [.V p m b 0] z p = z (br b) := by simp [kclAt, outflow, twoTerm, lsum, Ne.symm hpm]
  have v : vd z p m = 0 := by
    have := h.2 (.V p m b 0) (by simp) (b, vd z p m - 0) (by simp [laws])
    simpa using this
  rw [e, v] at h1
  linear_combination -h1

/-- **impedance_admittance_inverse**: "impedance times admittance is one" for the two DIFFERENT experiments of
    netlistopsmixin.py — `impedance(p, m)` (1 A test source, voltage read) and `admittance(p, m)` (1 V test source on the
    fresh branch `b`, current delivered read): whenever both measure a value, Z·Y = 1.  The voltage source of the second
    experiment is a load of the killed netlist (`load_substitution`); scaling its solution by 1/Y gives a solution of the
    first experiment. -/
theorem impedance_admittance_inverse (kind : Kind) (s : K) (cs : List (Cpt K)) (p m b : Nat) (Z Y : K) (hpm : p ≠ m)
    (hwf : C01.WF (killAll cs))
    (hZ : Measures kind s (impedanceExp cs p m) Z) (hY : Measures kind s (admittanceExp cs p m b) Y) :
    Z * Y = 1 := by
  obtain ⟨⟨xz, hxz⟩, hallZ⟩ := hZ
  obtain ⟨⟨xa, hxa⟩, hallY⟩ := hY
  have hYr : -(xa (br b)) = Y := hallY xa hxa
  have hv : vd xa p m = 1 := by
    have := hxa.2 (.V p m b 1) (by simp [admittanceExp]) (b, vd xa p m - 1) (by simp [laws])
    exact sub_eq_zero.mp this
  -- the test voltage source replaced by the current source that delivers the same current
  have hsub := load_substitution kind s (killAll cs) [.V p m b 1] p m xa hpm (by simp [nodesOf]) hxa
  have e : -(kclAt kind s [Cpt.V p m b 1] xa p) = Y := by
    simp [kclAt, outflow, twoTerm, lsum, Ne.symm hpm, hYr]
  rw [e] at hsub
  have hwfI : ∀ J : K, C01.WF (killAll cs ++ [Cpt.I p m J]) := fun _ => (wf_append_unowned rfl).mpr hwf
  have hsolve := (C01.mna_iff_laws kind s _ xa (hwfI Y)).mpr hsub
  -- scale by any a: a·xa solves the killed netlist driven by a·Y
  have hscale : ∀ a : K, Laws kind s (killAll cs ++ [Cpt.I p m (a * Y)]) (fun i => a * xa i) := by
    intro a
    have h1 := C03.scaling kind s a _ xa hsolve
    simp only [List.map_append, killAll_scale, List.map_cons, List.map_nil, Cpt.mapSrc] at h1
    exact (C01.mna_iff_laws kind s _ _ (hwfI _)).mp h1
  by_cases hY0 : Y = 0
  · -- then xa is a non-zero solution of the undriven killed netlist: the impedance experiment could not be unique
    exfalso
    have hz0 := (C01.mna_iff_laws kind s _ xz (hwfI 1)).mpr hxz
    have h0 : Solves kind s (killAll cs ++ [Cpt.I p m 0]) xa := by rw [hY0] at hsolve; exact hsolve
    have hsum := solves_add_killed kind s (killAll cs) [.I p m 1] [.I p m 0] xz xa
      (.cons (by simp [SameShape, Cpt.mapSrc]) .nil) hz0 (by rwa [killAll_killAll])
    have hl := (C01.mna_iff_laws kind s _ _ (hwfI (1 + 0))).mp hsum
    rw [add_zero] at hl
    have r1 := hallZ xz hxz
    have r2 := hallZ _ hl
    simp only [impedanceExp, Obs.read] at r1 r2
    rw [vd_fun_add, r1, hv] at r2
    exact one_ne_zero (by linear_combination r2)
  · have h1 := hscale (1 / Y)
    rw [one_div_mul_cancel hY0] at h1
    have r := hallZ _ h1
    simp only [impedanceExp, Obs.read, vd_smul, hv] at r
    rw [← r]; field_simp

/-- the Thevenin model of a port with Zth = 0 (a port across an ideal voltage source) is the bare source: the port
    voltage is Voc whatever current the load delivers (`thevenin_port`, `model_any_load` are stated for Zth ≠ 0, where
    the series element `Y 1 2 (1/Zth)` is meaningful) -/
theorem thevenin_port_zero (kind : Kind) (s Voc J : K) (x : Ix → K)
    (h : Laws kind s [.V 1 0 0 Voc, .I 1 0 J] x) : vd x 1 0 = Voc := by
  have := h.2 (.V 1 0 0 Voc) (by simp) (0, vd x 1 0 - Voc) (by simp [laws])
  exact sub_eq_zero.mp this

/-! ### non-vacuity: `V1 1 0 6; R1 1 2 3` loaded by `R2 2 3 1; R3 3 0 2` (a load with an interior node) -/

def exSrc : List (Cpt ℚ) := [.V 1 0 0 6, .R 1 2 3]
def exLoad : List (Cpt ℚ) := [.R 2 3 1, .R 3 0 2]
/-- V(1) = 6, V(2) = 3, V(3) = 2, source current −1 -/
def exLoaded : Ix → ℚ := fun i => match i with | node 1 => 6 | node 2 => 3 | node 3 => 2 | br 0 => -1 | _ => 0

example : Laws .dc 0 (exSrc ++ exLoad) exLoaded :=
  laws_of_range 4 (by decide) (by decide +kernel) (by decide +kernel)

/-- the load touches the source circuit only at the port nodes 2 and 0 -/
example : ∀ c ∈ exLoad, ∀ n ∈ nodesOf c, n = 2 ∨ n = 0 ∨ ∀ c' ∈ exSrc, ∀ n' ∈ nodesOf c', n' ≠ n := by
  decide

/-- the current the load delivers into node 2 is −1 A (it draws 1 A): v = Voc + Zth·J = 6 + 3·(−1) = 3 -/
example : -(kclAt .dc 0 exLoad exLoaded 2) = -1 := by
  norm_num [kclAt, exLoad, exLoaded, outflow, twoTerm, lsum, vd, volt]

/-- non-vacuity of `impedance_admittance_inverse`: `R1 1 0 5` measures Z = 5 and Y = 1/5 -/
def exR5 : List (Cpt ℚ) := [.R 1 0 5]

theorem exR5_Z : Measures .dc (0 : ℚ) (impedanceExp exR5 1 0) 5 := by
  refine ⟨⟨fun i => match i with | node 1 => 5 | _ => 0, laws_of_range 2 (by decide) (by decide +kernel) (by decide +kernel)⟩, fun x hx => ?_⟩
  have k1 := hx.1 1 (by decide)
  simp [exR5, impedanceExp, zProbe, killAll, Cpt.mapSrc, outflow, twoTerm, lsum] at k1
  simp only [impedanceExp, Obs.read]
  linarith

theorem exR5_Y : Measures .dc (0 : ℚ) (admittanceExp exR5 1 0 0) (1 / 5) := by
  refine ⟨⟨fun i => match i with | node 1 => 1 | br 0 => -1/5 | _ => 0, laws_of_range 2 (by decide) (by decide +kernel) (by decide +kernel)⟩, fun x hx => ?_⟩
  have k1 := hx.1 1 (by decide)
  have l1 := hx.2 (.V 1 0 0 1) (by simp [admittanceExp]) (0, vd x 1 0 - 1) (by simp [laws])
  simp [exR5, admittanceExp, killAll, Cpt.mapSrc, outflow, twoTerm, lsum, vd, volt] at k1 l1
  simp only [admittanceExp, Obs.read]
  rw [sub_eq_zero] at l1
  rw [l1] at k1
  linarith

example : (5 : ℚ) * (1 / 5) = 1 :=
  impedance_admittance_inverse .dc 0 exR5 1 0 0 5 (1 / 5) (by decide) (by unfold C01.WF; decide)
    exR5_Z exR5_Y

end Lcapy.C04
