/-
  C10 — hyperbolic (lossless transmission-line) forms.  With `w = e^{−sT}` the input is a rational function `P(w)/Q(w)`
  and the returned infinite sum of delayed impulses (steps) is a power series in `w` (Model/TLine.lean).
    * `series_check_sound`   the exact oracle run on the first terms of EVERY sum Lcapy returns for these forms;
    * `tline_end_partial`    the model of `tline_end` (echo ratio `g`, scale `d`, coefficient, delay multiple and start index
                             GENERATED from the source): its partial sums times the denominator are `2w(1 − (g w²)^N)` for
                             every `N` — the series is the expansion of `1/(a cosh(sT) + b sinh(sT))`, remainder `(g w²)^N`.
-/
import Lcapy.Proofs.TLine
namespace Lcapy.C10
open Lcapy.Laplace

section
variable {K : Type} [Field K] [DecidableEq K]

/-- if the checker accepts the first terms `Σ c_k w^k` of a returned series against `P/Q` up to order `k`, they differ from
    `P(w)/Q(w)` by exactly `w^{k+1}·W(w)/Q(w)` for a polynomial `W` — at every `w` with `Q(w) ≠ 0` -/
theorem series_check_sound (P Q : Poly K) (terms : List (K × Nat)) (k : Nat) (h : seriesCheck P Q terms k = true) :
    ∃ W : Poly K, ∀ w, Poly.eval Q w ≠ 0 →
      (terms.map (fun x => x.1 * w ^ x.2)).sum = Poly.eval P w / Poly.eval Q w + w ^ (k + 1) * (Poly.eval W w / Poly.eval Q w) := by
  refine ⟨(Poly.add (Poly.mul Q (seriesPoly terms)) (Poly.smul (-1) P)).drop (k + 1), ?_⟩
  intro w hQ
  have := lowZero_eval w k _ h
  rw [Poly.eval_add, Poly.eval_mul, Poly.eval_smul, eval_seriesPoly] at this
  field_simp
  linear_combination this

/-- `tline_end`: for every number of terms `N`, with `cosh(sT) = (w⁻¹+w)/2`, `sinh(sT) = (w⁻¹−w)/2` cleared of `w⁻¹`:
    `((a+b) + (a−b) w²) · Σ_{m<N} c_m w^{k_m} = 2 w (1 − (g w²)^N)`, `g = (b−a)/(b+a)`.
    `g`, `d`, `c_m`, `k_m` are the generated definitions: with another echo ratio in the source this fails. -/
theorem tline_end_partial (a b w : K) (N : Nat) (hab : a + b ≠ 0) (h2 : (2 : K) ≠ 0) (hg : Gen.tlineEndG a b ≠ 0) :
    ((a + b) + (a - b) * w ^ 2) * ((tlineEndTerms a b N).map (fun x => x.1 * w ^ x.2)).sum
      = 2 * w * (1 - (Gen.tlineEndG a b * w ^ 2) ^ N) := by
  have hba : b + a ≠ 0 := by rwa [add_comm]
  have hterms : (tlineEndTerms a b N).map (fun x => x.1 * w ^ x.2)
      = (List.range N).map (fun i => (2 / (a + b)) * (Gen.tlineEndG a b ^ i * w ^ (2 * i + 1))) := by
    simp only [tlineEndTerms, hg, if_false, List.map_map]
    apply List.map_congr_left
    intro i _
    simp only [Function.comp, Gen.tlineEndPref, Gen.tlineEndCoef, Gen.tlineEndD, Gen.tlineEndDelay, Gen.tlineEndStart,
      ofN, pw_eq, Nat.zero_add]
    field_simp
    ring
  rw [hterms, list_sum_mul_left]
  have hge := geom_echo (Gen.tlineEndG a b) w N
  have hfac : (a + b) + (a - b) * w ^ 2 = (a + b) * (1 - Gen.tlineEndG a b * w ^ 2) := by
    simp only [Gen.tlineEndG]; field_simp; ring
  rw [hfac]
  calc (a + b) * (1 - Gen.tlineEndG a b * w ^ 2) *
        (2 / (a + b) * ((List.range N).map (fun i => Gen.tlineEndG a b ^ i * w ^ (2 * i + 1))).sum)
      = 2 * ((1 - Gen.tlineEndG a b * w ^ 2) * ((List.range N).map (fun i => Gen.tlineEndG a b ^ i * w ^ (2 * i + 1))).sum) := by
        field_simp
    _ = 2 * w * (1 - (Gen.tlineEndG a b * w ^ 2) ^ N) := by rw [hge]; ring

/-- the matched line `a = b` (`g = 0`): a single arrival -/
theorem tline_end_matched (a w : K) (N : Nat) (ha : a ≠ 0) (h2 : (2 : K) ≠ 0) :
    ((a + a) + (a - a) * w ^ 2) * ((tlineEndTerms a a (N + 1)).map (fun x => x.1 * w ^ x.2)).sum = 2 * w := by
  have hg : Gen.tlineEndG a a = 0 := by simp [Gen.tlineEndG]
  simp only [tlineEndTerms, hg, if_true, Nat.succ_ne_zero, if_false, Gen.tlineEndD, ofN]
  simp
  field_simp
  ring

-- non-vacuity: 1/(2 cosh + 5 sinh): g = 3/7 ≠ 0, a + b = 7; the first three terms pass the oracle up to order 6
example : (2 : ℚ) + 5 ≠ 0 ∧ Gen.tlineEndG (2 : ℚ) 5 ≠ 0 := by
  constructor <;> norm_num [Gen.tlineEndG]
example : seriesCheck (K := ℚ) [0, 2] [7, 0, -3] (tlineEndTerms 2 5 3) 6 = true := by decide +kernel
example : seriesCheck (K := ℚ) [0, 2] [7, 0, -3] [(2/7, 1), (-6/49, 3)] 4 = false := by decide +kernel

end
end Lcapy.C10
