/-
  PROPERTY C13 -- discrete-time transforms match their defining sums and invert.

  Only property theorems (with the predicates they are stated with and non-vacuity examples)
  live here; helper lemmas are in Lcapy/Proofs/DT.lean and DT2.lean, the executable model in
  Lcapy/Model/DT.lean, the spec values/sums in Lcapy/Spec/DT.lean.

  Reading guide.  `w = z⁻¹`; the unilateral z-transform of `x` is the formal power series
  `Σ_{n≥0} x[n] w^n = PowerSeries.mk x` (doc/discretetime.rst).  `IsZT x r` says that the rational
  closed form `r = num(w)/den(w)` *is* that series: `den * mk x = num` with `den(0) ≠ 0` (which
  determines every x[n], see `izt_zt_partial`).  All statements are for every field `K`, every term list,
  every index — no size bounds.
-/
import Lcapy.Proofs.DT2
import Mathlib.Analysis.SpecificLimits.Normed
namespace Lcapy.C13
open Lcapy Lcapy.DT PowerSeries
variable {K : Type} [Field K]
set_option linter.unusedVariables false

/-! ## 1. Transform theorems on the defining series -/

theorem zt_linear (x y : ℕ → K) (a b : K) :
    PowerSeries.mk (fun n => a * x n + b * y n)
      = C a * PowerSeries.mk x + C b * PowerSeries.mk y := by
  ext n; simp

/-- a delay by `d ≥ 0` samples multiplies by `z^{-d}` (the delayed sequence is 0 for n < d) -/
theorem zt_delay (x : ℕ → K) (d : ℕ) :
    PowerSeries.mk (fun n => if d ≤ n then x (n - d) else 0) = X ^ d * PowerSeries.mk x := by
  ext n; simp [coeff_X_pow_mul']

/-- the unilateral transform of an ADVANCED sequence is NOT `z^d X(z)`: the samples
    `x[0..d-1]` fall off.  (`zt_delay` has no analogue for advances; the code applies the delay
    rule to advances — finding F17, kept as a known finding because the upstream tests pin it;
    the model mirrors the code there and the theorems below exclude it through `Base.ok`.) -/
theorem zt_advance (x : ℕ → K) (d : ℕ) :
    X ^ d * PowerSeries.mk (fun n => x (n + d))
      = PowerSeries.mk x - PowerSeries.mk (fun n => if n < d then x n else 0) := by
  ext n
  simp only [coeff_X_pow_mul', coeff_mk, map_sub]
  by_cases h : d ≤ n
  · rw [if_pos h, if_neg (by omega), Nat.sub_add_cancel h, sub_zero]
  · rw [if_neg h, if_pos (by omega), sub_self]

theorem zt_scale (x : ℕ → K) (a : K) :
    PowerSeries.mk (fun n => a ^ n * x n) = rescale a (PowerSeries.mk x) := (rescale_mk x a).symm

/-- multiplication by n is `-z d/dz`, i.e. `w d/dw` -/
theorem zt_mul_n (x : ℕ → K) :
    PowerSeries.mk (fun n => (n : K) * x n) = X * d⁄dX K (PowerSeries.mk x) := mk_mulN x

/-! ## 2. The rule cascade of `ZTransformer.term` produces the defining series -/

/-- every term `c n^p a^n base[n]` with a non-advanced base (`Base.ok`: delay ≥ 0 for impulses and
    steps — the excluded region is finding F17, covered by the oracle —, `cos² b + sin² b = 1`) -/
theorem zt_term_sound_partial (t : CTerm K) (h : t.base.ok) :
    IsZT (fun n : ℕ => t.val n) (ztTerm t) := isZT_term t h

/-- every finite sum of such terms: for every n the coefficient of `w^n` in the expansion of
    the model's closed form is `x[n]` -/
theorem zt_closed_form_sound_partial (ts : List (CTerm K)) (h : ∀ t ∈ ts, t.base.ok) :
    IsZT (fun n : ℕ => sigVal ts n) (ztSig ts) := by
  induction ts with
  | nil => simpa [sigVal, ztSig] using isZT_zero
  | cons t ts ih =>
    have h1 := isZT_term t (h t (by simp))
    have h2 := ih (fun t ht => h t (by simp [ht]))
    simpa [sigVal, ztSig] using h1.add h2

example : (⟨3, 2, 1 / 2, .step 1⟩ : CTerm ℚ).base.ok := by simp [Base.ok]
example : (⟨1, 1, 2, .cos (3 / 5) (4 / 5) 1 0⟩ : CTerm ℚ).base.ok := by norm_num [Base.ok]
-- a sinusoid gated by a delayed step (rule "multiplication with u(n-n0)") is covered as well
example : (⟨1, 1, 1 / 2, .gated true false 3 (3 / 5) (4 / 5) (5 / 13) (12 / 13)⟩ : CTerm ℚ).base.ok := by
  norm_num [Base.ok]

/-- the geometric closed form, coefficient-wise: `(1 - a w) Σ a^n w^n = 1` -/
theorem zt_geometric (a : K) :
    (1 - C a * X) * PowerSeries.mk (fun n => a ^ n) = 1 := by
  simpa using one_sub_mul_mk_gate a 0

/-- analytic anchor: inside the region of convergence the closed form evaluated at z is the
    sum of the series -/
theorem anchor_geometric {𝕜 : Type} [NormedField 𝕜] [CompleteSpace 𝕜] (a z : 𝕜) (hz : z ≠ 0)
    (h : ‖a / z‖ < 1) :
    ∑' n : ℕ, a ^ n * (z⁻¹) ^ n = ZR.eval (ztTerm (⟨1, 0, a, .one⟩ : CTerm 𝕜)) z := by
  have e : ztTerm (⟨1, 0, a, .one⟩ : CTerm 𝕜) = ⟨0, [1 * (1 / 1 * (1 * 1))], [1 * 1, -1 * (1 * a)]⟩ := rfl
  simp only [← mul_pow, ← div_eq_mul_inv, tsum_geometric_of_norm_lt_one h, e, ZR.eval, peval_cons, peval_nil, powK_eq]
  simp only [div_eq_mul_inv]; ring

/-- the executable spec predicate `ztSpecCheck` (the one the oracle runs on the real Lcapy's
    outputs) accepts the model's closed form for every signal and every bound N: it is not
    stricter than `IsZT` -/
theorem spec_predicate_accepts_model_partial [DecidableEq K] (ts : List (CTerm K)) (h : ∀ t ∈ ts, t.base.ok) (N : ℕ) :
    ztSpecCheck (sigVal ts) (ztSig ts) N = none :=
  ztSpecCheck_of_isZT (sigVal ts) (ztSig ts) (zt_closed_form_sound_partial ts h) N

/-- DTFT of the causal geometric sequence: on the unit circle `z = e^{jΩ}` (‖z‖ = 1) with ‖a‖ < 1 the
    bilateral defining sum `Σ_n a^n u[n] e^{-jΩn}` is the z-transform closed form evaluated at z -/
theorem dtft_geometric_on_circle {𝕜 : Type} [NormedField 𝕜] [CompleteSpace 𝕜] (a z : 𝕜)
    (hz : ‖z‖ = 1) (ha : ‖a‖ < 1) :
    ∑' n : ℕ, a ^ n * (z⁻¹) ^ n = ZR.eval (ztTerm (⟨1, 0, a, .one⟩ : CTerm 𝕜)) z := by
  have hz0 : z ≠ 0 := by
    intro h; rw [h, norm_zero] at hz; exact zero_ne_one hz
  exact anchor_geometric a z hz0 (by rw [norm_div, hz, div_one]; exact ha)

/-! ## 3. Inverse transform: long division recovers the sequence -/

/-- long division of `num/den` yields the coefficients of ANY series S with `den * S = num` -/
theorem longdiv_sound (num den : List K) (h : den.headD 0 ≠ 0) (S : K⟦X⟧)
    (hS : toPS den * S = toPS num) (n i : ℕ) (hi : i < n) :
    (series num den n).getD i 0 = coeff i S := series_unique num den h S hS n i hi

/-- `izt (zt x) = x`: for every n, the first n samples recovered from the closed form are x[0..n-1] -/
theorem izt_zt_partial (ts : List (CTerm K)) (h : ∀ t ∈ ts, t.base.ok) (n : ℕ) :
    series (ztSig ts).num (ztSig ts).den n = (List.range n).map (fun i : ℕ => sigVal ts (i : ℤ)) :=
  series_eq_of_isZT (zt_closed_form_sound_partial ts h) n

/-! ## 4. Difference equation, transfer function, impulse response, recursion -/

/-- `A·H = B` coefficient-wise  ⇔  h obeys the recursion `Σ_k a_k h[n-k] = b_n` -/
theorem AH_eq_B_iff_recursion (a b : List K) (h : ℕ → K) :
    toPS a * PowerSeries.mk h = toPS b ↔ ∀ n : ℕ, bsum a (extZ h) n = b.getD n 0 := by
  constructor
  · intro e n
    have := congrArg (coeff n) e
    rw [coeff_toPS_mul, coeff_toPS] at this
    simpa using this
  · intro e
    ext n
    rw [coeff_toPS_mul, coeff_toPS]
    simpa using e n

/-- the impulse response computed by long division satisfies `A·H = B` -/
theorem impulse_response_sound (b a : List K) (ha : a.headD 0 ≠ 0) :
    toPS a * PowerSeries.mk (hCoeff b a) = toPS b := toPS_a_mul_h b a ha

/-- the model of `DLTIFilter.response` (arbitrary initial conditions `ic = [y[-1], y[-2], …]`,
    arbitrary two-sided input) satisfies the difference equation at every n ≥ 0.
    `a[0] = 0` and a wrong number of initial conditions are rejected by the code with an error /
    division by zero (covered by the malformed stream of the harness). -/
theorem response_satisfies_recursion (b a : List K) (x : ℤ → K) (ic : List K)
    (ha : a.headD 0 ≠ 0) (hlen : a.length = ic.length + 1) (n : ℕ) :
    bsum a (respY b a x ic) n = bsum b x n := resp_recursion b a x ic ha hlen n

/-- zero initial conditions and causal input: `A(w) Y(w) = B(w) X(w)` -/
theorem recursion_transfer (b a : List K) (x : ℤ → K) (ic : List K) (ha : a.headD 0 ≠ 0)
    (hlen : a.length = ic.length + 1) (hic : ∀ v ∈ ic, v = 0) (hx : ∀ i, i < 0 → x i = 0) :
    toPS a * PowerSeries.mk (fun n : ℕ => respY b a x ic n)
      = toPS b * PowerSeries.mk (fun n : ℕ => x n) := recursion_ps b a x ic ha hlen hic hx

/-- … hence running the recursion is convolution with the impulse response -/
theorem recursion_is_convolution (b a : List K) (x : ℤ → K) (ic : List K) (ha : a.headD 0 ≠ 0)
    (hlen : a.length = ic.length + 1) (hic : ∀ v ∈ ic, v = 0) (hx : ∀ i, i < 0 → x i = 0) (n : ℕ) :
    respY b a x ic n = ∑ p ∈ Finset.antidiagonal n, hCoeff b a p.1 * x p.2 :=
  recursion_is_convolution' b a x ic ha hlen hic hx n

/-- response to initial conditions alone (`x[n] = 0` for n ≥ 0, `x[-1-i] = xic[i]`, `y[-1-i] = ic[i]`): the
    z-domain expression built by `zdomain_initial_response` (numerator `iniNum`, denominator `a`) is the
    z-transform of the recursion's output, for numerators of any length (finding F23 repaired) … -/
theorem initial_conditions_response (b a ic xic : List K) (ha : a.headD 0 ≠ 0)
    (hlen : a.length = ic.length + 1) :
    toPS a * PowerSeries.mk (fun n : ℕ => respY b a (negSeq xic) ic n) = toPS (iniNum b a ic xic) := by
  ext n
  rw [coeff_toPS_mul, coeff_toPS]
  simp only [coeff_mk]
  have hsplit : respY b a (negSeq xic) ic
      = fun j => extZ (fun m : ℕ => respY b a (negSeq xic) ic m) j + negSeq ic j := by
    funext j
    rcases le_or_gt 0 j with hj | hj
    · obtain ⟨m, rfl⟩ := Int.eq_ofNat_of_zero_le hj
      rw [extZ_natCast, negSeq_natCast, add_zero]
    · rw [extZ_neg _ hj, negSeq_of_neg ic hj, respY_of_neg _ _ _ _ hj, zero_add]
  have hrec := resp_recursion b a (negSeq xic) ic ha hlen n
  rw [hsplit, bsum_add, bsum_negSeq_pos, bsum_negSeq_pos] at hrec
  have hval : (iniNum b a ic xic).getD n 0 = dot (b.drop (n + 1)) xic - dot (a.drop (n + 1)) ic := by
    simp only [iniNum]
    by_cases hn : n < max a.length b.length - 1
    · rw [List.getD_eq_getElem _ _ (by simpa using hn)]; simp
    · rw [List.getD_eq_default _ _ (by simpa using hn)]
      rw [List.drop_eq_nil_of_le (by omega), List.drop_eq_nil_of_le (by omega)]
      simp [dot]
  rw [hval]
  linear_combination hrec

/-- … hence its samples (long division) are the recursion's output, for every n -/
theorem initial_response_samples (b a ic xic : List K) (ha : a.headD 0 ≠ 0)
    (hlen : a.length = ic.length + 1) (n i : ℕ) (hi : i < n) :
    (series (iniNum b a ic xic) a n).getD i 0 = respY b a (negSeq xic) ic i := by
  have := series_unique (iniNum b a ic xic) a ha _ (initial_conditions_response b a ic xic ha hlen) n i hi
  simpa using this

/-- `Sequence.lfilter(b, a)` obeys `Σ_k a_k y[n-k] = Σ_l b_l x[n-l]` started at rest … -/
theorem lfilter_satisfies_recursion (b a x : List K) (ha : a.headD 0 ≠ 0) (n : ℕ) (hn : n < x.length) :
    (lfilterPy b a x).getD n 0 = respY b a (litZ x) (List.replicate (a.length - 1) 0) n ∧
    bsum a (respY b a (litZ x) (List.replicate (a.length - 1) 0)) n = bsum b (litZ x) n :=
  ⟨lfilter_getD b a x n hn, lfilter_recursion b a x ha n⟩

/-- … i.e. it is the convolution of x with the impulse response of b/a -/
theorem lfilter_is_convolution (b a x : List K) (ha : a.headD 0 ≠ 0) (n : ℕ) (hn : n < x.length) :
    (lfilterPy b a x).getD n 0 = ∑ p ∈ Finset.antidiagonal n, hCoeff b a p.1 * litZ x p.2 :=
  lfilter_convolution b a x ha n hn

/-- `Sequence.convolve` is the convolution sum at every index of the full-length result -/
theorem convolve_is_convolution_sum (x h : List K) (hx : x ≠ []) (hh : h ≠ []) (n : ℕ)
    (hn : n < x.length + (h.length - 1)) :
    (convolvePy x h).getD n 0 = convAt h (litZ x) n := convolve_getD x h hx hh n hn

example : ([2, 1] : List ℚ).headD 0 ≠ 0 ∧ ([2, 1] : List ℚ).length = ([3] : List ℚ).length + 1
    := by simp

/-! ## 5. DFT closed forms equal the defining sum, for every N and every k -/

/-- `q = ω^k` for any N-th root of unity ω (so `q^N = 1`), any field of characteristic ≠ 2 (ℂ, and
    the prime field the driver computes in).  Whenever the model of `DFTTransformer.termXq` returns a
    value for a sum of terms `c n^p a^n {δ[n-d] | u[n-d] | 1}` (p ≤ 1; it returns `none` for p ≥ 2, for
    sinusoids, and — symbolic N only — at a pole `a q = 1`; for numeric N the bin where `a q = 1` carries the shifted
    special case, finding F20 repaired), that value is `Σ_{n<N} x[n] q^n`.
    `dftOk` excludes only, for symbolic N, a step starting beyond N (the code warns
    "assuming … in interval"); impulses are unconditional (finding F21 repaired). -/
theorem dft_def [DecidableEq K] (numeric : Bool) (ts : List (CTerm K)) (N : ℕ) (q : K) (hq : q ^ N = 1)
    (h2 : (1 + 1 : K) ≠ 0) (hok : ∀ t ∈ ts, dftOk numeric N t)
    (v : K) (hv : dftSig numeric ts N q = some v) :
    v = dftSum (fun n => sigVal ts n) q N := by
  induction ts generalizing v with
  | nil =>
    simp [dftSig] at hv
    rw [← hv]; simp [sigVal, dftSum_zero]
  | cons t ts ih =>
    simp only [dftSig] at hv
    rcases h1 : dftTerm numeric t N q with _ | a
    · simp [h1] at hv
    · rcases h3 : dftSig numeric ts N q with _ | b
      · simp [h1, h3] at hv
      · simp [h1, h3] at hv
        have e1 := dft_term_sound numeric t N q hq h2 (hok t (by simp)) a h1
        have e2 := ih (fun t ht => hok t (by simp [ht])) b h3
        rw [← hv, e1, e2, ← dftSum_add]
        simp [sigVal]

example : dftOk true 8 (⟨2, 1, 3, .step 2⟩ : CTerm ℚ) := by simp [dftOk]
example : dftSig true [(⟨2, 1, 3, .step 2⟩ : CTerm ℚ)] 8 (-1) ≠ none := by decide +kernel
-- the bin where the geometric base meets the kernel: ((-1)^n).DFT(N=4) at k = 2 is 4
example : dftSig true [(⟨1, 0, -1, .one⟩ : CTerm ℚ)] 4 (-1) = some 4 := by decide +kernel

/-- geometric family, all N, via the finite geometric sum -/
theorem dft_geometric (a q : K) (N : ℕ) (hq : q ^ N = 1) (h : 1 - a * q ≠ 0) :
    dftSum (fun n => a ^ n) q N = (1 - a ^ N) / (1 - a * q) := by
  rw [dftSum_congr _ _ q N (fun n _ => (if_pos (Nat.zero_le n)).symm),
    dftSum_gate_telescope _ (fun n => - (a * q) ^ n / (1 - a * q)) q 0 (fun n _ => by field_simp; ring) N (Nat.zero_le _),
    mul_pow, hq]
  ring

/-- impulse family -/
theorem dft_impulse (d N : ℕ) (q : K) (hd : d < N) :
    dftSum (fun n => if n = d then (1 : K) else 0) q N = q ^ d := by
  rw [dftSum_single]; simp [hd]

/-- `IDFT(DFT x) = x`: `(1/N) Σ_k X[k] ω^{-nk} = x[n]` for a primitive N-th root ω -/
theorem idft_dft (N : ℕ) (ω : K) (hω : IsPrimitiveRoot ω N) (hN : (N : K) ≠ 0) (x : ℕ → K) (n : ℕ)
    (hn : n < N) :
    (1 / (N : K)) * dftSum (fun k => dftSum x (ω ^ k) N) ((ω⁻¹) ^ n) N = x n := by
  open Finset in
  rw [one_div, inv_mul_eq_iff_eq_mul₀ hN]
  simp only [dftSum_eq_sum, sum_mul]
  rw [sum_comm]
  have : ∀ m ∈ range N, ∑ k ∈ range N, x m * (ω ^ k) ^ m * ((ω⁻¹) ^ n) ^ k
      = x m * (if m = n then (N : K) else 0) := by
    intro m hm
    rw [← root_orth N ω hω m n (mem_range.mp hm) hn, mul_sum]
    apply sum_congr rfl; intro k _; ring
  rw [sum_congr rfl this]
  simp [hn]; ring

example : ([1, 1 / 2] : List ℚ).headD 0 ≠ 0 ∧ ([1, 1 / 2] : List ℚ).length = ([0] : List ℚ).length + 1 := by
  simp

end Lcapy.C13
