/-
  C02 — injectivity of the formal unilateral Laplace transform, and what it gives for circuits: the time response is
  unique as a FORMAL signal, and laws that hold at the level of transforms hold formally (hence pointwise, hence as
  classical ODEs: `C02.formal_pointwise`, `C02.cap_ode_real`).

  Over an infinite field (any characteristic: the basis t^k e^{pt}/k! is normalised so that no factorial appears):

    L_injective        one delay (for delay 0: lumped circuits without delayed sources), any `E` with E(x+y) = E x·E y, E 0 = 1
    L_injective_w      ANY delays and impulses, the delay factors e^{−s d} being independent indeterminates (`LW`)
    L_injective_delay  any delays, for an `E` whose delay factors are independent (`DelayIndep E`)
    L_injective_real   any delays and impulses, E = Real.exp : NO hypothesis (`delayIndep_real`, Proofs/TimeDomainInjReal.lean)
    LawsTime (= FinitePoles ∧ LawsT: the claimed notion) / lawsTime_iff_formal / formal_lawsTime / laws_time_of_laws_s /
    lawsT_iff_formal / lawsTW_iff_formal / lawsTFormal_of_laws_s / response_unique / continuity(_value)

  "vanishes / agrees at every regular point" is weakened throughout to "outside some finite set" (stronger theorems).
  Helper lemmas: Proofs/TimeDomainInj.lean.
-/
import Lcapy.Props.C02
import Lcapy.Proofs.TimeDomainInj
import Lcapy.Proofs.TimeDomainInjReal
import Lcapy.Proofs.Witness
namespace Lcapy.C02
open Lcapy.MNA Lcapy.Laplace Lcapy.TD

section injectivity
variable {K : Type} [Field K] [DecidableEq K] [Infinite K] (E : K → K)

/-- **L_injective** (one delay; `d0 = 0`: no delayed term).  A formal signal — exponential-polynomial terms
    c·t^k/k!·e^{pt} and impulses c·δ^{(n)} — whose transform vanishes at every regular point outside a finite set has the
    empty normal form: all its coefficients, like terms collected, are zero. -/
theorem L_injective (hE : IsExp E) (d0 : K) (f : ExpPoly K) (hd : AllDelay d0 f) (bad : Finset K)
    (h : ∀ s, s ∉ bad → NonPole f s → L E f s = 0) : FormalZero f := by
  exact formalZero_of_L_zero E d0 f hd (fun s => isExp_ne_zero hE _) _ (off_poles f bad h)

/-- … as equality of two signals: transforms that agree at the common regular points (outside a finite set) ⇒ the same
    coefficient on every basis signal, i.e. equal normal forms. -/
theorem L_injective_eq (hE : IsExp E) (d0 : K) (f g : ExpPoly K) (hf : AllDelay d0 f) (hg : AllDelay d0 g)
    (bad : Finset K) (h : ∀ s, s ∉ bad → NonPole f s → NonPole g s → L E f s = L E g s) (κ : Term K) :
    coefOf κ f = coefOf κ g := by
  have hz : FormalZero (subP f g) := by
    apply formalZero_of_L_zero E d0 _ (hf.subP hg) (fun s => isExp_ne_zero hE _)
      (bad ∪ (polesOf f).toFinset ∪ (polesOf g).toFinset)
    intro s hs
    simp only [Finset.mem_union, List.mem_toFinset, not_or] at hs
    rw [L_subP, h s hs.1.1 (nonPole_of_not_mem hs.1.2) (nonPole_of_not_mem hs.2), sub_self]
  have := coefOf_of_formalZero hz κ
  rw [coefOf_subP] at this
  exact sub_eq_zero.mp this

/-- **L_injective_w** (any delays, impulses included): with the delay factors as independent indeterminates — the
    reading of `exp(−s·T)` used by the model (DESIGN §2.2) — a signal whose transform vanishes outside a finite set for
    every value of the indeterminates is formally zero; and conversely. -/
theorem L_injective_w (f : ExpPoly K) (bad : Finset K)
    (h : ∀ (w : K → K) (s : K), s ∉ bad → NonPole f s → LW w f s = 0) : FormalZero f := by
  exact formalZero_of_LW f _ fun w => off_poles f bad (h w)

theorem formalZero_iff_LW (f : ExpPoly K) : FormalZero f ↔ ∀ (w : K → K) (s : K), LW w f s = 0 :=
  ⟨fun h w s => LW_of_formalZero w h s, fun h => formalZero_of_LW f ∅ (fun w s _ => h w s)⟩

/-- **L_injective_delay**: any delays, for an exponential whose delay factors are independent over the rational
    functions (`DelayIndep E`). -/
theorem L_injective_delay (hE : IsExp E) (hI : DelayIndep E) (f : ExpPoly K) (bad : Finset K)
    (h : ∀ s, s ∉ bad → NonPole f s → L E f s = 0) : FormalZero f := by
  exact formalZero_of_delayIndep E hE hI f _ (off_poles f bad h)

/-! ### circuits -/

/-- no signal of the circuit and no source waveform contains a delayed term -/
def DelayFree (tcs : List (TCpt K)) (x : Ix → Signal K) : Prop :=
  (∀ ix, AllDelay 0 (x ix).post) ∧ (∀ c ∈ tcs, AllDelay 0 c.2.post)

/-- the hypothesis on delays under which transform-level statements are lifted to formal ones: either nothing is
    delayed, or the delay factors of `E` are independent -/
def DelaysOK (tcs : List (TCpt K)) (x : Ix → Signal K) : Prop := DelayFree tcs x ∨ DelayIndep E

/-- the signals and sources have finitely many poles altogether (e.g. all but finitely many unknowns are the zero signal) -/
def FinitePoles (tcs : List (TCpt K)) (x : Ix → Signal K) : Prop := ∃ bad : Finset K, ∀ s, s ∉ bad → Regular tcs x s

/-- every residual of a problem whose delays are OK is zero as soon as its transform vanishes off a finite set -/
theorem residual_inj (hE : IsExp E) (tcs : List (TCpt K)) (x : Ix → Signal K) (hD : DelaysOK E tcs x)
    (r : ExpPoly K) (hr : (∃ k, r = kclT x k tcs) ∨ (∃ c ∈ tcs, ∃ p ∈ lawsT x c, r = p.2))
    (bad : Finset K) (hz : ∀ s, s ∉ bad → L E r s = 0) : FormalZero r := by
  refine formalZero_of_allDelay_or_indep E hE r (hD.imp_left fun hdf => ?_) bad hz
  rcases hr with ⟨k, rfl⟩ | ⟨c, hc, p, hp, rfl⟩
  · exact allDelay_kclT x hdf.1 tcs hdf.2 k
  · exact allDelay_lawsT x hdf.1 c (hdf.2 c hc) p hp

/-- **lawsT_iff_formal**: for a lumped circuit without delayed sources (or with independent delay factors) the
    transform-level laws `LawsT E` and the formal laws `LawsTFormal` decided by the driver are THE SAME statement. -/
theorem lawsT_iff_formal (hE : IsExp E) (tcs : List (TCpt K)) (x : Ix → Signal K) (hD : DelaysOK E tcs x)
    (hfin : FinitePoles tcs x) : LawsT E tcs x ↔ LawsTFormal tcs x := by
  refine ⟨fun h => ?_, formal_lawsT E tcs x⟩
  obtain ⟨bad, hbad⟩ := hfin
  refine ⟨fun k hk => ?_, fun c hc p hp => ?_⟩
  · exact residual_inj E hE tcs x hD _ (Or.inl ⟨k, rfl⟩) bad (fun s hs => (h s (hbad s hs)).1 k hk)
  · exact residual_inj E hE tcs x hD _ (Or.inr ⟨c, hc, p, hp, rfl⟩) bad (fun s hs => (h s (hbad s hs)).2 c hc p hp)

/-! ### the time-domain laws as CLAIMED: with finitely many poles (F3)

    `LawsT E` alone says nothing when the set of regular points is empty (signals on unused indices whose poles cover the
    field satisfy it for every circuit: `NonVacuity.C02.lawsT_junk`).  The notion used in the claims is `LawsTime`. -/

/-- **the time-domain laws at the level of transforms**: finitely many poles altogether, and every residual has the zero
    transform at every regular point.  For delayed sources read it with an `E` whose delay factors are independent
    (`Real.exp`: `…_real` theorems) or use `LawsTW`; over ℚ every `IsExp E` is the constant 1 and forgets delays (F4). -/
def LawsTime (tcs : List (TCpt K)) (x : Ix → Signal K) : Prop := FinitePoles tcs x ∧ LawsT E tcs x

/-- **formal_lawsTime**: what the driver decides, on signals with finitely many poles, gives the time-domain laws. -/
theorem formal_lawsTime (tcs : List (TCpt K)) (x : Ix → Signal K) (hfin : FinitePoles tcs x) (h : LawsTFormal tcs x) :
    LawsTime E tcs x := ⟨hfin, formal_lawsT E tcs x h⟩

/-- **laws_time_of_laws_s** (`laws_t_of_laws_s` with `FinitePoles`). -/
theorem laws_time_of_laws_s (hE : IsExp E) (tcs : List (TCpt K)) (x : Ix → Signal K) (hfin : FinitePoles tcs x)
    (hrest : RestWhereUnspecified tcs x)
    (h : ∀ s, Regular tcs x s → Laws .ivp s (tcs.map (atS E s)) (transformOf E x s)) : LawsTime E tcs x :=
  ⟨hfin, laws_t_of_laws_s E hE tcs x hrest h⟩

/-- **response_is_ilt_time** (`response_is_ilt` with `FinitePoles`; `TD.response` is the model's `ilt`, executed by Driver/C10). -/
theorem response_is_ilt_time (hE : IsExp E) (tcs : List (TCpt K)) (pre : Ix → List (K × Nat × K)) (pfs : Ix → List (PF K))
    (hfin : FinitePoles tcs (fun ix => ⟨pre ix, response (pfs ix)⟩))
    (hpos : ∀ ix, ∀ pf ∈ pfs ix, ∀ r ∈ pf.R, 0 < r.2.2)
    (hrest : RestWhereUnspecified tcs (fun ix => ⟨pre ix, response (pfs ix)⟩))
    (hS : ∀ s, Regular tcs (fun ix => ⟨pre ix, response (pfs ix)⟩) s →
      Laws .ivp s (tcs.map (atS E s)) (fun ix => lsum ((pfs ix).map (fun pf => evalPF E pf s)))) :
    LawsTime E tcs (fun ix => ⟨pre ix, response (pfs ix)⟩) :=
  ⟨hfin, response_is_ilt E hE tcs pre pfs hpos hrest hS⟩

/-- **lawsTime_iff_formal**: the claimed equivalence — the time-domain laws (transform level, finitely many poles) are
    exactly the formal laws decided by the driver, when nothing is delayed or the delay factors of `E` are independent. -/
theorem lawsTime_iff_formal (hE : IsExp E) (tcs : List (TCpt K)) (x : Ix → Signal K) (hD : DelaysOK E tcs x) :
    LawsTime E tcs x ↔ FinitePoles tcs x ∧ LawsTFormal tcs x :=
  ⟨fun h => ⟨h.1, (lawsT_iff_formal E hE tcs x hD h.1).mp h.2⟩, fun h => ⟨h.1, formal_lawsT E tcs x h.2⟩⟩

/-- without `FinitePoles` the transform-level laws do not imply the
    formal ones — `LawsT` holds for EVERY circuit on signals with no regular point -/
theorem lawsT_of_no_regular_point (tcs : List (TCpt K)) (x : Ix → Signal K) (h : ∀ s, ¬ Regular tcs x s) : LawsT E tcs x :=
  fun s hs => absurd hs (h s)

/-- **lawsTW_iff_formal**: with the delay factors as independent indeterminates the equivalence holds for ALL signals
    (delayed sources, impulses): what the driver decides is exactly "every residual has the zero transform". -/
theorem lawsTW_iff_formal (tcs : List (TCpt K)) (x : Ix → Signal K) (hfin : FinitePoles tcs x) :
    LawsTW tcs x ↔ LawsTFormal tcs x := by
  constructor
  · intro h
    obtain ⟨bad, hbad⟩ := hfin
    refine ⟨fun k hk => ?_, fun c hc p hp => ?_⟩
    · exact formalZero_of_LW _ bad (fun w s hs => (h w s (hbad s hs)).1 k hk)
    · exact formalZero_of_LW _ bad (fun w s hs => (h w s (hbad s hs)).2 c hc p hp)
  · intro h w s _
    exact ⟨fun k hk => LW_of_formalZero w (h.1 k hk) s, fun c hc p hp => LW_of_formalZero w (h.2 c hc p hp) s⟩

/-- **lawsTFormal_of_laws_s** (`laws_t_of_laws_s` with the formal conclusion, no injectivity hypothesis): if the transforms
    of the signals satisfy the ivp s-domain laws of C01 at the regular points (outside a finite set), then the signals
    satisfy the time-domain laws FORMALLY — so also pointwise at every instant (`formal_pointwise`) and as classical
    ODEs (`cap_ode_real`). -/
theorem lawsTFormal_of_laws_s (hE : IsExp E) (tcs : List (TCpt K)) (x : Ix → Signal K) (hD : DelaysOK E tcs x)
    (hfin : FinitePoles tcs x) (hrest : RestWhereUnspecified tcs x) (bad : Finset K)
    (h : ∀ s, s ∉ bad → Regular tcs x s → Laws .ivp s (tcs.map (atS E s)) (transformOf E x s)) :
    LawsTFormal tcs x := by
  obtain ⟨bad0, hbad0⟩ := hfin
  have key : ∀ s, s ∉ bad ∪ bad0 →
      (∀ k, k ≠ 0 → L E (kclT x k tcs) s = 0) ∧ (∀ c ∈ tcs, ∀ p ∈ lawsT x c, L E p.2 s = 0) := by
    intro s hs
    simp only [Finset.mem_union, not_or] at hs
    exact (laws_at_iff E hE tcs x hrest s (hbad0 s hs.2).1).mp (h s hs.1 (hbad0 s hs.2))
  refine ⟨fun k hk => ?_, fun c hc p hp => ?_⟩
  · exact residual_inj E hE tcs x hD _ (Or.inl ⟨k, rfl⟩) _ (fun s hs => (key s hs).1 k hk)
  · exact residual_inj E hE tcs x hD _ (Or.inr ⟨c, hc, p, hp, rfl⟩) _ (fun s hs => (key s hs).2 c hc p hp)

/-- **response_unique**: two time-domain solutions of one netlist (same sources, same
    initial state) whose MNA system is non-singular (on the unknowns `U` of the netlist) outside a finite set of points
    are THE SAME formal signals: for every unknown the difference has the empty normal form (equal coefficients on every
    basis signal).
    So the response Lcapy returns, once it passes the laws, is the only one. -/
theorem response_unique (hE : IsExp E) (tcs : List (TCpt K)) (x y : Ix → Signal K)
    (hDx : DelaysOK E tcs x) (hDy : DelaysOK E tcs y) (hfx : FinitePoles tcs x) (hfy : FinitePoles tcs y)
    (hrx : RestWhereUnspecified tcs x) (hry : RestWhereUnspecified tcs y)
    (hx : LawsT E tcs x) (hy : LawsT E tcs y) (U : Ix → Prop) (sing : Finset K)
    (hwf : ∀ s, s ∉ sing → C01.WF (tcs.map (atS E s)))
    (hns : ∀ s, s ∉ sing → C01.NonsingularOn U .ivp s (tcs.map (atS E s))) :
    ∀ i, U i → FormalZero (subP (x i).post (y i).post) := by
  intro i hi
  obtain ⟨bx, hbx⟩ := hfx
  obtain ⟨by', hby⟩ := hfy
  have hz : ∀ s, s ∉ sing ∪ bx ∪ by' → L E (subP (x i).post (y i).post) s = 0 := by
    intro s hs
    simp only [Finset.mem_union, not_or] at hs
    have := response_unique_at E hE U tcs x y hrx hry hx hy s (hbx s hs.1.2) (hby s hs.2) (hwf s hs.1.1)
      (hns s hs.1.1) i hi
    rw [L_subP, this, sub_self]
  exact formalZero_of_allDelay_or_indep E hE _
    (hDx.elim (fun hdx => hDy.imp_left fun hdy => (hdx.1 i).subP (hdy.1 i)) Or.inr) _ hz

/-- **continuity** (no injectivity hypothesis): if `i = C·D v` holds at the level of
    transforms (outside a finite set) for a whole-axis solution without delayed terms, the capacitor voltage is
    impulse-free and its current has no impulse at the origin, then the voltage is continuous across t = 0. -/
theorem continuity (hE : IsExp E) (x : Ix → Signal K) (n1 n2 : Nat) (c : K) (i : ExpPoly K) (hc : c ≠ 0)
    (hdx : ∀ ix, AllDelay 0 (x ix).post) (hdi : AllDelay 0 i) (bad : Finset K)
    (hlaw : ∀ s, s ∉ bad → NonPole (subP i (capCurrentT x n1 n2 c none)) s →
      L E (subP i (capCurrentT x n1 n2 c none)) s = 0)
    (hv : NoDelta (vpost x n1 n2)) (hi : impulse0 i = 0) :
    val0plus (vpost x n1 n2) = vpre0 x n1 n2 :=
  ic_start x n1 n2 c none i hc
    (L_injective E hE 0 _ (hdi.subP (((AllDelay.vpost hdx n1 n2).stateDeriv _).smul c)) bad hlaw) hv hi

end injectivity

/-- **continuity_value**: `continuity` as a statement about the VALUE at 0⁺ (`evalAt … 0`), for a causal voltage
    (`val0plus` is the value at 0⁺ only when no term has a negative delay: F5). -/
theorem continuity_value {K : Type} [Field K] [LinearOrder K] [IsStrictOrderedRing K] [Infinite K] (E : K → K) (hE : IsExp E)
    (x : Ix → Signal K) (n1 n2 : Nat) (c : K) (i : ExpPoly K) (hc : c ≠ 0)
    (hdx : ∀ ix, AllDelay 0 (x ix).post) (hdi : AllDelay 0 i) (bad : Finset K)
    (hlaw : ∀ s, s ∉ bad → NonPole (subP i (capCurrentT x n1 n2 c none)) s →
      L E (subP i (capCurrentT x n1 n2 c none)) s = 0)
    (hv : NoDelta (vpost x n1 n2)) (hi : impulse0 i = 0) :
    evalAt E (vpost x n1 n2) 0 = vpre0 x n1 n2 := by
  have hcz : Causal (vpost x n1 n2) := fun t ht => by rw [AllDelay.vpost hdx n1 n2 t ht]
  rw [evalAt_zero_of_causal E hE.zero _ hcz]
  exact continuity E hE x n1 n2 c i hc hdx hdi bad hlaw hv hi

/-! ### the real exponential: injectivity with delays and impulses, no hypothesis left -/

section real

theorem isExp_real : IsExp Real.exp := ⟨Real.exp_add, Real.exp_zero⟩

/-- **L_injective_real**: with the real exponential the formal unilateral transform is injective on ALL formal signals
    — exponential-polynomial terms, impulses and their derivatives, any (also negative or several) delays: a signal whose
    transform vanishes at every regular real point outside a finite set has the empty normal form.  The delay factors
    e^{−s d} of the real exponential ARE independent over the rational functions (`delayIndep_real`: a polynomial that is
    a combination of decaying exponentials tends to 0 at +∞, hence is 0). -/
theorem L_injective_real (f : ExpPoly ℝ) (bad : Finset ℝ)
    (h : ∀ s, s ∉ bad → NonPole f s → L Real.exp f s = 0) : FormalZero f :=
  L_injective_delay Real.exp isExp_real delayIndep_real f bad h

/-- the hypothesis `DelaysOK` of the circuit theorems always holds for the real exponential -/
theorem delaysOK_real (tcs : List (TCpt ℝ)) (x : Ix → Signal ℝ) : DelaysOK Real.exp tcs x := Or.inr delayIndep_real

/-- **lawsT_iff_formal_real**: over ℝ with the real exponential — delayed sources, impulsive responses and all — the
    time-domain laws as equality of transforms are exactly the formal laws decided by the driver. -/
theorem lawsT_iff_formal_real (tcs : List (TCpt ℝ)) (x : Ix → Signal ℝ) (hfin : FinitePoles tcs x) :
    LawsT Real.exp tcs x ↔ LawsTFormal tcs x :=
  lawsT_iff_formal Real.exp isExp_real tcs x (delaysOK_real tcs x) hfin

/-- **response_unique_real**: uniqueness of the time response as a formal signal, delays included. -/
theorem response_unique_real (tcs : List (TCpt ℝ)) (x y : Ix → Signal ℝ)
    (hfx : FinitePoles tcs x) (hfy : FinitePoles tcs y)
    (hrx : RestWhereUnspecified tcs x) (hry : RestWhereUnspecified tcs y)
    (hx : LawsT Real.exp tcs x) (hy : LawsT Real.exp tcs y) (U : Ix → Prop) (sing : Finset ℝ)
    (hwf : ∀ s, s ∉ sing → C01.WF (tcs.map (atS Real.exp s)))
    (hns : ∀ s, s ∉ sing → C01.NonsingularOn U .ivp s (tcs.map (atS Real.exp s))) :
    ∀ i, U i → FormalZero (subP (x i).post (y i).post) :=
  response_unique Real.exp isExp_real tcs x y (delaysOK_real tcs x) (delaysOK_real tcs y) hfx hfy hrx hry hx hy U sing hwf hns

/-- the delayed pulse u(t) − u(t−1) that the stand-in `E = 1` cannot tell from 0 has a non-zero transform with the real
    exponential: at s = 1 it is 1 − e^{−1} -/
example : L Real.exp [.ep 1 0 0 0, .ep (-1) 0 0 1] 1 ≠ 0 := by
  have h : Real.exp (-1) < 1 := by
    have := Real.exp_lt_exp.mpr (show (-1 : ℝ) < 0 by norm_num)
    rwa [Real.exp_zero] at this
  norm_num [L, Term.L, pw]
  intro e
  linarith

end real

/-! ### non-vacuity on the example circuit of Props/C02 (`exTcs`, `exX`; K = ℚ, infinite) -/

section examples

example : IsExp (fun _ : ℚ => (1 : ℚ)) := isExp_one

theorem ex_delayFree : DelayFree exTcs exX := by
  refine ⟨exX_post ?_ ?_ ?_ ?_, exTcs_post ?_ ?_⟩ <;> simp [AllDelay, Term.delayOf]

/-- the poles of the example are 0 and −1 -/
theorem ex_finitePoles : FinitePoles exTcs exX :=
  ⟨{0, -1}, fun s hs => by
    simp only [Finset.mem_insert, Finset.mem_singleton, not_or] at hs
    exact ex_regular s hs.1 hs.2⟩

/-- on the example the transform-level and the formal laws coincide, and both hold -/
example : LawsT (fun _ : ℚ => (1 : ℚ)) exTcs exX ↔ LawsTFormal exTcs exX :=
  lawsT_iff_formal _ isExp_one exTcs exX (Or.inl ex_delayFree) ex_finitePoles

example : LawsTW exTcs exX := (lawsTW_iff_formal exTcs exX ex_finitePoles).mpr ex_lawsTFormal

/-- a delayed signal that `L_injective_w` sees and `E = 1` does not: u(t) − u(t−1) has the zero transform under the
    (non-independent) stand-in `E = 1`, but not for every value of the delay indeterminates -/
example : L (fun _ : ℚ => (1 : ℚ)) [.ep 1 0 0 0, .ep (-1) 0 0 1] 2 = 0 := by
  norm_num [L, Term.L, pw]
example : LW (fun d : ℚ => if d = 0 then 1 else 0) [.ep 1 0 0 0, .ep (-1) 0 0 1] 2 ≠ 0 := by
  norm_num [LW, Term.LW, pw]
example : ¬ FormalZero ([.ep 1 0 0 0, .ep (-1) 0 0 1] : ExpPoly ℚ) := by decide +kernel

/-- the hypotheses of `L_injective` on a signal whose like terms cancel: u(t) − u(t) -/
example : ∀ s : ℚ, s ∉ (∅ : Finset ℚ) → NonPole ([.ep 1 0 0 0, .ep (-1) 0 0 0] : ExpPoly ℚ) s →
    L (fun _ : ℚ => (1 : ℚ)) [.ep 1 0 0 0, .ep (-1) 0 0 0] s = 0 := by
  intro s _ _; simp [L, Term.L, pw]; ring
example : AllDelay (0 : ℚ) [.ep 1 0 0 0, .ep (-1) 0 0 0] := by
  intro t ht; simp at ht; rcases ht with rfl | rfl <;> rfl

/-- `V 1 0 ; R 1 2 2 ; C 2 0 1/2` over any field, any source value and initial condition: the MNA system is non-singular on
    its unknowns V(1), V(2), I(V) at every s ≠ −1 -/
theorem rc_nonsingularOn {K : Type} [Field K] (s v : K) (ic : Option K) (hs : s + 1 ≠ 0) (h2ne : (2 : K) ≠ 0) :
    C01.NonsingularOn (fun i => i = .node 1 ∨ i = .node 2 ∨ i = .br 0) .ivp s [.V 1 0 0 v, .R 1 2 2, .Cap 2 0 (1 / 2) ic] := by
  refine nonsingularOn_of_killed (by simp [C01.WF, killAll, Cpt.mapSrc, owned]) fun z hz i hi => ?_
  have k1 := hz.1 1 (by decide)
  have k2 := hz.1 2 (by decide)
  have l1 := hz.2 _ List.mem_cons_self (0, _) (List.mem_singleton_self _)
  have hc (V : K) : capCurrent .ivp s 2⁻¹ (Option.map (fun _ => (0 : K)) ic) V = s * 2⁻¹ * V := by
    cases ic <;> simp [capCurrent]
  simp [killAll, Cpt.mapSrc, outflow, twoTerm, lsum, vd, volt] at k1 k2 l1
  rw [l1, hc] at k2
  have e2 : z (.node 2) = 0 := by
    have : (s + 1) * z (.node 2) = 0 := by field_simp at k2; linear_combination k2
    exact (mul_eq_zero.mp this).resolve_left hs
  rw [l1, e2] at k1
  rcases hi with rfl | rfl | rfl
  · exact l1
  · exact e2
  · simpa using k1

/-- the MNA system of the example is non-singular on its unknowns V(1), V(2), I(V1) at every s ≠ −1 -/
theorem ex_nonsingularOn (s : ℚ) (hs : s ≠ -1) :
    C01.NonsingularOn (fun i => i = .node 1 ∨ i = .node 2 ∨ i = .br 0) .ivp s (exTcs.map (atS (fun _ => 1) s)) :=
  rc_nonsingularOn s _ _ (fun h => hs (eq_neg_of_add_eq_zero_left h)) two_ne_zero

theorem ex_wf (s : ℚ) : C01.WF (exTcs.map (atS (fun _ => 1) s)) := by
  simp [C01.WF, exTcs, atS, owned]

theorem ex_rest : RestWhereUnspecified exTcs exX := by
  intro c hc
  simp only [exTcs, List.mem_cons, List.not_mem_nil, or_false] at hc
  rcases hc with rfl | rfl | rfl <;> trivial

/-- every hypothesis of `response_unique` holds on the example (with y = x): regular points, laws, rest, finitely many
    poles, non-singular outside {−1} -/
example : ∀ i, (i = Ix.node 1 ∨ i = .node 2 ∨ i = .br 0) → FormalZero (subP (exX i).post (exX i).post) :=
  response_unique (fun _ : ℚ => (1 : ℚ)) isExp_one exTcs exX exX (Or.inl ex_delayFree) (Or.inl ex_delayFree)
    ex_finitePoles ex_finitePoles ex_rest ex_rest (formal_lawsT _ _ _ ex_lawsTFormal) (formal_lawsT _ _ _ ex_lawsTFormal)
    _ {-1} (fun s _ => ex_wf s) (fun s hs => ex_nonsingularOn s (by simpa using hs))

/-- `lawsTFormal_of_laws_s` on the example: the s-domain laws at the regular points come from `laws_s_of_laws_t` -/
example : LawsTFormal exTcs exX :=
  lawsTFormal_of_laws_s (fun _ : ℚ => (1 : ℚ)) isExp_one exTcs exX (Or.inl ex_delayFree) ex_finitePoles ex_rest ∅
    (fun s _ hreg => laws_s_of_laws_t _ isExp_one exTcs exX ex_rest (formal_lawsT _ _ _ ex_lawsTFormal) s hreg)

/-- `continuity` on a whole-axis solution: `V1 1 0 dc 5 ; R1 1 2 2 ; C1 2 0 1/2` has v_C = 5 for all t, i_C = 0 -/
def cX : Ix → Signal ℚ
  | .node 1 => ⟨[(5, 0, 0)], [.ep 5 0 0 0]⟩
  | .node 2 => ⟨[(5, 0, 0)], [.ep 5 0 0 0]⟩
  | _ => ⟨[], []⟩

example : val0plus (vpost cX 2 0) = vpre0 cX 2 0 := by
  have hz : FormalZero (subP ([] : ExpPoly ℚ) (capCurrentT cX 2 0 (1 / 2) none)) := by decide +kernel
  refine continuity (fun _ : ℚ => (1 : ℚ)) isExp_one cX 2 0 (1 / 2) [] (by norm_num) ?_ (AllDelay.nil 0) ∅
    (fun s _ _ => L_of_formalZero _ hz s) ?_ (by decide +kernel)
  · intro ix t ht
    match ix with
    | .node 0 => simp [cX] at ht
    | .node 1 => simp [cX] at ht; subst ht; rfl
    | .node 2 => simp [cX] at ht; subst ht; rfl
    | .node (k + 3) => simp [cX] at ht
    | .br m => simp [cX] at ht
  · intro t ht
    simp [vpost, subP, voltT, cX, smul, Signal.zero] at ht
    subst ht; trivial

/-- the claimed notion holds on the example, and is equivalent to the formal laws there -/
example : LawsTime (fun _ : ℚ => (1 : ℚ)) exTcs exX := formal_lawsTime _ exTcs exX ex_finitePoles ex_lawsTFormal
example : LawsTime (fun _ : ℚ => (1 : ℚ)) exTcs exX ↔ FinitePoles exTcs exX ∧ LawsTFormal exTcs exX :=
  lawsTime_iff_formal _ isExp_one exTcs exX (Or.inl ex_delayFree)

end examples

end Lcapy.C02
