/-
  Machine-checked non-vacuity witnesses for the theorems of
  Props/C03.lean, C03Groups.lean, C03Lap.lean, C03Noise.lean, C03Wire.lean.

  Every witness is a realistic input for which ALL hypotheses of the audited theorem are proved, and the
  theorem is then applied to it.  Netlists used:
    * `ckt`     V1 1 0 6; R1 1 2 2; I1 2 0 3                    (dc, two independent sources)
    * `ivpCkt`  V1 1 0 step 6; R1 1 2 3; L1 2 0 2 i0=1           (initial-value problem at s = 2)
    * `wcs`     V1 1 0 6; R1 1 2 2; W 2 3; R2 3 0 3              (wire between two nodes)
    * `gcs`     V1 1 0 6; R1 1 2 2; R2 2 3 3; W 3 0              (wire to ground)
  Negative results (limits of a theorem) are named `limit_*`.
-/
import Lcapy.Props.C03
import Lcapy.Props.C03Groups
import Lcapy.Props.C03Lap
import Lcapy.Props.C03Noise
import Lcapy.Props.C03Wire
import Lcapy.Proofs.Witness
import Mathlib.Analysis.SpecialFunctions.Trigonometric.Basic
import Mathlib.Tactic.NormNum
import Mathlib.Tactic.Linarith
namespace Lcapy.NonVacuity.C03
open Lcapy Lcapy.MNA Lcapy.C03 Ix

/-! ## Props/C03.lean — MNA level -/

/-- `V1 1 0 6; R1 1 2 2; I1 2 0 3` -/
def ckt : List (Cpt ℚ) := [.V 1 0 0 6, .R 1 2 2, .I 2 0 3]
/-- the same with I1 killed / with V1 killed / with both killed -/
def cktV : List (Cpt ℚ) := [.V 1 0 0 6, .R 1 2 2, .I 2 0 0]
def cktI : List (Cpt ℚ) := [.V 1 0 0 0, .R 1 2 2, .I 2 0 3]
def ckt0 : List (Cpt ℚ) := [.V 1 0 0 0, .R 1 2 2, .I 2 0 0]

/-- V1 alone: V(1) = V(2) = 6, no current -/
def xV : Ix → ℚ := fun i => if i = node 1 then 6 else if i = node 2 then 6 else 0
/-- I1 alone: V(2) = 6, the short carries 3 A -/
def xI : Ix → ℚ := fun i => if i = node 2 then 6 else if i = br 0 then 3 else 0
/-- the whole circuit -/
def xT : Ix → ℚ := fun i => if i = node 1 then 6 else if i = node 2 then 12 else if i = br 0 then 3 else 0

theorem solves_V : Solves .dc (0 : ℚ) cktV xV :=
  solves_of_range 3 (by unfold C01.WF; decide) (by decide) (by decide +kernel) (by decide +kernel)
theorem solves_I : Solves .dc (0 : ℚ) cktI xI :=
  solves_of_range 3 (by unfold C01.WF; decide) (by decide) (by decide +kernel) (by decide +kernel)
theorem solves_0 : Solves .dc (0 : ℚ) ckt0 (fun _ => 0) :=
  solves_of_range 3 (by unfold C01.WF; decide) (by decide) (by decide +kernel) (by decide +kernel)
theorem solves_T : Solves .dc (0 : ℚ) ckt xT :=
  solves_of_range 3 (by unfold C01.WF; decide) (by decide) (by decide +kernel) (by decide +kernel)

/-- `C01.Nonsingular` (on the unknowns of the netlist) is satisfied by the two-source netlist -/
theorem nonsingular_ckt : C01.Nonsingular .dc (0 : ℚ) ckt := by
  refine nonsingular_of_killed [node 1, node 2, br 0] (by unfold C01.WF; decide) rfl ?_
  rintro z ⟨hk, hl⟩
  have e : killAll ckt = ckt0 := rfl
  rw [e, ckt0] at hk hl
  have k1 := hk 1 (by decide)
  have k2 := hk 2 (by decide)
  have l1 := hl (.V 1 0 0 0) (by simp) (0, _) (List.mem_singleton.mpr rfl)
  simp [outflow, twoTerm, lsum, vd, volt] at k1 k2 l1
  have e1 : z (node 1) = 0 := l1
  have e2 : z (node 2) = 0 := by rw [e1] at k2; linarith
  have e3 : z (br 0) = 0 := by rw [e1, e2] at k1; linarith
  simp [e1, e2, e3]

/-- `SameShape` (through `Forall₂`): the two single-source copies have the same shape -/
theorem sameShape_VI : List.Forall₂ SameShape cktV cktI := by
  simp [cktV, cktI, SameShape, Cpt.mapSrc]

theorem zip_VI : List.zipWith Cpt.addSrc cktV cktI = ckt := by
  simp [cktV, cktI, ckt, Cpt.addSrc]

/-- `SameShape` really constrains: a 2 Ω and a 3 Ω resistor do not have the same shape, nor a source and a resistor -/
example : ¬ SameShape (Cpt.R 1 2 (2 : ℚ)) (Cpt.R 1 2 3) := by simp [SameShape, Cpt.mapSrc]
example : ¬ SameShape (Cpt.V 1 0 0 (6 : ℚ)) (Cpt.R 1 0 6) := by simp [SameShape, Cpt.mapSrc]

/-- scaling, applied: all sources doubled -/
theorem nv_scaling : Solves .dc (0 : ℚ) [.V 1 0 0 12, .R 1 2 2, .I 2 0 6] (fun i => 2 * xT i) := by
  have h := scaling .dc (0 : ℚ) 2 ckt xT solves_T
  have e : ckt.map (Cpt.mapSrc (fun v => (2 : ℚ) * v)) = [.V 1 0 0 12, .R 1 2 2, .I 2 0 6] := by
    simp [ckt, Cpt.mapSrc]; norm_num
  rwa [e] at h

/-- superposition, applied -/
theorem nv_superposition : Solves .dc (0 : ℚ) ckt (fun i => xV i + xI i) := by
  have h := superposition .dc (0 : ℚ) cktV cktI xV xI sameShape_VI solves_V solves_I
  rwa [zip_VI] at h

/-- superposition_unique, applied: every hypothesis (incl. `Nonsingular`) holds for the realistic netlist -/
theorem nv_superposition_unique :
    ∀ i, C01.Unknown .dc (0 : ℚ) ckt i → xT i = xV i + xI i := by
  have h := superposition_unique .dc (0 : ℚ) cktV cktI xV xI xT sameShape_VI solves_V solves_I
    (by rw [zip_VI]; exact solves_T) (by rw [zip_VI]; exact nonsingular_ckt)
  rwa [zip_VI] at h

/-- the family `alone` for the netlist: one member per COMPONENT (the resistor's member is the fully killed netlist) -/
theorem alone_ckt : alone ckt = [cktV, ckt0, cktI] := by
  simp [ckt, cktV, cktI, ckt0, alone, killAll, Cpt.zeroSrc, Cpt.mapSrc]

theorem forall2_alone : List.Forall₂ (fun a x => Solves .dc (0 : ℚ) a x) (alone ckt) [xV, fun _ => 0, xI] := by
  rw [alone_ckt]
  exact .cons solves_V (.cons solves_0 (.cons solves_I .nil))

/-- each_source_alone, applied -/
theorem nv_each_source_alone : Solves .dc (0 : ℚ) ckt (sumX [xV, fun _ => 0, xI]) :=
  each_source_alone .dc 0 ckt _ rfl forall2_alone

/-- each_source_alone_unique, applied; the sum at node 2 is 6 + 0 + 6 = 12 V -/
theorem nv_each_source_alone_unique :
    ∀ i, C01.Unknown .dc (0 : ℚ) ckt i → xT i = sumX [xV, fun _ => 0, xI] i :=
  each_source_alone_unique .dc 0 ckt _ xT rfl forall2_alone solves_T nonsingular_ckt

example : sumX [xV, fun _ => 0, xI] (node 2) = 12 := by norm_num [sumX, xV, xI]

/-! ### an initial-value problem: a source and an initial condition, each acting alone -/

/-- `V1 1 0 step 6` (6/s = 3 at s = 2); `R1 1 2 3`; `L1 2 0 2` with i0 = 1 -/
def ivpCkt : List (Cpt ℚ) := [.V 1 0 0 3, .R 1 2 3, .Ind 2 0 1 2 (some 1) []]
def yV : Ix → ℚ := fun i =>
  if i = node 1 then 3 else if i = node 2 then 12/7 else if i = br 0 then -3/7 else if i = br 1 then 3/7 else 0
def yIC : Ix → ℚ := fun i =>
  if i = node 2 then -6/7 else if i = br 0 then -2/7 else if i = br 1 then 2/7 else 0
def yT : Ix → ℚ := fun i =>
  if i = node 1 then 3 else if i = node 2 then 6/7 else if i = br 0 then -5/7 else if i = br 1 then 5/7 else 0

theorem alone_ivp : alone ivpCkt =
    [[.V 1 0 0 3, .R 1 2 3, .Ind 2 0 1 2 (some 0) []],
     [.V 1 0 0 0, .R 1 2 3, .Ind 2 0 1 2 (some 0) []],
     [.V 1 0 0 0, .R 1 2 3, .Ind 2 0 1 2 (some 1) []]] := by
  simp [ivpCkt, alone, killAll, Cpt.zeroSrc, Cpt.mapSrc, coupMap]

theorem ivp_sV : Solves .ivp (2 : ℚ) [.V 1 0 0 3, .R 1 2 3, .Ind 2 0 1 2 (some 0) []] yV :=
  solves_of_range 3 (by unfold C01.WF; decide) (by decide) (by decide +kernel) (by decide +kernel)
theorem ivp_s0 : Solves .ivp (2 : ℚ) [.V 1 0 0 0, .R 1 2 3, .Ind 2 0 1 2 (some 0) []] (fun _ => 0) :=
  solves_of_range 3 (by unfold C01.WF; decide) (by decide) (by decide +kernel) (by decide +kernel)
theorem ivp_sIC : Solves .ivp (2 : ℚ) [.V 1 0 0 0, .R 1 2 3, .Ind 2 0 1 2 (some 1) []] yIC :=
  solves_of_range 3 (by unfold C01.WF; decide) (by decide) (by decide +kernel) (by decide +kernel)
theorem ivp_sT : Solves .ivp (2 : ℚ) ivpCkt yT :=
  solves_of_range 3 (by unfold C01.WF; decide) (by decide) (by decide +kernel) (by decide +kernel)

theorem nonsingular_ivp : C01.Nonsingular .ivp (2 : ℚ) ivpCkt := by
  refine nonsingular_of_killed [node 1, node 2, br 0, br 1] (by unfold C01.WF; decide) rfl ?_
  rintro z ⟨hk, hl⟩
  have e : killAll ivpCkt = [.V 1 0 0 0, .R 1 2 3, .Ind 2 0 1 2 (some 0) []] := rfl
  rw [e] at hk hl
  have k1 := hk 1 (by decide)
  have k2 := hk 2 (by decide)
  have l1 := hl (.V 1 0 0 0) (by simp) (0, _) (List.mem_singleton.mpr rfl)
  have l2 := hl (.Ind 2 0 1 2 (some 0) []) (by simp) (1, _) (List.mem_singleton.mpr rfl)
  simp [outflow, twoTerm, lsum, vd, volt, mutualDrop, mutualIC] at k1 k2 l1 l2
  have e1 : z (node 1) = 0 := l1
  rw [e1] at k1 k2
  have e4 : z (br 1) = 0 := by linarith
  have e2 : z (node 2) = 0 := by linarith
  have e3 : z (br 0) = 0 := by linarith
  simp [e1, e2, e3, e4]

/-- each_source_alone_unique on the initial-value problem: response = (V1 alone) + 0 + (initial current alone) -/
theorem nv_each_source_alone_unique_ivp :
    ∀ i, C01.Unknown .ivp (2 : ℚ) ivpCkt i → yT i = sumX [yV, fun _ => 0, yIC] i := by
  apply each_source_alone_unique .ivp 2 ivpCkt _ yT rfl _ ivp_sT nonsingular_ivp
  rw [alone_ivp]
  exact .cons ivp_sV (.cons ivp_s0 (.cons ivp_sIC .nil))

example : sumX [yV, fun _ => 0, yIC] (node 2) = 6 / 7 := by norm_num [sumX, yV, yIC]

/-! ### decomposition and spec-level noise (no hypotheses except permutations) -/
section
open Lcapy.Decompose Lcapy.Noise

/-- grouping_invariant, applied to 2 + cos 3t + 5 x₀ + sin 3t and a reordering of it -/
theorem nv_grouping_invariant (C S : ℚ → ℚ) (X : Nat → ℚ) :
    semDecomp C S X (decompose [.dc 2, .ac 3 1 0, .tr 0 5, .ac 3 0 1]) =
      semDecomp C S X (decompose [.dc 2, .ac 3 1 0, .ac 3 0 1, .tr 0 5]) :=
  grouping_invariant C S X _ _ (List.Perm.cons _ (List.Perm.cons _ (List.Perm.swap _ _ _)))

/-- `decompose_reassemble`, applied: the two sinusoids of ω = 3 are accumulated into one phasor and add back -/
example (C S : ℚ → ℚ) (X : Nat → ℚ) :
    semDecomp C S X (decompose [.dc 2, .ac 3 1 0, .tr 0 5, .ac 3 0 1]) = 2 + (1 * C 3 + 0 * S 3) + 5 * X 0 + (0 * C 3 + 1 * S 3) := by
  rw [decompose_reassemble]; simp [Decompose.sumK, semTerm]; ring

/-- noisePower_perm / groupSum_perm, applied -/
theorem nv_noisePower_perm :
    noisePower [[(((1 : ℚ), (2 : ℚ)), (3 : ℚ)), ((0, 1), 2)], [((1, 1), 5)]] =
      noisePower [[((1, 1), 5)], [((1, 2), 3), ((0, 1), 2)]] :=
  noisePower_perm _ _ (List.Perm.swap _ _ _)

theorem nv_groupSum_perm :
    groupSum [(((1 : ℚ), (2 : ℚ)), (3 : ℚ)), ((0, 1), 2)] = groupSum [((0, 1), 2), ((1, 2), 3)] :=
  groupSum_perm _ _ (List.Perm.swap _ _ _)
end

/-! ## Props/C03Groups.lean -/
section
open Lcapy.Groups Lcapy.Decompose

/-- `V1 1 0 {2 + 3*cos(2*t) + 5*x0(t) + sin(2*t)}` -/
def src1 : Src := ⟨"V1", "1", "0", .texpr, [.dc 2, .ac 2 3 0, .tr 0 5, .ac 2 0 1]⟩

example : srcKinds src1 = [.dc, .ac 2, .transient] := by decide +kernel

theorem nv_srcKinds_sound : ∀ k ∈ srcKinds src1, k ∈ termKinds src1.terms :=
  srcKinds_sound src1 (by intro nid h; cases h)

theorem nv_termKinds_ok :
    (termKinds src1.terms).Nodup ∧ ∀ t ∈ src1.terms, kindOf t ∈ termKinds src1.terms := termKinds_ok _

theorem nv_term_in_exactly_one_group :
    ([Key.dc, .transient, .ac 2].filter (fun k => decide (kindOf (Term.ac 2 3 0) = k))).length = 1 :=
  term_in_exactly_one_group _ (by decide +kernel) _ (by decide +kernel)

/-- a linear reading: the value at an instant where cos = 1/2, sin = 1/3, x₀ = 7 -/
def fval : Term Rat → ℚ := semTerm (fun _ => 1/2) (fun _ => 1/3) (fun _ => 7)

theorem nv_groups_partition :
    ((termKinds src1.terms).map (fun k => ((selectTerms k src1.terms).map fval).sum)).sum = (src1.terms.map fval).sum :=
  groups_partition fval _ (termKinds_ok _).1 _ (termKinds_ok _).2

/-- LIMIT of `groups_partition`: it is stated for key lists that COVER the raw term kinds (`termKinds`), not for the
    keys the model of the code reports (`srcKinds`, what the driver runs): for `2 − 2 + cos 3t` the code reports no
    dc group, the cover hypothesis fails, and the conclusion is false for a non-linear reading (`f = 1`). -/
def src2 : Src := ⟨"V1", "1", "0", .texpr, [.dc 2, .dc (-2), .ac 3 1 0]⟩
example : srcKinds src2 = [.ac 3] := by decide +kernel
theorem limit_groups_partition_cover : ¬ (∀ t ∈ src2.terms, kindOf t ∈ srcKinds src2) := by decide +kernel
theorem limit_groups_partition_concl :
    ((srcKinds src2).map (fun k => ((selectTerms k src2.terms).map (fun _ => (1 : ℚ))).sum)).sum ≠
      (src2.terms.map (fun _ => (1 : ℚ))).sum := by decide +kernel

/-- scaling_one_source, applied: V1 alone (I1 killed) tripled -/
theorem nv_scaling_one_source :
    Solves .dc (0 : ℚ) [.V 1 0 0 18, .R 1 2 2, .I 2 0 0] (fun i => 3 * xV i) := by
  have h := scaling_one_source .dc (0 : ℚ) 3 [] [.R 1 2 2, .I 2 0 3] (.V 1 0 0 6) xV
    (by simpa [killAll, Cpt.mapSrc, cktV] using solves_V)
  have e : (3 : ℚ) * 6 = 18 := by norm_num
  simpa [killAll, Cpt.mapSrc, e] using h

/-- groups_superpose, applied: group 1 takes V1 ↦ 6, group 2 takes I1 ↦ 3 (positions 0 and 2 of the netlist) -/
def w1 : Nat → ℚ := fun p => if p = 0 then 6 else 0
def w2 : Nat → ℚ := fun p => if p = 2 then 3 else 0
theorem assign_w1 : assignAt w1 0 ckt = cktV := by simp [assignAt, w1, ckt, cktV, Cpt.mapSrc]
theorem assign_w2 : assignAt w2 0 ckt = cktI := by simp [assignAt, w2, ckt, cktI, Cpt.mapSrc]
theorem assign_sum : assignAt (sumW [w1, w2]) 0 ckt = ckt := by simp [assignAt, sumW, w1, w2, ckt, Cpt.mapSrc]

theorem nv_groups_superpose : Solves .dc (0 : ℚ) ckt (sumX [xV, xI]) := by
  have h := groups_superpose_partial .dc (0 : ℚ) ckt [w1, w2] [xV, xI]
    (.cons (by rw [assign_w1]; exact solves_V) (.cons (by rw [assign_w2]; exact solves_I) .nil))
  rwa [assign_sum] at h
end

/-! ## Props/C03Noise.lean -/
section
open Lcapy.Noise

/-- a superposition that already stores 3 + 0j for identifier 1 -/
def d0 : NDict ℚ := [(1, (3, 0))]
/-- contributions: 0 + 4j (id 1), 1 + 2j (id 2), −3 − 4j (id 1: cancels what is stored for id 1) -/
def e0 : NDict ℚ := [(1, (0, 4)), (2, (1, 2)), (1, (-3, -4))]

theorem keys_d0 : (keys d0).Nodup := by decide
example : superAdd d0 e0 = [(2, (1, 2))] := by decide +kernel

theorem nv_lookup_addNoise (m : Nat) :
    lookup (addNoise d0 1 (0, 4)) m = if m = 1 then cadd (lookup d0 m) (0, 4) else lookup d0 m :=
  lookup_addNoise d0 1 (0, 4) keys_d0 m
theorem nv_lookup_superAdd : lookup (superAdd d0 e0) 1 = cadd (lookup d0 1) (contrib e0 1) :=
  lookup_superAdd d0 e0 keys_d0 1
theorem nv_lookup_superSub : lookup (superSub d0 e0) 2 = cadd (lookup d0 2) (cneg (contrib e0 2)) :=
  lookup_superSub d0 e0 keys_d0 2
theorem nv_totalPower_eq : totalPower (superAdd d0 [(2, (1, 2))]) = 14 := by
  rw [totalPower_eq _ (by decide +kernel)]; decide +kernel
/-- three contributions, two identifiers: |3 + 4j|² + |1 + 2j|² = 30 -/
theorem nv_parts_power_is_noisePower :
    totalPower (superAdd [] ([(1, (3, 0)), (2, (1, 2)), (1, (0, 4))] : NDict ℚ)) = 30 := by
  rw [parts_power_is_noisePower]; decide +kernel

theorem nv_noise_add_same : add 9 (⟨.amp 3 0, 1⟩ : NE ℚ) ⟨.amp 0 4, 1⟩ = some ⟨.amp (3 + 0) (0 + 4), 1⟩ :=
  noise_add_same 9 1 3 0 0 4 (by norm_num)
theorem nv_noise_sub_same : sub 9 (⟨.amp 3 0, 1⟩ : NE ℚ) ⟨.amp 0 4, 1⟩ = some ⟨.amp (3 - 0) (0 - 4), 1⟩ :=
  noise_sub_same 9 1 3 0 0 4 (by norm_num)
theorem nv_noise_add_distinct :
    add 9 (⟨.amp 3 0, 1⟩ : NE ℚ) ⟨.amp 0 4, 2⟩ =
      some ⟨.rss ((NVal.amp 3 0 : NVal ℚ).power + (NVal.amp 0 4 : NVal ℚ).power), 9⟩ :=
  noise_add_distinct 9 1 2 _ _ (by decide) (by decide +kernel)
theorem nv_noise_sub_distinct :
    sub 9 (⟨.amp 3 0, 1⟩ : NE ℚ) ⟨.amp 0 4, 2⟩ =
      some ⟨.rss ((NVal.amp 3 0 : NVal ℚ).power + (NVal.amp 0 4 : NVal ℚ).power), 9⟩ :=
  noise_sub_distinct 9 1 2 _ _ (by decide) (by decide +kernel)
theorem nv_noise_sub_zero_left_distinct :
    sub 9 (⟨.amp 0 0, 1⟩ : NE ℚ) ⟨.amp 3 4, 2⟩ = some ⟨.rss (3 * 3 + 4 * 4), 9⟩ :=
  noise_sub_zero_left_distinct 9 1 2 3 4 (by decide) (by norm_num)
theorem nv_noise_neg_power : ∃ r : NE ℚ, neg ⟨.amp 3 4, 1⟩ = some r ∧ r.nid = 1 ∧ r.v.power = 25 := by
  refine ⟨⟨.amp (-3) (-4), 1⟩, rfl, ?_⟩
  have := noise_neg_power (⟨.amp 3 4, 1⟩ : NE ℚ) ⟨.amp (-3) (-4), 1⟩ rfl
  refine ⟨this.1, ?_⟩; rw [this.2]; norm_num [NVal.power]
theorem nv_noise_smul_power : ∃ r : NE ℚ, smul 2 ⟨.amp 3 4, 1⟩ = some r ∧ r.nid = 1 ∧ r.v.power = 2 * 2 * 25 := by
  refine ⟨⟨.amp (2 * 3) (2 * 4), 1⟩, rfl, ?_⟩
  have := noise_smul_power (2 : ℚ) ⟨.amp 3 4, 1⟩ ⟨.amp (2 * 3) (2 * 4), 1⟩ rfl ⟨3, 4, rfl⟩
  refine ⟨this.1, ?_⟩; rw [this.2]; norm_num [NVal.power]
theorem nv_noise_add_sub_cancel :
    (add 9 (⟨.amp 3 0, 1⟩ : NE ℚ) ⟨.amp 0 4, 1⟩).bind (fun s => sub 9 s ⟨.amp 0 4, 1⟩) = some ⟨.amp 3 0, 1⟩ :=
  noise_add_sub_cancel 9 1 3 0 0 4 (by norm_num)
theorem nv_noise_smul_add :
    (add 9 (⟨.amp 3 0, 1⟩ : NE ℚ) ⟨.amp 0 4, 1⟩).bind (smul 2) =
      (smul 2 ⟨.amp 3 0, 1⟩).bind (fun x => (smul 2 ⟨.amp 0 4, 1⟩).bind (fun y => add 9 x y)) :=
  noise_smul_add 9 1 2 3 0 0 4 (by norm_num) (by norm_num)
end

/-! ## Props/C03Lap.lean — over ℂ with the genuine exponential, j = i, ω = 3, s = 1 -/
section
open Lcapy.Decompose Lcapy.Laplace

theorem hp : (1 : ℂ) - Complex.I * 3 ≠ 0 := by
  intro h; have := congrArg Complex.re h; simp at this
theorem hm : (1 : ℂ) + Complex.I * 3 ≠ 0 := by
  intro h; have := congrArg Complex.re h; simp at this
theorem h2 : (1 + 1 : ℂ) ≠ 0 := by norm_num

/-- phasor_laplace, applied: L{Re((3 + 4j) e^{3jt})}(1) = (3·1 − 4·3)/(1 + 9) -/
theorem nv_phasor_laplace : L Complex.exp (phasorSig Complex.I 3 4 3) 1 = phasorLap (3 : ℂ) 4 3 1 :=
  phasor_laplace Complex.exp Complex.exp_zero Complex.I 3 4 3 1 Complex.I_mul_I h2 hp hm

/-- phasor_time, applied with the genuine cos and sin: its hypotheses `hc`, `hs` are Euler's formulas -/
theorem nv_phasor_time (a b θ : ℂ) :
    (a + Complex.I * b) / (1 + 1) * Complex.exp (Complex.I * θ) +
        (a - Complex.I * b) / (1 + 1) * Complex.exp (-(Complex.I * θ))
      = a * Complex.cos θ - b * Complex.sin θ := by
  apply phasor_time Complex.I a b _ _ _ _ Complex.I_mul_I h2
  · rw [Complex.cos]; congr 2 <;> ring_nf
  · rw [Complex.sin]
    have : Complex.I * ((Complex.exp (-θ * Complex.I) - Complex.exp (θ * Complex.I)) * Complex.I / 2)
        = (Complex.exp (θ * Complex.I) - Complex.exp (-θ * Complex.I)) / 2 * (-(Complex.I * Complex.I)) := by ring
    rw [this, Complex.I_mul_I]; ring_nf

/-- 2 + 3 cos 3t − 4 sin 3t + 5 x₀(t) + cos 3t, with x₀(t) = e^{−2t} u(t) -/
noncomputable def ts : List (Decompose.Term ℂ) := [.dc 2, .ac 3 3 (-4), .tr 0 5, .ac 3 1 0]
noncomputable def X : Nat → ExpPoly ℂ := fun _ => [.ep 1 0 (-2) 0]

theorem hw : ∀ t ∈ ts, ∀ w a b, t = Decompose.Term.ac w a b →
    (1 : ℂ) - Complex.I * w ≠ 0 ∧ (1 : ℂ) + Complex.I * w ≠ 0 := by
  intro t ht w a b h
  simp only [ts, List.mem_cons, List.mem_nil_iff, or_false] at ht
  rcases ht with rfl | rfl | rfl | rfl <;> cases h <;> exact ⟨hp, hm⟩

open scoped Classical in
/-- reassemble_laplace_transform, applied -/
theorem nv_reassemble_laplace_transform :
    decompLap (fun i => L Complex.exp (X i) 1) 1 (decompose ts) =
      L Complex.exp (sigDecomp Complex.I X (decompose ts)) 1 :=
  reassemble_laplace_transform Complex.exp Complex.exp_zero Complex.I Complex.I_mul_I h2 X 1 ts one_ne_zero hw

open scoped Classical in
/-- termLap_is_transform, applied to the sinusoidal term -/
theorem nv_termLap_is_transform :
    L Complex.exp (sigTerm Complex.I X (.ac 3 3 (-4))) 1 =
      termLap (fun i => L Complex.exp (X i) 1) 1 (.ac 3 3 (-4)) :=
  termLap_is_transform Complex.exp Complex.exp_zero Complex.I Complex.I_mul_I h2 X 1 _ one_ne_zero
    (by intro w a b h; cases h; exact ⟨hp, hm⟩)

/-- grouping_invariant_laplace, applied (ℚ, transform of x₀ at the point = 1/2) -/
theorem nv_grouping_invariant_laplace :
    decompLap (fun _ => (1 / 2 : ℚ)) 1 (decompose [.dc 2, .ac 3 3 (-4), .tr 0 5, .ac 3 1 0]) =
      decompLap (fun _ => (1 / 2 : ℚ)) 1 (decompose [.ac 3 3 (-4), .dc 2, .tr 0 5, .ac 3 1 0]) :=
  grouping_invariant_laplace _ 1 _ _ (List.Perm.swap _ _ _)
    ⟨one_ne_zero, by
      intro t ht w a b h
      simp only [List.mem_cons, List.mem_nil_iff, or_false] at ht
      rcases ht with rfl | rfl | rfl | rfl <;> cases h <;> norm_num⟩

/-- REMARK (class e, harmless): `reassemble_laplace_linear` carries no guard, so it also "holds" AT the poles s = 0 and
    s² + ω² = 0, where both sides are sums of totalised quotients `x / 0 = 0`: at s = 0 the dc part contributes 0. -/
example : decompLap (fun _ => (0 : ℚ)) 0 (decompose [.dc 2, .dc 5]) = 0 := by
  norm_num [decompLap, decompose, step, Decompose.sumK]
end

/-! ## Props/C03Wire.lean -/

/-- `V1 1 0 6; R1 1 2 2; R2 3 0 3` (the wire `W 2 3` is prepended as `V 2 3 1 0`) -/
def wcs : List (Cpt ℚ) := [Cpt.V 1 0 0 6, Cpt.R 1 2 2, Cpt.R 3 0 3]
def wx : Ix → ℚ := fun i => match i with
  | node 1 => 6 | node 2 => 18 / 5 | node 3 => 18 / 5 | br 0 => -6 / 5 | br 1 => 6 / 5 | _ => 0

theorem wLaws : Laws Kind.dc (0 : ℚ) (Cpt.V 2 3 1 0 :: wcs) wx :=
  laws_of_range 4 (by decide) (by decide +kernel) (by decide +kernel)

/-- the wire's branch index is not read by any other component -/
theorem wSide (m : Nat) (h0 : m ≠ 0) : ∀ c ∈ wcs, m ∉ brRefs c := by
  intro c hc
  simp only [wcs, List.mem_cons, List.mem_nil_iff, or_false] at hc
  rcases hc with rfl | rfl | rfl <;> simp [brRefs, h0]

theorem nv_kill_V_equiv :
    volt wx 2 = volt wx 3 ∧ wx (br 1) = lsum (wcs.map (outflow Kind.dc 0 wx 3)) ∧
      Laws Kind.dc (0 : ℚ) (wcs.map (Cpt.mapNodes (merge 2 3))) wx :=
  (kill_V_equiv Kind.dc 0 wcs wx 2 3 1 (by decide) (by decide)).mp wLaws

theorem merged_wcs : wcs.map (Cpt.mapNodes (merge 2 3)) = [Cpt.V 1 0 0 6, Cpt.R 1 2 2, Cpt.R 2 0 3] := by
  simp [wcs, Cpt.mapNodes, merge]

theorem nv_wire_merge_complete : Laws Kind.dc (0 : ℚ) (wcs.map (Cpt.mapNodes (merge 2 3))) wx :=
  wire_merge_complete Kind.dc 0 wcs wx 2 3 1 (by decide) (by decide) wLaws

theorem nv_wire_merge_sound : Laws Kind.dc (0 : ℚ) (Cpt.V 2 3 1 0 :: wcs) (unmerge Kind.dc 0 wcs 2 3 1 wx) :=
  wire_merge_sound Kind.dc 0 wcs 2 3 1 (by decide) (by decide) (wSide 1 (by decide)) wx nv_wire_merge_complete

/-- the reconstructed wire current is 6/5 A -/
theorem nv_unmerge_value : unmerge Kind.dc 0 wcs 2 3 1 wx (br 1) = 6 / 5 := by
  norm_num [unmerge, wcs, wx, outflow, twoTerm, lsum, vd, volt]

theorem nv_unmerge_agrees :
    (∀ k, k ≠ 3 → unmerge Kind.dc 0 wcs 2 3 1 wx (node k) = wx (node k)) ∧
    (∀ k, k ≠ 1 → unmerge Kind.dc 0 wcs 2 3 1 wx (br k) = wx (br k)) ∧
    unmerge Kind.dc 0 wcs 2 3 1 wx (node 3) = volt wx 2 :=
  unmerge_agrees Kind.dc 0 wcs 2 3 1 wx

/-- wire_current_unique, applied to two solutions obtained differently -/
theorem nv_wire_current_unique : wx (br 1) = unmerge Kind.dc 0 wcs 2 3 1 wx (br 1) := by
  apply wire_current_unique Kind.dc 0 wcs 2 3 1 (by decide) (by decide) (wSide 1 (by decide)) wx _ wLaws
    nv_wire_merge_sound
  intro i hi
  obtain ⟨h1, h2, h3⟩ := unmerge_agrees Kind.dc 0 wcs 2 3 1 wx
  cases i with
  | node k =>
    by_cases hk : k = 3
    · subst hk; rw [h3]; simp [wx, volt]
    · exact (h1 k hk).symm
  | br k =>
    have : k ≠ 1 := fun h => hi (by rw [h])
    exact (h2 k this).symm

/-- `C01.WF` (not used by the C03 statements, needed to carry the `Laws`-level wire theorems over
    to the `Solves`-level superposition theorems through `C01.mna_iff_laws`): holds for the netlist with the wire,
    whose `Laws` solution therefore solves the assembled MNA system -/
theorem wf_wire : C01.WF (Cpt.V 2 3 1 0 :: wcs) := by unfold C01.WF; decide
theorem wire_solves : Solves Kind.dc (0 : ℚ) (Cpt.V 2 3 1 0 :: wcs) wx :=
  (C01.mna_iff_laws Kind.dc 0 _ wx wf_wire).mpr wLaws


/-- `V1 1 0 6; R1 1 2 2; R2 2 3 3; W 3 0`: the wire's second node is ground (mirrored orientation) -/
def gcs : List (Cpt ℚ) := [Cpt.V 1 0 0 6, Cpt.R 1 2 2, Cpt.R 2 3 3]
def gx : Ix → ℚ := fun i => match i with
  | node 1 => 6 | node 2 => 18 / 5 | node 3 => 0 | br 0 => -6 / 5 | br 1 => 6 / 5 | _ => 0

theorem gLaws : Laws Kind.dc (0 : ℚ) (Cpt.V 3 0 1 0 :: gcs) gx :=
  laws_of_range 4 (by decide) (by decide +kernel) (by decide +kernel)

theorem nv_kill_V_equiv_rev :
    volt gx 0 = volt gx 3 ∧ gx (br 1) = -lsum (gcs.map (outflow Kind.dc 0 gx 3)) ∧
      Laws Kind.dc (0 : ℚ) (gcs.map (Cpt.mapNodes (merge 0 3))) gx :=
  (kill_V_equiv_rev Kind.dc 0 gcs gx 0 3 1 (by decide) (by decide)).mp gLaws

theorem merged_gcs : gcs.map (Cpt.mapNodes (merge 0 3)) = [Cpt.V 1 0 0 6, Cpt.R 1 2 2, Cpt.R 2 0 3] := by
  simp [gcs, Cpt.mapNodes, merge]

/-- two parallel wires (branches 1 and 4) between the nodes 2 and 3 -/
def px : Ix → ℚ := fun i => match i with
  | node 1 => 6 | node 2 => 18 / 5 | node 3 => 18 / 5 | br 0 => -6 / 5 | br 1 => 1 | br 4 => 1 / 5 | _ => 0

theorem pLaws : Laws Kind.dc (0 : ℚ) (Cpt.V 2 3 1 0 :: Cpt.V 2 3 4 0 :: wcs) px :=
  laws_of_range 4 (by decide) (by decide +kernel) (by decide +kernel)

theorem nv_parallel_wires_current_free (d : ℚ) :
    Laws Kind.dc (0 : ℚ) (Cpt.V 2 3 1 0 :: Cpt.V 2 3 4 0 :: wcs)
      (fun i => if i = br 1 then px i + d else if i = br 4 then px i - d else px i) :=
  parallel_wires_current_free Kind.dc 0 wcs px 2 3 1 4 (by decide) (wSide 1 (by decide)) (wSide 4 (by decide)) d pLaws

/-- `V1 1 0 6; R1 1 2 2; R2 2 0 3; W 2 2`: a wire from a node to itself -/
def scs : List (Cpt ℚ) := [Cpt.V 1 0 0 6, Cpt.R 1 2 2, Cpt.R 2 0 3]
def sx : Ix → ℚ := fun i => match i with
  | node 1 => 6 | node 2 => 18 / 5 | br 0 => -6 / 5 | _ => 0

theorem sLaws : Laws Kind.dc (0 : ℚ) (Cpt.V 2 2 1 0 :: scs) sx :=
  laws_of_range 3 (by decide) (by decide +kernel) (by decide +kernel)

theorem nv_self_loop_current_free (J : ℚ) :
    Laws Kind.dc (0 : ℚ) (Cpt.V 2 2 1 0 :: scs) (fun i => if i = br 1 then J else sx i) :=
  self_loop_current_free Kind.dc 0 scs sx 2 1 (by decide) J sLaws

end Lcapy.NonVacuity.C03
