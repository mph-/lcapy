/-
  C16 -- "modifying a copy or a derived object never changes the original" for RESULT OBJECTS, and "regardless of what
  other circuits the process has handled" for optional dictionary parameters (Model/Alias.lean).

  * `derivation_keeps_source`, `derivations_keep_source`   when `Expr.__init__` copies the argument's assumptions object,
        no sequence of derivations (as_transfer, as_impedance, as_admittance, as_current, ...) changes the assumptions of
        the expression they are derived from;  witness `aliased_derivation_changes_source` for the aliased constructor;
  * `renumber_history_independent`   with a per-call default, `renumber()` answers as `renumber({})` whatever the process
        did before;  witness `mutable_default_leaks` for `def renumber(self, node_map={})`.
  The two side conditions are table facts about the source text: Props/C16Tables.lean
  `arguments_not_mutated_through_alias`, `no_mutable_default_arguments`.

  TIE TO THE CODE: `Alias.derive` is executed by the driver (`c16.alias`, with `copies := argAliasMutations.isEmpty`
  from the generated table) and compared on every run with the time-behaviour flags (causal, dc, ac) of real kept
  Laplace-domain results before / after as_transfer, as_impedance, as_admittance, as_voltage, as_current, as_expr and of
  the derived expressions; `Alias.renumberS` / `augmentNodeMap` (an executable model of `renumber()` /
  `augment_node_map` for wire-free circuits, `mutableDefault := !mutableDefaults.isEmpty`) is executed by `c16.renumber`
  and compared with the node mapping of real `renumber()` calls made one after the other in one process.
  `renumber_history_independent` below is about the GENERIC mechanism (any completion function `fill`) and is the
  definition unfolded once the default is per call -- the content is in the table theorem and in the correspondence.
-/
import Lcapy.Proofs.Alias
namespace Lcapy.C16
open Lcapy.Alias

/-- ONE DERIVATION with a copying constructor: every object that existed before keeps its assumptions, and nothing
    is deallocated -/
theorem derive_keeps_all (h : Heap) (src : ExprRef) (ac : Bool) (i : Nat) (hi : i < h.objs.length) :
    (derive true h src ac).1.get i = h.get i ∧ h.objs.length ≤ (derive true h src ac).1.objs.length := by
  unfold derive
  simp only [if_true]
  have hne : i ≠ h.objs.length := Nat.ne_of_lt hi
  cases ac with
  | false =>
    simp only [Bool.false_eq_true, if_false]
    refine ⟨?_, by simp [alloc_length]; omega⟩
    rw [get_alloc_old _ _ _ (by rw [alloc_length]; omega), get_alloc_old _ _ _ hi]
  | true =>
    simp only [if_true]
    refine ⟨?_, by simp [alloc_length, set_length]; omega⟩
    rw [get_alloc_old _ _ _ (by rw [set_length, alloc_length]; omega)]
    have : (h.alloc (h.get src.ass)).2 = h.objs.length := rfl
    rw [this, get_set_other _ _ _ _ hne, get_alloc_old _ _ _ hi]

/-- in particular the source expression of the derivation -/
theorem derivation_keeps_source (h : Heap) (src : ExprRef) (ac : Bool) (hs : src.ass < h.objs.length) :
    (derive true h src ac).1.get src.ass = h.get src.ass :=
  (derive_keeps_all h src ac src.ass hs).1

/-- ANY SEQUENCE of derivations from a kept expression leaves its assumptions as they were -/
theorem derivations_keep_source (ds : List Bool) (h : Heap) (src : ExprRef) (hs : src.ass < h.objs.length) :
    (deriveAll true h src ds).get src.ass = h.get src.ass := by
  induction ds generalizing h with
  | nil => rfl
  | cons d ds ih =>
    simp only [deriveAll]
    obtain ⟨h1, h2⟩ := derive_keeps_all h src d src.ass hs
    rw [ih _ (Nat.lt_of_lt_of_le hs h2), h1]

example : (⟨0⟩ : ExprRef).ass < (⟨[⟨false, true, false⟩]⟩ : Heap).objs.length := by decide +kernel

/-- the aliased constructor (`ass = arg.assumptions`): deriving a transfer function from a DC voltage turns the
    voltage itself causal -/
theorem aliased_derivation_changes_source :
    let h : Heap := ⟨[⟨false, true, false⟩]⟩
    let V : ExprRef := ⟨0⟩
    ((derive false h V true).1.get V.ass).causal = true ∧ (h.get V.ass).causal = false ∧
    ((derive true h V true).1.get V.ass).causal = false := by decide +kernel

/-! ## optional dictionary parameters -/

/-- with a per-call default the answer of `renumber()` is the answer of `renumber({})`, after any number of earlier
    calls on any circuits, for EVERY way `fill` of completing a mapping; and the process keeps no trace of the call -/
theorem renumber_history_independent {C : Type} (fill : Dict → C → Dict) (earlier : List C) (p : Proc) (c : C) :
    (renumber fill false (calls fill false p earlier) c).1 = renumberExplicit fill c ∧ calls fill false p earlier = p := by
  have h : ∀ (l : List C) (p : Proc), calls fill false p l = p := by
    intro l
    induction l with
    | nil => intro p; rfl
    | cons x xs ih => intro p; simp only [calls, renumber]; exact ih p
  exact ⟨by simp [renumber, renumberExplicit], h earlier p⟩

/-- `def renumber(self, node_map={})`: the second circuit is numbered with the first circuit's assignments -/
theorem mutable_default_leaks :
    let p := calls augment true ⟨[]⟩ [["in", "out"]]
    (renumber augment true p ["out", "in"]).1 = [("in", 1), ("out", 2)] ∧
    renumberExplicit augment ["out", "in"] = [("out", 1), ("in", 2)] := by
  decide +kernel

end Lcapy.C16
