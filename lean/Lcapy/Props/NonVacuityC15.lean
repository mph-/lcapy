/-
  Non-vacuity witnesses for Props/C15.lean, C15Mesh.lean, C15SS.lean.  Every `nv_*` instantiates a theorem on a
  concrete circuit / transfer function, so that ALL its hypotheses are proved to hold together (the examples next to
  the theorems discharge them one by one).
-/
import Lcapy.Props.C15
import Lcapy.Props.C15Mesh
import Lcapy.Props.C15SS
import Mathlib.Tactic
set_option linter.defProp false
namespace Lcapy.NonVacuity.C15
open Lcapy.MNA Lcapy.Formulations Lcapy.StateSpace Lcapy.SSMaker Lcapy.TDS Lcapy.C15 Ix

/-! ## nodal: `I1 1 0 dc 2; R1 1 2 3; R2 2 0 5` at its solution V1 = 16, V2 = 10, both nodes -/

theorem f13_defined : NodalDefined .dc 0 f13 := by
  intro c hc; simp [f13] at hc; rcases hc with rfl | rfl | rfl <;> simp [OkCpt]

def nv_nodal_eqs_hold_1 := nodal_eqs_hold .dc 0 f13 f13x f13_defined f13_laws 1 (by decide)
def nv_nodal_eqs_hold_2 := nodal_eqs_hold .dc 0 f13 f13x f13_defined f13_laws 2 (by decide)

/-- a Laplace-domain circuit with a voltage source, a capacitor and an inductor at s = 2:
    `V1 1 0 {10}; R1 1 2 1; C1 2 0 1/2; L1 2 0 1` -- Y_C = 1, Y_L = 1/2, V2 = 4, I_V1 = -6, I_L1 = 2 -/
def rlc : List (Cpt ℚ) := [.V 1 0 0 10, .R 1 2 1, .Cap 2 0 (1/2) none, .Ind 2 0 1 1 none []]
def rlcx : Ix → ℚ := fun i => match i with | node 1 => 10 | node 2 => 4 | br 0 => -6 | br 1 => 2 | _ => 0

theorem rlc_defined : NodalDefined .lap 2 rlc := by
  intro c hc; simp [rlc] at hc; rcases hc with rfl | rfl | rfl | rfl <;> simp [OkCpt, Formulations.indZ]

theorem rlc_laws : Laws .lap 2 rlc rlcx :=
  laws_of_range 3 (by decide) (by decide +kernel) (by decide +kernel)

def nv_nodal_eqs_hold_lap_V := nodal_eqs_hold .lap 2 rlc rlcx rlc_defined rlc_laws 1 (by decide)
def nv_nodal_eqs_hold_lap_KCL := nodal_eqs_hold .lap 2 rlc rlcx rlc_defined rlc_laws 2 (by decide)

def nv_kvl_telescopes := kvl_telescopes rlcx [GNode.real 0, .real 1, .real 2, .real 1]

/-! ## mesh: `V1 1 0 6; R1 1 2 3; R2 2 0 5`, loop 0-1-2, mesh current 3/4 -/

theorem ex_defined : MeshDefined .dc (0 : ℚ) exCkt := by
  intro c hc; simp [exCkt] at hc; rcases hc with rfl | rfl | rfl <;> simp [MeshOk]

theorem ex_laws : Laws .dc 0 exCkt exSol :=
  laws_of_range 3 (by decide) (by decide +kernel) (by decide +kernel)

theorem ex_consistent (pe : Bool) : MeshConsistent pe .dc 0 exCkt [exLoop] exSol (fun _ => 3/4) exLoop := exCurrents pe

/-- the mesh equation exists (the conclusion of `mesh_eqs_hold` is not about `none`) -/
theorem ex_meshEq_isSome (pe : Bool) : (meshEq pe .dc (0 : ℚ) (buildGraph exCkt) [exLoop] exLoop).isSome = true := by
  cases pe <;> decide +kernel

def nv_mesh_eqs_hold (f : MeshForm ℚ) (hf : meshEq true .dc 0 (buildGraph exCkt) [exLoop] exLoop = some f) :=
  mesh_eqs_hold .dc 0 exCkt exSol [exLoop] (fun _ => 3/4) ex_defined ex_laws exLoop exLoop_cycle (ex_consistent true) f hf

theorem ex_nopar : ∀ e ∈ buildGraph exCkt, ∃ n, e.b = GNode.real n := exNoPar

def nv_mesh_eqs_hold_partial (f : MeshForm ℚ) (hf : meshEq false .dc 0 (buildGraph exCkt) [exLoop] exLoop = some f) :=
  mesh_eqs_hold_partial .dc 0 exCkt exSol [exLoop] (fun _ => 3/4) ex_defined ex_laws exLoop exLoop_cycle ex_nopar
    (ex_consistent false) f hf

/-! ### Props/C15Mesh.lean (the parallel-component circuit of that file) -/

theorem par_defined : MeshDefined .dc (0 : ℚ) parCkt := by
  intro c hc; simp [parCkt] at hc; rcases hc with rfl | rfl | rfl | rfl <;> simp [MeshOk]

def nv_mesh_complete :=
  mesh_complete .dc 0 parCkt parLoops parIm parCert par_defined (by simp [parCkt, owned]) parLoops_cycles parCert_ok parMeshEq

def nv_mesh_complete_consistent :=
  mesh_complete_consistent .dc 0 parCkt parLoops parIm parCert par_defined (by simp [parCkt, owned]) parLoops_cycles
    parCert_ok parMeshEq (parLoops.headD [])

def nv_mesh_iff_laws :=
  mesh_iff_laws .dc 0 parCkt parLoops parIm parCert par_defined (by simp [parCkt, owned]) parLoops_cycles parCert_ok

/-! ## state space -/

/-- the CCF of 1/(s² + 3s + 2) written out: A = [[0, 1], [-2, -3]], B = [0, 1], C = [1, 0], D = 0 -/
def sys2 : SS ℚ :=
  ⟨2, fun i j => if i = 0 then (if j = 1 then 1 else 0) else (if j = 0 then -2 else -3),
   fun i => if i = 1 then 1 else 0, fun j => if j = 0 then 1 else 0, 0⟩

theorem sys2_not_natural : ¬ IsNaturalFreq sys2 1 := by
  rintro ⟨X, ⟨i, hi, hne⟩, h⟩
  have h0 : 1 * X 0 - (0 + 0 * X 0 + 1 * X 1) = 0 := h 0 (by decide)
  have h1 : 1 * X 1 - (0 + -2 * X 0 + -3 * X 1) = 0 := h 1 (by decide)
  have e1 : X 1 = 0 := by linear_combination (1/6 : ℚ) * h1 - (1/3 : ℚ) * h0
  have e0 : X 0 = 0 := by linear_combination h0 + e1
  have : i = 0 ∨ i = 1 := by have : i < 2 := hi; omega
  rcases this with rfl | rfl <;> contradiction

theorem sys2_sol : StateEq sys2 1 (fun i => if i = 0 then 1/6 else if i = 1 then 1/6 else 7) := by
  unfold StateEq stateRow; decide +kernel

theorem sys2_solB : StateEq sys2 1 (fun i => if i < 2 then 1/6 else -3) := by
  unfold StateEq stateRow; decide +kernel

/-- two solutions that differ outside the order of the system: same output -/
def nv_ss_transfer := ss_output_unique sys2 1 sys2_not_natural _ _ sys2_sol sys2_solB
/-- … and the transfer value exists and is unique (`ss_transfer`) -/
def nv_ss_transfer_value := ss_transfer sys2 1 sys2_not_natural

theorem tf_proper : ProperTF ([3, 2, 5] : List ℚ) [2, 4, 7, 1] := by
  refine ⟨by simp, by norm_num [coef], by simp⟩

def nv_ccf_realises := ccf_realises ([3, 2, 5] : List ℚ) [2, 4, 7, 1] tf_proper
def nv_ocf_realises := ocf_realises ([3, 2, 5] : List ℚ) [2, 4, 7, 1] tf_proper
def nv_ccf_natural_freqs := ccf_natural_freqs ([3, 2, 5] : List ℚ) [2, 4, 7, 1] tf_proper (-1)

/-- the antecedent `polyEval a s ≠ 0` of `Realises` holds at s = 1 (a(1) = 14), and a has a rational root to make the
    `IsNaturalFreq` side of `ccf_natural_freqs` true: a = 2s³ + 4s² + 4s + 2 at s = -1 -/
theorem tf_regular_point : polyEval ([2, 4, 7, 1] : List ℚ) 1 ≠ 0 ∧ polyEval ([2, 4, 4, 2] : List ℚ) (-1) = 0 := by
  constructor <;> norm_num [polyEval]

/-- 1/(s² + 3s + 2) = 1/(s + 1) − 1/(s + 2) at s = 1 -/
def nv_dcf_transfer :=
  dcf_transfer_partial ([1] : List ℚ) [1, 3, 2] [-1, -2] [1, -1] 1 rfl rfl
    (by intro i hi; simp at hi; interval_cases i <;> norm_num [coef])
    (fun i => if i = 0 then 1/2 else 1/3)
    (by intro i hi; simp [dcfOf] at hi; interval_cases i <;> norm_num [stateRow, dcfOf, sumTo, coef])

/-! ### Props/C15SS.lean on `V1 1 0 {u}; R1 1 2 3; C1 2 0 4` -/

theorem rc_wf (b : Nat) (hb : b = 1) : C01.WF (subst b (fun _ => (0 : ℚ)) rcCkt) := by
  subst hb; simp [C01.WF, subst, substFrom, substC, rcCkt, owned]

theorem rc_timeok : ∀ c ∈ rcCkt, TimeOk 1 c := by simp [rcCkt, TimeOk, brRefs]

theorem nv_ss_from_circuit : ∃ M, ssModel rcSolver rcCkt = some M ∧ ∀ w dv yv yi : Nat → ℚ,
    StateSpaceHolds M rcCkt [1, 2] w dv yv yi ↔ CircuitHolds M.base rcCkt [1, 2] w dv yv yi := by
  obtain ⟨M, hM, hb⟩ := rc_model
  exact ⟨M, hM, ss_from_circuit rcSolver rcCkt [1, 2] M hM (rc_wf _ hb) rc_value (hb ▸ rc_nonsingular)⟩

def nv_ss_time_domain :=
  ss_time_domain (T := Unit) 1 (fun _ => fun _ => (0 : ℚ)) rcCkt rc_timeok rcConst (fun _ _ => 5)

theorem nv_ss_along_solutions : ∃ M, ssModel rcSolver rcCkt = some M ∧
    (∀ pc ∈ enumFrom 0 rcCkt, role pc.2 = .ind ∨ role pc.2 = .cap →
        stateDeriv (fun _ => fun _ => (0 : ℚ)) rcConst () pc.2 =
          ssValue (dotx M.base pc.1 pc.2) M rcCkt (wAt rcCkt rcConst (fun _ _ => 5) ())) ∧
    (∀ k ∈ [1, 2], volt (fun i => rcConst i ()) k = ssValue (outV k) M rcCkt (wAt rcCkt rcConst (fun _ _ => 5) ())) := by
  obtain ⟨M, hM, hb⟩ := rc_model
  exact ⟨M, hM, ss_along_solutions rcSolver rcCkt [1, 2] M hM (rc_wf _ hb) rc_value (hb ▸ rc_nonsingular)
    (hb ▸ rc_timeok) _ rcConst (fun _ _ => 5) rcConst_laws ()⟩

end Lcapy.NonVacuity.C15
