/-
  C20 -- how an element is resolved: mirror / invert / flipud / fliplr / mirrorinputs, the transistor and
  opamp families (pin tables chosen by a `pins` PROPERTY), rotation by angles that are not multiples of 90 degrees,
  implicit nodes, `aspect`, and the interplay of `size=` / `<direction>=` / `scale=` / `draw(**kwargs)`.

  The constraint-generation theorems of Props/C20.lean (`constraints_pairwise`, `constraints_match_hints`,
  `constraints_match_hints_all`, `checkPos_iff_graphs`) are stated over `Resolved` -- nodes with transformed pin
  coordinates -- and therefore hold verbatim for these element kinds.  The
  resolver is a HAND MODEL of `Cpt.size / scale / angle / mirror / invert / tf / required_pins / pins`, of
  `Schematic._cpt_add / draw` and of `process_implicit_nodes`; it is tied to /repo on every run by
    (a) tx_layout: the class tables, the `pins` property of every class (matched against the rules the model implements),
        `Cpt.R`, the implicit-key tuples, and a FINGERPRINT of the source text of every hand-modelled function (a change
        of any of them is reported as a broken tie), and
    (b) the exact per-element comparison of class / nodes / angle / size / stretch / pin coordinates and of the ordered
        constraint graphs with the real Lcapy on every generated netlist.
  Remarks about the resolver model itself (`size=` wins over `<direction>=value`, `scale` only moves rigid pins,
  `draw(**kwargs)` deletes same-named options, transposition = reflection, P-type transistors reverse `mirror`, …) are
  model lemmas in Proofs/LayoutShapes.lean, NOT property theorems.  This file keeps what is decided over the regenerated
  table and the agreement of the code's rotation with the meaning of the hints.
-/
import Lcapy.Proofs.LayoutBase
import Lcapy.Proofs.LayoutShapes
import Mathlib.Tactic.Ring

namespace Lcapy.C20
open Lcapy.Layout

/-! ## 1. pin tables chosen by a `pins` property -/

/-- every class of the generated table carries the tables its `pins` rule selects from: `pinsOf` cannot fail with
    "no pin table" for `mirror` / `invert` / `mirrorinputs` classes, and a transistor class has all four of
    `normal / mirror / invert / mirror_invert` -/
theorem pin_variants_present :
    Gen.table.all (fun g =>
      let r := g.2
      if r.pinsRule == "literal" then true
      else if r.pinsRule == "mirror" || r.pinsRule == "mirrorinputs" || r.pinsRule == "mirrorinputs-xor-mirror" then
        (variant r "normal_pins").isSome && (variant r "mirror_pins").isSome
      else if r.pinsRule == "invert" then (variant r "normal_pins").isSome && (variant r "invert_pins").isSome
      else if r.pinsRule == "transistor" then
        ["normal_pins", "mirror_pins", "invert_pins", "mirror_invert_pins"].all (fun v => (variant r v).isSome)
      else false) = true := by decide +kernel

/-- BJT and MOSFET: the `mirror` table is the `normal` table reflected about the axis `y = 1/2` (checked over the
    regenerated table).  (For JFET the gate pin is at 0.335 in `normal_pins` but 0.645 = 1 − 0.355 in `mirror_pins`,
    and MOSFET `invert_pins2` has the gate at 0.335 against 0.355 in `normal_pins2`: the tables of the source are not
    exact reflections of each other there -- an observation about drawing coordinates, outside the property.) -/
theorem bjt_mosfet_mirror_reflects :
    ["BJT", "MOSFET"].all (fun c =>
      match lookupRow c with
      | some r =>
        match variant r "normal_pins", variant r "mirror_pins" with
        | some n, some m => n.1.map (fun p => (p.name, p.x, 1 - p.y)) == m.1.map (fun p => (p.name, p.x, p.y))
        | _, _ => false
      | none => false) = true := by decide +kernel
example : (match lookupRow "JFET" with
    | some r => (match variant r "normal_pins", variant r "mirror_pins" with
      | some n, some m => n.1.map (fun p => (p.name, p.x, 1 - p.y)) == m.1.map (fun p => (p.name, p.x, p.y))
      | _, _ => true)
    | none => true) = false := by decide +kernel

/-! ## 2. mirror / invert: table choice versus transposition -/

/-- a class whose pin TABLE is chosen by `mirror` / `invert` is never also transposed by `tf` (no double reflection):
    over the regenerated table, `do_transpose` only occurs with a literal table or with the `mirrorinputs` rule (chips) -/
theorem table_choice_excludes_transpose :
    Gen.table.all (fun g => !(g.2.doTranspose &&
      (g.2.pinsRule == "mirror" || g.2.pinsRule == "invert" || g.2.pinsRule == "transistor" ||
       g.2.pinsRule == "mirrorinputs-xor-mirror"))) = true := by decide +kernel

/-! ## 3. rotation by an angle that is not a multiple of 90 degrees: cos / sin as parameters -/

/-- with parameters on the unit circle the transformation is a rotation: lengths are preserved -/
theorem rot_param_isometry (rots : RotTable) (a c s : Rat) (v w : Rat × Rat) (hc : c * c + s * s = 1)
    (hf : rots.find? (fun e => e.1 == a) = some (a, c, s)) (h : rotParam rots a v = some w) :
    w.1 * w.1 + w.2 * w.2 = v.1 * v.1 + v.2 * v.2 := by
  unfold rotParam at h
  simp only [hf, Option.map_some, Option.some.injEq] at h
  subst h
  simp only
  have : (v.1 * c - v.2 * s) * (v.1 * c - v.2 * s) + (v.1 * s + v.2 * c) * (v.1 * s + v.2 * c) =
      (v.1 * v.1 + v.2 * v.2) * (c * c + s * s) := by ring
  rw [this, hc, mul_one]
example : rotParam [(mkR 5313 100, 3/5, 4/5)] (mkR 5313 100) (1/2, 0) = some (3/10, 2/5) := by decide +kernel

/-- the rotation of the code agrees with the meaning of the hint wherever the former is defined, the
    parametrised angles included -/
theorem rotCodeP_agrees (rots : RotTable) (a : Rat) (v w : Rat × Rat) (h : rotCodeP rots a v = some w) :
    rotMeanP rots a v = some w := by
  unfold rotCodeP at h
  unfold rotMeanP
  cases hc : rotCode a v with
  | some w' =>
    simp only [hc, Option.some.injEq] at h
    subst h
    rw [rotCode_rotExact a v w' hc]
  | none =>
    simp only [hc] at h
    split at h
    · cases h
    · rename_i hq
      have hq' : quarter a = none := by simpa using hq
      have : rotExact a v = none := by unfold rotExact; rw [hq']
      rw [this]; exact h

/-- lifted through the resolver (offset expansion, `draw` overrides, implicit nodes, pin tables, transposition): the
    model of `_make_graphs` (`graphsOf`) and the specification (`specOf`) work on the same resolved elements -/
theorem resolve_all_agreesP (n : Netlist) (x : List String × List Resolved)
    (h : resolveAll (rotCodeP n.rots) n = .ok x) : resolveAll (rotMeanP n.rots) n = .ok x :=
  resolveAll_mono (rotCodeP_agrees n.rots) n x h

/-! ## 4. implicit nodes (what the model of `process_implicit_nodes` does on two directed inputs) -/

/-- `ground` on the only connection of a node does not create a new node; on a shared node it detaches the component:
    two ground wires on node 0 -/
example : (match splitImplicit [⟨"W1", "W", "W", ["1", "0"], [("down", ""), ("ground", "")]⟩,
                              ⟨"W2", "W", "W", ["2", "0"], [("down", ""), ("ground", "")]⟩] with
    | .ok (es, new) => (es.map (·.nodes), new)
    | .error _ => ([], [])) = ([["1", "0_split0"], ["2", "0"]], ["0_split0"]) := by decide +kernel

/-- positive supplies detach the FIRST node -/
example : (match splitImplicit [⟨"W1", "W", "W", ["5", "1"], [("down", ""), ("vcc", "")]⟩,
                              ⟨"W2", "W", "W", ["5", "2"], [("right", "")]⟩] with
    | .ok (es, new) => (es.map (·.nodes), new)
    | .error _ => ([], [])) = ([["5_split0", "1"], ["5", "2"]], ["5_split0"]) := by decide +kernel

end Lcapy.C20
