/-
  C06: the NETLIST-LEVEL round trip, composed from the line-level theorem: a multi-line netlist
  of components in normal form is printed one component per line, split at the newlines, and read
  back line by line to the same netlist; printing is idempotent.
  PARTIAL (hence the `_partial` names): not covered are directive / comment / blank lines and anonymous
  components (their names are generated from the names already in use), namespaced names (`a.R1`), option
  values containing `{ } ,` and the `def` key, and the values excluded by `normalCpt` (findings C06-e/a/b);
  these are validated by correspondence and oracle only.
-/
import Lcapy.Props.C06Line
namespace Lcapy.C06
open Lcapy.Parser Lcapy.Spec.Netlist

theorem splitOn_joinWith_lines (ls : List Str) (hne : ls ≠ []) (h : ∀ l ∈ ls, ∀ c ∈ l, c ≠ '\n') :
    splitOn '\n' (joinWith ['\n'] ls) = ls := by
  induction ls with
  | nil => exact absurd rfl hne
  | cons l rest ih =>
    cases rest with
    | nil => simpa [joinWith] using splitOn_nosep '\n' l (h l (by simp))
    | cons m rest' =>
      have e : joinWith ['\n'] (l :: m :: rest') = l ++ '\n' :: joinWith ['\n'] (m :: rest') := by simp [joinWith]
      rw [e, splitOn_cons_sep '\n' l _ (h l (by simp)), ih (by simp) (fun x hx => h x (by simp [hx]))]

theorem eltsSet_fresh (es : List Cpt) (c : Cpt) (h : ∀ e ∈ es, e.name ≠ c.name) : eltsSet es c = es ++ [c] := by
  unfold eltsSet
  have : es.any (fun e => e.name == c.name) = false := by
    rw [List.any_eq_false]; intro e he; simpa using h e he
  simp [this]

theorem preLine_id (l : Str) (h : l.head? ≠ some '.') : preLine l = l := by
  unfold preLine
  have : startsWith l ['.', '.', '.'] = false := by
    cases l with
    | nil => rfl
    | cons a t =>
      have : a ≠ '.' := by intro e; subst e; simp at h
      simp [startsWith, List.isPrefixOf]
      intro e; exact absurd e.symm this
  simp [this]

/-- what the line-level theorem provides for one line -/
def LineOK (g : Grammar) (l : Str) (c' : Cpt) : Prop :=
  (∀ used, parse g used [] l = .ok (c', none)) ∧ (∃ o, optsParse c'.opts = .ok o) ∧ strip l = l ∧ l.head? ≠ some '.'

theorem addLines_lines (g : Grammar) (lcs : List (Str × Cpt)) (hl : ∀ p ∈ lcs, LineOK g p.1 p.2)
    (hd : (lcs.map (·.2.name)).Nodup) (s0 : NState) (hf : ∀ p ∈ lcs, ∀ e ∈ s0.elts, e.name ≠ p.2.name) :
    addLines g s0 (lcs.map (·.1)) = .ok ⟨s0.elts ++ lcs.map (·.2), s0.namer⟩ := by
  induction lcs generalizing s0 with
  | nil => simp [addLines]
  | cons p rest ih =>
    obtain ⟨l, c'⟩ := p
    obtain ⟨hparse, ⟨o, ho⟩, hstrip, hhead⟩ := hl (l, c') (by simp)
    simp only [List.map_cons, List.nodup_cons] at hd
    have hset := eltsSet_fresh s0.elts c' (hf (l, c') (by simp))
    have hline : addLine g s0 (strip l) = .ok ⟨s0.elts ++ [c'], s0.namer⟩ := by
      unfold addLine
      rw [hstrip, preLine_id l hhead, hparse s0.used]
      simp only [ho, hset]
    simp only [List.map_cons, addLines, hline]
    rw [ih (fun q hq => hl q (by simp [hq])) hd.2 ⟨s0.elts ++ [c'], s0.namer⟩]
    · simp
    · intro q hq e he
      simp only [List.mem_append, List.mem_singleton] at he
      rcases he with he | rfl
      · exact hf q (by simp [hq]) e he
      · intro heq
        exact hd.1 (List.mem_map.mpr ⟨q, hq, heq.symm⟩)

theorem lines_exist_partial (g : Grammar) (hg : grammarWF g = true) (cs : List Cpt)
    (hn : ∀ c ∈ cs, ∃ r ∈ g.rules, normalCpt g r c = true ∧ ∃ o, optsParse c.opts = .ok o ∧ optsNormal o = true)
    (hnl : ∀ c ∈ cs, ∀ l, printCpt g c = some l → ∀ ch ∈ l, ch ≠ '\n')
    (lines : List Str) (hp : cs.mapM (printCpt g) = some lines) :
    ∃ lcs : List (Str × Cpt), lcs.map (·.1) = lines
      ∧ (lcs.map (·.2)).mapM (printCpt g) = some lines
      ∧ (∀ p ∈ lcs, LineOK g p.1 p.2 ∧ p.1 ≠ [] ∧ ∀ ch ∈ p.1, ch ≠ '\n')
      ∧ lcs.map (·.2.name) = cs.map (·.name)
      ∧ sameNetlist cs (lcs.map (·.2)) = true := by
  induction cs generalizing lines with
  | nil =>
    simp at hp; subst hp
    exact ⟨[], rfl, rfl, by simp, rfl, rfl⟩
  | cons c rest ih =>
    simp only [List.mapM_cons] at hp
    cases hl : printCpt g c with
    | none => simp [hl] at hp
    | some l =>
      cases hr : rest.mapM (printCpt g) with
      | none => simp [hl, hr] at hp
      | some ls =>
        simp [hl, hr] at hp; subst hp
        obtain ⟨r, hr', hnc, o, ho, hon⟩ := hn c (by simp)
        obtain ⟨c', hparse, hsame, hprint, hname, hopts, hstrip, hhead, hdot, hnene⟩ :=
          line_roundtrip_full_partial g hg r hr' c hnc o ho hon l hl
        obtain ⟨lcs, h1, h2, h3, h4, h5⟩ := ih (fun x hx => hn x (by simp [hx])) (fun x hx => hnl x (by simp [hx])) ls hr
        refine ⟨(l, c') :: lcs, by simp [h1], ?_, ?_, by simp [h4, hname], by simp [sameNetlist, hsame, h5]⟩
        · simp [List.mapM_cons, hprint, h2]
        · intro p hp'
          rcases List.mem_cons.mp hp' with rfl | hp'
          · refine ⟨⟨hparse, hopts, hstrip, by rw [hhead]; exact hdot⟩, ?_, hnl c (by simp) l hl⟩
            intro e
            have e' : l = [] := e
            rw [e'] at hhead
            cases hcn : c.name with
            | nil => exact hnene hcn
            | cons a t => rw [hcn] at hhead; simp at hhead
          · exact h3 p hp'

/-- A netlist of components in normal form with pairwise distinct names: the
    printed text (one component per line) is parsed back, line by line, to a netlist that the
    specification identifies with the original (`sameNetlist`), and printing that netlist gives the same
    text (idempotence).  (`hnl`: no printed line contains a newline -- it would be split.) -/
theorem netlist_roundtrip_partial (g : Grammar) (hg : grammarWF g = true) (cs : List Cpt) (hne : cs ≠ [])
    (hn : ∀ c ∈ cs, ∃ r ∈ g.rules, normalCpt g r c = true ∧ ∃ o, optsParse c.opts = .ok o ∧ optsNormal o = true)
    (hd : (cs.map (·.name)).Nodup)
    (hnl : ∀ c ∈ cs, ∀ l, printCpt g c = some l → ∀ ch ∈ l, ch ≠ '\n')
    (txt : Str) (hp : printNetlist g ⟨cs, []⟩ = some txt) :
    ∃ cs', parseNetlist g txt = .ok ⟨cs', []⟩ ∧ sameNetlist cs cs' = true
      ∧ printNetlist g ⟨cs', []⟩ = some txt := by
  unfold printNetlist at hp
  simp only at hp
  cases hm : cs.mapM (printCpt g) with
  | none => simp [hm] at hp
  | some lines =>
    simp only [hm, Option.map_some, Option.some.injEq] at hp
    obtain ⟨lcs, h1, h2, h3, h4, h5⟩ := lines_exist_partial g hg cs hn hnl lines hm
    have hlne : lcs ≠ [] := by
      intro e; subst e
      simp at h4
      exact hne h4
    have hlines_ne : lines ≠ [] := by rw [← h1]; simpa using hlne
    have hends : ∀ l ∈ lines, l ≠ [] ∧ (∀ c, l.head? = some c → isWs c = false) ∧ (∀ c, l.getLast? = some c → isWs c = false) := by
      intro l hl
      rw [← h1] at hl
      obtain ⟨p, hp', rfl⟩ := List.mem_map.mp hl
      obtain ⟨⟨-, -, hs, -⟩, hne', -⟩ := h3 p hp'
      rw [← hs] at hne' ⊢
      exact ⟨hne', strip_ends p.1⟩
    have hstrip : strip txt = txt := by rw [← hp]; exact strip_joinWith _ _ hlines_ne hends
    have hsplit : splitOn '\n' txt = lines := by
      rw [← hp]
      apply splitOn_joinWith_lines lines hlines_ne
      intro l hl
      rw [← h1] at hl
      obtain ⟨p, hp', rfl⟩ := List.mem_map.mp hl
      exact (h3 p hp').2.2
    refine ⟨lcs.map (·.2), ?_, h5, ?_⟩
    · unfold parseNetlist
      rw [hstrip, hsplit, ← h1]
      have := addLines_lines g lcs (fun p hp' => (h3 p hp').1) (by rw [h4]; exact hd) NState.empty (by simp [NState.empty])
      simpa [NState.empty] using this
    · unfold printNetlist
      simp only [h2, Option.map_some, hp]

/-- `netlist_roundtrip_partial` for the checked-out grammar. -/
theorem netlist_roundtrip_table_partial (cs : List Cpt) (hne : cs ≠ [])
    (hn : ∀ c ∈ cs, ∃ r ∈ theGrammar.rules, normalCpt theGrammar r c = true
      ∧ ∃ o, optsParse c.opts = .ok o ∧ optsNormal o = true)
    (hd : (cs.map (·.name)).Nodup)
    (hnl : ∀ c ∈ cs, ∀ l, printCpt theGrammar c = some l → ∀ ch ∈ l, ch ≠ '\n')
    (txt : Str) (hp : printNetlist theGrammar ⟨cs, []⟩ = some txt) :
    ∃ cs', parseNetlist theGrammar txt = .ok ⟨cs', []⟩ ∧ sameNetlist cs cs' = true
      ∧ printNetlist theGrammar ⟨cs', []⟩ = some txt :=
  netlist_roundtrip_partial theGrammar table_wf2 cs hne hn hd hnl txt hp

/-- non-vacuity: a two-line netlist satisfies every hypothesis, so the theorem yields its round trip -/
example : ∃ cs', parseNetlist theGrammar "V1 1 0 ac {a + b} 0; down\nR1 1 0".toList = .ok ⟨cs', []⟩
    ∧ printNetlist theGrammar ⟨cs', []⟩ = some "V1 1 0 ac {a + b} 0; down\nR1 1 0".toList := by
  let v := exCpt "Vac" "V1" "V" "1" ["1", "0"] [some "a + b", none, none] (some 2) "ac" "down"
  let r := exCpt "R" "R1" "R" "1" ["1", "0"] [some "R1"] none "" ""
  have hv : printCpt theGrammar v = some "V1 1 0 ac {a + b} 0; down".toList := by decide +kernel
  have hr : printCpt theGrammar r = some "R1 1 0".toList := by decide +kernel
  have hn : normalCpt theGrammar (exRule "Vac") v = true ∧ normalCpt theGrammar (exRule "R") r = true :=
    ex_normal.2.2.2.2.2.2.2
  obtain ⟨cs', h1, _, h3⟩ := netlist_roundtrip_table_partial [v, r] (by simp)
    (by
      intro c hc
      simp only [List.mem_cons, List.not_mem_nil, or_false] at hc
      rcases hc with rfl | rfl
      · exact ⟨exRule "Vac", exRule_mem hn.1 (by decide), hn.1, [("down".toList, .s [])], by rfl, by decide⟩
      · exact ⟨exRule "R", exRule_mem hn.2 (by decide), hn.2, [], by rfl, by decide⟩)
    (by decide)
    (by
      intro c hc l hl
      simp only [List.mem_cons, List.not_mem_nil, or_false] at hc
      rcases hc with rfl | rfl
      · rw [hv] at hl; cases hl; decide
      · rw [hr] at hl; cases hl; decide)
    "V1 1 0 ac {a + b} 0; down\nR1 1 0".toList (by decide +kernel)
  exact ⟨cs', h1, h3⟩

end Lcapy.C06
