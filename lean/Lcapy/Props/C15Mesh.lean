/-
  PROPERTY C15 -- the mesh formulation is COMPLETE: it is equivalent to the circuit laws.

  `mesh_eqs_hold` (Props/C15.lean) says: circuit laws ⇒ every mesh (KVL) equation `LoopAnalysis` writes holds.
  Here is the converse.  The loops come from an untrusted cycle search; when they pass the decidable checks
  `isSimpleCycle` (each loop) and `checkBasis` (together they span the cycle space of the circuit graph; the
  certificate -- a walk to every graph node and, for every graph edge, its closing cycle as a combination of
  the loops -- is an input like the loops and is CHECKED, never trusted), then mesh currents that satisfy ALL
  mesh equations determine node voltages and branch currents, given explicitly by `meshSolution`
  (Model/MeshComplete.lean), that satisfy `Laws`: KCL at every node and every component's defining relation.

  Spec side : `Laws` (Spec/Laws.lean).
  Model side: `meshEq true` (Model/Formulations.lean, the code with the proposed patch fix-C15-c), `checkBasis`, `meshSolution`
              (Model/MeshComplete.lean).
  Only property theorems live here; helper lemmas are in Proofs/MeshComplete.lean (`kvl_complete`: certificate ⇒
  every edge voltage is a potential difference; `kcl_telescope`: loop currents leave a node as they enter it;
  `meshEq_rise`: a mesh equation is the loop sum of the edge voltages −(z·J + v0)).
-/
import Lcapy.Props.C15
import Lcapy.Proofs.MeshComplete
/- NOTE: every theorem of this file is stated for `meshEq true …`, the mesh model with the PROPOSED patch fix-C15-c
   (a component is identified by the graph edge that holds it).  That patch is not applied to /repo (finding C15-c,
   known); for netlists without parallel components the code as it is prints the same equations (checked by the
   correspondence of harness/c15.py on every run), with parallel components it does not.  The CLAIMED statement about
   the code in /repo is `mesh_eqs_hold_partial` in Props/C15.lean. -/
namespace Lcapy.C15
open Lcapy.MNA Lcapy.Formulations Lcapy.StateSpace Ix
variable {K : Type} [Field K] [DecidableEq K]

/-- **mesh_complete**: for every netlist of R, Y, C, L, V on which the mesh formulation is defined, in every
    analysis kind, at every point s, every list of loops that are simple cycles of the circuit graph and pass
    the cycle-basis check, and every assignment `im` of mesh currents: if `im` satisfies every mesh equation the
    patched code writes, then the node voltages (potential along the certificate's walks, relative to node 0)
    and branch currents (signed sums of the mesh currents through the component's edge) of `meshSolution` satisfy
    Kirchhoff's current law at every node and every component's defining relation.
    (The mesh equations exist: `Formulations.meshEq_isSome`, so `heqs` is not vacuous.) -/
theorem mesh_complete (kind : Kind) (s : K) (cs : List (Cpt K)) (loops : List (List GNode)) (im : Nat → K)
    (cert : BasisCert K)
    (hdef : MeshDefined kind s cs)
    (hwf : (cs.flatMap owned).Nodup)
    (hcyc : ∀ loop ∈ loops, isSimpleCycle (buildGraph cs) loop = true)
    (hbasis : checkBasis cs loops cert = true)
    (heqs : ∀ loop ∈ loops, ∀ f, meshEq true kind s (buildGraph cs) loops loop = some f → f.eval im = 0) :
    Laws kind s cs (meshSolution kind s cs loops im cert) := by
  have hloops := loops_vanish kind s cs loops im hdef hcyc heqs
  constructor
  · intro k _
    exact meshSolution_kcl kind s cs loops im cert hdef hwf hcyc hbasis hloops k
  · intro c hc
    obtain ⟨idx, hidx⟩ := List.getElem?_of_mem hc
    exact (meshSolution_cpt kind s cs loops im cert hdef hwf hbasis hloops idx c hidx).2.1

/-- the mesh currents carry that solution (hypothesis `MeshConsistent` of `mesh_eqs_hold`): the current the code
    accumulates for a component is the component's current in `meshSolution` -/
theorem mesh_complete_consistent (kind : Kind) (s : K) (cs : List (Cpt K)) (loops : List (List GNode)) (im : Nat → K)
    (cert : BasisCert K)
    (hdef : MeshDefined kind s cs)
    (hwf : (cs.flatMap owned).Nodup)
    (hcyc : ∀ loop ∈ loops, isSimpleCycle (buildGraph cs) loop = true)
    (hbasis : checkBasis cs loops cert = true)
    (heqs : ∀ loop ∈ loops, ∀ f, meshEq true kind s (buildGraph cs) loops loop = some f → f.eval im = 0)
    (loop : List GNode) :
    MeshConsistent true kind s cs loops (meshSolution kind s cs loops im cert) im loop := by
  have hloops := loops_vanish kind s cs loops im hdef hcyc heqs
  intro ab _ idx c hcomp hV
  obtain ⟨hc, _⟩ := component_lt cs _ _ _ _ hcomp
  obtain ⟨_, n0, n1, hn, _⟩ := meshOk_nodes kind s c (hdef c (List.mem_of_getElem? hc))
  rw [meshCurrent_eq cs loops im hcyc idx c n0 n1 hc hn,
    (meshSolution_cpt kind s cs loops im cert hdef hwf hbasis hloops idx c hc).2.2 hV]

/-- **mesh_iff_laws**: with loops that form a checked cycle basis, mesh currents satisfy all mesh equations
    IF AND ONLY IF they carry a solution of the circuit laws -/
theorem mesh_iff_laws (kind : Kind) (s : K) (cs : List (Cpt K)) (loops : List (List GNode)) (im : Nat → K)
    (cert : BasisCert K)
    (hdef : MeshDefined kind s cs)
    (hwf : (cs.flatMap owned).Nodup)
    (hcyc : ∀ loop ∈ loops, isSimpleCycle (buildGraph cs) loop = true)
    (hbasis : checkBasis cs loops cert = true) :
    (∀ loop ∈ loops, ∀ f, meshEq true kind s (buildGraph cs) loops loop = some f → f.eval im = 0) ↔
    ∃ x, Laws kind s cs x ∧ ∀ loop ∈ loops, MeshConsistent true kind s cs loops x im loop := by
  constructor
  · intro heqs
    exact ⟨meshSolution kind s cs loops im cert,
      mesh_complete kind s cs loops im cert hdef hwf hcyc hbasis heqs,
      fun loop _ => mesh_complete_consistent kind s cs loops im cert hdef hwf hcyc hbasis heqs loop⟩
  · rintro ⟨x, hlaws, hcons⟩ loop hl f hf
    exact mesh_eqs_hold kind s cs x loops im hdef hlaws loop (hcyc loop hl) (hcons loop hl) f hf

/-! ## non-vacuity: every hypothesis of `mesh_complete` is satisfiable, and the conclusion is the circuit's solution -/

/-- V1 1 0 6; R1 1 2 3; R2 2 0 5, the loop 0-1-2 with mesh current 3/4 (certificate `exCert`: walks 0, 0-1, 0-1-2;
    the edge of R2 closes the loop) -/
example : Laws .dc 0 exCkt (meshSolution .dc 0 exCkt [exLoop] (fun _ => 3/4) exCert) :=
  mesh_complete .dc 0 exCkt [exLoop] (fun _ => 3/4) exCert
    (by intro c hc; simp [exCkt] at hc; rcases hc with rfl | rfl | rfl <;> simp [MeshOk])
    (by simp [exCkt, owned])
    (by intro l hl; simp only [List.mem_singleton] at hl; subst hl; exact exLoop_cycle)
    exCert_ok exMeshEq

/-- the solution recovered from the mesh current 3/4 is the circuit's: V1 = 6, V2 = 15/4, current of V1 = −3/4 -/
example : meshSolution .dc 0 exCkt [exLoop] (fun _ => 3/4) exCert (node 1) = 6 ∧
    meshSolution .dc 0 exCkt [exLoop] (fun _ => 3/4) exCert (node 2) = 15/4 ∧
    meshSolution .dc 0 exCkt [exLoop] (fun _ => 3/4) exCert (br 0) = -3/4 := by decide +kernel

/-- a circuit with a parallel component, hence a dummy node and its wire: V1 1 0 6; R1 1 2 3; R2 2 0 5; R3 2 0 7,
    meshes 0-1-2 and 0-2-*0 with mesh currents 72/71 and 30/71 -/
example : Laws .dc 0 parCkt (meshSolution .dc 0 parCkt parLoops parIm parCert) :=
  mesh_complete .dc 0 parCkt parLoops parIm parCert
    (by intro c hc; simp [parCkt] at hc; rcases hc with rfl | rfl | rfl | rfl <;> simp [MeshOk])
    (by simp [parCkt, owned])
    parLoops_cycles parCert_ok parMeshEq

example : meshSolution .dc 0 parCkt parLoops parIm parCert (node 1) = 6 ∧
    meshSolution .dc 0 parCkt parLoops parIm parCert (node 2) = 210/71 ∧
    meshSolution .dc 0 parCkt parLoops parIm parCert (br 0) = -72/71 := by decide +kernel

/-- the check is not trivially true: without the second mesh the loops do not span the cycle space of `parCkt`
    (with these walks no multiple of the one loop closes the wire of R3), and the certificate is refused -/
example : checkBasis parCkt [[.real 0, .real 1, .real 2]] ⟨parCert.paths, [[0], [0], [1], [0], [1]]⟩ = false := by
  decide +kernel

end Lcapy.C15
