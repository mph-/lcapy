/-
  Machine-checked non-vacuity witnesses for Props/C11.lean and C11b.lean.
  The adjacent examples of the Props files use the sample point `envQ` whose exponential is the constant 1 (a sign error in a
  re-attached delay factor is invisible there); the value theorems are therefore ALSO applied here over ℝ with `Real.exp`.
  Checker-based theorems (rootsCheck / pfCheck / cfRun) are applied over ℚ with tables that the checkers accept.
-/
import Lcapy.Props.C11
import Lcapy.Props.C11b
import Mathlib.Analysis.SpecialFunctions.Exp
namespace Lcapy.NonVacuity.C11
open Lcapy Lcapy.Poly Lcapy.Ratfun Lcapy.RatfunFmt Lcapy.Gen.RatfunSrc Lcapy.Gen.RatfunFmtSrc

/-! ### a sample point with the TRUE exponential: x = 2, exp = Real.exp, U(x) = 5 -/
noncomputable def envR : Env ℝ := ⟨2, Real.exp, 5⟩
theorem isExpR : C11.IsExp envR := ⟨Real.exp_zero, Real.exp_add⟩
theorem isExpRb : C11b.IsExp envR := ⟨Real.exp_zero, Real.exp_add⟩
/-- `(3x² + 5x + 1)/(2x² + 6x + 4) · exp(−3x) · U(x)` over ℝ -/
noncomputable def exR : RF ℝ := ⟨[1, 5, 3], [4, 6, 2], 3, 1⟩
theorem hAR : Poly.eval exR.A envR.x ≠ 0 := by norm_num [exR, envR, Poly.eval]

section real
attribute [local instance] Classical.propDecidable
example := C11.canonical_fc_value exR envR isExpR hAR
example := C11.canonical_value exR envR isExpR hAR
example := C11.general_value exR envR isExpR hAR
example := C11.expandcanonical_value exR envR isExpR hAR
example := C11.standard_value exR envR isExpR hAR
example := C11.timeconst_value exR envR hAR
example := C11.N_over_D exR envR isExpR hAR
example := C11.multiply_top_and_bottom_value exR [1, 1] envR isExpR (by norm_num [envR, Poly.eval])
example := C11.decompose_value [Factor.rat [1, 1] [2, 1], .expf (-3), .undefF, .rat [1] [3, 1]] envR isExpR
example := C11b.divide_top_and_bottom_value exR (.add .var (.const 1)) envR isExpRb (by norm_num [RExpr.eval, envR])
example := C11b.multiply_top_and_bottom_src_value exR (.add .var (.const 1)) envR isExpRb (by norm_num [RExpr.eval, envR])
example := C11b.as_N_D_monic_value exR envR isExpRb hAR
example := C11b.expandcanonical_src_value exR envR isExpRb hAR
example := C11b.expand_response_value exR envR isExpRb hAR
example := C11b.factors_of_expression exR envR isExpRb hAR
example := C11b.canonical_fc_branches_value exR envR isExpRb hAR
example := C11b.canonical_branches_value exR envR isExpRb hAR
/-- the unit-gain, delay-free branch with an undefined factor -/
example := C11b.canonical_fc_branches_value (⟨[2, 3, 1], [12, 7, 1], 0, 1⟩ : RF ℝ) envR isExpRb (by norm_num [envR, Poly.eval])
end real

/-! ### checker-based theorems over ℚ -/
/- `exZ = (x+1)(x+2)/((x+3)(x+4)) · exp(−3x) · U(x)`: rational zeros AND poles (defined beside `zpk_value` in Props/C11.lean) -/
open Lcapy.C11 (exZ)
theorem hAZ : Poly.eval exZ.A C11.envQ.x ≠ 0 := by norm_num [exZ, C11.exZ, C11.envQ, Poly.eval]
theorem isExpQ : C11.IsExp C11.envQ := ⟨rfl, fun _ _ => by simp [C11.envQ]⟩
theorem hz : rootsCheck exZ.B [(-1, 1), (-2, 1)] = true := by decide +kernel
theorem hp : rootsCheck exZ.A [(-3, 1), (-4, 1)] = true := by decide +kernel
example := C11.zpk_value exZ [(-1, 1), (-2, 1)] [(-3, 1), (-4, 1)] C11.envQ isExpQ hAZ hz hp
example := C11.zpk_pairs_value exZ [((-1, -2), 1)] [] [] [(-3, 1), (-4, 1)] C11.envQ isExpQ hAZ
  (by decide +kernel) (by decide +kernel)

theorem lcA : lc ([4, 6, 2] : List ℚ) ≠ 0 := by decide +kernel
example := C11.divmod_spec ([1, 5, 3, 7] : List ℚ) [4, 6, 2] lcA
example := C11.as_QMA_spec C11.exQ (by decide +kernel)
example := C11.partfrac_value C11.exQ [3/2] [(-1, 1), (-2, 1)] [(-1/2, -1, 1), (-3/2, -2, 1)] C11.envQ isExpQ
  (by norm_num [C11.exQ, C11.envQ, Poly.eval]) (by decide +kernel)
example := C11.roots_check_sound ([4, 6, 2] : List ℚ) [(-1, 1), (-2, 1)] (by decide +kernel) 5
example := C11.roots_check_root ([4, 6, 2] : List ℚ) [(-1, 1), (-2, 1)] (by decide +kernel) (-2) 1 (by simp) (by decide)
example := C11.roots_check_degree ([4, 6, 2] : List ℚ) [(-1, 1), (-2, 1)] (by decide +kernel) lcA
example := C11.pf_check_sound ([1, 5, 3] : List ℚ) [4, 6, 2] [3/2] [(-1, 1), (-2, 1)] [(-1/2, -1, 1), (-3/2, -2, 1)] 2
  (by decide +kernel) (by norm_num [Poly.eval])
example := C11.zp2tf_value (K := ℚ) true true [(-1, 1), (-2, 1)] [(-3, 1), (-4, 1)] (.const 7) C11.envQ
  (by intro _ rn h; simp at h; rcases h with rfl | rfl <;> rfl)
/-- … and the dictionary form with a double pole (hypothesis `hpl` is void for dictionaries) -/
example := C11.zp2tf_value (K := ℚ) false false [(-1, 2)] [(-3, 2), (-4, 1)] (.const 7) C11.envQ (by intro h; cases h)

/-- continued fraction of `(x² + 1)/x = x + 1/x` -/
example := C11.cf_step ([1, 0, 1] : List ℚ) [0, 1] 1 1 [1] (by decide +kernel) (by decide +kernel) 2
example := C11.cf_terminates 5 ([1, 0, 1] : List ℚ) [0, 1] (by decide +kernel) (by decide +kernel)
example := C11.cf_value 5 ([1, 0, 1] : List ℚ) [0, 1] [(1, 1), (1, 1)] C11.envQ (by decide +kernel) (by decide +kernel)
/-- inverse continued fraction of `1/(1 + x)` at x = 2: ALL hypotheses (incl. `hdef`) -/
example := C11.cf_inverse_value ([1] : List ℚ) [1, 1] [(1, 0), (-1, 1), (-1, 0)] 2 (by norm_num) (by decide +kernel) (by simp)
  (by decide +kernel)

/-! ### Props/C11b.lean, remaining hypotheses -/
example := C11b.coeffs_length ([4, 6, 2] : List ℚ) lcA
example := C11b.normcoeffs_value ([4, 6, 2] : List ℚ) lcA 5
example := C11b.normcoeffs_monic ([4, 6, 2] : List ℚ) lcA
example := C11b.normcoeffs_zero ([0, 0] : List ℚ) (by decide +kernel)
example := C11b.ba_value C11b.exQ (by decide +kernel)
example := C11b.strictly_proper_no_quotient (⟨[1, 5], [4, 6, 2], 0, 0⟩ : RF ℚ) lcA (by decide +kernel) 3
example := C11b.degree_is_highest_power ([4, 6, 2, 0] : List ℚ) 2 (by decide +kernel)
example := C11b.degree_neg_inf ([0, 0] : List ℚ) (by decide +kernel)
example := C11b.degree_is_root_count ([4, 6, 2] : List ℚ) [(-1, 1), (-2, 1)] (by decide +kernel) lcA
example := C11b.simplify_factors_value (K := ℚ) id C11b.envQ (fun _ => rfl) (rfFactors C11b.exQ) (by simp [rfFactors])
example := C11b.simplify_terms_value (K := ℚ) id C11b.envQ (fun _ => rfl) (rfTerms C11b.exQ C11b.exQ.B 0)
example := C11b.recippartfrac_value C11b.exR [1/4] [(-1, 1), (-1/2, 1)] [(1/2, -1, 1), (3/8, -1/2, 1)] C11b.envQ
  ⟨rfl, fun _ _ => by simp [C11b.envQ]⟩ rfl (by norm_num [C11b.envQ]) (by norm_num [C11b.exR, C11b.envQ, Poly.eval])
  (by decide +kernel)
example := C11b.recippartfrac_delay C11b.exQ [] [] C11b.envQ (-1) (by norm_num [C11b.exQ])
/-- `D(ω) = 4 − ω² + 2jω`, `N(ω) = 1 + jω` at ω = 2 -/
example := C11b.rationalize_denominator_value (K := ℚ) ⟨[1], [0, 1]⟩ ⟨[4, 0, -1], [0, 2]⟩ 2 (by norm_num [Poly.eval])
example := C11b.poles_dict_sound ([2, 5, 4, 1] : List ℚ) [(-1, 1), (-2, 1), (-1, 1)] (by decide +kernel) (by decide +kernel)

end Lcapy.NonVacuity.C11
