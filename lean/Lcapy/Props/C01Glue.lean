/-
  PROPERTY C01, the glue of `MNA.__init__` and `MNA._solve` (lcapy/mna.py) around the stamps.

  (a) Allocation of the unknown branch currents.  `Netlist.alloc` (Model/Alloc.lean) mirrors the loop of
      `MNA.__init__` over a parsed netlist: `need_branch_current` (skipped when the name is already there as a
      controlling component), `need_extra_branch_current` (`name + 'X'`), `is_current_controlled` (the controlling
      component is appended unless present -- the fixed duplicate-append defect C01-F1b).
      `alloc_complete`: every needed name is allocated.  `alloc_nodup`: nothing is allocated twice (so the matrix has
      no empty row/column) whenever component names are distinct, no component is called `<gyrator>X`, and
      every controlling name is a component.  `alloc_wf` / `frontend_wf`: for EVERY netlist the front-end accepts,
      the hypothesis `WF` of `mna_iff_laws` holds -- it is discharged, not assumed; `mna_iff_laws_frontend_wf`.
  (b) Reconstruction of the currents that are not unknowns in `_solve`.  `reported_currents`: the current stored in
      `_Idict` for a two-terminal component (solved unknown, or `(V1 − V2 − V0)/Z` for R/C/Y, or `−Isc` for I) is the
      spec's through-current: the component's `outflow` is that current leaving the first node and entering the second.
  Only property theorems (and the definitions they are stated with) live here.
-/
import Lcapy.Props.C01
import Lcapy.Proofs.Alloc
import Lcapy.Model.Netlist
import Mathlib.Data.List.Nodup
namespace Lcapy.C01
open Lcapy.MNA Lcapy.Netlist Ix
variable {K : Type} [Field K]

/-! ### (a) unknown branch currents -/

/-- **alloc_complete**: the loop allocates a branch for every component that needs one, the extra branch of every
    component that needs two, and the controlling component of every current-controlled source. -/
theorem alloc_complete (cs : List PLine) (c : PLine) (hc : c ∈ cs) :
    (c.needsBranch = true → c.name ∈ alloc cs) ∧
    (c.needsExtra = true → c.name ++ "X" ∈ alloc cs) ∧
    (∀ cn, c.ctrl = some cn → cn ∈ alloc cs) :=
  alloc_complete_aux cs [] c hc

/-- **alloc_nodup**: with distinct component names, no component named like the extra branch of another one, and
    every controlling name a component (`MNA.__init__` raises otherwise), `unknown_branch_currents` has no duplicate:
    every unknown is allocated exactly once, whatever the order of the lines (a controlling component before or
    after the source it controls). -/
theorem alloc_nodup (cs : List PLine)
    (H1 : (cs.map (·.name)).Nodup)
    (H2 : ∀ c ∈ cs, c.needsExtra = true → ∀ d ∈ cs, d.name ≠ c.name ++ "X")
    (H3 : ∀ c ∈ cs, ∀ cn, c.ctrl = some cn → ∃ d ∈ cs, d.name = cn) : (alloc cs).Nodup :=
  Netlist.alloc_nodup cs H1 H2 H3

/-- non-vacuity, and the order in which an unguarded append (C01-F1b) allocates `L1` twice: a CCVS before the inductor that
    controls it -/
example : alloc [⟨"H1", true, false, some "L1"⟩, ⟨"L1", true, false, none⟩, ⟨"GY1", true, true, none⟩] =
    ["H1", "L1", "GY1", "GY1X"] := by decide

/-- **alloc_wf**: when the front-end's acceptance test passes, no branch current is owned by two components. -/
theorem alloc_wf (raw : List RawCpt) (brs : List String) (cpts : List (String × Cpt GQ))
    (h : allocOk raw brs cpts = true) : WF (cpts.map (·.2)) := by
  simp only [allocOk, Bool.and_eq_true, decide_eq_true_eq, List.all_eq_true, List.contains_eq_mem, beq_iff_eq] at h
  obtain ⟨⟨hnd, hmem⟩, heq⟩ := h
  unfold WF
  rw [List.flatMap_map]
  rw [heq]
  apply List.Nodup.map_on _ hnd
  intro a ha b hb hab
  have ha' : a ∈ brs := hmem a ha
  have hb' : b ∈ brs := hmem b hb
  have h1 := List.getElem_idxOf (List.idxOf_lt_length_of_mem ha')
  have h2 := List.getElem_idxOf (List.idxOf_lt_length_of_mem hb')
  rw [← h1, ← h2]
  simp only [hab]

/-- **frontend_wf**: every netlist that the front-end accepts (in any analysis) is well-formed in the sense of
    `mna_iff_laws`. -/
theorem frontend_wf (an : Analysis) (lines : List String) (e : Elab) (h : elaborate an lines = .ok e) :
    WF (e.cpts.map (·.2)) := by
  unfold elaborate at h
  split at h
  · cases h
  · split_ifs at h with hok
    cases h
    exact alloc_wf _ _ _ (Bool.and_eq_true _ _ ▸ hok).1

/-- `WF` only looks at branch indices: it survives any reading of the values in a field -/
theorem wf_of_owned_eq {A B : Type} (cs : List (Cpt A)) (ds : List (Cpt B))
    (h : cs.map owned = ds.map owned) (hwf : WF cs) : WF ds := by
  unfold WF at *
  have e1 : cs.flatMap owned = (cs.map owned).flatten := by rw [List.flatMap_def]
  have e2 : ds.flatMap owned = (ds.map owned).flatten := by rw [List.flatMap_def]
  rw [e2, ← h, ← e1]; exact hwf

/-- **mna_iff_laws_frontend_wf**: for every accepted netlist, under any reading `ds` of its component values in a
    field that keeps the nodes and branches, the MNA system is solved exactly by the assignments obeying the laws --
    with no well-formedness hypothesis left. -/
theorem mna_iff_laws_frontend_wf (an : Analysis) (lines : List String) (e : Elab) (h : elaborate an lines = .ok e)
    (ds : List (Cpt K)) (hds : (e.cpts.map (·.2)).map owned = ds.map owned) (kind : Kind) (s : K) (x : Ix → K) :
    Solves kind s ds x ↔ Laws kind s ds x :=
  mna_iff_laws kind s ds x (wf_of_owned_eq _ ds hds (frontend_wf an lines e h))

/-! ### (b) currents that are not unknowns -/

/-- the two terminals between which a two-terminal component carries its current -/
def terminals : Cpt K → Option (Nat × Nat)
  | .R n1 n2 _ | .Y n1 n2 _ | .Cap n1 n2 _ _ | .Ind n1 n2 _ _ _ _ | .V n1 n2 _ _ | .I n1 n2 _ | .E n1 n2 _ _ _ _ _
  | .H n1 n2 _ _ _ | .HY n1 n2 _ _ _ _ _ _ _ | .AM n1 n2 _ => some (n1, n2)
  | _ => none

/-- the divisions that `_solve` performs are defined -/
def reportGuard (kind : Kind) (s : K) : Cpt K → Prop
  | .Y _ _ y => y ≠ 0
  | .Cap _ _ c _ => (kind = .lap ∨ kind = .ivp) → s ≠ 0 ∧ c ≠ 0
  | _ => True

theorem reported_currents (kind : Kind) (s : K) (x : Ix → K) (c : Cpt K) (n1 n2 : Nat) (i : K)
    (ht : terminals c = some (n1, n2)) (hg : reportGuard kind s c) (hi : reportedCurrent kind s x c = some i) :
    ∀ k, outflow kind s x k c = twoTerm n1 n2 k i := by
  intro k
  cases c <;> simp only [terminals, Option.some.injEq, Prod.mk.injEq, reduceCtorEq] at ht <;> obtain ⟨rfl, rfl⟩ := ht
  case R a b r =>
    simp only [reportedCurrent, solveZV0, Option.some.injEq] at hi; subst hi; simp [outflow, vd]
  case Y a b y =>
    simp only [reportedCurrent, solveZV0, Option.some.injEq] at hi; subst hi
    simp only [reportGuard] at hg
    simp only [outflow, vd]; congr 1; field_simp; try ring
  case Cap a b c v0 =>
    simp only [reportGuard] at hg
    cases kind
    · simp only [reportedCurrent, solveZV0, Option.some.injEq] at hi; subst hi; simp [outflow, capCurrent, twoTerm]
    · obtain ⟨hs, hc⟩ := hg (Or.inl rfl)
      simp only [reportedCurrent, solveZV0, Option.some.injEq] at hi; subst hi
      simp only [outflow, capCurrent, vd]; congr 1; field_simp; try ring
    · obtain ⟨hs, hc⟩ := hg (Or.inr rfl)
      cases v0 <;> simp only [reportedCurrent, solveZV0, Option.some.injEq] at hi <;> subst hi <;>
        simp only [outflow, capCurrent, vd] <;> congr 1 <;> field_simp <;> try ring
    · simp only [reportedCurrent, solveZV0, Option.some.injEq] at hi; subst hi; simp [outflow, capCurrent, twoTerm]
  all_goals (simp only [reportedCurrent, Option.some.injEq] at hi; subst hi; simp [outflow])

/-- non-vacuity: a charged capacitor in an initial-value problem; `_solve` reports `(V − v0/s)·sC = sC·V − C·v0` -/
example : reportedCurrent (K := ℚ) .ivp 2 (fun i => match i with | node 1 => 5 | _ => 0) (.Cap 1 0 3 (some 4)) = some 18 := by
  norm_num [reportedCurrent, solveZV0, volt]

end Lcapy.C01
