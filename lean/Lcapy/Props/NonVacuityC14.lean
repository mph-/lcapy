/-
  Non-vacuity witnesses for Props/C14.lean, C14SS.lean, C14Conv.lean, C14Anchor.lean.
  The netlist is `V1 1 0 {3 cos 2t + 4 sin 2t}; R1 1 2 2; C1 2 0 1/4` of Props/C14SS.lean: its sinusoidal steady state is
  proved to satisfy the time-domain laws, hence (steady_state_iff_phasor, mna_iff_laws) its phasors SOLVE the assembled MNA
  system at s = j·2 in ℚ(j) — the `Solves` hypothesis of `phasor_is_transfer` and `same_freq_sum`.
-/
import Lcapy.Props.C14
import Lcapy.Props.C14SS
import Lcapy.Props.C14Conv
import Lcapy.Props.C14Anchor
import Lcapy.Props.C14Imm
namespace Lcapy.NonVacuity.C14
open Lcapy.MNA Lcapy.TDS Lcapy.Cx Lcapy.C14 Lcapy.AC Ix

/-- the phasor-domain netlist: V1 has the phasor 3 − 4j -/
def phRC : List (Cpt (Cx ℚ)) := exRC.map phasorCpt
theorem wf_phRC : C01.WF phRC := by unfold C01.WF; decide

/-- `steady_state_iff_phasor`, `phasor_solution_is_steady_state`, `mna_phasor_is_steady_state` applied -/
theorem laws_phRC : Laws .lap (jw (2 : ℚ)) phRC (fun i => toPh (exRCsol i)) :=
  laws_of_range 3 (by decide) (by decide +kernel) (by decide +kernel)
theorem lawsTD_RC : LawsTD (sinusOps (2 : ℚ)) exRC exRCsol := (steady_state_iff_phasor 2 exRC exRCsol).mpr laws_phRC
theorem solves_phRC : Solves .lap (jw (2 : ℚ)) phRC (fun i => toPh (exRCsol i)) :=
  (mna_phasor_is_steady_state 2 exRC (fun i => toPh (exRCsol i)) wf_phRC).mpr (by simpa using lawsTD_RC)
example : (fun i => toPh (exRCsol i)) (node 2) = (⟨-1/2, -7/2⟩ : Cx ℚ) := by simp [exRCsol, toPh]; norm_num

/-- `phasor_is_transfer` applied in ℚ(j) with j = jw 1 (j² = −1), ω = 2, P = 2 + j -/
theorem nv_phasor_is_transfer :
    Solves .lap (jw 1 * ofReal (2 : ℚ)) (phRC.map (Cpt.mapSrc (fun v => (⟨2, 1⟩ : Cx ℚ) * v)))
      (fun i => (⟨2, 1⟩ : Cx ℚ) * toPh (exRCsol i)) :=
  phasor_is_transfer (jw 1) (ofReal 2) ⟨2, 1⟩ phRC _ (by rw [← jw_eq]; exact solves_phRC)

/-- `same_freq_sum`: the original source and the source scaled by P = 2 + j (same shape, different phasor) -/
theorem sameShape_phRC : List.Forall₂ SameShape phRC (phRC.map (Cpt.mapSrc (fun v => (⟨2, 1⟩ : Cx ℚ) * v))) := by
  simp only [phRC, exRC, List.map_cons, List.map_nil, phasorCpt, embed]
  exact List.Forall₂.cons rfl (List.Forall₂.cons rfl (List.Forall₂.cons rfl List.Forall₂.nil))
example := same_freq_sum (jw 1) (ofReal (2 : ℚ)) phRC _ _ _ sameShape_phRC (by rw [← jw_eq]; exact solves_phRC)
  nv_phasor_is_transfer

/-! ### C14SS, remaining hypotheses -/
example := other_frequency_source_killed (3 : ℚ) 1 0 0 0 (fun w => if w = 2 then ⟨3, 4⟩ else ⟨0, 0⟩) (by simp)
/-- `dc_iff_const` / `ac_at_zero_is_dc` have no hypotheses; a DC netlist that satisfies the laws: V1 1 0 6; R1 1 0 2 -/
example : Laws .dc (0 : ℚ) [.V 1 0 0 6, .R 1 0 2] (fun i => if i = node 1 then 6 else if i = br 0 then -3 else 0) :=
  laws_of_range 2 (by decide) (by decide +kernel) (by decide +kernel)

/-! ### C14Conv -/
example := term_phasor_sound "sin" (5 : ℚ) (3 / 5) (4 / 5) _ (by simp [termSinus]; rfl)
example := term_phasor_sound "cos" (5 : ℚ) (3 / 5) (4 / 5) _ (by simp [termSinus]; rfl)
example := mag_polar (5 : ℚ) (3 / 5) (4 / 5) (by norm_num)
/-- `rms_sound` needs square roots: in ℝ with P = 3 + 4j, |P| = 5 -/
example := rms_sound (⟨3, 4⟩ : Cx ℝ) 5 (Real.sqrt 2) (Real.mul_self_sqrt (by norm_num)) (by norm_num [magSq]) two_ne_zero

/-! ### C14Anchor -/
example := formal_eq_is_pointwise 2 (by norm_num) ⟨0, 0⟩ (by intro t; simp [Sinus.fn, Sinus.at])

end Lcapy.NonVacuity.C14
