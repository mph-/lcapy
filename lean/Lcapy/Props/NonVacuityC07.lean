/-
  Machine-checked NON-VACUITY witnesses for the theorems of
  Props/C07.lean, C07Simplify.lean, C07Netlist.lean, C07TwoPort.lean: for every theorem with hypotheses a concrete
  realistic input on which all hypotheses are PROVED (and the theorem applied).  Findings: /verif/audit/AUDIT-A.md.
-/
import Lcapy.Proofs.Witness
import Lcapy.Props.C07
import Lcapy.Props.C07Simplify
import Lcapy.Props.C07Netlist
import Lcapy.Props.C07TwoPort
set_option linter.unusedVariables false
namespace Lcapy.NonVacuity.C07
open Lcapy Lcapy.OnePort Lcapy.C07 Lcapy.MNA Lcapy.Spec Lcapy.Gen Lcapy.TwoPort Ix

/-! ## Props/C07.lean -/

/-- `(R 2 + L 3 (i0 = 1)) | (C 4 (v0 = 5) + Vstep 7) | Istep 2` at s = 2 -/
def exNet : Net ℚ := .par [.ser [.leaf (.R 2), .leaf (.L 3 (some 1))],
                           .ser [.leaf (.C 4 (some 5)), .leaf (.V .step (7/2))], .leaf (.I .step 1)]

theorem exNet_ok : exNet.tOK 2 = true ∧ exNet.nOK 2 = true ∧ exNet.icOK 2 = true := by decide +kernel

theorem nv_ser_thevenin : IsThevenin 2 exNet (exNet.imp 2) (exNet.voc 2) :=
  ser_thevenin 2 exNet exNet_ok.1 exNet_ok.2.2
theorem nv_par_norton : IsNorton 2 exNet (exNet.adm 2) (exNet.isc 2) :=
  par_norton 2 exNet exNet_ok.2.1 exNet_ok.2.2
example := thevenin_norton 2 exNet

/-- the values are not degenerate: Z ≠ 0, Voc ≠ 0, Y ≠ 0, Isc ≠ 0 -/
theorem nv_values_nondegenerate : exNet.imp 2 ≠ 0 ∧ exNet.voc 2 ≠ 0 ∧ exNet.adm 2 ≠ 0 ∧ exNet.isc 2 ≠ 0 := by decide +kernel

def exArgs : List (Net ℚ) := [.leaf (.R 2), .leaf (.L 3 (some 1)), .leaf (.V .step (7/2))]
example := ser_list (2 : ℚ) exArgs (by decide +kernel) (by decide +kernel)
def exArgsP : List (Net ℚ) := [.leaf (.R 2), .leaf (.C 4 (some 5)), .leaf (.I .step 1)]
example := par_list (2 : ℚ) exArgsP (by decide +kernel) (by decide +kernel)

example := leaf_noSrc (2 : ℚ) (.C 4 (some 0)) (by decide +kernel)
example := net_noSrc (2 : ℚ) (.ser [.leaf (.R 2), .leaf (.C 4 none)]) (by decide +kernel)
example := list_noSrc (2 : ℚ) [.leaf (.R 2), .leaf (.L 4 (some 0))] (by decide +kernel)

/-- `combine_sound` applied: R 2 | R 3 -/
theorem nv_combine_sound (v i : ℚ) :
    (mk .par [.leaf (.R (2 : ℚ)), .leaf (.R 3)]).rel 1 v i ↔ (Net.leaf (.R (2 * 3 / (2 + 3) : ℚ))).rel 1 v i :=
  combine_sound 1 .par (.R 2) (.R 3) _ (by simp [combine, combineSame, Leaf.cls]) (by simp [combGuard]; norm_num) v i

/-- `combine_sound` on a rule with initial conditions: C 3 (v0 = 5) + C 6 at s = 2   [witness `nv_combine_sound_C`] -/
example (v i : ℚ) :=
  combine_sound (2 : ℚ) .ser (.C 3 (some 5)) (.C 6 none) (.C (3 * 6 / (3 + 6)) (some (5 + 0)))
    (by simp [combine, combineSame, Leaf.cls, icSum, ic]) (by simp [combGuard]; norm_num) v i

/-! ## Props/C07Simplify.lean -/

def exSimp : Net ℚ := .ser [.par [.leaf (.R 2), .ser [.leaf (.C 3 (some 5)), .leaf (.C 6 none)], .leaf (.R 3)],
                            .leaf (.L 1 none), .leaf (.L 2 none)]

theorem exSimp_ok : exSimp.simpGuard 2 = true ∧
    (match exSimp.simplify with | .ok _ => true | .error _ => false) = true := by decide +kernel

/-- `simplify_sound` / `simplify_preserves_thevenin_norton` applied: the simplified network exists and has the same relation -/
theorem nv_simplify_sound : ∃ m, exSimp.simplify = .ok m ∧ REq (exSimp.rel 2) (m.rel 2) ∧
    ∀ Z Voc Y Isc, (IsThevenin 2 exSimp Z Voc ↔ IsThevenin 2 m Z Voc) ∧ (IsNorton 2 exSimp Y Isc ↔ IsNorton 2 m Y Isc) := by
  cases h : exSimp.simplify with
  | error e => have := exSimp_ok.2; rw [h] at this; simp at this
  | ok m => exact ⟨m, rfl, simplify_sound 2 exSimp m h exSimp_ok.1,
      fun Z Voc Y Isc => simplify_preserves_thevenin_norton 2 exSimp m h exSimp_ok.1 Z Voc Y Isc⟩

def exFl : List (Net ℚ) := [.ser [.leaf (.C 3 (some 5)), .leaf (.C 6 none)], .leaf (.R 3)]
theorem exFl_ok : flattenGuard (2 : ℚ) exFl = true ∧
    (match flatten .par exFl with | .ok _ => true | .error _ => false) = true := by decide +kernel
theorem nv_flatten_sound : ∃ flat new, flatten .par exFl = .ok (flat, new) ∧
    REq (relArgs 2 .par exFl) (relArgs 2 .par flat) := by
  cases h : flatten .par exFl with
  | error e => have := exFl_ok.2; rw [h] at this; simp at this
  | ok r => obtain ⟨flat, new⟩ := r; exact ⟨flat, new, rfl, flatten_sound 2 .par exFl flat new h exFl_ok.1⟩

/-! ## Props/C07Netlist.lean -/

/-- `(R 2 + L 3 (i0 = 1)) | C 4 (v0 = 5)` -/
def exDraw : Net ℚ := .par [.ser [.leaf (.R 2), .leaf (.L 3 (some 1))], .leaf (.C 4 (some 5))]
theorem exDraw_ok : exDraw.drawable = true := by decide +kernel

example := make_good (2 : ℚ) exDraw exDraw_ok 1 0 2 (by decide) (by decide) (by decide) (by decide)
example := serMake_good (2 : ℚ) [.leaf (.R 2), .leaf (.L 3 (some 1))] (by simp) (by decide +kernel) 1 0 2
  (by decide) (by decide) (by decide) (by decide)
example := parMake_good (2 : ℚ) [.leaf (.R 2), .leaf (.C 4 (some 5))] (by decide +kernel) 1 0 2
  (by decide) (by decide) (by decide) (by decide)
example (v i : ℚ) := net_to_netlist_sound 2 exDraw exDraw_ok v i

/-- the series one-port `R 2 + L 3 (i0 = 1)`: netlist `R 1 2 2; L 2 0 3 1` (branch 3), driven by `V 1 0 10` (branch 4), s = 2 -/
def exSer : Net ℚ := .ser [.leaf (.R 2), .leaf (.L 3 (some 1))]
theorem exSer_make : exSer.make 2 1 0 2 = ([.R 1 2 2, .Ind 2 0 3 3 (some 1) []], 4) := rfl

def exSerX : Ix → ℚ := fun i => match i with
  | node 1 => 10 | node 2 => 27/4 | br 3 => 13/8 | br 4 => -13/8 | _ => 0

theorem exSer_laws : Laws .ivp 2 ((exSer.make 2 1 0 2).1 ++ [.V 1 0 (exSer.make 2 1 0 2).2 10]) exSerX :=
  laws_of_range 3 (by decide +kernel) (by decide +kernel) (by decide +kernel)

/-- `net_to_netlist_laws` applied: the pair (10 V, 13/8 A into +) is on the tree's relation -/
theorem nv_net_to_netlist_laws : exSer.rel 2 10 (-exSerX (br (exSer.make 2 1 0 2).2)) :=
  net_to_netlist_laws 2 exSer (by decide +kernel) 10 exSerX exSer_laws

/-- `netlist_agrees_with_algebra` applied: 10 = Voc + Z·i with the algebra's Z = 2 + 2·3 = 8, Voc = −3 -/
theorem nv_netlist_agrees_with_algebra : (10 : ℚ) = exSer.voc 2 + exSer.imp 2 * (-exSerX (br (exSer.make 2 1 0 2).2)) :=
  netlist_agrees_with_algebra 2 exSer (by decide +kernel) (by decide +kernel) 10 exSerX exSer_laws

/-! ## Props/C07TwoPort.lean -/

/-- the hypothesis `hR` of `series_elem` / `Series_sources` discharged by a REAL one-port tree through `ser_thevenin`:
    `R 2 + L 3 (i0 = 1)` at s = 2 (Z = 8, Voc = −3), read by `Series(OP)` as `OneP` -/
def exSerT : Net ℚ := .ser [.leaf (.R 2), .leaf (.L 3 (some 1))]
def exOP : OneP ℚ := ⟨exSerT.imp 2, exSerT.adm 2, exSerT.voc 2, exSerT.isc 2⟩

theorem nv_Series_sources (p : Port ℚ) :
    SeriesElem (exSerT.rel 2) p ↔ relBs (TP_Series exOP).B (TP_Series exOP).V2b (TP_Series exOP).I2b p :=
  Series_sources (exSerT.rel 2) exOP (ser_thevenin 2 exSerT (by decide +kernel) (icOK_always 2 exSerT)) p

theorem nv_series_elem (p : Port ℚ) :
    SeriesElem (exSerT.rel 2) p ↔ relBs (B_Zseries (exSerT.imp 2)) (exSerT.voc 2) 0 p :=
  series_elem (exSerT.rel 2) _ _ (ser_thevenin 2 exSerT (by decide +kernel) (icOK_always 2 exSerT)) p

/-- `Series_matrix` wants the source-free relation: `R 2 + L 3` without initial current -/
def exSerT0 : Net ℚ := .ser [.leaf (.R 2), .leaf (.L 3 none)]
theorem nv_Series_matrix (p : Port ℚ) :
    SeriesElem (exSerT0.rel 2) p ↔ rel .B (TP_Series ⟨exSerT0.imp 2, exSerT0.adm 2, 0, 0⟩).B 1 p :=
  Series_matrix (exSerT0.rel 2) ⟨exSerT0.imp 2, exSerT0.adm 2, 0, 0⟩
    (by
      have h := ser_thevenin 2 exSerT0 (by decide +kernel) (icOK_always 2 exSerT0)
      have hv : exSerT0.voc 2 = 0 := by decide +kernel
      intro v i; rw [h v i, hv, zero_add]) 1 p

/-- witness `nv_Shunt_sound`: `Shunt_sound` with the Norton data of `C 4 (v0 = 5) | R 2` at s = 2 -/
def exShT : Net ℚ := .par [.leaf (.C 4 (some 5)), .leaf (.R 2)]
example (p : Port ℚ) :=
  Shunt_sound (exShT.rel 2) ⟨exShT.imp 2, exShT.adm 2, exShT.voc 2, exShT.isc 2⟩
    (par_norton 2 exShT (by decide +kernel) (icOK_always 2 exShT)) p

example (p : Port ℚ) := Gyrator_sound (5 : ℚ) 1 (by norm_num) p

/-- `chain_sources`: Series(Z = 2, Voc = 1) then Shunt(Y = 1/3): ports p, q and the overall port r -/
def tpA : TPB ℚ := TP_Series ⟨2, 1/2, 1, 1/2⟩
def tpB : TPB ℚ := TP_Shunt ⟨3, 1/3, 0, 0⟩
def pp : Port ℚ := ⟨5, 1, 4, -1⟩
def pq : Port ℚ := ⟨4, 1, 4, 1/3⟩
def pr : Port ℚ := ⟨5, 1, 4, 1/3⟩

theorem nv_chain_sources : relBs (TP_Chain tpA tpB).B (TP_Chain tpA tpB).V2b (TP_Chain tpA tpB).I2b pr :=
  chain_sources tpA tpB pp pq pr (by simp [CascadeP, pp, pq, pr])
    (by norm_num [relBs, tpA, TP_Series, B_Zseries, pp]) (by norm_num [relBs, tpB, TP_Shunt, B_Yshunt, pq])

example := chain_sources_complete tpA tpB pr nv_chain_sources

/-- witness `nv_chain_matrix` (sources dead: Series(Z = 2) then Shunt(Y = 1/3)) -/
example : rel .B (TP_Chain (TP_Series ⟨2, 1/2, 0, 0⟩) (TP_Shunt ⟨3, 1/3, 0, 0⟩)).B (1 : ℚ) ⟨5, 1, 3, 0⟩ :=
  chain_matrix _ _ 1 ⟨5, 1, 3, -1⟩ ⟨3, 1, 3, 0⟩ ⟨5, 1, 3, 0⟩ (by simp [CascadeP])
    (by norm_num [rel, lin, TP_Series, B_Zseries]) (by norm_num [rel, lin, TP_Shunt, B_Yshunt])

/-- section formulas with their side conditions, on `Z1 = 2, Z2 = 3, Z3 = 5` -/
example (p : Port ℚ) := A_Lsection_sound (2 : ℚ) 3 1 (by norm_num) p
example (p : Port ℚ) := A_Tsection_sound (2 : ℚ) 3 5 1 (by norm_num) p
example (p : Port ℚ) := A_Pisection_sound (2 : ℚ) 3 5 1 (by norm_num) (by norm_num) p
example (p : Port ℚ) := B_Lsection_sound (2 : ℚ) 3 1 (by norm_num) p
example (p : Port ℚ) := B_Tsection_sound (2 : ℚ) 3 5 1 (by norm_num) p
example (p : Port ℚ) := B_Pisection_sound (2 : ℚ) 3 5 1 (by norm_num) (by norm_num) p
example (p : Port ℚ) := B_chain_mirrored_Lsection_sound (2 : ℚ) 3 1 (by norm_num) p
example (p : Port ℚ) := B_chain_Lsection_sound (2 : ℚ) 3 1 (by norm_num) p
example (p : Port ℚ) := B_chain_Tsection_sound (2 : ℚ) 3 5 1 (by norm_num) p
example := TSection_vs_A (K := ℚ) ⟨2, 1/2, 0, 0⟩ ⟨3, 1/3, 0, 0⟩ ⟨5, 1/5, 0, 0⟩ (by norm_num)
/-- the L network `Z1 = 2, Z2 = 3` really has a behaviour: I1 = 2, I2 = -1 -/
example : LNet (2 : ℚ) 3 ⟨7, 2, 3, -1⟩ := by norm_num [LNet]
example : PiNet (2 : ℚ) 3 5 ⟨4, 3, 1, -4/5⟩ := ⟨1, by norm_num, by norm_num, by norm_num⟩

/-- `stage_sound`, `ladder_sound`, `Ladder_sound`: the physical ladder Series(Z = 2), Shunt(Y = 1/3) has the behaviour
    V1 = 5, I1 = 1, V2 = 3, I2 = 0 (open output), and it satisfies the accumulated B matrix -/
example : rel .B (ladderStage 0 (⟨3, 1/3, 0, 0⟩ : OneP ℚ)).B 1 ⟨3, 1, 3, 0⟩ :=
  stage_sound 0 _ 1 _ (by norm_num [ShuntElem, admRel])

theorem exLadderPhys : LadderPhys 0 [(⟨3, 1/3, 0, 0⟩ : OneP ℚ)] (SeriesElem (impRel 2)) ⟨5, 1, 3, 0⟩ := by
  simp only [LadderPhys]
  exact ⟨⟨5, 1, 3, -1⟩, ⟨3, 1, 3, 0⟩, by simp [CascadeP], by norm_num [SeriesElem, impRel], by norm_num [ShuntElem, admRel]⟩

theorem nv_Ladder_sound : rel .B (TP_Ladder (⟨2, 1/2, 0, 0⟩ : OneP ℚ) [⟨3, 1/3, 0, 0⟩]).B 1 ⟨5, 1, 3, 0⟩ :=
  Ladder_sound 1 ⟨2, 1/2, 0, 0⟩ [⟨3, 1/3, 0, 0⟩] _ exLadderPhys

theorem nv_ladder_sound : rel .B (TP_Ladder_go (TP_Series (⟨2, 1/2, 0, 0⟩ : OneP ℚ)) 0 [⟨3, 1/3, 0, 0⟩]).B 1 ⟨5, 1, 3, 0⟩ :=
  ladder_sound 1 [⟨3, 1/3, 0, 0⟩] 0 (TP_Series ⟨2, 1/2, 0, 0⟩) (SeriesElem (impRel 2))
    (fun p hp => (Series_matrix (impRel 2) ⟨2, 1/2, 0, 0⟩ (fun v i => Iff.rfl) 1 p).mp hp) _ exLadderPhys

/-- `par2_Y`: two series resistors 2 Ω and 3 Ω as two-ports in parallel, 6 V across: 3 A + 2 A -/
theorem nv_par2_Y : rel .Y (TP_Par2_Y (B_Zseries 2) (B_Zseries 3) (1 : ℚ)) 1 ⟨6, 5, 0, -5⟩ :=
  par2_Y (B_Zseries 2) (B_Zseries 3) 1 ⟨6, 3, 0, -3⟩ ⟨6, 2, 0, -2⟩ ⟨6, 5, 0, -5⟩
    (by norm_num [B_Zseries]) (by norm_num [B_Zseries]) (by norm_num [ParConn])
    (by norm_num [rel, lin, B_Zseries]) (by norm_num [rel, lin, B_Zseries])

/-- `ser2_Z`: two shunt elements (Y = 1/2, Y = 1/3) connected series–series, I1 = I2 = 1 -/
theorem nv_ser2_Z : rel .Z (TP_Ser2_Z (B_Yshunt (1/2)) (B_Yshunt (1/3)) (1 : ℚ)) 1 ⟨10, 1, 10, 1⟩ :=
  ser2_Z (B_Yshunt (1/2)) (B_Yshunt (1/3)) 1 ⟨4, 1, 4, 1⟩ ⟨6, 1, 6, 1⟩ ⟨10, 1, 10, 1⟩
    (by norm_num [B_Yshunt]) (by norm_num [B_Yshunt]) (by norm_num [SerConn])
    (by norm_num [rel, lin, B_Yshunt]) (by norm_num [rel, lin, B_Yshunt])

/-- `hybrid2_H`: series elements 2 Ω and 3 Ω, inputs in series, outputs in parallel -/
theorem nv_hybrid2_H : rel .H (TP_Hybrid2_H (B_Zseries 2) (B_Zseries 3) (1 : ℚ)) 1 ⟨11, 1, 3, -2⟩ :=
  hybrid2_H (B_Zseries 2) (B_Zseries 3) 1 ⟨5, 1, 3, -1⟩ ⟨6, 1, 3, -1⟩ ⟨11, 1, 3, -2⟩
    (by norm_num [B_Zseries]) (by norm_num [B_Zseries]) (by norm_num [HybConn])
    (by norm_num [rel, lin, B_Zseries]) (by norm_num [rel, lin, B_Zseries])

/-- `invhybrid2_G`: inputs in parallel, outputs in series -/
theorem nv_invhybrid2_G : rel .G (TP_InverseHybrid2_G (B_Zseries 2) (B_Zseries 3) (1 : ℚ)) 1 ⟨5, 2, 5, -1⟩ :=
  invhybrid2_G (B_Zseries 2) (B_Zseries 3) 1 ⟨5, 1, 3, -1⟩ ⟨5, 1, 2, -1⟩ ⟨5, 2, 5, -1⟩
    (by norm_num [B_Zseries]) (by norm_num [B_Zseries]) (by norm_num [InvHybConn])
    (by norm_num [rel, lin, B_Zseries]) (by norm_num [rel, lin, B_Zseries])

/-! ## Class (e) demonstration -/

/-- FINDING C07-e1: a conductance `G 0` was `drawable` (until `Leaf.simple` required g ≠ 0) and its generated line is `R 1 0 (1/0)`: in a field that is `R = 0`,
    which `outflow` reads as vd/0 = 0, i.e. an open circuit -- the right answer for G = 0, reached through two
    totalised divisions.  (Lcapy writes `R? n1 n2 {1/G}` = zoo.)  `make_good` covers this leaf for that reason only. -/
example : (Net.leaf (.G (0 : ℚ))).drawable = false := by decide +kernel   -- (repaired: `Leaf.simple` now requires g ≠ 0)
example : (Net.leaf (.G (0 : ℚ))).make 2 1 0 2 = ([.R 1 0 (1 / 0)], 2) := rfl

end Lcapy.NonVacuity.C07
