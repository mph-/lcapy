/-
  PROPERTY C11 -- re-formatting a rational expression never changes its value.

  Objects: `R : RF K` is the decomposition `B/A · exp(−delay·var) · U(var)^nu` that `Ratfun.__init__`
  computes; `R.value env` is its SPEC value at the sample point `env` (`env.x` the variable, `env.E c` the
  value of `exp(c)`, `env.u` the value of the undefined function).  Every format builder of
  lcapy/ratfun.py (and the `Expr` wrappers that delegate to it) is a function into expression trees
  (`Lcapy/Model/Ratfun.lean`); the theorems say that the tree evaluates to `R.value env` at EVERY point
  where the denominator does not vanish, over EVERY field, for polynomials of EVERY degree.

  The sign with which a builder re-attaches the delay is read from the source text on every run
  (`Lcapy/Generated/RatfunSrc.lean`, harness/translate/tx_ratfun.py): a theorem `X_value` fails to build when
  the source says `exp(+var·delay)` (finding C11-F11a); the sign-generic lemmas (`value_of_core`, `X_value_gen`: any
  sign, delay-free or sign −1) are in Lcapy/Proofs/PolyRatfun.lean.

  SymPy root finding is not modelled: zeros, poles and residues are inputs and are CHECKED
  (`rootsCheck`, `pfCheck`, proved sound: `roots_check_sound`, `pf_check_sound`).  Only property theorems live in this file; helper lemmas
  are in Lcapy/Proofs/Poly.lean, PolyRatfun.lean, PolyCF.lean.
-/
import Lcapy.Proofs.PolyRatfun
import Lcapy.Proofs.PolyCF
import Lcapy.Proofs.PolySynth
import Lcapy.Generated.RatfunSrc
import Mathlib.Tactic.NormNum
namespace Lcapy.C11
open Lcapy Lcapy.Poly Lcapy.Ratfun Lcapy.Gen.RatfunSrc
variable {K : Type} [Field K] [DecidableEq K]
set_option linter.unusedVariables false
set_option linter.unusedSectionVars false

/-- `exp` at the sample point behaves like an exponential: `exp 0 = 1`, `exp (a+b) = exp a · exp b` -/
def IsExp (env : Env K) : Prop := env.E 0 = 1 ∧ ∀ a b, env.E (a + b) = env.E a * env.E b

/-- a concrete sample point over ℚ: `x = 2`, `exp ≡ 1` (a character), `U(x) = 5` -/
def envQ : Env ℚ := ⟨2, fun _ => 1, 5⟩
example : IsExp envQ := ⟨rfl, fun _ _ => by simp [envQ]⟩
/-- `(3x² + 5x + 1)/(2x² + 6x + 4) · exp(−3x) · U(x)` -/
def exQ : RF ℚ := ⟨[1, 5, 3], [4, 6, 2], 3, 1⟩
example : Poly.eval exQ.A envQ.x ≠ 0 := by norm_num [exQ, envQ, Poly.eval]

/-! ## 1. Polynomial long division (`sympy.div`, used by `as_QMA`, `standard`, `partfrac`) -/

/-- `A = Q·B + R` at every point and `deg R < deg B`, for every non-zero divisor. -/
theorem divmod_spec (A B : List K) (hB : lc B ≠ 0) :
    (∀ x, Poly.eval A x = Poly.eval (divmod A B).1 x * Poly.eval B x + Poly.eval (divmod A B).2 x) ∧
    (divmod A B).2.length < (trim B).length :=
  divmod_spec' A B hB
example : lc ([4, 6, 2] : List ℚ) ≠ 0 := by decide +kernel

/-- error branch: for the zero divisor there is no claim, and the executable model divides by zero
    (an error value in the driver; SymPy raises `ZeroDivisionError`). -/
theorem divmod_zero_divisor (A B : List K) (hB : lc B = 0) : trim B = [] := (lc_eq_zero_iff B).1 hB

/-- `as_QMA`: `B = Q·A + M`, `deg M < deg A`, third component is `A`. -/
theorem as_QMA_spec (R : RF K) (hA : lc R.A ≠ 0) :
    (∀ x, Poly.eval R.B x = Poly.eval (asQMA R).1 x * Poly.eval R.A x + Poly.eval (asQMA R).2.1 x) ∧
    (asQMA R).2.1.length < (trim R.A).length ∧ (asQMA R).2.2 = R.A :=
  asQMA_spec R hA

/-! ## 2. Decomposition into B, A, delay, undefined factor -/

/-- the source defines the delay by `delay -= c[0]`: expr = B/A · exp(−delay·var) · undef -/
theorem decompose_sign : decomposeSign = -1 := by decide

/-- `as_B_A_delay_undef`: the product of the factors equals the value of the decomposition. -/
theorem decompose_value (fs : List (Factor K)) (env : Env K) (hE : IsExp env) :
    (decompose fs).value env = factorsValue env fs :=
  Ratfun.decompose_value fs env hE.1 hE.2

/-! ## 3. Format builders: `fmt_value : eval (fmt R) = value R` -/

theorem canonical_fc_value (R : RF K) (env : Env K) (hE : IsExp env) (hA : Poly.eval R.A env.x ≠ 0) :
    (canonical (sgn canonicalFCSign) true R).eval env = R.value env :=
  canonical_value_gen true R env (Or.inl (by simp [sgn, canonicalFCSign])) hE.1 hA

theorem canonical_value (R : RF K) (env : Env K) (hE : IsExp env) (hA : Poly.eval R.A env.x ≠ 0) :
    (canonical (sgn canonicalSign) false R).eval env = R.value env :=
  canonical_value_gen false R env (Or.inl (by simp [sgn, canonicalSign])) hE.1 hA

theorem general_value (R : RF K) (env : Env K) (hE : IsExp env) (hA : Poly.eval R.A env.x ≠ 0) :
    (general (sgn generalSign) R).eval env = R.value env :=
  value_of_core (Or.inl (by simp [sgn, generalSign])) hE.1 (by simp only [RExpr.eval, mul_one_div, (cancel_value R.B R.A env.x hA).1])

/-- Every term of `expandcanonical` is divided by `A`, so the statement is made at non-pole points only
    (`hA`): at a pole both sides would merely agree through the totalised `x/0 = 0`. -/
theorem expandcanonical_value (R : RF K) (env : Env K) (hE : IsExp env) (hA : Poly.eval R.A env.x ≠ 0) :
    (expandcanonical (sgn expandcanonicalSign) R).eval env = R.value env :=
  expandcanonical_value_gen R env (Or.inl (by simp [sgn, expandcanonicalSign])) hE.1
example : Poly.eval exQ.A envQ.x ≠ 0 := by norm_num [exQ, envQ, Poly.eval]

theorem standard_value (R : RF K) (env : Env K) (hE : IsExp env) (hA : Poly.eval R.A env.x ≠ 0) :
    (standard (sgn standardSign) R).eval env = R.value env := by
  refine value_of_core (Or.inl (by simp [sgn, standardSign])) hE.1 ?_
  have hq := (asQMA_spec R (lc_ne_zero_of_eval hA)).1 env.x
  have hc := (cancel_value (asQMA R).2.1 R.A env.x hA).1
  simp only [RExpr.eval, mul_one_div]
  rw [show (asQMA R).2.2 = R.A from rfl, hc, hq, add_div, mul_div_cancel_right₀ _ hA]

theorem timeconst_value (R : RF K) (env : Env K) (hA : Poly.eval R.A env.x ≠ 0) :
    (timeconst (sgn timeconstSign) R).eval env = R.value env := by
  have hec := ec_ne_zero_of_eval hA
  have h : DelayOK (sgn timeconstSign) R := Or.inl (by simp [sgn, timeconstSign])
  rw [timeconst, RExpr.eval, RExpr.eval, eval_expv_delay h env, eval_undefFactor, RF.value]
  simp only [RExpr.eval, eval_smul]
  rw [mul_one_div, mul_div_mul_left _ _ (one_div_ne_zero hec)]

/-- `ZPK()` / `factored()` / `as_ZPK()`: with root tables that pass `rootsCheck`. -/
theorem zpk_value (R : RF K) (zeros poles : List (K × Nat)) (env : Env K) (hE : IsExp env)
    (hA : Poly.eval R.A env.x ≠ 0)
    (hz : rootsCheck R.B zeros = true) (hp : rootsCheck R.A poles = true) :
    (zpk (sgn asZPKSign) R zeros poles).eval env = R.value env := by
  have h : DelayOK (sgn asZPKSign) R := Or.inl (by simp [sgn, asZPKSign])
  simp only [zpk, zp2tf_value, zpkGain, RExpr.eval, eval_delayFactor h env hE.1, eval_undefFactor, RF.value,
    rootsCheck_eval hz, rootsCheck_eval hp]
  ring
example : rootsCheck ([4, 6, 2] : List ℚ) [(-1, 1), (-2, 1)] = true := by decide +kernel
/-- `exQ` cannot instantiate `zpk_value` over ℚ (its numerator `3x² + 5x + 1` has no rational root); a witness with
    rational zeros AND poles: `(x+1)(x+2)/((x+3)(x+4)) · exp(−3x) · U(x)`.  All hypotheses of `zpk_value`
    (and of `zpk_pairs_value`, pairing the two zeros) hold for it at `envQ`: -/
def exZ : RF ℚ := ⟨[2, 3, 1], [12, 7, 1], 3, 1⟩
example : Poly.eval exZ.A envQ.x ≠ 0 := by norm_num [exZ, envQ, Poly.eval]
example : rootsCheck exZ.B [(-1, 1), (-2, 1)] = true := by decide +kernel
example : rootsCheck exZ.A [(-3, 1), (-4, 1)] = true := by decide +kernel
example : rootsCheck exZ.B (pairsRoots [((-1, -2), 1)] ++ []) = true := by decide +kernel
example : rootsCheck exZ.A (pairsRoots [] ++ [(-3, 1), (-4, 1)]) = true := by decide +kernel
/- NOTE on the sample point: every map `E : ℚ → ℚ` with `E 0 = 1`, `E (a+b) = E a · E b` is constant 1 (ℚ is divisible, the
   multiplicative group of ℚ has no non-trivial divisible subgroup), so over ℚ a wrong sign of the re-attached delay cannot be
   made visible by an `IsExp` point.  The value theorems of this file are therefore ALSO applied over ℝ with
   `E = Real.exp` (x = 2, U = 5, delay 3) in Lcapy/Props/NonVacuityC11.lean. -/

/-- `ZPK(combine_conjugates=True)`: conjugate pairs as quadratic sections. -/
theorem zpk_pairs_value (R : RF K) (zpairs ppairs : List ((K × K) × Nat))
    (zsingles psingles : List (K × Nat)) (env : Env K) (hE : IsExp env) (hA : Poly.eval R.A env.x ≠ 0)
    (hz : rootsCheck R.B (pairsRoots zpairs ++ zsingles) = true)
    (hp : rootsCheck R.A (pairsRoots ppairs ++ psingles) = true) :
    (zpkPairs (sgn asZPKSign) R zpairs ppairs zsingles psingles).eval env = R.value env := by
  have h : DelayOK (sgn asZPKSign) R := Or.inl (by simp [sgn, asZPKSign])
  simp only [zpkPairs, zp2tf_value, zpkGain, RExpr.eval, eval_delayFactor h env hE.1, eval_undefFactor,
    RF.value, eval_pairsExpr, rootsCheck_eval hz, rootsCheck_eval hp, rootsValue_append]
  ring

/-- `partfrac()` / `as_QRF()` / `as_QRPO()`: with residues that pass `pfCheck`. -/
theorem partfrac_value (R : RF K) (Q : List K) (poles : List (K × Nat)) (terms : List (K × K × Nat))
    (env : Env K) (hE : IsExp env) (hA : Poly.eval R.A env.x ≠ 0)
    (hc : pfCheck R.B R.A Q poles terms = true) :
    (partfrac (sgn partfracSign) R Q terms).eval env = R.value env :=
  partfrac_value_gen R Q poles terms env (Or.inl (by simp [sgn, partfracSign])) hE.1 hA hc
example : pfCheck ([1, 5, 3] : List ℚ) [4, 6, 2] [3/2] [(-1, 1), (-2, 1)] [(-1/2, -1, 1), (-3/2, -2, 1)] = true := by
  decide +kernel

/-! ## 4. Poles, zeros, residues -/

/-- **roots_check_sound**: a table that passes the check factorises the polynomial completely,
    `A = LC(A) · Π (x − r)^n` at every point … -/
theorem roots_check_sound (A : List K) (roots : List (K × Nat)) (h : rootsCheck A roots = true) (x : K) :
    Poly.eval A x = lc A * (roots.map (fun rn => (x - rn.1) ^ rn.2)).prod :=
  rootsCheck_eval h x

/-- … every reported root is a root, … -/
theorem roots_check_root (A : List K) (roots : List (K × Nat)) (h : rootsCheck A roots = true)
    (r : K) (n : Nat) (hr : (r, n) ∈ roots) (hn : n ≠ 0) : Poly.eval A r = 0 := by
  rw [rootsCheck_eval h r, rootsValue_eq_zero hr hn, mul_zero]

/-- … and the multiplicities add up to the full degree. -/
theorem roots_check_degree (A : List K) (roots : List (K × Nat)) (h : rootsCheck A roots = true)
    (hA : lc A ≠ 0) : (roots.map (fun rn => rn.2)).sum = degree A :=
  rootsCheck_degree h hA

/-- **pf_check_sound** (`residues_reconstruct`): quotient, poles and residues that pass the check
    reconstruct `B/A` at every non-pole point. -/
theorem pf_check_sound (B A Q : List K) (poles : List (K × Nat)) (terms : List (K × K × Nat)) (x : K)
    (h : pfCheck B A Q poles terms = true) (hA : Poly.eval A x ≠ 0) :
    Poly.eval B x / Poly.eval A x = Poly.eval Q x + (terms.map (fun t => t.1 / (x - t.2.1) ^ t.2.2)).sum :=
  pfCheck_sound B A Q poles terms x h hA

/-! ## 5. N, D, multiplying top and bottom, `_zp2tf` -/

/-- `N/D` is the expression wherever `D = A` does not vanish (`hA`; at a pole both sides would only agree
    through the totalised `x/0 = 0`). -/
theorem N_over_D (R : RF K) (env : Env K) (hE : IsExp env) (hA : Poly.eval R.A env.x ≠ 0) :
    (exprN R).eval env / (exprD R).eval env = R.value env := Ratfun.N_over_D R env hE.1
example : Poly.eval exQ.A envQ.x ≠ 0 := by norm_num [exQ, envQ, Poly.eval]

theorem multiply_top_and_bottom_value (R : RF K) (f : List K) (env : Env K) (hE : IsExp env)
    (hf : Poly.eval f env.x ≠ 0) : (multiplyTopBottom R f).eval env = R.value env := by
  rw [← Ratfun.N_over_D R env hE.1]
  simp only [multiplyTopBottom, RExpr.eval]
  rw [mul_one_div, mul_div_mul_right _ _ hf]

/-- `_zp2tf(zeros, poles, K)` for every mix of list / dictionary arguments: `K·Π(x−z)^n / Π(x−p)^m`
    (list entries have multiplicity 1). -/
theorem zp2tf_value (zIsList pIsList : Bool) (zeros poles : List (K × Nat)) (g : RExpr K) (env : Env K)
    (hpl : pIsList = true → ∀ rn ∈ poles, rn.2 = 1) :
    ∃ e, zp2tfMixed zp2tfPolesTestOnPoles zIsList pIsList zeros poles g = some e ∧
      e.eval env = g.eval env * (zeros.map (fun rn => (env.x - rn.1) ^ rn.2)).prod
                    / (poles.map (fun rn => (env.x - rn.1) ^ rn.2)).prod :=
  zp2tfMixed_value (by decide) zIsList pIsList zeros poles g env hpl

/-! ## 6. Continued fraction (`continued_fraction_coeffs`, `as_continued_fraction`; shared with C19) -/

/-- one Euclid step: `N = Q·D + N₂` with `Q = LT(N)/LT(D) = q x^k` (hence `N/D = Q + 1/(D/N₂)`) -/
theorem cf_step (N D : List K) (q : K) (k : Nat) (N2 : List K) (h : cfStep N D = some (q, k, N2))
    (hD : lc D ≠ 0) (x : K) :
    Poly.eval N x = q * x ^ k * Poly.eval D x + Poly.eval N2 x :=
  cfStep_eval h hD x

/-- termination measure: each step strictly shortens the dividend, so with fuel `|N| + |D|` (numbers of
    coefficients; `cfCoeffs` supplies one more) the recursion never runs out of fuel. -/
theorem cf_terminates (fuel : Nat) (N D : List K) (hD : lc D ≠ 0)
    (hf : (trim N).length + (trim D).length ≤ fuel) : cfRun fuel N D ≠ .fuelOut :=
  cfRun_fuel fuel N D hD hf

/-- **cf_value**: the continued fraction built from the coefficients equals `N/D` wherever the
    expression itself is defined (`cfDefined`: no intermediate remainder vanishes at `x`). -/
theorem cf_value (fuel : Nat) (N D : List K) (cs : List (K × Nat)) (env : Env K)
    (h : cfRun fuel N D = .ok cs) (hdef : cfDefined fuel N D env.x = true) :
    (cfExpr cs).eval env = Poly.eval N env.x / Poly.eval D env.x :=
  Synth.cfExpr_value fuel N D cs env h hdef
example : cfRun 5 ([1, 0, 1] : List ℚ) [0, 1] = .ok [(1, 1), (1, 1)] := by decide +kernel
example : cfDefined 5 ([1, 0, 1] : List ℚ) [0, 1] 2 = true := by decide +kernel

/-- **cf_inverse_value** (`continued_fraction_inverse_coeffs`, `as_continued_fraction_inverse`): the
    coefficients `q·x^(−k)` produced by the expansion in `1/var` reconstruct `N/D`. -/
theorem cf_inverse_value (N D : List K) (cs : List (K × Nat)) (x : K) (hx : x ≠ 0)
    (h : cfiCoeffs N D = .ok cs) (hD : D ≠ [])
    (hdef : Synth.cfDefinedSwap (2 * (max N.length D.length + max N.length D.length) + 3)
      (revPad N (max N.length D.length)) (revPad D (max N.length D.length)) (1 / x) = true) :
    Synth.cfVal true x cs = Poly.eval N x / Poly.eval D x := Synth.cfi_value' N D cs x hx h hdef
example : cfiCoeffs ([1] : List ℚ) [1, 1] = .ok [(1, 0), (-1, 1), (-1, 0)] := by decide +kernel
/-- the remaining hypotheses for `1/(1 + x)` at `x = 2`, in particular `hdef` -/
example : (2 : ℚ) ≠ 0 := by norm_num
example : ([1, 1] : List ℚ) ≠ [] := by simp
example : Synth.cfDefinedSwap (2 * (max ([1] : List ℚ).length ([1, 1] : List ℚ).length + max ([1] : List ℚ).length ([1, 1] : List ℚ).length) + 3)
    (revPad ([1] : List ℚ) (max ([1] : List ℚ).length ([1, 1] : List ℚ).length))
    (revPad ([1, 1] : List ℚ) (max ([1] : List ℚ).length ([1, 1] : List ℚ).length)) (1 / 2) = true := by decide +kernel

end Lcapy.C11
