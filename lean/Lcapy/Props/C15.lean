/-
  PROPERTY C15 -- every equation formulation Lcapy prints is satisfied by the solution it reports.

  Spec side : `Laws` (Spec/Laws.lean: KCL + every component's defining relation), `Realises`
              (Spec/StateSpace.lean: the state and output equations of a realisation reproduce b(s)/a(s)).
  Model side: `nodalEq`, `meshEq` (Model/Formulations.lean), `ccf`, `ocf`, `dcf` (Model/Realisations.lean).
  Findings F13, C15-b, C15-d, C15-g, C15-h, C15-j, C15-f are fixed in /repo: the models mirror the fixed code
  and the theorems are at full strength.  Finding C15-c (mesh analysis identifies parallel components by
  node pair) is KNOWN and open: `pe = false` is the code as it is in /repo -- the CLAIMED theorem about it is
  `mesh_eqs_hold_partial` (graphs without parallel components; the excluded region is covered by the oracle of
  harness/c15.py on the real code, which reports KNOWN-FINDING C15-c).  `pe = true` is the code with the PROPOSED
  patch fix-C15-c, which is NOT applied to /repo (it needs a correction of the unit test that pins the defect):
  `mesh_eqs_hold` (and Props/C15Mesh.lean) are theorems about that patch, not about /repo.
  Finding C15-k (mutual couplings are ignored by nodal and mesh analysis) is KNOWN and open: `NodalDefined` /
  `MeshDefined` require uncoupled inductors, the oracle covers circuits with K lines on the real code.
  Only property theorems live here; helper lemmas are in Proofs/Formulations.lean, Proofs/Realisations.lean.
-/
import Lcapy.Proofs.Formulations
import Lcapy.Proofs.Realisations
import Lcapy.Proofs.StateExists
import Lcapy.Proofs.Witness
import Mathlib.Tactic.NormNum
namespace Lcapy.C15
open Lcapy.MNA Lcapy.Formulations Lcapy.StateSpace Ix
variable {K : Type} [Field K]

/-! ## nodal analysis -/

/-- the nodal formulation is defined for the netlist: one-ports R, Y, C, L, V, I only (the code
    raises for dependent sources and two-ports), no shorted component, resistors with R ≠ 0 (the code prints `zoo`
    for a 0-ohm resistor; the harness covers that branch), inductors with
    finite admittance 1/(sL) (so not in DC, where the code prints `zoo`) and UNCOUPLED: the code does not refuse
    K lines, it ignores them (finding C15-k, known) -- that region is excluded here and covered by the oracle. -/
def NodalDefined (kind : Kind) (s : K) (cs : List (Cpt K)) : Prop := ∀ c ∈ cs, OkCpt kind s c

/-- **nodal_eqs_hold**: for every netlist of any size, in every analysis kind, at
    every point s, an assignment that obeys Kirchhoff's laws and the component relations satisfies
    the equation the nodal formulation files under every node k: the voltage-source constraint
    `V[n1] = V[n2] + Voc` when a voltage source is attached, else KCL written with
    `current_equation` of each incident component. -/
theorem nodal_eqs_hold (kind : Kind) (s : K) (cs : List (Cpt K)) (x : Ix → K)
    (hdef : NodalDefined kind s cs) (hlaws : Laws kind s cs x) (k : Nat) (hk : k ≠ 0) :
    (nodalEq kind s cs k).eval x = 0 := by
  unfold nodalEq
  cases hh : (cs.filter (fun c => isV c && incident k c)).head? with
  | some c =>
    have hc := List.mem_filter.mp (List.mem_of_mem_head? hh)
    obtain ⟨n1, n2, m, v, rfl⟩ := isV_eq c (Bool.and_eq_true_iff.mp hc.2).1
    have := hlaws.2 _ hc.1 _ (List.mem_singleton_self _)
    simp only [LinForm.eval, List.map_cons, List.map_nil, lsum]
    simp only [vd] at this
    linear_combination this
  | none =>
    have hnoV : ∀ c ∈ cs, incident k c = true → isV c = false := by
      intro c hc hi
      by_contra hv
      have : c ∈ cs.filter (fun c => isV c && incident k c) :=
        List.mem_filter.mpr ⟨hc, by rw [Bool.not_eq_false] at hv; rw [hv, hi]; rfl⟩
      rw [List.head?_eq_none_iff.mp hh] at this
      cases this
    simp only
    rw [eval_sumForms, kcl_sum_filter kind s x k cs]
    · exact hlaws.1 k hk
    · intro c hc
      exact ⟨fun hi => kclTerm_patched kind s x k c (hdef c hc) (hnoV c hc hi) hi (hlaws.2 c hc),
        fun hi => outflow_not_incident kind s x k c (hdef c hc) hi⟩

/-- non-vacuity, on the F13 circuit: `I1 1 0 dc 2; R1 1 2 3; R2 2 0 5`, V1 = 16, V2 = 10 -/
def f13 : List (Cpt ℚ) := [.I 1 0 2, .R 1 2 3, .R 2 0 5]
def f13x : Ix → ℚ := fun i => match i with | node 1 => 16 | node 2 => 10 | _ => 0

example : NodalDefined .dc 0 f13 := by intro c hc; simp [f13] at hc; rcases hc with rfl | rfl | rfl <;> simp [OkCpt]

theorem f13_laws : Laws .dc 0 f13 f13x :=
  laws_of_range 3 (by decide) (by decide +kernel) (by decide +kernel)

/-- regression for F13 (fixed): the equation for node 1 is `V1/3 − V2/3 − 2 = 0`; it evaluates to 0 at
    the solution -/
theorem f13_fixed : (nodalEq .dc 0 f13 1).eval f13x = 0 ∧ (nodalEq .dc 0 f13 1).const = -2 := by
  decide +kernel

/-! ## Kirchhoff's voltage law -/

/-- **kvl_telescopes**: around ANY closed walk through graph nodes (of any length, repeated nodes
    allowed) the potential rises sum to zero. -/
theorem kvl_telescopes (x : Ix → K) (loop : List GNode) :
    lsum ((loopPairs loop).map (fun pq => gvolt x pq.2 - gvolt x pq.1)) = 0 :=
  loopPairs_telescope (gvolt x) loop

/-! ## mesh analysis -/

/-- the mesh formulation is defined for the netlist: R, Y, C, L, V with an impedance at s (the code
    raises for current sources and dependent sources), no shorted component, no mutual coupling -/
def MeshDefined (kind : Kind) (s : K) (cs : List (Cpt K)) : Prop := ∀ c ∈ cs, MeshOk kind s c

/-- the mesh currents `im` carry the solution `x`: for every passive component the loop passes
    through, the current the code accumulates from the mesh currents (`_add_mesh_currents`) is
    the component's actual current (the code's sign: from second to first node) -/
def MeshConsistent (patched : Bool) (kind : Kind) (s : K) (cs : List (Cpt K)) (loops : List (List GNode))
    (x : Ix → K) (im : Nat → K) (loop : List GNode) : Prop :=
  ∀ ab ∈ loopPairs loop, ∀ idx c, component (buildGraph cs) ab.1 ab.2 = some (idx, c) → isV c = false →
    meshCurrent patched (buildGraph cs) loops idx c im = -(through kind s x c)

/-- **mesh_eqs_hold** -- a theorem about the PROPOSED PATCH fix-C15-c (`pe = true`: a component is the graph edge that
    holds it, parallel components included), NOT about the code in /repo (for that see `mesh_eqs_hold_partial`):
    for every netlist, every list of loops handed in by the cycle
    search and every loop among them that passes the decidable `isSimpleCycle` check against the
    circuit graph, the KVL equation `_process_loop` writes is satisfied by any solution of the
    circuit laws, with mesh currents that carry that solution. -/
theorem mesh_eqs_hold (kind : Kind) (s : K) (cs : List (Cpt K)) (x : Ix → K) (loops : List (List GNode))
    (im : Nat → K) (hdef : MeshDefined kind s cs) (hlaws : Laws kind s cs x) (loop : List GNode)
    (hcyc : isSimpleCycle (buildGraph cs) loop = true)
    (hcons : MeshConsistent true kind s cs loops x im loop)
    (f : MeshForm K) (hf : meshEq true kind s (buildGraph cs) loops loop = some f) : f.eval im = 0 :=
  meshEq_holds true kind s cs x loops im hdef hlaws loop hcyc nofun hcons f hf

/-- non-vacuity: V1 1 0 6; R1 1 2 3; R2 2 0 5 with its solution, the loop 0-1-2 and the mesh current 3/4 -/
example : isSimpleCycle (buildGraph exCkt) exLoop = true := exLoop_cycle
example : MeshDefined .dc (0 : ℚ) exCkt := by
  intro c hc; simp [exCkt] at hc; rcases hc with rfl | rfl | rfl <;> simp [MeshOk]
example : MeshConsistent true .dc 0 exCkt [exLoop] exSol (fun _ => 3/4) exLoop := exCurrents true

/- Full statement for the code as it is -- FALSE (finding C15-c, known):
   theorem mesh_eqs_hold_asis … (hcons : MeshConsistent false …) (hf : meshEq false … = some f) : f.eval im = 0
   fails for `V1 1 0 step 6; R1 1 2 3; R2 2 0 5; R3 2 0 7` (parallel R2, R3: prints 12 I1 − 12 I2 = 0). -/

/-- **mesh_eqs_hold_partial** -- THE CLAIMED THEOREM ABOUT THE CODE AS IT IS IN /repo (`pe = false`): the same
    conclusion when the graph has no dummy node, i.e. no two components join the same pair of nodes (C15-c).
    The excluded region is covered by the oracle on the real code (KNOWN-FINDING C15-c).  Initial conditions are
    included (C15-d is fixed); inductors are uncoupled (`MeshDefined`; C15-k). -/
theorem mesh_eqs_hold_partial (kind : Kind) (s : K) (cs : List (Cpt K)) (x : Ix → K) (loops : List (List GNode))
    (im : Nat → K) (hdef : MeshDefined kind s cs) (hlaws : Laws kind s cs x) (loop : List GNode)
    (hcyc : isSimpleCycle (buildGraph cs) loop = true)
    (hnopar : ∀ e ∈ buildGraph cs, ∃ n, e.b = GNode.real n)
    (hcons : MeshConsistent false kind s cs loops x im loop)
    (f : MeshForm K) (hf : meshEq false kind s (buildGraph cs) loops loop = some f) : f.eval im = 0 :=
  meshEq_holds false kind s cs x loops im hdef hlaws loop hcyc (fun _ => hnopar) hcons f hf

/-- non-vacuity of `mesh_eqs_hold_partial`: the example circuit has no parallel components -/
example : ∀ e ∈ buildGraph exCkt, ∃ n, e.b = GNode.real n := exNoPar

/-! ## canonical state-space realisations of a transfer function (continuous and discrete time) -/

/-- **ss_output_unique**: for ANY state-space model (A, B, C, D) of any order, at a point s that is not a
    natural frequency the Laplace-domain state equation (sI − A)X = B·U has at most one solution (inside the order),
    so all solutions have the same output. -/
theorem ss_output_unique (sys : SS K) (s : K) (hns : ¬ IsNaturalFreq sys s) (X H : Nat → K)
    (hX : StateEq sys s X) (hH : StateEq sys s H) : output sys X = output sys H := by
  have hz : ∀ i, i < sys.n → X i = H i := by
    intro i hi
    by_contra hne
    apply hns
    refine ⟨fun j => X j - H j, ⟨i, hi, sub_ne_zero.mpr hne⟩, ?_⟩
    intro k hk
    have h1 := hX k hk
    have h2 := hH k hk
    simp only [stateRow] at h1 h2
    have : sumTo sys.n (fun j => sys.A k j * (X j - H j)) =
        sumTo sys.n (fun j => sys.A k j * X j) - sumTo sys.n (fun j => sys.A k j * H j) := by
      rw [← sumTo_sub]; apply sumTo_congr; intro j _; ring
    rw [this]
    linear_combination h1 - h2
  simp only [output]
  congr 1
  apply sumTo_congr
  intro j hj
  rw [hz j hj]

/-- **ss_transfer**: for ANY state-space model (A, B, C, D) of any order and any point s that is not a natural
    frequency (not an eigenvalue of A), the transfer function value  G(s) = C (sI − A)⁻¹ B + D  is well defined without
    mentioning an inverse: the state equation (sI − A)X = B has a solution (an injective endomorphism of Kⁿ is
    surjective), and there is ONE value g that the output  C·X + D  takes at every solution.  `Realises`, `ccf_realises`,
    `ocf_realises` identify this g with b(s)/a(s) for the canonical forms; `ss_from_circuit` (Props/C15SS.lean) ties the matrices of
    a circuit to its laws. -/
theorem ss_transfer (sys : SS K) (s : K) (hns : ¬ IsNaturalFreq sys s) :
    ∃ g, (∃ X, StateEq sys s X) ∧ ∀ X, StateEq sys s X → output sys X = g := by
  obtain ⟨H, hH⟩ := state_exists sys s hns
  exact ⟨output sys H, ⟨H, hH⟩, fun X hX => ss_output_unique sys s hns X H hX hH⟩

/-- **ccf_realises**: for coefficient lists of ANY degree, the controllable canonical form that
    `from_ba_CCF` builds (after its normalisation by a₀ and zero padding of b) has the transfer
    function b(s)/a(s): at every s with a(s) ≠ 0 the state equation (sI − A)X = B is solvable and
    every solution gives C·X + D = b(s)/a(s).  The same statement with z for s is the
    discrete-time one (`DTStateSpace` uses the same constructor). -/
theorem ccf_realises (b a : List K) (h : ProperTF b a) : ∃ sys, ccf b a = some sys ∧ Realises sys b a := by
  obtain ⟨b', a', N, hprep, hN1, ha', hb', ha0, hval⟩ := prep_spec b a h
  have hlead := h.2.1
  refine ⟨ccfOf b' a', by rw [ccf, hprep]; rfl, ?_⟩
  have hn : (ccfOf b' a').n = N := by rw [ccfOf, ha']; rfl
  intro s hs
  have hpa : polyEval a' s ≠ 0 := by rw [(hval s).1]; exact div_ne_zero hs hlead
  have hB : ∀ i, (ccfOf b' a').B i = if i + 1 = N then 1 else 0 := by intro i; simp [ccfOf, ha']
  constructor
  · refine ⟨fun n => pw s n * (1 / polyEval a' s), ?_⟩
    intro i hi
    rw [hn] at hi
    simp only [stateRow, hn]
    rw [ccf_rows_conv b' a' N ha' hN1 ha0 s _ i hi, hB]
    split_ifs
    · field_simp
    · rfl
  · intro X hX
    obtain ⟨hpow, hX0⟩ := ccf_rows b' a' N ha' hN1 ha0 s X _ (hX.rows hn) (by intro i hi; rw [hB]; simp; omega)
    rw [hB, if_pos (by omega)] at hX0
    have := ccf_output b' a' N ha' hb' ha0 s X hpow hX0
    rw [(hval s).1, (hval s).2] at this
    field_simp at this
    exact this

/-- **ccf_natural_freqs** (`charpoly_natural_freqs`): the natural frequencies of the companion
    matrix -- the points where (sI − A) is singular, i.e. the roots of its characteristic
    polynomial -- are exactly the roots of the denominator a(s), for every degree. -/
theorem ccf_natural_freqs (b a : List K) (h : ProperTF b a) (s : K) :
    ∃ sys, ccf b a = some sys ∧ (IsNaturalFreq sys s ↔ polyEval a s = 0) := by
  obtain ⟨b', a', N, hprep, hN1, ha', hb', ha0, hval⟩ := prep_spec b a h
  have hlead := h.2.1
  refine ⟨ccfOf b' a', by rw [ccf, hprep]; rfl, ?_⟩
  have hn : (ccfOf b' a').n = N := by rw [ccfOf, ha']; rfl
  have hiff : polyEval a s = 0 ↔ polyEval a' s = 0 := by
    rw [(hval s).1]; constructor
    · intro h0; rw [h0, zero_div]
    · intro h0; rcases div_eq_zero_iff.mp h0 with h1 | h1
      · exact h1
      · exact absurd h1 hlead
  rw [hiff]
  constructor
  · rintro ⟨X, ⟨i, hi, hXi⟩, hrows⟩
    rw [hn] at hi hrows
    obtain ⟨hpow, hX0⟩ := ccf_rows b' a' N ha' hN1 ha0 s X (fun _ => 0) hrows (fun _ _ => rfl)
    by_contra hne
    have : X 0 = 0 := by
      rcases mul_eq_zero.mp hX0 with h1 | h1
      · exact absurd h1 hne
      · exact h1
    exact hXi (by rw [hpow i hi, this, mul_zero])
  · intro h0
    refine ⟨fun n => pw s n * 1, ⟨0, by rw [hn]; omega, by simp [pw]⟩, ?_⟩
    intro i hi
    rw [hn] at hi ⊢
    rw [ccf_rows_conv b' a' N ha' hN1 ha0 s 1 i hi, h0]
    simp

/-- **ocf_realises**: the observable canonical form of `from_ba_OCF` has the transfer function
    b(s)/a(s), for every degree (same statement with z for discrete time). -/
theorem ocf_realises (b a : List K) (h : ProperTF b a) : ∃ sys, ocf b a = some sys ∧ Realises sys b a := by
  obtain ⟨b', a', N, hprep, hN1, ha', hb', ha0, hval⟩ := prep_spec b a h
  have hlead := h.2.1
  refine ⟨ocfOf b' a', by rw [ocf, hprep]; rfl, ?_⟩
  have hn : (ocfOf b' a').n = N := by rw [ocfOf, ha']; rfl
  intro s hs
  have hpa : polyEval a' s ≠ 0 := by rw [(hval s).1]; exact div_ne_zero hs hlead
  constructor
  · refine ⟨fun k => polyEval (a'.take (k + 1)) s * (polyEval b' s / polyEval a' s) - polyEval (b'.take (k + 1)) s, ?_⟩
    intro i hi
    rw [hn] at hi
    simp only [stateRow, hn]
    have := ocf_rows_conv b' a' N ha' hb' hN1 ha0 s (polyEval b' s / polyEval a' s) i hi
    simp only at this
    rw [sub_eq_iff_eq_add] at this
    rw [this, polyEval_take_one a' s (by omega), polyEval_take_one b' s (by omega), ha0]
    split_ifs
    · field_simp; ring
    · ring
  · intro X hX
    obtain ⟨_, hy⟩ := ocf_rows b' a' N ha' hb' hN1 ha0 s X (hX.rows hn)
    have hout : output (ocfOf b' a') X = X 0 + coef b' 0 := by
      simp only [output, hn]
      have hC : ∀ j, (ocfOf b' a').C j * X j = if j = 0 then X j else 0 := by
        intro j; simp only [ocfOf]; split_ifs <;> simp
      rw [sumTo_congr N _ _ (fun j _ => hC j), sumTo_single, if_pos (by omega)]
      simp [ocfOf]
    rw [hout]
    rw [(hval s).1, (hval s).2] at hy
    field_simp at hy
    linear_combination hy

/-- **dcf_transfer_partial**: the diagonal form A = diag(p), B = ones, C = r, D = d has the transfer
    function d + Σ rᵢ/(s − pᵢ) at every s that is not a pole.  PARTIAL: the poles and residues are INPUTS (SymPy's root
    finding and `Ratfun.residue` are not modelled), one per state (`hp`, `hr`: a shorter list would read as poles at 0);
    that they are a partial-fraction expansion of b/a is the hypothesis of `dcf_realises_of_pf` below and is checked by the
    oracle on every case (findings C15-e/C15-j, fixed). -/
theorem dcf_transfer_partial (b a poles residues : List K) (s : K)
    (_hp : poles.length = a.length - 1) (_hr : residues.length = a.length - 1)
    (hs : ∀ i, i < a.length - 1 → s - coef poles i ≠ 0) (X : Nat → K)
    (hX : StateEq (dcfOf b a poles residues) s X) :
    output (dcfOf b a poles residues) X =
      sumTo (a.length - 1) (fun i => coef residues i / (s - coef poles i)) + (dcfOf b a poles residues).D := by
  simp only [output]
  have hn : (dcfOf b a poles residues).n = a.length - 1 := rfl
  rw [hn]
  congr 1
  apply sumTo_congr
  intro i hi
  have h := hX.rows hn i hi
  rw [dcf_Arow b a poles residues X i hi] at h
  have hB : (dcfOf b a poles residues).B i = 1 := rfl
  rw [hB] at h
  have hXi : X i = 1 / (s - coef poles i) := by
    rw [eq_div_iff (hs i hi)]; linear_combination h
  simp only [dcfOf]
  rw [hXi]; ring

/-- **dcf_realises_of_pf**: IF the poles and residues handed to the diagonal form are a partial-fraction expansion of
    b/a -- every root-free point of a is no pole (`hpoles`) and there b(s)/a(s) = D + Σ rᵢ/(s − pᵢ) (`hpf`) -- THEN the
    diagonal form realises b/a in the sense of the Spec (`Realises`: the state equation is solvable and every solution
    gives b(s)/a(s)).  The two hypotheses are what the oracle evaluates on Lcapy's own poles and residues. -/
theorem dcf_realises_of_pf (b a poles residues : List K)
    (hp : poles.length = a.length - 1) (hr : residues.length = a.length - 1)
    (hpoles : ∀ s, polyEval a s ≠ 0 → ∀ i, i < a.length - 1 → s - coef poles i ≠ 0)
    (hpf : ∀ s, polyEval a s ≠ 0 → polyEval b s / polyEval a s =
      sumTo (a.length - 1) (fun i => coef residues i / (s - coef poles i)) + (dcfOf b a poles residues).D) :
    Realises (dcfOf b a poles residues) b a := by
  intro s hs
  have hne := hpoles s hs
  constructor
  · refine ⟨fun i => 1 / (s - coef poles i), ?_⟩
    intro i hi
    have hn : (dcfOf b a poles residues).n = a.length - 1 := rfl
    rw [hn] at hi
    simp only [stateRow, hn]
    rw [dcf_Arow b a poles residues _ i hi]
    have hB : (dcfOf b a poles residues).B i = 1 := rfl
    rw [hB]
    have := hne i hi
    field_simp
  · intro X hX
    rw [dcf_transfer_partial b a poles residues s hp hr hne X hX, ← hpf s hs]
    field_simp

/-- non-vacuity: (3s² + 2s + 5)/(2s³ + 4s² + 7s + 1) is a proper transfer function -/
example : ProperTF ([3, 2, 5] : List ℚ) [2, 4, 7, 1] := by
  refine ⟨by simp, by norm_num [coef], by simp⟩

end Lcapy.C15
