/-
  PROPERTY C07 -- the netlist that `NetlistMaker` generates for a one-port tree has, at its
  two terminals, exactly the tree's relational semantics; so nodal analysis of `net.cct` (C01: MNA ⇔
  `Laws`) and the network algebra (`ser_thevenin` / `par_norton`: Z, Y, Voc, Isc ⇔ relation) describe
  the same thing, for every tree.

  Model : `Net.make`, `serMake`, `parMake`, `Leaf.make` of Model/OnePortNetlist.lean (mirror of
          `Ser/Par/Network/G._net_make`, on equipotential nodes).
  Spec  : `Net.rel` (Spec/OnePort.lean); `lawsOf`, `kclAt`, `Laws` (Spec/PortRel.lean, Spec/Laws.lean).
  Helper lemmas are in Lcapy/Proofs/OnePortNetlist.lean.
-/
import Lcapy.Proofs.OnePortNetlist
import Lcapy.Proofs.OnePortScan
import Lcapy.Props.C07
namespace Lcapy.C07
open Lcapy Lcapy.OnePort Lcapy.MNA Ix
variable {K : Type} [Field K] [DecidableEq K]

mutual
/-- **make_good**: for every drawable tree, between any two distinct terminals `a ≠ 0`, `b` and with
    fresh indices from `k` on, the generated components (i) use only indices ≥ k besides the terminals,
    (ii) admit, under the component laws and KCL at their interior nodes, only terminal pairs (v, i) of
    the tree's relation, and (iii) admit every such pair.  Structural induction on the tree. -/
theorem make_good (s : K) : (n : Net K) → n.drawable = true → ∀ a b k, a ≠ 0 → a ≠ b → a < k → b < k →
    Good s (n.rel s) a b k (n.make s a b k)
  | .leaf l, h, a, b, k, _, hab, hak, hbk => by
      simp only [Net.drawable] at h
      simpa [Net.make, Net.rel] using good_leaf s l h a b k hab hak hbk
  | .ser as, h, a, b, k, ha0, hab, hak, hbk => by
      simp only [Net.drawable, Bool.and_eq_true, Bool.not_eq_true', List.isEmpty_eq_false_iff] at h
      simpa [Net.make, Net.rel] using serMake_good s as h.1 h.2 a b k ha0 hab hak hbk
  | .par as, h, a, b, k, ha0, hab, hak, hbk => by
      simp only [Net.drawable] at h
      simpa [Net.make, Net.rel] using parMake_good s as h a b k ha0 hab hak hbk
theorem serMake_good (s : K) : (as : List (Net K)) → as ≠ [] → allDrawable as = true →
    ∀ a b k, a ≠ 0 → a ≠ b → a < k → b < k → Good s (relSer s as) a b k (serMake s as a b k)
  | [], h, _, _, _, _, _, _, _, _ => absurd rfl h
  | [x], _, hd, a, b, k, ha0, hab, hak, hbk => by
      simp only [allDrawable, Bool.and_true] at hd
      have := make_good s x hd a b k ha0 hab hak hbk
      simp only [serMake, relSer]
      exact this.congr (fun v i => ((SerRel_zero_right (x.rel s)) v i).symm)
  | x :: y :: t, _, hd, a, b, k, ha0, hab, hak, hbk => by
      simp only [allDrawable, Bool.and_eq_true] at hd
      have g1 := make_good s x hd.1 a k (k + 1) ha0 (by omega) (by omega) (by omega)
      have hk1 := g1.mono
      have g2 := serMake_good s (y :: t) (by simp) (by simp [allDrawable, hd.2]) k b (x.make s a k (k + 1)).2
        (by omega) (by omega) (by omega) (by omega)
      simp only [serMake]
      exact good_series s _ _ a b k _ _ ha0 hab hak hbk g1 g2
theorem parMake_good (s : K) : (as : List (Net K)) → allDrawable as = true →
    ∀ a b k, a ≠ 0 → a ≠ b → a < k → b < k → Good s (relPar s as) a b k (parMake s as a b k)
  | [], _, a, b, k, _, _, _, _ => by simpa [parMake, relPar] using good_par_nil s a b k
  | x :: t, hd, a, b, k, ha0, hab, hak, hbk => by
      simp only [allDrawable, Bool.and_eq_true] at hd
      have g1 := make_good s x hd.1 a b k ha0 hab hak hbk
      have hk1 := g1.mono
      have g2 := parMake_good s t hd.2 a b (x.make s a b k).2 ha0 hab (by omega) (by omega)
      simp only [parMake, relPar]
      exact good_parallel s _ _ a b k _ _ ha0 hab hak hbk g1 g2
end

/-- the port relation of a netlist between `a` (+) and `b` (−) whose interior unknowns have indices in
    [k, k'): some assignment obeys every component law and KCL at every interior node, with `v` across
    the terminals and `i` flowing into `a` -/
def NetlistPortRel (s : K) (cs : List (Cpt K)) (a b k k' : Nat) (v i : K) : Prop :=
  ∃ x, vd x a b = v ∧ lawsOf .ivp s cs x ∧ (∀ j, k ≤ j → j < k' → kclAt .ivp s cs x j = 0) ∧
    kclAt .ivp s cs x a = i

/-- **net_to_netlist_sound**: `NetlistMaker` calls `net._net_make(self, 1, 0)` with the counter at 2; the
    generated netlist admits at the port (1, 0) exactly the (v, i) pairs of the tree -/
theorem net_to_netlist_sound (s : K) (n : Net K) (hd : n.drawable = true) (v i : K) :
    NetlistPortRel s (n.make s 1 0 2).1 1 0 2 (n.make s 1 0 2).2 v i ↔ n.rel s v i := by
  have g := make_good s n hd 1 0 2 (by decide) (by decide) (by decide) (by decide)
  constructor
  · rintro ⟨x, rfl, hl, hk, rfl⟩
    exact (g.sound x hl hk).1
  · intro h
    let x0 : Ix → K := fun ix => if ix = node 1 then v else 0
    have hv : vd x0 1 0 = v := by simp [vd, volt, x0]
    obtain ⟨x, e, hl, hk, hc⟩ := g.complete x0 i (by rw [hv]; exact h)
    refine ⟨x, ?_, hl, hk, hc⟩
    rw [vd_congr_of 1 0 (e _ (not_inRange_node_lt (by decide))) (e _ (not_inRange_node_lt (by decide))), hv]

/-- **net_to_netlist_laws** (the link to C01): drive the generated netlist with an ideal voltage source `e`
    across its port; every solution of the complete circuit in the sense of C01's `Laws` (which `mna_iff_laws`
    identifies with the MNA system Lcapy solves) puts the pair (e, −J_source) on the tree's relation -- hence,
    by `ser_thevenin` / `par_norton`, on the line v = Voc + Z·i / i = Y·v − Isc that the network algebra reports. -/
theorem net_to_netlist_laws (s : K) (n : Net K) (hd : n.drawable = true) (e : K) (x : Ix → K)
    (hx : Laws .ivp s ((n.make s 1 0 2).1 ++ [.V 1 0 (n.make s 1 0 2).2 e]) x) :
    n.rel s e (-x (br (n.make s 1 0 2).2)) := by
  have g := make_good s n hd 1 0 2 (by decide) (by decide) (by decide) (by decide)
  have hk2 := g.mono
  rw [Laws_iff, lawsOf_append] at hx
  obtain ⟨hk, hl, hV⟩ := hx
  have hve : vd x 1 0 = e := by
    have := hV _ List.mem_cons_self ((n.make s 1 0 2).2, _) (by simp [laws]; rfl)
    linear_combination this
  have hint : ∀ j, 2 ≤ j → j < (n.make s 1 0 2).2 → kclAt .ivp s (n.make s 1 0 2).1 x j = 0 := by
    intro j h1 h2
    have := hk j (by omega)
    rw [kclAt_append] at this
    simp only [kclAt, List.map_cons, List.map_nil, lsum, outflow] at this
    rw [twoTerm_of_ne 1 0 j _ (by omega) (by omega), add_zero, add_zero] at this
    exact this
  have h1 := hk 1 (by decide)
  rw [kclAt_append] at h1
  simp only [kclAt, List.map_cons, List.map_nil, lsum, outflow] at h1
  rw [twoTerm_at_first 1 0 (by decide), add_zero] at h1
  have hs := (g.sound x hl hint).1
  rw [hve] at hs
  have : kclAt .ivp s (n.make s 1 0 2).1 x 1 = -x (br (n.make s 1 0 2).2) := by
    simp only [kclAt]; linear_combination h1
  rw [this] at hs
  exact hs

/-- … and with the Thévenin bookkeeping of the algebra: the driven netlist's source current is
    determined by the (Z, Voc) that `Ser.impedance` / `Ser.Voc` report -/
theorem netlist_agrees_with_algebra (s : K) (n : Net K) (hd : n.drawable = true) (ht : n.tOK s = true)
    (e : K) (x : Ix → K)
    (hx : Laws .ivp s ((n.make s 1 0 2).1 ++ [.V 1 0 (n.make s 1 0 2).2 e]) x) :
    e = n.voc s + n.imp s * (-x (br (n.make s 1 0 2).2)) :=
  (ser_thevenin s n ht (icOK_always s n) _ _).mp (net_to_netlist_laws s n hd e x hx)

/-- non-vacuity: `(R 2 + L 3 (i0 = 1)) | C 4 (v0 = 5)` is drawable; its netlist is
    `R 1 2 2; L 2 0 3 1 (branch 3); C 1 0 4 5` with the series join on node 2 -/
example :
    let n : Net ℚ := .par [.ser [.leaf (.R 2), .leaf (.L 3 (some 1))], .leaf (.C 4 (some 5))]
    n.drawable = true ∧ (n.make (2 : ℚ) 1 0 2).2 = 4 ∧ ((n.make (2 : ℚ) 1 0 2).1).length = 3 := by
  decide +kernel

end Lcapy.C07
