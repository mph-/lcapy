/-
  PROPERTY C07 -- `ParSer.simplify()` never changes the relation of a one-port, hence none
  of Z, Y, Voc, Isc (clause "Simplifying a network never changes any of these quantities").

  Model : `Net.simplify`, `flatten`, `scan`, `absorb`, `combine` of Model/OnePort.lean (mirror of
          `ParSer.simplify` / `ParSer._combine`); side conditions `Net.simpGuard` of Model/OnePortGuard.lean.
  Spec  : `Net.rel` of Spec/OnePort.lean.
  Helper lemmas are in Lcapy/Proofs/OnePortScan.lean.
-/
import Lcapy.Proofs.OnePortScan
import Lcapy.Props.C07
namespace Lcapy.C07
open Lcapy Lcapy.OnePort
variable {K : Type} [Field K] [DecidableEq K]

mutual
/-- **simplify_sound**: for every one-port tree of any depth and width, whenever `simplify()` returns a
    network (it may refuse: series inductors / parallel capacitors with different initial conditions,
    a constructor rejecting the flattened arguments) and every combination it performs is within the
    side condition of its rule (`simpGuard`: the divisions of G+G, C+C, R|R, L|L are defined), the
    result admits exactly the (v, i) pairs of the original -- whatever the order in which the scan
    meets the combinable pairs.  Induction over the tree, the argument list and the scan. -/
theorem simplify_sound (s : K) : (n m : Net K) → n.simplify = .ok m → n.simpGuard s = true →
    REq (n.rel s) (m.rel s)
  | .leaf l, m, h, _ => by cases h; exact REq.refl _
  | .ser as, m, h, hg => by
      simp only [Net.simpGuard, Bool.and_eq_true] at hg
      obtain ⟨⟨flat, new⟩, hf, h⟩ := bind_ok h
      rw [hf] at hg
      exact (flatten_sound s .ser as flat new hf hg.1).trans (simplify_finish s .ser flat new m h hg.2)
  | .par as, m, h, hg => by
      simp only [Net.simpGuard, Bool.and_eq_true] at hg
      obtain ⟨⟨flat, new⟩, hf, h⟩ := bind_ok h
      rw [hf] at hg
      exact (flatten_sound s .par as flat new hf hg.1).trans (simplify_finish s .par flat new m h hg.2)
/-- the flattening loop: simplified sub-networks, same-class sub-networks spliced in -/
theorem flatten_sound (s : K) (op : Op) : (as flat : List (Net K)) → (new : Bool) →
    flatten op as = .ok (flat, new) → flattenGuard s as = true → REq (relArgs s op as) (relArgs s op flat)
  | [], flat, new, h, _ => by cases h; exact REq.refl _
  | .leaf l :: t, flat, new, h, hg => by
      obtain ⟨⟨r, nw⟩, hr, h⟩ := bind_ok h
      cases h
      exact relArgs_congr_tail s op _ (flatten_sound s op t r _ hr hg)
  | .ser xs0 :: t, flat, new, h, hg => by
      simp only [flattenGuard, Bool.and_eq_true] at hg
      obtain ⟨n', hn, h⟩ := bind_ok h
      obtain ⟨⟨r, nw⟩, hr, h⟩ := bind_ok h
      exact flatten_step s op _ n' t r flat new h (simplify_sound s _ n' hn hg.1) (flatten_sound s op t r nw hr hg.2)
  | .par xs0 :: t, flat, new, h, hg => by
      simp only [flattenGuard, Bool.and_eq_true] at hg
      obtain ⟨n', hn, h⟩ := bind_ok h
      obtain ⟨⟨r, nw⟩, hr, h⟩ := bind_ok h
      exact flatten_step s op _ n' t r flat new h (simplify_sound s _ n' hn hg.1) (flatten_sound s op t r nw hr hg.2)
end

/-- consequently `simplify()` changes none of Z, Voc (Thévenin) and Y, Isc (Norton): any pair that describes
    the original describes the simplified network -/
theorem simplify_preserves_thevenin_norton (s : K) (n m : Net K) (h : n.simplify = .ok m) (hg : n.simpGuard s = true)
    (Z Voc Y Isc : K) :
    (IsThevenin s n Z Voc ↔ IsThevenin s m Z Voc) ∧ (IsNorton s n Y Isc ↔ IsNorton s m Y Isc) := by
  have hr := simplify_sound s n m h hg
  constructor
  · constructor
    · intro ht v i; rw [← hr v i]; exact ht v i
    · intro ht v i; rw [hr v i]; exact ht v i
  · constructor
    · intro ht v i; rw [← hr v i]; exact ht v i
    · intro ht v i; rw [hr v i]; exact ht v i

/-- non-vacuity: `(R 2 | (C 3 (v0 = 5) + C 6) | R 3) + L 1 + L 2` at s = 2: simplify succeeds (it merges
    R 2 | R 3 across the nested series, C 3 + C 6 and L 1 + L 2 into a two-argument series) and the guard holds -/
example :
    let n : Net ℚ := .ser [.par [.leaf (.R 2), .ser [.leaf (.C 3 (some 5)), .leaf (.C 6 none)], .leaf (.R 3)],
                           .leaf (.L 1 none), .leaf (.L 2 none)]
    n.simpGuard 2 = true ∧
    (match n.simplify with
     | .ok (.ser [.par [.leaf (.R _), .leaf (.C _ _)], .leaf (.L _ _)]) => true
     | _ => false) = true := by
  decide +kernel

end Lcapy.C07
