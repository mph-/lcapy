/-
  PROPERTY C14, clause "converting a sinusoid to a phasor and back returns the same sinusoid", for the conversion code
  of lcapy/acdc.py (`ACChecker`) and lcapy/phasor.py as GENERATED into Lcapy/Generated/ACTable.lean on every run:

   * `term_phasor_sound`   : A·cos(ωt+φ) ↦ A e^{jφ};  A·sin(ωt+φ) ↦ A e^{j(φ−π/2)}: both are `toPh` of the sinusoid
   * `sum_xy_sound`, `sum_branches_sound`, `acchecker_sum_sound` : the phasor of a sum of two same-frequency terms is the
     sum of their phasors, in EVERY branch of `_is_sum_ac` (in-phase parts cancel, quadrature parts cancel, negative
     resulting amplitude, generic)
   * `time_form_sound`, `time_roundtrip`, `phasor_roundtrip`: `time()` is Re(P e^{jωt}) and inverts `phasor()`
   * `rms_sound`, `mag_polar`: rms² = |P|²/2; magnitude and phase of amp·e^{jφ}
-/
import Lcapy.Generated.ACTable
import Lcapy.Proofs.Phasor
import Mathlib.Tactic.LinearCombination
namespace Lcapy.C14
open Lcapy.AC Lcapy.TDS Lcapy.Cx
variable {K : Type} [Field K]

/-- **term_phasor_sound**: for both functions the code recognises, the phasor the table gives A·f(ωt + φ) is the
    phasor (a − j b) of that sinusoid written as a·cos ωt + b·sin ωt (angle-addition formulas: `polar_is_rect`). -/
theorem term_phasor_sound (f : String) (A c s : K) (u : Sinus K) (h : termSinus f A c s = some u) :
    termPhasor Gen.AC.fromTime Gen.AC.funcPhase f A c s = some (toPh u) := by
  unfold termSinus at h
  split_ifs at h with h1 h2
  · subst h1; cases h
    simp only [termPhasor, Gen.AC.fromTime, Gen.AC.funcPhase, List.lookup, Option.bind, Angle.unit]
    simp; ext <;> simp [toPh]
  · subst h2; cases h
    simp only [termPhasor, Gen.AC.fromTime, Gen.AC.funcPhase, List.lookup, Option.bind, Angle.unit]
    simp; ext <;> simp [toPh]

/-- the x, y the code computes are the real and imaginary part of the sum of the two phasors -/
theorem sum_xy_sound (A1 c1 s1 A2 c2 s2 : K) :
    (⟨Gen.AC.sumX A1 c1 s1 A2 c2 s2, Gen.AC.sumY A1 c1 s1 A2 c2 s2⟩ : Cx K) =
      ofReal A1 * ⟨c1, s1⟩ + ofReal A2 * ⟨c2, s2⟩ := by
  ext <;> simp [Gen.AC.sumX, Gen.AC.sumY]

/-- **sum_branches_sound**: whatever x and y are — y = 0 (phase 0, amplitude x of either sign), x = 0 (phase π/2,
    amplitude y), or generic — the (phase, amplitude) the branch table selects denotes x + j y. -/
theorem sum_branches_sound [DecidableEq K] (x y : K) :
    (pick x y Gen.AC.sumBranches).bind (branchRect Gen.AC.fromTime x y) = some ⟨x, y⟩ := by
  by_cases hy : y = 0
  · subst hy
    simp [pick, Gen.AC.sumBranches, Cond.holds, branchRect, Gen.AC.fromTime, Angle.unit]
    ext <;> simp
  · by_cases hx : x = 0
    · subst hx
      simp [pick, Gen.AC.sumBranches, Cond.holds, hy, branchRect, Gen.AC.fromTime, Angle.unit]
      ext <;> simp
    · simp [pick, Gen.AC.sumBranches, Cond.holds, hy, hx, branchRect, Gen.AC.fromTime]

/-- **acchecker_sum_sound**: the phasor of the sum of two same-frequency terms is the sum of their phasors. -/
theorem acchecker_sum_sound [DecidableEq K] (A1 c1 s1 A2 c2 s2 : K) :
    sumPhasor Gen.AC.fromTime Gen.AC.sumBranches Gen.AC.sumX Gen.AC.sumY A1 c1 s1 A2 c2 s2 =
      some (ofReal A1 * ⟨c1, s1⟩ + ofReal A2 * ⟨c2, s2⟩) := by
  simp only [sumPhasor]
  rw [sum_branches_sound, sum_xy_sound]

/-- **time_form_sound**: `PhasorDomainExpression.time` is Re(P·e^{jωt}) -/
theorem time_form_sound (p : Cx K) (C S : K) :
    Gen.AC.timeForm p.re p.im C S = (toTime p).at C S ∧ Gen.AC.timeForm p.re p.im C S = (p * ⟨C, S⟩).re := by
  constructor <;> simp [Gen.AC.timeForm, toTime, Sinus.at] <;> ring

/-- **time_roundtrip / phasor_roundtrip**: sinusoid → phasor → sinusoid and phasor → sinusoid → phasor are identities -/
theorem time_roundtrip (u : Sinus K) (C S : K) : Gen.AC.timeForm (toPh u).re (toPh u).im C S = u.at C S := by
  rw [(time_form_sound (toPh u) C S).1, toTime_toPh]

theorem phasor_roundtrip (p : Cx K) : toPh (toTime p) = p := toPh_toTime p

/-- **rms_sound**: with √2·√2 = 2 and |P|·|P| = |P|², the code's rms squares to |P|²/2 -/
theorem rms_sound (p : Cx K) (absP sqrt2 : K) (h2 : sqrt2 * sqrt2 = 2) (ha : absP * absP = magSq p) (h20 : (2 : K) ≠ 0) :
    Gen.AC.rmsForm absP sqrt2 * Gen.AC.rmsForm absP sqrt2 = magSq p / 2 := by
  simp only [Gen.AC.rmsForm]
  field_simp
  have e : absP ^ 2 * sqrt2 ^ 2 = (absP * absP) * (sqrt2 * sqrt2) := by ring
  rw [e, ha, h2]; ring

/-- **mag_polar**: the phasor amp·e^{jφ} (c² + s² = 1) has |P|² = amp² and sits at angle φ: P = amp·(c + j s) -/
theorem mag_polar (amp c s : K) (h : c * c + s * s = 1) :
    magSq (ofReal amp * ⟨c, s⟩) = amp * amp := by
  simp [magSq]
  linear_combination (amp * amp) * h

/-- non-vacuity of the cancelling branches: 2·sin(ωt) + 3·sin(ωt) has in-phase part 0 → phasor −5j;
    cos(ωt + φ) − cos(ωt − φ) with (cos φ, sin φ) = (3/5, 4/5) → phasor 8/5·j (so the signal is −8/5·sin ωt) -/
example : sumPhasor Gen.AC.fromTime Gen.AC.sumBranches Gen.AC.sumX Gen.AC.sumY (2 : ℚ) 0 (-1) 3 0 (-1) = some ⟨0, -5⟩ := by
  decide +kernel

example : sumPhasor Gen.AC.fromTime Gen.AC.sumBranches Gen.AC.sumX Gen.AC.sumY (1 : ℚ) (3/5) (4/5) (-1) (3/5) (-4/5) = some ⟨0, 8/5⟩ := by
  decide +kernel

/-- non-vacuity of `term_phasor_sound`: 5·sin(ωt + φ), (cos φ, sin φ) = (3/5, 4/5), is 4·cos ωt + 3·sin ωt -/
example : termSinus "sin" (5 : ℚ) (3/5) (4/5) = some ⟨4, 3⟩ := by
  decide +kernel

/-- non-vacuity of `mag_polar`: a rational unit vector -/
example : ((3 : ℚ) / 5) * (3 / 5) + (4 / 5) * (4 / 5) = 1 := by norm_num

end Lcapy.C14
