/-
  Machine-checked NON-VACUITY witnesses for Props/C19.lean and C19Forms.lean.
  Running example: the RC driving-point impedance  Z(s) = (s² + 4s + 3)/(s² + 2s)  (coefficient lists ascending:
  N = [3, 4, 1], D = [0, 2, 1]), evaluated at s = 2 where Z = 15/8; the LC impedance (1 + s²)/s for the
  continued-fraction step; Z = (3 + 5s + 2s²)/s = 3/s + 5 + 2s for the pattern forms.
-/
import Lcapy.Props.C19
import Lcapy.Props.C19Forms
import Mathlib.Tactic
set_option linter.defProp false
namespace Lcapy.NonVacuity.C19
open Lcapy Lcapy.Poly Lcapy.Ratfun Lcapy.Synth Lcapy.C19

def Nz : List ℚ := [3, 4, 1]
def Dz : List ℚ := [0, 2, 1]
def env2 : Env ℚ := ⟨2, fun _ => 0, 0⟩
def noConj : ℚ → ℚ → Bool := fun _ _ => false

theorem FRes.exists_ok {r : FRes ℚ} (h : r.isOk = true) : ∃ n, r = .ok n := by
  cases r <;> simp [FRes.isOk] at h; exact ⟨_, rfl⟩
theorem NRes.exists_ok {r : NRes ℚ} (h : r.isOk = true) : ∃ n, r = .ok n := by
  cases r <;> simp [NRes.isOk] at h; exact ⟨_, rfl⟩

theorem OO.exists_some {o : Option (Option (Net ℚ))} (h : (o.bind id).isSome = true) : ∃ n, o = some (some n) := by
  cases o with
  | none => simp at h
  | some o => cases o with
    | none => simp at h
    | some n => exact ⟨n, rfl⟩

/-! ## Props/C19.lean -/

def nv_cf_step := cf_step ([1, 0, 1] : List ℚ) [0, 1] 1 1 [1] (by decide +kernel) (by decide +kernel) 5

def nv_cf_terminates := cf_terminates 7 Nz Dz (by decide +kernel) (by decide +kernel)

/-- the Cauer-I coefficients of Z: 1, s/2, 4, s/6  (R = 1, C = 1/2, R = 4, C = 1/6) -/
theorem cs_Z : cfRun 7 Nz Dz = .ok [(1, 0), (1/2, 1), (4, 0), (1/6, 1)] := by decide +kernel

def nv_cf_value := cf_value 7 Nz Dz _ env2 cs_Z (by decide +kernel)

theorem ladder_Z : LadderDefined false (2 : ℚ) [(1, 0), (1/2, 1), (4, 0), (1/6, 1)] := by
  simp [LadderDefined, cfVal, monoVal, npow]; norm_num

theorem nv_cauerI_realises : ∃ net : Net ℚ, cauerI true [(1, 0), (1/2, 1), (4, 0), (1/6, 1)] = some (some net) ∧
    net.Z 2 = cfVal false 2 [(1, 0), (1/2, 1), (4, 0), (1/6, 1)] := by
  obtain ⟨net, h⟩ := OO.exists_some (o := cauerI true [((1 : ℚ), 0), (1/2, 1), (4, 0), (1/6, 1)]) (by decide +kernel)
  exact ⟨net, h, cauerI_realises 2 _ net h ladder_Z⟩

theorem nv_cauerI_realises_ratfun : ∃ net : Net ℚ, cauerI true [(1, 0), (1/2, 1), (4, 0), (1/6, 1)] = some (some net) ∧
    net.Z 2 = Poly.eval Nz 2 / Poly.eval Dz 2 := by
  obtain ⟨net, h⟩ := OO.exists_some (o := cauerI true [((1 : ℚ), 0), (1/2, 1), (4, 0), (1/6, 1)]) (by decide +kernel)
  exact ⟨net, h, cauerI_realises_ratfun 7 Nz Dz _ net env2 cs_Z (by decide +kernel) h ladder_Z⟩

theorem nv_value_15_8 : Poly.eval Nz 2 / Poly.eval Dz 2 = 15 / 8 := by norm_num [Nz, Dz, Poly.eval]

/-- Cauer II: coefficients of 1/Z = D/N in 1/s:  0, (3/2)/s, 4/5, (25/2)/s, 1/5 -/
theorem csi_Z : cfiCoeffs Dz Nz = .ok [(0, 0), (3/2, 1), (4/5, 0), (25/2, 1), (1/5, 0)] := by decide +kernel

theorem ladderII_Z : LadderDefined true (2 : ℚ) [(0, 0), (3/2, 1), (4/5, 0), (25/2, 1), (1/5, 0)] := by
  simp [LadderDefined, cfVal, monoVal, npow]; norm_num

theorem netII_exists : ∃ net : Net ℚ,
    cauerII true true [((0 : ℚ), 0), (3/2, 1), (4/5, 0), (25/2, 1), (1/5, 0)] = some (some net) ∧ net.Z 2 ≠ 0 := by
  obtain ⟨net, h⟩ := OO.exists_some (o := cauerII true true [((0 : ℚ), 0), (3/2, 1), (4/5, 0), (25/2, 1), (1/5, 0)])
    (by decide +kernel)
  refine ⟨net, h, ?_⟩
  simp [cauerII, monoCollInv, seriesRL, parallelGC, optNet, serO, parO] at h
  rw [← h]; norm_num [Net.Z]

theorem nv_cauerII_realises_ratfun : ∃ net : Net ℚ,
    cauerII true true [(0, 0), (3/2, 1), (4/5, 0), (25/2, 1), (1/5, 0)] = some (some net) ∧
    net.Z 2 = Poly.eval Nz 2 / Poly.eval Dz 2 := by
  obtain ⟨net, hc, hz⟩ := netII_exists
  exact ⟨net, hc, cauerII_realises_ratfun Nz Dz _ net 2 (by norm_num) csi_Z (by decide) (by decide +kernel) hc ladderII_Z hz⟩

theorem nv_cauerII_realises : ∃ net : Net ℚ,
    cauerII true true [(0, 0), (3/2, 1), (4/5, 0), (25/2, 1), (1/5, 0)] = some (some net) ∧
    1 / net.Z 2 = cfVal true 2 [(0, 0), (3/2, 1), (4/5, 0), (25/2, 1), (1/5, 0)] := by
  obtain ⟨net, hc, hz⟩ := netII_exists
  exact ⟨net, hc, cauerII_realises 2 _ net hc ladderII_Z hz⟩

def nv_cfi_value := cfi_value Dz Nz _ 2 (by norm_num) csi_Z (by decide) (by decide +kernel)

def nv_cfi_terminates := cfi_terminates 13 Dz Nz (by decide +kernel) (by decide +kernel) (by decide +kernel)

def nv_cauerI_rejects := cauerI_rejects (3 : ℚ) 2 (by decide) (by norm_num) [(1, 1)] true

/-- 3/s + 5 + 2s -/
def dRLC : Coll ℚ := ⟨some 5, some 2, some 3, false⟩

theorem dRLC_nonzero : dRLC.EntriesNonzero := by
  refine ⟨fun v h => ?_, fun v h => ?_, fun v h => ?_⟩ <;>
  · simp only [dRLC, Option.some.injEq] at h; subst h; norm_num

def nv_series_forms_realise :=
  series_forms_realise dRLC 2 _ (by norm_num) (Or.inr (Or.inr (Or.inr (Or.inr (rfl : seriesRLC dRLC = some (some _))))))
    dRLC_nonzero

theorem nv_parallel_forms_realise : ∃ net : Net ℚ, parallelRLC dRLC = some (some net) ∧ 1 / net.Z 2 = dRLC.value 2 := by
  refine ⟨_, rfl, parallel_forms_realise dRLC 2 _ (by norm_num) ?_ (Or.inr (Or.inr (Or.inr (Or.inr rfl)))) dRLC_nonzero⟩
  norm_num [Net.Z, dRLC]

def nv_reject_otherwise := reject_otherwise (⟨some 1, none, none, true⟩ : Coll ℚ) rfl
def nv_reject_missing_element := reject_missing_element dRLC

def nv_serAll_Z :=
  serAll_Z [Net.R (1 : ℚ), .par (.R 3) (.C (1/3)), .L 2] _ 2 rfl
def nv_parAll_Y :=
  parAll_Y [Net.R (1 : ℚ), .ser (.R 3) (.C (1/3)), .L 2] _ 2 rfl

/-- Z = 1 + (3/2)/s + (1/2)/(s + 2): quotient 1, residues 3/2 at 0 and 1/2 at -2 -/
theorem nv_fosterI_realises_terms : ∃ net : Net ℚ,
    serAll [Net.R (1 : ℚ), .C (2/3), .par (.R (1/4)) (.C 2)] = some net ∧ net.Z 2 = Poly.eval Nz 2 / Poly.eval Dz 2 := by
  refine ⟨_, rfl, fosterI_realises_terms Nz Dz [1] [(0, 1), (-2, 1)] [(3/2, 0, 1), (1/2, -2, 1)]
    [.C (2/3), .par (.R (1/4)) (.C 2)] (.R 1) _ 2 (by decide +kernel) (by decide +kernel) ?_ ?_ rfl⟩
  · norm_num [Net.Z, Poly.eval]
  · norm_num [Net.Z]

/-! ## Props/C19Forms.lean -/

theorem pf_Z : pfData Nz Dz [(0, 1), (-2, 1)] = some ([1, 0, 0], [(3/2, 0, 1), (1/2, -2, 1)]) := by decide +kernel

def nv_partfrac_from_roots := partfrac_from_roots Nz Dz _ _ _ 2 pf_Z (by decide +kernel)

def nv_combine_preserves :=
  combine_preserves noConj [((3/2 : ℚ), (0 : ℚ), 1), (1/2, -2, 1)] 2 (by
    intro t ht; simp only [List.mem_cons, List.mem_nil_iff, or_false] at ht; rcases ht with rfl | rfl <;> norm_num)

theorem nv_fosterI_realises_ratfun : ∃ net : Net ℚ, fosterI noConj Nz Dz [(0, 1), (-2, 1)] = .ok net ∧
    net.Z 2 = Poly.eval Nz 2 / Poly.eval Dz 2 := by
  obtain ⟨net, h⟩ := FRes.exists_ok (r := fosterI noConj Nz Dz [(0, 1), (-2, 1)]) (by decide +kernel)
  exact ⟨net, h, fosterI_realises_ratfun noConj Nz Dz _ net 2 h (by norm_num) (by decide +kernel)⟩

theorem nv_fosterII_realises_ratfun : ∃ net : Net ℚ, fosterII noConj Nz Dz [(-1, 1), (-3, 1)] = .ok net ∧
    net.Z 2 = Poly.eval Nz 2 / Poly.eval Dz 2 := by
  obtain ⟨net, h⟩ := FRes.exists_ok (r := fosterII noConj Nz Dz [(-1, 1), (-3, 1)]) (by decide +kernel)
  exact ⟨net, h, fosterII_realises_ratfun noConj Nz Dz _ net 2 h (by norm_num) (by decide +kernel) (by decide +kernel)⟩

def nv_fosterI_accepts_iff := fosterI_accepts_iff noConj Nz Dz [(0, 1), (-2, 1)]

/-- (3 + 5s + 2s²)/s = 3/s + 5 + 2s -/
def Np : List ℚ := [3, 5, 2]
def Dp : List ℚ := [0, 1]

theorem shape_p : IsShape Np Dp 3 5 2 := by
  intro x; simp [Np, Dp, Poly.eval]; ring

def nv_coll_sound := coll_sound Np Dp (by decide +kernel) (by decide +kernel)
def nv_coll_complete := coll_complete Np Dp 3 5 2 (by decide +kernel) shape_p
def nv_accepts_iff := accepts_iff Np Dp (by decide +kernel)
def nv_accepts_iff_parallel := accepts_iff_parallel Dp Np (by decide +kernel)

theorem nv_pattern_realises_ratfun : ∃ net : Net ℚ, seriesForm seriesRLC false Np Dp = some (some net) ∧
    net.Z 2 = Poly.eval Np 2 / Poly.eval Dp 2 := by
  have hsome : ((seriesForm seriesRLC false Np Dp).bind id).isSome = true := by decide +kernel
  cases h : seriesForm seriesRLC false Np Dp with
  | none => rw [h] at hsome; simp at hsome
  | some o =>
    cases o with
    | none => rw [h] at hsome; simp at hsome
    | some net =>
      exact ⟨net, rfl, pattern_realises_ratfun .seriesRLC _ rfl Np Dp net 2 h (by norm_num) (by decide +kernel) (by decide +kernel)⟩

theorem nv_rlc_realises_ratfun : ∃ net : Net ℚ, rlcForm Np Dp = some (some net) ∧
    net.Z 2 = Poly.eval Np 2 / Poly.eval Dp 2 := by
  have hsome : ((rlcForm Np Dp).bind id).isSome = true := by decide +kernel
  cases h : rlcForm Np Dp with
  | none => rw [h] at hsome; simp at hsome
  | some o =>
    cases o with
    | none => rw [h] at hsome; simp at hsome
    | some net => exact ⟨net, rfl, rlc_realises_ratfun Np Dp net 2 h (by norm_num) (by decide +kernel) (by decide +kernel)⟩

/-- Z itself (two finite poles) has no shape cm/s + c0 + cp s: the series patterns raise -/
theorem nv_pattern_rejects : seriesRL (collOf Nz Dz) = none ∧ seriesRLC (collOf Nz Dz) = none := by
  have h := pattern_rejects Nz Dz (by decide +kernel) (by
    rintro ⟨cm, c0, cp, h⟩
    have h1 := h 1; have h2 := h (-1); have h3 := h 2; have h4 := h (-3)
    norm_num [Nz, Dz, Poly.eval] at h1 h2 h3 h4
    linarith)
  exact ⟨h.1, h.2.2.2.2⟩

def nv_network_not_impedance := network_not_impedance noConj .admittance "cauerI" Nz Dz [] [] (by decide)
def nv_network_unknown_form := network_unknown_form noConj "cauerIII" Nz Dz [] [] (by decide)

theorem csN_Z : cfCoeffs Nz Dz = .ok [(1, 0), (1/2, 1), (4, 0), (1/6, 1)] := by decide +kernel

def nv_cfCoeffs_value := cfCoeffs_value Nz Dz _ env2 csN_Z (by decide +kernel)

theorem side_cauerI : CauerSide "cauerI" Nz Dz 2 := by
  refine ⟨by decide +kernel, ?_⟩
  intro cs hcs
  rw [csN_Z] at hcs
  cases hcs
  exact ladder_Z

theorem side_cauerII : CauerSide "cauerII" Nz Dz 2 := by
  refine ⟨by decide, by decide +kernel, ?_⟩
  intro cs hcs
  rw [csi_Z] at hcs
  cases hcs
  exact ladderII_Z

theorem nv_network_realises_cauerI : ∃ net : Net ℚ, network noConj .impedance "cauerI" Nz Dz [] [] = .ok net ∧
    net.Z 2 = Poly.eval Nz 2 / Poly.eval Dz 2 := by
  obtain ⟨net, h⟩ := NRes.exists_ok (r := network noConj .impedance "cauerI" Nz Dz [] []) (by decide +kernel)
  exact ⟨net, h, network_realises noConj .impedance "cauerI" Nz Dz [] [] net 2 h (by norm_num) (by decide +kernel)
    (by decide +kernel) side_cauerI⟩

theorem nv_network_realises_cauerII : ∃ net : Net ℚ, network noConj .impedance "cauerII" Nz Dz [] [] = .ok net ∧
    net.Z 2 = Poly.eval Nz 2 / Poly.eval Dz 2 := by
  obtain ⟨net, h⟩ := NRes.exists_ok (r := network noConj .impedance "cauerII" Nz Dz [] []) (by decide +kernel)
  exact ⟨net, h, network_realises noConj .impedance "cauerII" Nz Dz [] [] net 2 h (by norm_num) (by decide +kernel)
    (by decide +kernel) side_cauerII⟩

theorem nv_network_realises_fosterII : ∃ net : Net ℚ,
    network noConj .impedance "fosterII" Nz Dz [(0, 1), (-2, 1)] [(-1, 1), (-3, 1)] = .ok net ∧
    net.Z 2 = Poly.eval Nz 2 / Poly.eval Dz 2 := by
  obtain ⟨net, h⟩ := NRes.exists_ok
    (r := network noConj .impedance "fosterII" Nz Dz [(0, 1), (-2, 1)] [(-1, 1), (-3, 1)]) (by decide +kernel)
  exact ⟨net, h, network_realises noConj .impedance "fosterII" Nz Dz _ _ net 2 h (by norm_num) (by decide +kernel)
    (by decide +kernel) trivial⟩

/-- R 2 in series with (R 3 ∥ C 1/3): Z = (5 + 2s)/(1 + s), transformed to Foster I (pole at -1) -/
def netT : Net ℚ := .ser (.R 2) (.par (.R 3) (.C (1 / 3)))

theorem nv_transform_preserves_Z : ∃ net' : Net ℚ, transform noConj "fosterI" netT [(-1, 1)] [] = .ok net' ∧
    net'.Z 2 = netT.Z 2 := by
  obtain ⟨net', h⟩ := NRes.exists_ok (r := transform noConj "fosterI" netT [(-1, 1)] []) (by decide +kernel)
  refine ⟨net', h, transform_preserves_Z noConj "fosterI" netT net' _ _ 2 h (by norm_num) ?_ ?_ trivial⟩
  · simp [netT, Net.DefinedAt, Net.Z]; norm_num
  · norm_num [netT, Net.Z]

end Lcapy.NonVacuity.C19
