/-
  PROPERTY C03 (kill, wire part) -- a killed voltage source is a wire, and a wire is a node merge.

  Lcapy's `kill` replaces a voltage source by a wire `W`; the netlist front-end then merges the two
  nodes of a wire into one equipotential node.  In the spec (Lcapy/Spec/Laws.lean) a wire between
  a and b with branch index m is the 0 V source `Cpt.V a b m 0`.  This file proves that, for ANY
  netlist `cs`, any analysis kind and the SAME assignment `x` on both sides,

      Laws (V a b m 0 :: cs) x   ↔   V(a) = V(b)  ∧  J_m = (what KCL at b asks for)
                                       ∧ Laws (cs with node b renamed to a) x

  (`kill_V_equiv`, mirrored orientation `kill_V_equiv_rev`): the KCL row of the merged node a is the
  sum of the rows of a and b, nothing touches b any more.  `wire_merge_sound` / `wire_merge_complete`
  give the explicit maps between the solutions of the two netlists, `wire_current_unique` says the
  wire current is determined, and `parallel_wires_current_free` / `self_loop_current_free` show that
  in a LOOP of wires it is not (any circulating current can be added).
  `brRefs`, `unmerge` (with which the theorems are stated) and the helper lemmas are in Lcapy/Proofs/WireMerge.lean.
-/
import Lcapy.Proofs.WireMerge
import Lcapy.Proofs.Witness
namespace Lcapy.C03
open Lcapy.MNA Lcapy.MNA.WireMerge Ix
variable {K : Type} [Field K]

/-- node b is renamed to a -/
def merge (a b : Nat) : Nat → Nat := fun k => if k = b then a else k

/-- **(1) kill_V_equiv**: the 0 V source (= wire) from a to b is equivalent to: equal potentials, the
    netlist with b renamed to a, and the wire current is what KCL at b says it is.  Same assignment
    on both sides, any netlist `cs`; a may be ground. -/
theorem kill_V_equiv (kind : Kind) (s : K) (cs : List (Cpt K)) (x : Ix → K) (a b m : Nat)
    (hb : b ≠ 0) (hab : a ≠ b) :
    Laws kind s (Cpt.V a b m 0 :: cs) x ↔
      (volt x a = volt x b ∧ x (br m) = lsum (cs.map (outflow kind s x b)) ∧
       Laws kind s (cs.map (Cpt.mapNodes (merge a b))) x) :=
  wire_core kind s cs x hb hab (Cpt.V a b m 0) (x (br m)) (fun _ => rfl) (laws_V0 kind s x a b m)

/-- **(2) kill_V_equiv_rev**: the mirrored orientation (the wire's SECOND node survives; needed when the
    second node is ground: `V n 0 m 0` merges n into ground) -/
theorem kill_V_equiv_rev (kind : Kind) (s : K) (cs : List (Cpt K)) (x : Ix → K) (a b m : Nat)
    (hb : b ≠ 0) (hab : a ≠ b) :
    Laws kind s (Cpt.V b a m 0 :: cs) x ↔
      (volt x a = volt x b ∧ x (br m) = -lsum (cs.map (outflow kind s x b)) ∧
       Laws kind s (cs.map (Cpt.mapNodes (merge a b))) x) := by
  rw [wire_core kind s cs x hb hab (Cpt.V b a m 0) (-x (br m)) (fun k => twoTerm_flip a b k _)
    ((laws_V0 kind s x b a m).trans eq_comm)]
  exact and_congr_right' (and_congr_left' neg_eq_iff_eq_neg)

/-- **(3a) wire_merge_sound**: every solution of the merged netlist gives, by the explicit map
    `unmerge`, a solution of the netlist with the wire (the wire's branch index must be its own) -/
theorem wire_merge_sound (kind : Kind) (s : K) (cs : List (Cpt K)) (a b m : Nat)
    (hb : b ≠ 0) (hab : a ≠ b) (hm : ∀ c ∈ cs, m ∉ brRefs c) (y : Ix → K) :
    Laws kind s (cs.map (Cpt.mapNodes (merge a b))) y →
      Laws kind s (Cpt.V a b m 0 :: cs) (unmerge kind s cs a b m y) := by
  intro h
  rw [kill_V_equiv kind s cs _ a b m hb hab]
  have hxb : volt (unmerge kind s cs a b m y) b = volt y a := by
    rw [volt_of_ne_zero _ _ hb]; simp [unmerge]
  have hxa : volt (unmerge kind s cs a b m y) a = volt y a :=
    volt_congr _ y a (fun _ => by simp [unmerge, hab])
  have hvx : ∀ n, volt (unmerge kind s cs a b m y) (merge a b n) = volt y (merge a b n) :=
    fun n => volt_congr _ _ _ (fun _ => by
      have : merge a b n ≠ b := mergeNode_ne hab n
      simp [unmerge, this])
  have hbrx : ∀ c ∈ cs, ∀ j ∈ brRefs c, unmerge kind s cs a b m y (br j) = y (br j) := by
    intro c hc j hj
    have hjm : j ≠ m := fun e => hm c hc (e ▸ hj)
    simp [unmerge, hjm]
  refine ⟨hxa.trans hxb.symm, ?_, ?_⟩
  · have h0 : unmerge kind s cs a b m y (br m) =
        lsum (cs.map (outflow kind s (fun j => if j = node b then volt y a else y j) b)) := by
      simp [unmerge]
    rw [h0]
    refine kcl_congr kind s cs _ _ b fun c hc => outflow_congr_refs kind s _ _ c (fun n => ?_) (fun j hj => ?_) b
    · apply volt_congr; intro _; simp [unmerge]
    · have hjm : j ≠ m := fun e => hm c hc (e ▸ hj)
      simp [unmerge, hjm]
  · refine Laws_congr kind s _ y _ ?_ ?_ h
    · intro c' hc' k
      obtain ⟨c, hc, rfl⟩ := List.mem_map.mp hc'
      exact (outflow_mapNodes_congr kind s _ _ _ c hvx (hbrx c hc) k).symm
    · intro c' hc'
      obtain ⟨c, hc, rfl⟩ := List.mem_map.mp hc'
      exact (laws_mapNodes_congr kind s _ _ _ c hvx (hbrx c hc)).symm

/-- `unmerge` only changes the potential of the removed node b and the wire current -/
theorem unmerge_agrees (kind : Kind) (s : K) (cs : List (Cpt K)) (a b m : Nat) (y : Ix → K) :
    (∀ k, k ≠ b → unmerge kind s cs a b m y (node k) = y (node k)) ∧
    (∀ k, k ≠ m → unmerge kind s cs a b m y (br k) = y (br k)) ∧
    unmerge kind s cs a b m y (node b) = volt y a :=
  ⟨fun k hk => by simp [unmerge, hk], fun k hk => by simp [unmerge, hk], by simp [unmerge]⟩

/-- **(3b) wire_merge_complete**: every solution of the netlist with the wire solves the merged
    netlist as it stands -/
theorem wire_merge_complete (kind : Kind) (s : K) (cs : List (Cpt K)) (x : Ix → K) (a b m : Nat)
    (hb : b ≠ 0) (hab : a ≠ b) :
    Laws kind s (Cpt.V a b m 0 :: cs) x → Laws kind s (cs.map (Cpt.mapNodes (merge a b))) x :=
  fun h => ((kill_V_equiv kind s cs x a b m hb hab).mp h).2.2

/-- **(3c) wire_current_unique**: the wire current is determined when the wire is not in a loop of
    wires: two solutions that agree everywhere except possibly at `br m` agree there too -/
theorem wire_current_unique (kind : Kind) (s : K) (cs : List (Cpt K)) (a b m : Nat)
    (hb : b ≠ 0) (hab : a ≠ b) (hm : ∀ c ∈ cs, m ∉ brRefs c) (x x' : Ix → K)
    (hx : Laws kind s (Cpt.V a b m 0 :: cs) x) (hx' : Laws kind s (Cpt.V a b m 0 :: cs) x')
    (hagree : ∀ i, i ≠ br m → x i = x' i) : x (br m) = x' (br m) := by
  rw [((kill_V_equiv kind s cs x a b m hb hab).mp hx).2.1, ((kill_V_equiv kind s cs x' a b m hb hab).mp hx').2.1]
  refine kcl_congr kind s cs x x' b fun c hc => outflow_congr_refs kind s x x' c (fun n => ?_) (fun j hj => ?_) b
  · apply volt_congr; intro _; exact hagree _ (by simp)
  · exact hagree _ (fun e => hm c hc (by rw [← Ix.br.inj e]; exact hj))

/-- **(4a) parallel_wires_current_free**: loops of wires — the currents are NOT unique.  Two parallel
    wires between a and b (a, b arbitrary, including a = b): any circulating current d can be added. -/
theorem parallel_wires_current_free (kind : Kind) (s : K) (cs : List (Cpt K)) (x : Ix → K) (a b m m' : Nat)
    (hmm : m ≠ m') (hm : ∀ c ∈ cs, m ∉ brRefs c) (hm' : ∀ c ∈ cs, m' ∉ brRefs c) (d : K)
    (h : Laws kind s (Cpt.V a b m 0 :: Cpt.V a b m' 0 :: cs) x) :
    Laws kind s (Cpt.V a b m 0 :: Cpt.V a b m' 0 :: cs)
      (fun i => if i = br m then x i + d else if i = br m' then x i - d else x i) := by
  have hv : ∀ n, volt (fun i => if i = br m then x i + d else if i = br m' then x i - d else x i) n = volt x n :=
    fun n => volt_congr _ _ _ fun _ => by simp
  refine Laws_append_congr kind s [Cpt.V a b m 0, Cpt.V a b m' 0] cs x _ hv (fun c hc j hj => ?_) (fun k => ?_)
    (fun c hc => ?_) h
  · have h1 : j ≠ m := fun e => hm c hc (e ▸ hj)
    have h2 : j ≠ m' := fun e => hm' c hc (e ▸ hj)
    simp [h1, h2]
  · have e2 : ¬ (br m' : Ix) = br m := fun e => hmm (Ix.br.inj e).symm
    simp only [List.map_cons, List.map_nil, lsum, outflow, if_true, if_neg e2]
    linear_combination twoTerm_circ a b k (x (br m)) (x (br m')) d
  · simp only [List.mem_cons, List.mem_nil_iff, or_false] at hc
    rcases hc with rfl | rfl <;> simp only [laws, vd, hv]

/-- **(4b) self_loop_current_free**: a wire from a node to itself carries an arbitrary current -/
theorem self_loop_current_free (kind : Kind) (s : K) (cs : List (Cpt K)) (x : Ix → K) (a m : Nat)
    (hm : ∀ c ∈ cs, m ∉ brRefs c) (J : K) (h : Laws kind s (Cpt.V a a m 0 :: cs) x) :
    Laws kind s (Cpt.V a a m 0 :: cs) (fun i => if i = br m then J else x i) := by
  have hv : ∀ n, volt (fun i => if i = br m then J else x i) n = volt x n :=
    fun n => volt_congr _ _ _ fun _ => by simp
  refine Laws_append_congr kind s [Cpt.V a a m 0] cs x _ hv (fun c hc j hj => ?_) (fun k => ?_) (fun c hc => ?_) h
  · have h1 : j ≠ m := fun e => hm c hc (e ▸ hj)
    simp [h1]
  · simp only [List.map_cons, List.map_nil, lsum, outflow, twoTerm_self]
  · rw [List.mem_singleton.mp hc]; simp only [laws, vd, hv]

/-! ### non-vacuity: `V1 1 0 6; R1 1 2 2; W 2 3; R2 3 0 3` -/

/-- the netlist with the wire `V 2 3 1 0` (a = 2, b = 3, m = 1) has a solution:
    V(1) = 6, V(2) = V(3) = 18/5, source current −6/5, wire current 6/5 -/
example : Laws Kind.dc (0 : ℚ) (Cpt.V 2 3 1 0 :: [Cpt.V 1 0 0 6, Cpt.R 1 2 2, Cpt.R 3 0 3])
    (fun i => match i with
      | node 1 => 6 | node 2 => 18 / 5 | node 3 => 18 / 5 | br 0 => -6 / 5 | br 1 => 6 / 5 | _ => 0) :=
  laws_of_range 4 (by decide) (by decide +kernel) (by decide +kernel)

/-- the side conditions of the theorems hold for it -/
example : (3 : Nat) ≠ 0 ∧ (2 : Nat) ≠ 3 ∧
    ∀ c ∈ [Cpt.V 1 0 0 (6 : ℚ), Cpt.R 1 2 2, Cpt.R 3 0 3], 1 ∉ brRefs c := by
  decide

/-- merging node 3 into node 2 gives literally `V1 1 0 6; R1 1 2 2; R2 2 0 3` -/
example : ([Cpt.V 1 0 0 (6 : ℚ), Cpt.R 1 2 2, Cpt.R 3 0 3]).map (Cpt.mapNodes (merge 2 3)) =
    [Cpt.V 1 0 0 6, Cpt.R 1 2 2, Cpt.R 2 0 3] := by
  simp [Cpt.mapNodes, merge]

/-- and the merged netlist is solved by the same assignment (as `wire_merge_complete` says) -/
example : Laws Kind.dc (0 : ℚ) [Cpt.V 1 0 0 6, Cpt.R 1 2 2, Cpt.R 2 0 3]
    (fun i => match i with
      | node 1 => 6 | node 2 => 18 / 5 | node 3 => 18 / 5 | br 0 => -6 / 5 | br 1 => 6 / 5 | _ => 0) :=
  laws_of_range 3 (by decide) (by decide +kernel) (by decide +kernel)

/-- a loop of two parallel wires (branches 1 and 4 between the nodes 2 and 3) is solvable, so the
    hypothesis of `parallel_wires_current_free` is satisfiable: here the wire current 6/5 is split
    as 1 + 1/5, and by the theorem as (1 + d) + (1/5 − d) for every d -/
example : Laws Kind.dc (0 : ℚ) (Cpt.V 2 3 1 0 :: Cpt.V 2 3 4 0 :: [Cpt.V 1 0 0 6, Cpt.R 1 2 2, Cpt.R 3 0 3])
    (fun i => match i with
      | node 1 => 6 | node 2 => 18 / 5 | node 3 => 18 / 5 | br 0 => -6 / 5 | br 1 => 1 | br 4 => 1 / 5
      | _ => 0) :=
  laws_of_range 4 (by decide) (by decide +kernel) (by decide +kernel)

end Lcapy.C03
