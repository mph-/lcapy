/-
  PROPERTY C14, clause "the time-domain signal reconstructed from the phasor is the sinusoidal steady state".

  For EVERY netlist (any size, every component kind of Spec/Laws.lean) whose independent sources are sinusoids of
  angular frequency ω — each given as a·cos ωt + b·sin ωt, i.e. any sum of same-frequency terms in any phase —
  the signals x_i(t) = a_i cos ωt + b_i sin ωt satisfy the TIME-DOMAIN laws of the circuit (Spec/LawsTD.lean:
  KCL, i = C dv/dt, v = L di/dt + Σ M di'/dt, the instantaneous laws of all other components, with the sources'
  waveforms)   IF AND ONLY IF   their phasors a_i − j b_i satisfy the Laplace-domain laws at s = jω with every
  source replaced by the phasor of its waveform (`steady_state_iff_phasor`).  The proof maps every residual through
  `toPh`, which is linear and turns d/dt into multiplication by jω (`phasor_deriv`).
  Consequences: the MNA phasor solution IS the steady state (`mna_phasor_is_steady_state`, over any ordered field of
  reals, complex numbers `Cx K`); several frequencies are solved separately and added in the time domain
  (`multi_frequency_iff`, `multi_frequency_phasors`); ω = 0 is the DC analysis (`ac_at_zero_is_dc`, `dc_iff_const`).
-/
import Lcapy.Proofs.Phasor
import Lcapy.Props.C01
import Lcapy.Props.C14
import Lcapy.Proofs.Witness
import Mathlib.Tactic.Linarith
namespace Lcapy.C14
open Lcapy.MNA Lcapy.TDS Lcapy.Cx Ix
variable {K : Type} [Field K]
set_option linter.unusedSectionVars false

/-- **phasor_deriv**: d/dt(a cos ωt + b sin ωt) has the phasor jω·(a − j b) -/
theorem phasor_deriv (w : K) (u : Sinus K) : toPh ((sinusOps w).D u) = jw w * toPh u := toPh_D w u

/-- the formal derivative is the derivative: its value at an instant (cos ωt = C, sin ωt = S) is what the chain rule
    gives, −aω·S + bω·C (anchored to `HasDerivAt` with `Real.cos`/`Real.sin` by `deriv_is_classical`, Props/C14Anchor.lean) -/
theorem deriv_at (w C S : K) (u : Sinus K) : ((sinusOps w).D u).at C S = -(u.a * w) * S + u.b * w * C := by
  simp [Sinus.at, sinusOps]; ring

/-- **phasor_linear**: sums of same-frequency sinusoids ↦ sums of phasors; real multiples ↦ real multiples -/
theorem phasor_linear (w r : K) (u v : Sinus K) :
    toPh ((sinusOps w).add u v) = toPh u + toPh v ∧ toPh ((sinusOps w).smul r u) = ofReal r * toPh u :=
  ⟨toPh_add w u v, toPh_smul w r u⟩

/-- **polar_phasor**: A·cos(ωt + φ) = A cos φ · cos ωt − A sin φ · sin ωt has the phasor A·e^{jφ} = A(cos φ + j sin φ);
    A·sin(ωt + φ) is A·cos(ωt + φ − π/2): the phasor −j·A·e^{jφ}.  (c, s) stand for (cos φ, sin φ). -/
theorem polar_phasor (A c s : K) :
    toPh (⟨A * c, -(A * s)⟩ : Sinus K) = ofReal A * ⟨c, s⟩ ∧
    toPh (⟨A * s, A * c⟩ : Sinus K) = -(jw 1) * (ofReal A * ⟨c, s⟩) := by
  constructor <;> ext <;> simp [toPh]

/-- reconstruction: Re(P·e^{jωt}) at an instant -/
theorem time_of_phasor_at (C S : K) (p : Cx K) : (toTime p).at C S = (p * ⟨C, S⟩).re := by
  simp [toTime, Sinus.at]; ring

/-- **steady_state_iff_phasor** -/
theorem steady_state_iff_phasor (w : K) (tcs : List (SCpt K (Sinus K))) (x : Ix → Sinus K) :
    LawsTD (sinusOps w) tcs x ↔ Laws .lap (jw w) (tcs.map phasorCpt) (fun i => toPh (x i)) :=
  (laws_transport (ι := Unit) (fun _ => toPh) (sinusOps w).zero (fun _ => 0)
    (fun v => ⟨fun h => (toPh_eq_zero w v).mp (h ()), fun h _ => (toPh_eq_zero w v).mpr h⟩)
    (sumS (sinusOps w)) (fun _ => lsum) (fun _ => toPh_sumS w) (fun _ => phasorCpt) (outflowS (sinusOps w) x)
    (fun _ => outflow .lap (jw w) fun i => toPh (x i)) (fun _ => toPh_outflowS w x) (lawsS (sinusOps w) x)
    (fun _ => laws .lap (jw w) fun i => toPh (x i)) (fun _ => toPh_lawsS w x) tcs).trans ⟨fun h => h (), fun h _ => h⟩

/-- **phasor_solution_is_steady_state**: read the other way — complex amplitudes X satisfy the phasor-domain laws
    iff the reconstructed signals Re(X e^{jωt}) satisfy the time-domain laws. -/
theorem phasor_solution_is_steady_state (w : K) (tcs : List (SCpt K (Sinus K))) (X : Ix → Cx K) :
    Laws .lap (jw w) (tcs.map phasorCpt) X ↔ LawsTD (sinusOps w) tcs (fun i => toTime (X i)) := by
  rw [steady_state_iff_phasor]
  simp

section ordered
variable {R : Type} [Field R] [LinearOrder R] [IsStrictOrderedRing R]

/-- **mna_phasor_is_steady_state**: over an ordered field of reals, what the assembled MNA system at s = jω
    (stamps with jωC, jωL, jωM and the source phasors) determines is exactly the sinusoidal steady state. -/
theorem mna_phasor_is_steady_state (w : R) (tcs : List (SCpt R (Sinus R))) (X : Ix → Cx R)
    (hwf : C01.WF (tcs.map phasorCpt)) :
    Solves .lap (jw w) (tcs.map phasorCpt) X ↔ LawsTD (sinusOps w) tcs (fun i => toTime (X i)) := by
  rw [C01.mna_iff_laws .lap (jw w) _ X hwf]
  exact phasor_solution_is_steady_state w tcs X

/-- **phasor_is_transfer_at_jw**: `phasor_is_transfer_times_source` at the point s = jω of the complex numbers over an
    ordered field: the output phasor is H(jω)·P, H(jω) being what the transfer experiment measures at s = jω. -/
theorem phasor_is_transfer_at_jw (w : R) (cs : List (Cpt (Cx R))) (p1 m1 p2 m2 b : Nat) (H P : Cx R) (hP : P ≠ 0)
    (hwf : C01.WF (transferExp cs p1 m1 p2 m2 b).ckt)
    (hH : C04.Measures .lap (jw w) (transferExp cs p1 m1 p2 m2 b) H)
    (z : Ix → Cx R)
    (hz : Laws .lap (jw w) ((transferExp cs p1 m1 p2 m2 b).ckt.map (Cpt.mapSrc (fun v => P * v))) z) :
    vd z p2 m2 = H * P :=
  phasor_is_transfer_times_source (jw w) cs p1 m1 p2 m2 b H P hP hwf hH z hz

/-- `jw w` is the point j·ω at which `mna_iff_laws_ac` of C01 is stated, with j = `jw 1` and j² = −1 -/
theorem jw_is_j_times_w (w : R) : jw w = jw 1 * ofReal w ∧ (jw (1 : R)) * jw 1 = -1 := ⟨jw_eq w, jw_one_sq⟩
end ordered

/-! ### several frequencies: each solved separately, added in the time domain -/

/-- **multi_frequency_iff**: a signal that is a sum of sinusoids of several angular frequencies (one (a, b) pair
    per frequency; sources likewise) satisfies the time-domain laws iff, at EVERY frequency ω, its ω-component
    satisfies the time-domain laws of the netlist in which each source keeps only its ω-component. -/
theorem multi_frequency_iff (tcs : List (SCpt K (K → Sinus K))) (x : Ix → K → Sinus K) :
    LawsTD famOps tcs x ↔ ∀ w, LawsTD (sinusOps w) (tcs.map (atFreq w)) (fun i => x i w) :=
  laws_transport (fun w v => v w) famOps.zero (fun w => (sinusOps w).zero) (fun v => funext_iff.symm)
    (sumS famOps) (fun w => sumS (sinusOps w)) (fun w l => fam_sumS l w) atFreq (outflowS famOps x)
    (fun w => outflowS (sinusOps w) fun i => x i w) (fun w k c => fam_outflowS x k c w) (lawsS famOps x)
    (fun w => lawsS (sinusOps w) fun i => x i w) (fun w c => fam_lawsS x c w) tcs

/-- **multi_frequency_phasors**: … iff at every ω the phasors solve the phasor-domain laws at s = jω with the
    source phasors of that frequency — the superposition over distinct frequencies that `Netlist.ac()` / `select(ω)`
    perform; the time-domain result is the sum over the frequencies. -/
theorem multi_frequency_phasors (tcs : List (SCpt K (K → Sinus K))) (x : Ix → K → Sinus K) :
    LawsTD famOps tcs x ↔
      ∀ w, Laws .lap (jw w) ((tcs.map (atFreq w)).map phasorCpt) (fun i => toPh (x i w)) := by
  rw [multi_frequency_iff]
  exact forall_congr' (fun w => steady_state_iff_phasor w _ _)

/-- at a frequency where a source has no component it is KILLED (0 V: a short, 0 A: an open) — `select(ω)` -/
theorem other_frequency_source_killed (w : K) (n1 n2 m : Nat) (v : K) (f : K → Sinus K) (h : f w = ⟨0, 0⟩) :
    phasorCpt (atFreq w (.V n1 n2 m v, f)) = .V n1 n2 m 0 ∧
    phasorCpt (atFreq w (.I n1 n2 v, f)) = .I n1 n2 0 := by
  constructor <;> simp [phasorCpt, atFreq, h, toPh] <;> rfl

/-! ### ω = 0 is the DC analysis -/

/-- **ac_at_zero_is_dc**: the phasor-domain laws at s = j·0 are the DC laws (a capacitor passes no current, an
    inductor — coupled or not — is a short), for every netlist over any field. -/
theorem ac_at_zero_is_dc (s' : K) (cs : List (Cpt K)) (x : Ix → K) :
    Laws .lap 0 cs x ↔ Laws .dc s' cs x := by
  have ho : ∀ k c, outflow .lap 0 x k c = outflow .dc s' x k c := by
    intro k c; cases c <;> simp [outflow, capCurrent]
  have hl : ∀ c, laws .lap 0 x c = laws .dc s' x c := by
    intro c; cases c <;> simp [laws, mutualDrop_zero]
  constructor <;> rintro ⟨hk, hlw⟩ <;> refine ⟨fun k hk0 => ?_, fun c hc p hp => ?_⟩
  · refine Eq.trans ?_ (hk k hk0); congr 1; apply List.map_congr_left; intro c _; exact (ho k c).symm
  · rw [← hl c] at hp; exact hlw c hc p hp
  · refine Eq.trans ?_ (hk k hk0); congr 1; apply List.map_congr_left; intro c _; exact ho k c
  · rw [hl c] at hp; exact hlw c hc p hp

theorem jw_zero : jw (0 : K) = 0 := rfl

/-- **dc_iff_const**: constant signals satisfy the time-domain laws (d/dt = 0) iff they satisfy the DC laws. -/
theorem dc_iff_const (s' : K) (tcs : List (SCpt K K)) (x : Ix → K) :
    LawsTD constOps tcs x ↔ Laws .dc s' (tcs.map dcCpt) x := by
  have ho : ∀ k c, outflowS constOps x k c = outflow .dc s' x k (dcCpt c) := by
    intro k c
    obtain ⟨c, w⟩ := c
    cases c <;> simp [outflowS, outflow, dcCpt, capCurrent] <;> (try ring)
  have hmd : ∀ coup : List (Nat × K × Option K), mutualDropS constOps x coup = 0 := by
    intro coup
    induction coup with
    | nil => rfl
    | cons p t ih =>
      simp only [mutualDropS, List.map_cons, sumS] at ih ⊢
      rw [ih]; simp
  have hl : ∀ c, lawsS constOps x c = laws .dc s' x (dcCpt c) := by
    intro c
    obtain ⟨c, w⟩ := c
    cases c <;> simp [lawsS, laws, dcCpt, hmd] <;> (try ring) <;> (try (constructor <;> ring)) <;> (try (left; trivial))
  exact (laws_transport (ι := Unit) (fun _ => id) constOps.zero (fun _ => 0) (fun v => ⟨fun h => h (), fun h _ => h⟩)
    (sumS constOps) (fun _ => lsum) (fun _ l => by rw [const_sumS, List.map_id]; rfl) (fun _ => dcCpt)
    (outflowS constOps x) (fun _ => outflow .dc s' x) (fun _ => ho) (lawsS constOps x) (fun _ => laws .dc s' x)
    (fun _ c => (List.map_id _).trans (hl c)) tcs).trans ⟨fun h => h (), fun h _ => h⟩

/-! ### non-vacuity: `V1 1 0 {3 cos 2t + 4 sin 2t}; R1 1 2 2; C1 2 0 1/4` -/

def exRC : List (SCpt ℚ (Sinus ℚ)) := [(.V 1 0 0 0, ⟨3, 4⟩), (.R 1 2 2, ⟨0, 0⟩), (.Cap 2 0 (1/4) none, ⟨0, 0⟩)]

/-- H(j2) = 1/(1 + j·2·2·(1/4)) = 1/(1 + j): V(2) = (3 − 4j)/(1 + j) = −1/2 − 7/2 j, i.e. −1/2 cos 2t + 7/2 sin 2t -/
def exRCsol : Ix → Sinus ℚ := fun i => match i with
  | node 1 => ⟨3, 4⟩ | node 2 => ⟨-1/2, 7/2⟩ | br 0 => ⟨-7/4, -1/4⟩ | _ => ⟨0, 0⟩

example : LawsTD (sinusOps 2) exRC exRCsol :=
  (steady_state_iff_phasor 2 exRC exRCsol).mpr (laws_of_range 3 (by decide) (by decide +kernel) (by decide +kernel))

example : C01.WF (exRC.map phasorCpt) := by unfold C01.WF; decide

/-- non-vacuity of `phasor_is_transfer_times_source`: the divider `R1 1 2 1; R2 2 0 2` has H = 2/3 from (1, 0) to (2, 0) -/
def exDiv : List (Cpt ℚ) := [.R 1 2 1, .R 2 0 2]

example : C01.WF (transferExp exDiv 1 0 2 0 0).ckt := by unfold C01.WF; decide

example (s : ℚ) : C04.Measures .lap s (transferExp exDiv 1 0 2 0 0) (2 / 3) := by
  constructor
  · refine ⟨fun i => match i with | node 1 => 1 | node 2 => 2/3 | br 0 => -1/3 | _ => 0, ?_, ?_⟩
    · intro k hk
      match k with
      | 0 => exact absurd rfl hk
      | 1 => norm_num [transferExp, vProbe, killAll, exDiv, Cpt.isVAcross, Cpt.mapSrc, outflow, twoTerm, lsum, vd, volt]
      | 2 => norm_num [transferExp, vProbe, killAll, exDiv, Cpt.isVAcross, Cpt.mapSrc, outflow, twoTerm, lsum, vd, volt]
      | (k + 3) => simp [transferExp, vProbe, killAll, exDiv, Cpt.isVAcross, Cpt.mapSrc, outflow, twoTerm, lsum]
    · intro c hc p hp
      simp [transferExp, vProbe, killAll, exDiv, Cpt.isVAcross, Cpt.mapSrc] at hc
      rcases hc with rfl | rfl | rfl <;> simp [laws] at hp <;> (try subst hp) <;> norm_num [vd, volt]
  · intro x hx
    have k2 := hx.1 2 (by decide)
    have l1 := hx.2 (.V 1 0 0 1) (by simp [transferExp, vProbe]) (0, vd x 1 0 - 1) (by simp [laws])
    simp [transferExp, vProbe, killAll, exDiv, Cpt.isVAcross, Cpt.mapSrc, outflow, twoTerm, lsum, vd, volt] at k2 l1
    simp only [transferExp, Obs.read, vd, volt]
    linarith

end Lcapy.C14
