/-
  PROPERTY C18, part 4 -- units of every forward / inverse transform pair, including the
  discrete-time family (z-transform, DFT: sums over samples, no scaling) and the constant domains, with the
  round-trip theorem over the WHOLE regenerated class table; the constant sub-domain chosen for a quantity.

  `transformTable` also holds the rows of nexpr.py, zexpr.py, kexpr.py and cexpr.py.
-/
import Lcapy.Generated.Quantities
import Lcapy.Proofs.QuantitiesBase
import Lcapy.Props.C18
namespace Lcapy.C18
open Lcapy.Dim Lcapy.QModel Lcapy.Gen.Q Lcapy.QBase

/-! ## 1. which quantities are responses -/

/-- SPEC: the response quantities are those whose time-domain form is an impulse response (per
    second): impedance, admittance, transfer function and the squared immittances -/
def isResponseQ (q : Quantity) : Bool := decide (timeExp .time q < 0)

/-- the `is_ratio` flag of every quantity mixin is the spec's notion of a response quantity (it
    decides the constant sub-domain, and with it what a transform of a constant does: `Z(s)` of a
    constant impedance is the constant, `V(s)` of a constant voltage is `V/s`) -/
theorem ratio_flags_match_spec :
    ∀ r ∈ quantityTable, r.isRatio = isResponseQ r.q := by decide +kernel

/-- `exprmap`: a constant of a response quantity lives in the constant frequency-response domain, a
    constant signal (or power) in the constant time domain -- for every defined quantity -/
theorem exprmap_constant_subdomain_spec :
    ∀ q ∈ Quantity.all, q.isDefined = true →
      exprmapM tables q .constant =
        (if isResponseQ q then .constantFrequencyResponse else .constantTime) := by decide +kernel

/-- hence the class a product / quotient of constants is given: (Z * Z), (Z / Y), ... stay in the
    constant frequency-response domain -/
theorem constant_immittance_products_stay_responses :
    ∀ r ∈ mulTable ++ divTable, isResponseQ r.1 = true → isResponseQ r.2.1 = true →
      r.2.2 ≠ .constant → exprmapM tables r.2.2 .constant = .constantFrequencyResponse := by decide +kernel

/-! ## 2. the discrete-time family and the constant domains -/

/-- z-transform, inverse z-transform, DFT and IDFT are sums over samples: no `units_scale` -/
theorem discrete_transforms_unscaled :
    ∀ r ∈ transformTable,
      ((r.src = .discreteTime ∧ (r.dst = .Z ∨ r.dst = .discreteFourier)) ∨
       (r.dst = .discreteTime ∧ (r.src = .Z ∨ r.src = .discreteFourier))) → r.scale = none := by
  decide +kernel

theorem discrete_transform_rows_present :
    (transformTable.any (fun r => r.src == .discreteTime && r.dst == .Z)) ∧
    (transformTable.any (fun r => r.src == .Z && r.dst == .discreteTime)) ∧
    (transformTable.any (fun r => r.src == .discreteTime && r.dst == .discreteFourier)) ∧
    (transformTable.any (fun r => r.src == .discreteFourier && r.dst == .discreteTime)) := by decide +kernel

/-- ... and the class defaults agree: every quantity has the same units in the discrete-time, z
    and DFT domains (per-sample scaling) -/
theorem discrete_class_units_per_sample :
    ∀ q ∈ Quantity.all, q ≠ .constant →
      defaultUnits tables .Z q = defaultUnits tables .discreteTime q ∧
      defaultUnits tables .discreteFourier q = defaultUnits tables .discreteTime q := by decide +kernel

/-- a change out of a constant domain is a re-labelling: never scaled -/
theorem constant_domain_changes_unscaled :
    ∀ r ∈ transformTable, isConst tables r.src = true → r.scale = none := by decide +kernel

/-- every scaled row scales by exactly `s` or exactly `Hz` (all files, incl. the new ones) -/
theorem transform_scales_are_s_or_Hz :
    ∀ r ∈ transformTable, ∀ s, r.scale = some s →
      s = ⟨0, 0, 0, 0, 0, 0, 1, 0⟩ ∨ s = ⟨0, 0, 0, 0, 0, 1, 0, 0⟩ := by decide +kernel

def domainOfMethodName : String → Option Domain
  | "time" => some .time | "laplace" => some .laplace | "fourier" => some .fourier
  | "angular_fourier" => some .angularFourier | "norm_fourier" => some .normFourier
  | "norm_angular_fourier" => some .normAngularFourier
  | "frequency_response" => some .frequencyResponse
  | "angular_frequency_response" => some .angularFrequencyResponse
  | _ => none

theorem method_rows :
    (∀ r ∈ transformTable, ∀ d, domainOfMethodName r.method = some d → r.dst = d) ∧
      5 ≤ (transformTable.filter (fun r => (domainOfMethodName r.method).isSome)).length := by
  decide +kernel

/-- a method named after a domain changes to that domain (false for
    `ConstantExpr.frequency_response` before the fix of finding C18-F31) -/
theorem method_named_after_domain :
    ∀ r ∈ transformTable, ∀ d, domainOfMethodName r.method = some d → r.dst = d := method_rows.1

/-! ## 3. round trip over the whole class table -/

def opdOf (d : Domain) (q : Quantity) (u : U) : Opd := ⟨d, q, u, false, false, false⟩

/-- model of `x.<m1>().<m2>()` -/
def roundTrip (d : Domain) (q : Quantity) (u : U) (m1 m2 : String) : Option Outcome :=
  match transformM tables (opdOf d q u) m1 with
  | some (.ok d' q' u') => transformM tables (opdOf d' q' u') m2
  | _ => none

def roundTripOk (d : Domain) (q : Quantity) (u : U) (m1 m2 : String) : Bool :=
  match roundTrip d q u m1 m2 with
  | some (.ok d'' q'' u'') => d'' == d && q'' == q && sameUnits u'' u
  | _ => false

/-- the (forward, inverse) pairs of the table: `r2` leads back from `r1`'s target to `r1`'s source,
    both being the rows `transformM` selects for their method names -/
def inversePairs : List (TransformRow × TransformRow) :=
  (transformTable.flatMap (fun r1 => transformTable.map (fun r2 => (r1, r2)))).filter
    (fun p => p.1.src == p.2.dst && p.1.dst == p.2.src && !isConst tables p.1.src && !isConst tables p.1.dst)

/-- the round-trip sweep, the pairs it runs over and the number of class rows each pair meets, evaluated
    together because building `inversePairs` is a large part of each -/
theorem inversePairs_rows :
    inversePairs.all (fun p => classTable.all (fun c =>
      !(c.dom == p.1.src) || c.units.all (fun u => roundTripOk c.dom c.q u p.1.method p.2.method))) = true ∧
    (inversePairs.map (fun p => (p.1.src, p.1.method, p.2.method))) =
      [(.time, "LT", "ILT"), (.time, "FT", "inverse_fourier"), (.laplace, "ILT", "LT"),
       (.fourier, "inverse_fourier", "FT"), (.discreteTime, "ztransform", "inverse_ztransform"),
       (.discreteTime, "DFT", "IDFT"), (.Z, "inverse_ztransform", "ztransform"),
       (.discreteFourier, "IDFT", "DFT")] ∧
    ∀ p ∈ inversePairs, 5 ≤ (classTable.filter (fun c => c.dom == p.1.src && c.units.isSome)).length := by
  decide +kernel

/-- ROUND TRIP, every class of the regenerated class table: an expression of ANY of the 190 quantity
    classes carrying its class units, pushed through a transform of the table and the inverse
    transform of the table, comes back in its own class (domain, quantity) with units of the same
    SI dimension and the same power of the radian: Laplace, Fourier (time <-> f), z-transform, DFT.
    (Pairs present: `inversePairs_nonempty`; rows through which a transform is not a `change` --
    DTFT -- are judged by the oracle.) -/
theorem transform_roundtrip_class_table :
    ∀ p ∈ inversePairs, ∀ c ∈ classTable, c.dom = p.1.src → ∀ u, c.units = some u →
      roundTripOk c.dom c.q u p.1.method p.2.method = true := by
  intro p hp c hc hd u hu
  have := List.all_eq_true.mp (List.all_eq_true.mp inversePairs_rows.1 p hp) c hc
  simpa [hd, hu] using this

theorem inversePairs_nonempty :
    (inversePairs.map (fun p => (p.1.src, p.1.method, p.2.method))) =
      [(.time, "LT", "ILT"), (.time, "FT", "inverse_fourier"), (.laplace, "ILT", "LT"),
       (.fourier, "inverse_fourier", "FT"), (.discreteTime, "ztransform", "inverse_ztransform"),
       (.discreteTime, "DFT", "IDFT"), (.Z, "inverse_ztransform", "ztransform"),
       (.discreteFourier, "IDFT", "DFT")] := inversePairs_rows.2.1

/-- the rows `transformM` selects for the four integral transforms of the property -/
theorem integral_rows :
    tables.transforms.find? (fun r => r.src == Domain.time && r.method == "LT") =
      some ⟨.time, "LT", .laplace, some ⟨0, 0, 0, 0, 0, 0, 1, 0⟩, true⟩ ∧
    tables.transforms.find? (fun r => r.src == Domain.laplace && r.method == "ILT") =
      some ⟨.laplace, "ILT", .time, some ⟨0, 0, 0, 0, 0, 1, 0, 0⟩, true⟩ ∧
    tables.transforms.find? (fun r => r.src == Domain.time && r.method == "FT") =
      some ⟨.time, "FT", .fourier, some ⟨0, 0, 0, 0, 0, 0, 1, 0⟩, true⟩ ∧
    tables.transforms.find? (fun r => r.src == Domain.fourier && r.method == "inverse_fourier") =
      some ⟨.fourier, "inverse_fourier", .time, some ⟨0, 0, 0, 0, 0, 1, 0, 0⟩, true⟩ := by decide +kernel

/-- the class chosen by these four transforms is the class of the same quantity in the target
    domain, for every quantity -/
theorem integral_targets (q : Quantity) :
    classByQuantity tables .time q .laplace = .laplace ∧ classByQuantity tables .laplace q .time = .time ∧
    classByQuantity tables .time q .fourier = .fourier ∧ classByQuantity tables .fourier q .time = .time := by
  cases q <;> decide +kernel

theorem sameUnits_s_Hz (w : U) :
    sameUnits (w + ⟨0, 0, 0, 0, 0, 0, 1, 0⟩ + ⟨0, 0, 0, 0, 0, 1, 0, 0⟩) w = true ∧
    sameUnits (w + ⟨0, 0, 0, 0, 0, 1, 0, 0⟩ + ⟨0, 0, 0, 0, 0, 0, 1, 0⟩) w = true := by
  constructor <;>
  · simp only [sameUnits, Bool.and_eq_true, decide_eq_true_eq]
    refine ⟨?_, by simp⟩
    apply dim3_ext <;> simp [dimU] <;> omega

/-- ... and for an expression of ANY quantity carrying ANY units (not only the class default): the
    Laplace and Fourier pairs restore domain, quantity and the SI dimension of the units exactly
    ("a voltage in V becomes V/Hz in the Laplace or Fourier domain and back") -/
theorem transform_roundtrip_any_units (q : Quantity) (u : U) :
    roundTripOk .time q u "LT" "ILT" = true ∧ roundTripOk .laplace q u "ILT" "LT" = true ∧
    roundTripOk .time q u "FT" "inverse_fourier" = true ∧
    roundTripOk .fourier q u "inverse_fourier" "FT" = true := by
  obtain ⟨r1, r2, r3, r4⟩ := integral_rows
  obtain ⟨t1, t2, t3, t4⟩ := integral_targets q
  obtain ⟨k1, k2⟩ := sameUnits_s_Hz u
  refine ⟨?_, ?_, ?_, ?_⟩ <;>
    simp [roundTripOk, roundTrip, transformM, opdOf, r1, r2, r3, r4, t1, t2, t3, t4, k1, k2]

end Lcapy.C18
