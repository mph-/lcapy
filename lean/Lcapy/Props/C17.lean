/-
  C17 -- Numerical evaluation of an expression equals its symbolic value.

  Objects: `numericDef` (what lambdify calls: generated from expr.py), `symbolicDef` (exact
  substitution: generated from extrafunctions.py), `spec` (doc/expressions.rst), the expression
  evaluators `evalNumeric` / `evalSymbolic` / `specEval`, `funcScalar` (causal mask), `evaluateArg`
  (scalar / list dispatch), `isCausal` (acdc.CausalChecker).
  All theorems are over ALL rational arguments / parameters / expressions / lists (no sampling).

  PARTIAL by nature (see DESIGN §3 C17):
    * `Option Rat` exhibits rational values only: for the sinc family the `agree_*` theorems have content at the integer /
      grid points (`none = none` elsewhere); away from them `sinc_family_same_tail` says that both code paths are the same
      expression in the uninterpreted sine tail, and the numbers are compared against mpmath by the harness;
    * exp/sin/cos/Bessel, floating-point rounding (beyond the bit-for-bit straight-line TESTS of Props/C17Float.lean) and
      lambdify's code generation are not modelled;
    * the clause "sampled responses converge as the step shrinks" has NO convergence theorem: Props/C17Sim.lean and
      C17Resp.lean prove what one step / one run / one difference equation computes (element laws for the actual step
      size, local exactness and defect identities, lag-indexed convolution, start-time invariance); the limit dt -> 0
      is compared harness-side on refined grids against the symbolic response;
    * `array_is_map_scalar` is a model remark (the model is defined that way because the code is a per-element loop).
  The evaluate() limit fallbacks are modelled for rational functions in Props/C17Limit.lean.
-/
import Lcapy.Proofs.SpecialFnBase
import Lcapy.Proofs.PsincAnchor
namespace Lcapy.C17
open Lcapy.EvalBase Lcapy.Evaluate Lcapy.Gen.SpecialFn
open Lcapy.Spec.SpecialFn (Fn spec disc inDomain)

/-- both code paths give the documented value at `x` -/
def Agree (f : Fn) (x : Rat) : Prop :=
  numericDef f x = spec f x ∧ symbolicDef f x = spec f x

/-- for tri, ramp and trap the symbolic `eval` is the numeric definition word for word -/
theorem Agree.of_same {f : Fn} {x : Rat} (hs : symbolicDef f x = numericDef f x) (hn : numericDef f x = spec f x) :
    Agree f x :=
  ⟨hn, hs.trans hn⟩

/-! ### one obligation per function of the table: numeric = symbolic = Spec away from discontinuities -/

/-- Heaviside away from its discontinuity (the value AT 0 is `heaviside_zero_documented` below) -/
theorem agree_heaviside (x : Rat) (_h : disc .heaviside x = false) : Agree .heaviside x :=
  ⟨num_heaviside_eq x _ rfl, sympyHeaviside_eq x⟩

theorem agree_dirac (x : Rat) (_h : disc .dirac x = false) : Agree .dirac x :=
  ⟨rfl, rfl⟩

theorem agree_sign (x : Rat) (_h : disc .sign x = false) : Agree .sign x := by
  refine ⟨?_, sympySign_eq x⟩
  rw [numericDef, numFor_sign, num_sign, num_heaviside_none]
  rfl

theorem agree_rect (x : Rat) (h : disc .rect x = false) : Agree .rect x := by
  constructor
  · rw [numericDef, numFor_rect, num_rect, num_heaviside_none, num_heaviside_none]
    rfl
  simp only [disc, Bool.or_eq_false_iff, beq_eq_false_iff_ne, ne_eq] at h
  simp only [symbolicDef, sym_rect, if_true, spec, S.rect]
  by_cases h1 : x < -(1/2)
  · rw [if_pos (Or.inl h1), heaviside_of_neg (by linarith), heaviside_of_neg (by linarith), sub_zero]
  by_cases h2 : x > 1/2
  · rw [if_pos (Or.inr h2), heaviside_of_pos (by linarith), heaviside_of_pos (by linarith), sub_self]
  · have a : -(1/2) < x := lt_of_le_of_ne (not_lt.mp h1) (fun e => h.2 (by linarith))
    have b : x < 1/2 := lt_of_le_of_ne (not_lt.mp h2) h.1
    rw [if_neg (not_or.mpr ⟨h1, h2⟩), heaviside_of_pos (by linarith), heaviside_of_neg (by linarith), sub_zero]

theorem agree_tri (x : Rat) : Agree .tri x := by
  refine .of_same rfl ?_
  simp only [numericDef, numFor_tri, num_tri, spec, tri_closed, ge_iff_le, apply_ite some]

theorem agree_ramp (x : Rat) : Agree .ramp x := by
  refine .of_same rfl ?_
  rw [numericDef, numFor_ramp, num_ramp, spec]
  by_cases h : x ≥ 0
  · rw [if_pos h, ramp_of_nonneg h]
  · rw [if_neg h, ramp_of_nonpos (not_le.mp h).le]

/-- rampstep is continuous: agreement at every point, t = 1 included (finding F15) -/
theorem agree_rampstep (x : Rat) : Agree .rampstep x := by
  constructor
  · simp only [numericDef, numFor_rampstep, num_rampstep, spec, rampstep_closed, apply_ite some]
  · simp only [symbolicDef, sym_rampstep, if_true, spec, rampstep_closed]
    by_cases h0 : x < 0
    · rw [if_neg (fun h => absurd h.1 (not_le.mpr h0)), if_neg (by linarith), if_pos h0]
    by_cases h1 : x > 1
    · rw [if_neg (fun h => absurd h.2 (by linarith)), if_pos h1.le, if_neg h0, if_pos h1]
    by_cases h2 : x = 1
    · subst h2; norm_num
    · have : x < 1 := lt_of_le_of_ne (not_lt.mp h1) h2
      rw [if_pos ⟨not_lt.mp h0, this⟩, if_neg h0, if_neg h1]

theorem agree_trap (a x : Rat) (hd : disc (.trap a) x = false) (hdom : inDomain (.trap a) = true) :
    Agree (.trap a) x := by
  refine .of_same rfl ?_
  by_cases ha : a = 0
  · -- at alpha = 0 the code of trap is the symbolic code of rect
    subst ha
    exact (agree_rect x (by simpa [disc] using hd)).2
  · simp only [inDomain, Bool.and_eq_true, decide_eq_true_eq] at hdom
    have hapos : 0 < a := lt_of_le_of_ne hdom.1 (Ne.symm ha)
    have hs : S.sabs x = rabs x := rfl
    simp only [numericDef, spec, numFor_trap, num_trap, S.trap, hs, if_neg ha, odiv, osub]
    generalize rabs x = y
    by_cases h1 : y - 1/2 ≥ 1/2 * a
    · rw [if_pos h1, if_neg (by linarith), if_pos (by linarith)]
    by_cases h2 : y - 1/2 ≤ -(1/2) * a
    · rw [if_neg h1, if_pos h2, if_pos (by linarith)]
    · rw [if_neg h1, if_neg h2, if_neg (by linarith), if_neg (by linarith)]
      congr 1; field_simp; ring

theorem agree_unitstep (x : Rat) : Agree .unitstep x :=
  ⟨num_unitstep_none x, sym_UnitStep_none x⟩

theorem agree_unitimpulse (x : Rat) : Agree .unitimpulse x := by
  refine ⟨rfl, ?_⟩
  rw [symbolicDef, sym_UnitImpulse, spec, S.unitimpulse]
  split_ifs <;> rfl

theorem agree_dtrect (x : Rat) : Agree .dtrect x := by
  constructor
  · rw [numericDef, numFor_dtrect, num_dtrect, num_unitstep_none, num_unitstep_none]
    rfl
  simp only [symbolicDef, sym_dtrect, if_true, spec, S.dtrect]
  by_cases h1 : x < -(1/2)
  · rw [if_pos (Or.inl h1), unitstep_of_neg (by linarith), unitstep_of_neg (by linarith), sub_zero]
  by_cases h2 : x ≥ 1/2
  · rw [if_pos (Or.inr h2), unitstep_of_nonneg (by linarith), unitstep_of_nonneg (by linarith), sub_self]
  · rw [if_neg (not_or.mpr ⟨h1, h2⟩), unitstep_of_nonneg (by linarith), unitstep_of_neg (by linarith), sub_zero]

/-- sign[n] = -1 for n < 0 on both paths (finding: symbolic dtsign returned 0) -/
theorem agree_dtsign (x : Rat) : Agree .dtsign x := by
  constructor
  · rw [numericDef, numFor_dtsign, num_dtsign, num_unitstep_none]
    rfl
  simp only [symbolicDef, sym_dtsign, if_true, spec, S.dtsign]
  by_cases h : x ≥ 0
  · rw [if_pos h, unitstep_of_nonneg h]; norm_num
  · rw [if_neg h, unitstep_of_neg (not_le.mp h)]; norm_num

/-! #### the sinc family.  CONTENT WARNING (F10): `Option Rat` exhibits rational values only.  sin(pi x)/(pi x) is
irrational at every non-integer rational and sin(x)/x at every non-zero rational, so there all three sides are `none` and
`Agree` reads `none = none`: the four theorems below have content at the INTEGER points only (sincu: at 0 only; psinc: at
the integers and where M x is an integer), and `regular` excludes the other points from `expr_agree`.  What can be said at
the other points without interpreting sin is `sinc_family_same_tail` / `psinc_same_tail` below: both code paths are the
same expression in the uninterpreted transcendental tail.  Numerically those points are compared against mpmath
(harness, `sinc-family-vs-mpmath`). -/

/-- sincn: value 1 at 0 and 0 at the other integers on both paths (`none = none` at every non-integer) -/
theorem agree_sincn_at_integers (x : Rat) : Agree .sincn x :=
  ⟨rfl, rfl⟩

/-- sincu: value 1 at 0 on both paths (`none = none` at every other rational: sin(x)/x is transcendental there) -/
theorem agree_sincu_at_zero (x : Rat) : Agree .sincu x :=
  ⟨rfl, rfl⟩

/-- the name `sinc` of a parsed string: normalised on both paths (finding: symbolic side was SymPy's
unnormalised sinc).  Content at the integers only (`none = none` elsewhere). -/
theorem agree_sinc_at_integers (x : Rat) : Agree .sinc x :=
  ⟨rfl, rfl⟩

/-- the Spec's value of psinc at an integer point -/
theorem spec_psinc_int (m n : Int) (hm : 0 < m) :
    spec (.psinc (m : Rat)) (n : Rat) = some (S.negOnePowInt (n * (m - 1))) := by
  have h1 : (!(Lcapy.Spec.SpecialFn.isInt (m : Rat)) || decide ((m : Rat) ≤ 0)) = false := by
    simp [Lcapy.Spec.SpecialFn.isInt, hm]
  have h2 : Lcapy.Spec.SpecialFn.isInt (n : Rat) = true := by simp [Lcapy.Spec.SpecialFn.isInt]
  simp only [spec, h1, h2]
  simp

/-- psinc(M, ·) for a positive integer M at EVERY rational point: at an integer n both paths give the
limit (-1)^(n (M-1)) (findings F16 and F16b), and 0 where M x is an integer and x is not; at every other
rational the statement is `none = none` (F10: content at those grid points only; see `psinc_same_tail`) -/
theorem agree_psinc (M x : Rat) (hdom : inDomain (.psinc M) = true) : Agree (.psinc M) x := by
  simp only [inDomain, Bool.and_eq_true, decide_eq_true_eq, specIsInt_iff] at hdom
  obtain ⟨hMi, hMpos⟩ := hdom
  obtain ⟨m, rfl⟩ := int_of_den_one M hMi
  have hM0 : (m : Rat) ≠ 0 := ne_of_gt hMpos
  have hm : 0 < m := by exact_mod_cast hMpos
  by_cases hx : x.den = 1
  · -- integer argument
    obtain ⟨n, rfl⟩ := int_of_den_one x hx
    have hix : isInt (n : Rat) = true := by simp [isInt]
    have e1 : (n : Rat) * ((m : Rat) - 1) = ((n * (m - 1) : Int) : Rat) := by push_cast; ring
    have e2 : (m : Rat) - 1 = ((m - 1 : Int) : Rat) := by push_cast; ring
    rw [Agree, spec_psinc_int m n hm]
    refine ⟨?_, ?_⟩
    · rw [numericDef, numFor_psinc, num_psinc, if_pos hix, e1, negOnePow_intCast]
    · simp only [symbolicDef, sym_psinc, if_true, hix, true_and, isEven, isOdd, Rat.den_intCast, Rat.num_intCast,
        beq_self_eq_true, Bool.true_and, e2, negOnePow_intCast, Int.cast_eq_zero, S.negOnePowInt]
      by_cases h0 : n = 0
      · subst h0; simp
      by_cases he : n % 2 = 0
      · simp [h0, he, mul_emod_two_of_even n (m - 1) he]
      · simp [h0, he, mul_emod_two_of_odd n (m - 1) he]
  · -- non-integer argument: both tails are the exact quotient
    have hsx : Lcapy.Spec.SpecialFn.isInt x = false := by simp [Lcapy.Spec.SpecialFn.isInt, hx]
    have hix : isInt x = false := by simp [isInt, hx]
    have hx0 : x ≠ 0 := by
      intro h; apply hx; rw [h]; rfl
    refine ⟨?_, ?_⟩
    · simp only [numericDef, numFor_psinc, num_psinc, psincFloat, psincExact, hM0, spec,
        Lcapy.Spec.SpecialFn.isInt, isInt]
      simp [hx, not_le.mpr hm]
    · simp only [symbolicDef, sym_psinc, psincExact, hM0, spec, hx0, if_true,
        Lcapy.Spec.SpecialFn.isInt, isInt]
      simp [hx, not_le.mpr hm]

section tails
/- the transcendental tails are kept UNINTERPRETED in this section: nothing below can depend on how `sinPiOverPi`,
`sinOver`, `psincExact` are defined, so the statements hold for every interpretation of sin(pi x)/(pi x), sin(x)/x and
sin(M pi x)/(M sin(pi x)) -/
attribute [local irreducible] sinPiOverPi sinOver psincExact

/-- the non-trivial content away from the integers: at EVERY rational x the numeric definition
handed to lambdify and the value of exact substitution are the same expression in the uninterpreted tail: the explicit
value 1 at x = 0 (the removable point) and sin(pi x)/(pi x) resp. sin(x)/x elsewhere, for `sincn`, `sincu` and the parsed
name `sinc`. -/
theorem sinc_family_same_tail (x : Rat) :
    numericDef .sincn x = (if x = 0 then some 1 else sinPiOverPi x) ∧
    symbolicDef .sincn x = (if x = 0 then some 1 else sinPiOverPi x) ∧
    numericDef .sincu x = (if x = 0 then some 1 else sinOver x) ∧
    symbolicDef .sincu x = (if x = 0 then some 1 else sinOver x) ∧
    numericDef .sinc x = (if x = 0 then some 1 else sinPiOverPi x) ∧
    symbolicDef .sinc x = (if x = 0 then some 1 else sinPiOverPi x) := by
  simp only [numericDef, symbolicDef, numFor_sincn, num_sincn, numFor_sincu, num_sincu, numFor_sinc, num_sinc, sym_sincn,
    sym_sincu, sym_parsedSinc, if_true, and_self]

/-- hence numeric = symbolic as functions of the tail, at every rational point, integer or not -/
theorem sinc_family_paths_coincide (x : Rat) :
    numericDef .sincn x = symbolicDef .sincn x ∧ numericDef .sincu x = symbolicDef .sincu x ∧
    numericDef .sinc x = symbolicDef .sinc x := by
  obtain ⟨a, b, c, d, e, f⟩ := sinc_family_same_tail x
  exact ⟨a.trans b.symm, c.trans d.symm, e.trans f.symm⟩

/-- psinc at a non-integer point: the numeric path is the FLOAT quotient `psincFloat`, the symbolic path the exact
quotient `psincExact` of the same two sines; `psincFloat` is by definition `psincExact` there (the hand-modelled claim that
the float quotient of two well-conditioned sines is the exact one up to rounding, validated against mpmath) -/
theorem psinc_same_tail (M x : Rat) (hx : isInt x = false) :
    numericDef (.psinc M) x = psincFloat M x ∧ symbolicDef (.psinc M) x = psincExact M x := by
  have hx0 : x ≠ 0 := by
    intro h; rw [h] at hx; simp [isInt] at hx
  simp only [numericDef, symbolicDef, numFor_psinc, num_psinc, sym_psinc, hx, hx0, if_true, if_false,
    Bool.false_eq_true, false_and, and_self]

example : isInt (1/3 : Rat) = false := by decide +kernel
end tails

/-- real analysis, why the Spec says (-1)^(n (M-1)) at the removable points: for every
positive integer M, integer n and real offset h with sin(pi h) ≠ 0, the defining quotient at n + h is the Spec's value at n
times the defining quotient at h -- psinc near n is psinc near 0 (whose documented limit is 1) times that sign. -/
theorem psinc_integer_value_anchor (M n : Int) (hM : 0 < M) (h : ℝ) (hs : Real.sin (Real.pi * h) ≠ 0) :
    ∃ v : Rat, spec (.psinc (M : Rat)) (n : Rat) = some v ∧
      Real.sin (M * Real.pi * (n + h)) / (M * Real.sin (Real.pi * (n + h))) =
        (v : ℝ) * (Real.sin (M * Real.pi * h) / (M * Real.sin (Real.pi * h))) := by
  refine ⟨_, spec_psinc_int M n hM, ?_⟩
  rw [negOnePowInt_cast]
  exact psinc_shift_real M n h (by exact_mod_cast (ne_of_gt hM)) hs

example : Real.sin (Real.pi * (1/2)) ≠ 0 := by
  have : Real.pi * (1/2) = Real.pi / 2 := by ring
  rw [this, Real.sin_pi_div_two]; norm_num

/-- for every function of the table, every parameter in the documented domain and every
rational `x` that is not a discontinuity: the numeric definition used by `evaluate`, the value of exact
substitution, and the documented value coincide (as rationals, or all three leave the rational world).
For the piecewise-rational functions this is a statement at every point; for the sinc family (sincn, sincu, sinc, psinc) it
has content at the integer / grid points only (`none = none` elsewhere, F10; see `sinc_family_same_tail`). -/
theorem special_fn_agree (f : Fn) (x : Rat) (hd : disc f x = false) (hdom : inDomain f = true) :
    numericDef f x = spec f x ∧ symbolicDef f x = spec f x := by
  cases f with
  | heaviside => exact agree_heaviside x hd
  | dirac => exact agree_dirac x hd
  | sign => exact agree_sign x hd
  | rect => exact agree_rect x hd
  | tri => exact agree_tri x
  | ramp => exact agree_ramp x
  | rampstep => exact agree_rampstep x
  | trap a => exact agree_trap a x hd hdom
  | unitstep => exact agree_unitstep x
  | unitimpulse => exact agree_unitimpulse x
  | dtrect => exact agree_dtrect x
  | dtsign => exact agree_dtsign x
  | sincn => exact agree_sincn_at_integers x
  | sincu => exact agree_sincu_at_zero x
  | sinc => exact agree_sinc_at_integers x
  | psinc M => exact agree_psinc M x hdom

-- non-vacuity: a regular point, and the hypotheses exclude exactly the points where the paths differ
example : disc .rect (1/4) = false ∧ inDomain (.trap (1/2)) = true ∧ inDomain (.psinc 3) = true := by decide +kernel
example : disc .rect (1/2) = true ∧ spec .rect (1/2) = some (1/2) ∧ spec .rect (1/4) = some 1 := by decide +kernel
example : numericDef .rampstep 1 = some 1 ∧ symbolicDef .rampstep 1 = some 1 := by decide +kernel
example : numericDef (.psinc 3) 5 = some 1 ∧ symbolicDef (.psinc 3) 5 = some 1 ∧ symbolicDef (.psinc 4) 5 = some (-1) := by decide +kernel

/-! ### "defined in terms of Heaviside for consistency" -/

/-- numeric rect is H(x + 1/2) - H(x - 1/2) with the numeric H (called as the code calls it, without `zero`),
at EVERY x -/
theorem rect_via_heaviside (x : Rat) :
    numericDef .rect x = osub (numFor_Heaviside (x + 1/2) none) (numFor_Heaviside (x - 1/2) none) := by
  simp only [numericDef, numFor_rect, num_rect, numFor_Heaviside]

/-- numeric sign is 2 H(x) - 1 with the numeric H, at every x -/
theorem sign_via_heaviside (x : Rat) :
    numericDef .sign x = osub (omul (some 2) (numFor_Heaviside x none)) (some 1) := by
  simp only [numericDef, numFor_sign, num_sign, numFor_Heaviside]

/-- the numeric H called without `zero` is the H that evaluates `Heaviside(x)` itself, except possibly AT 0 -/
theorem heaviside_call_forms (x : Rat) (hx : x ≠ 0) : numFor_Heaviside x none = numericDef .heaviside x := by
  simp only [numericDef, numFor_Heaviside, num_heaviside, if_neg hx]

/-- with the documented `heaviside_zero = 0.5` (config.py) the values AT the discontinuities are the documented ones
on the numeric path: H(0) = 1/2, sign(0) = 0, rect(±1/2) = 1/2 -- the whole numeric rect/sign/H is the Spec, everywhere. -/
theorem heaviside_zero_documented (hz : heavisideZero = 1/2) (x : Rat) :
    numericDef .heaviside x = spec .heaviside x ∧ symbolicDef .heaviside x = spec .heaviside x ∧
    numericDef .sign x = spec .sign x ∧ symbolicDef .sign x = spec .sign x ∧
    numericDef .rect x = spec .rect x := by
  have hn := fun y => num_heaviside_eq y none hz
  refine ⟨num_heaviside_eq x _ rfl, sympyHeaviside_eq x, ?_, sympySign_eq x, ?_⟩
  · rw [numericDef, numFor_sign, num_sign, hn]
    rfl
  · rw [numericDef, numFor_rect, num_rect, hn, hn]
    rfl

/-- the discrete-time pair is built on the unit step in the same way -/
theorem dtrect_dtsign_via_unitstep (x : Rat) :
    numericDef .dtrect x = osub (numericDef .unitstep (x + 1/2)) (numericDef .unitstep (x - 1/2)) ∧
    numericDef .dtsign x = osub (omul (some 2) (numericDef .unitstep x)) (some 1) :=
  ⟨rfl, rfl⟩

/-! ### causal mask -/

/-- a causal expression evaluates to zero at every negative time, whatever the expression -/
theorem causal_mask (e : E) (x : Rat) (hx : x < 0) : funcScalar true e x = .val 0 := by
  simp [funcScalar, causalMask, hx]

/-- the mask does nothing else: non-causal, or t ≥ 0, is the lambdified function itself -/
theorem causal_mask_only (c : Bool) (e : E) (x : Rat) (h : c = false ∨ 0 ≤ x)
    (hb : onBoundary e x = false ∨ evalNumeric e x ≠ .nan) :
    funcScalar c e x = evalNumeric e x := by
  have hm : causalMask c x = none := by
    rcases h with h | h
    · simp [causalMask, h]
    · simp [causalMask, not_lt.mpr h]
  simp only [funcScalar, hm]
  cases hv : evalNumeric e x with
  | val v => rfl
  | other => rfl
  | nan =>
    rcases hb with hb | hb
    · simp [hb]
    · exact absurd hv hb

/-- the flag requires a time-domain expression -/
theorem causal_flag (isTime selfCausal : Bool) : causalFlag isTime selfCausal = true ↔ isTime = true ∧ selfCausal = true := by
  simp [causalFlag]

/-- when `is_causal` was *inferred* (CausalChecker: every term of the expanded sum has a
Heaviside/DiracDelta/UnitImpulse/UnitStep factor of `var`, or of `a·var + b` with `a > 0`, `b ≤ 0`), the masked
zero IS the value of exact substitution at every negative time: the mask never changes a value. -/
theorem causal_mask_sound (terms : List (List Factor)) (x : Rat) (hx : x < 0)
    (hv : ∀ t ∈ terms, ∀ f ∈ t, ∃ v, specEval f.toE x = .val v) (hc : isCausal terms = true) :
    specEval (sumE terms) x = .val 0 ∧ funcScalar true (sumE terms) x = .val 0 := by
  refine ⟨?_, causal_mask _ x hx⟩
  induction terms with
  | nil => rfl
  | cons t rest ih =>
    simp only [isCausal, List.all_cons, Bool.and_eq_true] at hc
    have h1 := causal_term_zero t x hx (hv t (List.mem_cons_self ..)) hc.1
    have h2 := ih (fun u hu => hv u (List.mem_cons_of_mem _ hu)) (by simpa [isCausal] using hc.2)
    simp [sumE, specEval, h1, h2, arith2]

example : isCausal [[.plain (.const 3), .fn .heaviside 1 0], [.fn .heaviside 2 (-1), .plain .var]] = true := by decide +kernel
example : isCausal [[.fn .heaviside 1 1]] = false ∧ isCausal [[.fn .heaviside 1 0], [.plain .var]] = false := by decide +kernel

/-! ### results valid only for t ≥ 0 are not extrapolated -/

/-- `Piecewise((a, t ≥ 0))` (an inverse transform without `causal`) never yields a number
at a negative time -- on the numeric path (where the real code ends with an exception), under exact
substitution (SymPy: nan) and in the specification; whatever `a` is. -/
theorem guard_not_extrapolated (a : E) (x v : Rat) (hx : x < 0) :
    funcScalar false (guarded a) x ≠ .val v ∧ evalSymbolic (guarded a) x = .nan ∧ specEval (guarded a) x = .nan := by
  have hge : Rel.holds .ge x 0 = false := by simp [Rel.holds, hx]
  refine ⟨?_, ?_, ?_⟩
  · have hn : evalNumeric (guarded a) x = .nan ∨ evalNumeric (guarded a) x = .other := by
      by_cases h : evalNumeric a x = .other <;> simp [guarded, evalNumeric, selectEager, hge, h]
    have hm : causalMask false x = none := by simp [causalMask]
    simp only [funcScalar, hm]
    rcases hn with hn | hn <;> rw [hn] <;> (try split_ifs) <;> simp
  · simp [guarded, evalSymbolic, selectLazy, hge]
  · simp [guarded, specEval, selectLazy, hge]

/-- ... and the not-a-number spreads through arithmetic: no sum/product/quotient with a guarded term is a number -/
theorem nan_spreads (f : Rat → Rat → Rat) (o p : Out) (ho : ∀ v, o ≠ .val v) (v : Rat) :
    arith2 f o p ≠ .val v ∧ arith2 f p o ≠ .val v ∧ divOut o p ≠ .val v ∧ divOut p o ≠ .val v := by
  cases o <;> cases p <;> simp_all [arith2, divOut] <;> split_ifs <;> simp

/-- on its domain the guard is transparent -/
theorem guard_transparent (a : E) (x : Rat) (hx : 0 ≤ x) (ha : evalNumeric a x ≠ .other) :
    evalNumeric (guarded a) x = evalNumeric a x := by
  have hge : Rel.holds .ge x 0 = true := by simp [Rel.holds, hx]
  simp [guarded, evalNumeric, selectEager, hge, ha]

/-! ### array evaluation is the map of scalar evaluation -/

/-- a MODEL REMARK, not a property theorem (F11): `evaluateArg` is DEFINED as the `mapM` of
`funcScalar` because `evaluate_expr` is `np.array([complex(func(arg0)) for arg0 in arg])` (one scalar `func` call per
element, NOT a vectorised lambdify call; the first element is evaluated once more beforehand "to flush out weirdness"), so
this is the characterisation of `mapM`: an array exactly when every element evaluates to a number, element-wise the scalar
results.  That the CODE has this shape -- and hence the clause "array evaluation agrees element-wise with scalar
evaluation" -- is carried by the correspondence / oracle streams (list, tuple, ndarray against the scalar calls, seeded
C17-2), and, where the two routes really differ (Python float vs NumPy scalar: different fallback branches), by
`scalar_array_same_outcome` (Props/C17Limit.lean). -/
theorem array_is_map_scalar (c : Bool) (e : E) (xs : List Rat) (vs : List Rat) :
    evaluateArg c e (.list xs) = .array vs ↔ xs ≠ [] ∧ xs.map (funcScalar c e) = vs.map Out.val := by
  cases xs with
  | nil => simp [evaluateArg]
  | cons x0 rest =>
    simp only [evaluateArg, ne_eq, reduceCtorEq, not_false_eq_true, true_and, ← mapM_valOf_iff]
    cases h0 : funcScalar c e x0 with
    | val v0 =>
      simp only
      cases hm : (x0 :: rest).mapM (fun x => valOf? (funcScalar c e x)) <;> simp
    | nan | other =>
      simp only [reduceCtorEq, false_iff, List.mapM_cons, h0, valOf?]
      simp

/-- a single bad element (guarded result at a negative time, pole, ...) makes the whole call fail: never a partial array -/
theorem array_all_or_nothing (c : Bool) (e : E) (xs : List Rat) (x : Rat) (hx : x ∈ xs)
    (hbad : ∀ v, funcScalar c e x ≠ .val v) : evaluateArg c e (.list xs) = .error := by
  cases xs with
  | nil => rfl
  | cons x0 rest =>
    cases hr : evaluateArg c e (.list (x0 :: rest)) with
    | error => rfl
    | scalar o =>
      simp only [evaluateArg] at hr
      split at hr <;> (try split at hr) <;> cases hr
    | array vs =>
      have h := ((array_is_map_scalar c e (x0 :: rest) vs).mp hr).2
      have : funcScalar c e x ∈ (x0 :: rest).map (funcScalar c e) := List.mem_map_of_mem hx
      rw [h] at this
      obtain ⟨v, _, hv⟩ := List.mem_map.mp this
      exact absurd hv.symm (hbad v)

example : evaluateArg false (guarded .var) (.list [0, 1, 2]) = .array [0, 1, 2] := by decide +kernel
example : evaluateArg false (guarded .var) (.list [0, -1, 2]) = .error := by decide +kernel
example : evaluateArg true (.mul .var (.app .heaviside .var)) (.list [-1, 0, 2]) = .array [0, 0, 2] := by decide +kernel

/-! ### expression level -/

/-- for every expression of the fragment (rational functions of the variable, the special functions,
Piecewise conditions, nested arbitrarily) and every rational point that is regular for it, the lambdified numeric
function, exact symbolic substitution and the mathematical value coincide -- as numbers, or as the not-a-number of
an exhausted Piecewise.  Structural induction; the function case is `special_fn_agree`. -/
theorem expr_agree (e : E) (x : Rat) (h : regular e x = true) :
    evalNumeric e x = specEval e x ∧ evalSymbolic e x = specEval e x ∧ specEval e x ≠ .other := by
  induction e with
  | var => simp [evalNumeric, evalSymbolic, specEval]
  | const c => simp [evalNumeric, evalSymbolic, specEval]
  | nan => simp [evalNumeric, evalSymbolic, specEval]
  | add a b iha ihb | sub a b iha ihb | mul a b iha ihb =>
    simp only [regular, Bool.and_eq_true] at h
    obtain ⟨ha1, ha2, ha3⟩ := iha h.1
    obtain ⟨hb1, hb2, hb3⟩ := ihb h.2
    simp only [evalNumeric, evalSymbolic, specEval, ha1, ha2, hb1, hb2, true_and]
    exact arith2_ne_other _ _ _ ha3 hb3
  | div a b iha ihb =>
    simp only [regular, Bool.and_eq_true, bne_iff_ne, ne_eq] at h
    obtain ⟨ha1, ha2, ha3⟩ := iha h.1.1
    obtain ⟨hb1, hb2, hb3⟩ := ihb h.1.2
    simp only [evalNumeric, evalSymbolic, specEval, ha1, ha2, hb1, hb2, true_and]
    exact divOut_ne_other _ _ ha3 hb3 h.2
  | neg a iha | pow a n iha =>
    simp only [regular] at h
    obtain ⟨ha1, ha2, ha3⟩ := iha h
    simp only [evalNumeric, evalSymbolic, specEval, ha1, ha2, true_and]
    exact arith1_ne_other _ _ ha3
  | app f a iha =>
    simp only [regular, Bool.and_eq_true] at h
    obtain ⟨⟨hra, hdom⟩, hpt⟩ := h
    obtain ⟨ha1, ha2, _⟩ := iha hra
    cases hs : specEval a x with
    | val v =>
      rw [hs] at hpt
      simp only [Bool.and_eq_true, Bool.not_eq_eq_eq_not, Bool.not_true] at hpt
      obtain ⟨hn, hsym⟩ := special_fn_agree f v hpt.1 hdom
      simp only [evalNumeric, evalSymbolic, specEval, ha1, ha2, hs, appOut, hn, hsym, true_and]
      cases hv : spec f v with
      | none => rw [hv] at hpt; simp at hpt
      | some w => simp [Out.ofOption]
    | nan => rw [hs] at hpt; simp at hpt
    | other => rw [hs] at hpt; simp at hpt
  | pw r l rhs thn els ihl ihr iht ihe =>
    simp only [regular, Bool.and_eq_true] at h
    obtain ⟨⟨⟨⟨hl, hr⟩, ht⟩, he⟩, hcmp⟩ := h
    obtain ⟨hl1, hl2, _⟩ := ihl hl
    obtain ⟨hr1, hr2, _⟩ := ihr hr
    obtain ⟨ht1, ht2, ht3⟩ := iht ht
    obtain ⟨he1, he2, he3⟩ := ihe he
    cases hsl : specEval l x with
    | val a =>
      cases hsr : specEval rhs x with
      | val b =>
        simp only [evalNumeric, evalSymbolic, specEval, hl1, hl2, hr1, hr2, ht1, ht2, he1, he2, hsl, hsr]
        rw [select_eager_eq_lazy r a b _ _ ht3 he3]
        refine ⟨rfl, trivial, ?_⟩
        simp only [selectLazy]
        split_ifs <;> assumption
      | nan => rw [hsl, hsr] at hcmp; simp at hcmp
      | other => rw [hsl, hsr] at hcmp; simp at hcmp
    | nan => rw [hsl] at hcmp; simp at hcmp
    | other => rw [hsl] at hcmp; simp at hcmp

/-- the observable form: at a regular point the masked scalar evaluation of a non-causal expression, or of any
expression at t ≥ 0, is the exact symbolic value -/
theorem evaluate_is_symbolic (c : Bool) (e : E) (x : Rat) (h : regular e x = true) (hc : c = false ∨ 0 ≤ x)
    (hb : onBoundary e x = false ∨ specEval e x ≠ .nan) :
    funcScalar c e x = evalSymbolic e x := by
  have hn := (expr_agree e x h).1
  rw [causal_mask_only c e x hc (by rw [hn]; exact hb), hn, (expr_agree e x h).2.1]

-- non-vacuity: a nested expression at regular points, and a point that is rightly excluded
example : regular (.add (.mul (.app .tri (.div .var (.const 2))) (.app .heaviside (.sub .var (.const 1))))
    (guarded (.app .rampstep .var))) 3 = true := by decide +kernel
example : regular (.app .rect .var) (1/2) = false ∧ regular (.div (.const 1) .var) 0 = false := by decide +kernel

end Lcapy.C17
