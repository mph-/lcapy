/-
  PROPERTY C13, part b -- DTFT rule cascade, sequences with an origin, initial-condition indexing,
  `lfilter` = z-domain transfer function, the `discretize` substitutions, the root-of-unity DFT bins.

  Only property theorems (+ non-vacuity examples); helper lemmas are in Lcapy/Proofs/DT2.lean, the executable
  model in Lcapy/Model/DT.lean (section "Round 3"), the defining sums in Lcapy/Spec/DT.lean.

  Reading guide.  `E = e^{-jΩ}`; the DTFT of a finitely supported sequence is the bilateral finite sum
  `dtftSum x E lo len = Σ_{n=lo}^{lo+len-1} x[n] E^n`; for a causal sequence the DTFT closed form (regular part) is
  the same rational function of `w = E` as the unilateral z-transform (`IsZT`), which is what "DTFT = z-transform
  on the unit circle" means formally; the analytic anchors evaluate the sums with `‖z‖ = 1`.
  Dirac combs (steps and sinusoids that are not summable) are formal pairs: no theorem, only the model
  (`dtftComb`) and the correspondence.
-/
import Lcapy.Proofs.DT2
import Lcapy.Model.DTSel
import Mathlib.Analysis.SpecificLimits.Normed
import Mathlib.Analysis.Complex.Basic
namespace Lcapy.C13
open Lcapy Lcapy.DT PowerSeries
variable {K : Type} [Field K]
set_option linter.unusedVariables false

/-! ## 6. DTFT -/

theorem dtft_linear (x y : ℤ → K) (a b q : K) (lo : ℤ) (len : ℕ) :
    dtftSum (fun n => a * x n + b * y n) q lo len = a * dtftSum x q lo len + b * dtftSum y q lo len := by
  rw [dtftSum_add, dtftSum_smul, dtftSum_smul]

/-- a shift by any integer m (delay or advance — the DTFT is bilateral) multiplies by `E^m` -/
theorem dtft_shift (x : ℤ → K) (q : K) (hq : q ≠ 0) (lo m : ℤ) (len : ℕ) :
    dtftSum (fun n => x (n - m)) q (lo + m) len = q ^ m * dtftSum x q lo len := by
  induction len with
  | zero => simp [dtftSum]
  | succ k ih =>
    simp only [dtftSum, ih, zpowK_eq]
    have e1 : lo + m + Int.ofNat k - m = lo + Int.ofNat k := by ring
    have e2 : lo + m + Int.ofNat k = m + (lo + Int.ofNat k) := by ring
    rw [e1, e2, zpow_add₀ hq]; ring

/-- multiplication by `r^n` (r = e^{jb}) moves the frequency: `X(Ω - b)`, i.e. `E ↦ r E` -/
theorem dtft_modulate (x : ℤ → K) (r q : K) (lo : ℤ) (len : ℕ) :
    dtftSum (fun n => r ^ n * x n) q lo len = dtftSum x (r * q) lo len := dtftSum_modulate x r q lo len

/-- the rule of `DTFTTransformer.term` for `cos(b n + c) x[n]`: `1/2 (e^{-jc} X(Ω+b) + e^{jc} X(Ω-b))` -/
theorem dtft_cos_rule (x : ℤ → K) (eb ec q : K) (lo : ℤ) (len : ℕ) :
    dtftSum (fun n => (DMod.cos eb ec).val n * x n) q lo len
      = 1 / (1 + 1) * (1 / ec * dtftSum x (1 / eb * q) lo len + ec * dtftSum x (eb * q) lo len) := by
  rw [← dtftSum_modulate, ← dtftSum_modulate, ← dtftSum_smul, ← dtftSum_smul, ← dtftSum_add, ← dtftSum_smul]
  apply dtftSum_congr
  intro i _
  simp only [DMod.val, zpowK_eq, one_div, inv_zpow, mul_inv]
  ring

/-- … and for `sin(b n + c) x[n]`: `j/2 (e^{-jc} X(Ω+b) - e^{jc} X(Ω-b))` (the phase factors are NOT interchangeable:
    seeded change C13-4 swaps them) -/
theorem dtft_sin_rule (x : ℤ → K) (eb ec j q : K) (hj : j * j = -1) (lo : ℤ) (len : ℕ) :
    dtftSum (fun n => (DMod.sin eb ec j).val n * x n) q lo len
      = j / (1 + 1) * (1 / ec * dtftSum x (1 / eb * q) lo len + (-ec) * dtftSum x (eb * q) lo len) := by
  rw [← dtftSum_modulate, ← dtftSum_modulate, ← dtftSum_smul, ← dtftSum_smul, ← dtftSum_add, ← dtftSum_smul]
  apply dtftSum_congr
  intro i _
  have hinv : j⁻¹ = -j := inv_eq_of_mul_eq_one_right (by linear_combination -hj)
  have e : (1 / eb) ^ (lo + (i : ℤ)) = (eb ^ (lo + (i : ℤ)))⁻¹ := by rw [one_div, inv_zpow]
  simp only [DMod.val, zpowK_eq, e]
  simp only [div_eq_mul_inv, mul_inv, hinv, one_mul]
  ring

example : Complex.I * Complex.I = -1 := Complex.I_mul_I

/-- table entry `δ[n - d] ↦ E^d`, any integer d, for every window that contains d -/
theorem dtft_impulse (d : ℤ) (q : K) (lo : ℤ) (len : ℕ) (h : lo ≤ d ∧ d < lo + len) :
    dtftSum (fun n => if n = d then (1 : K) else 0) q lo len = q ^ d := by
  rw [dtftSum_impulse, if_pos h]

/-- finite-support sequence with first index n0: `Σ x[n] E^n = E^{n0} · (vals as a polynomial in E)` -/
theorem dtft_finite_support (vals : List K) (n0 : ℤ) (q : K) (hq : q ≠ 0) :
    dtftSum (litVal vals n0) q n0 vals.length = q ^ n0 * peval vals q := by
  rw [dtftSum_lit_aux vals n0 q hq]; simp

/-- the whole rule cascade of `DTFTTransformer.term` (sin/cos rule, then `n` rule p times, then the
    `u(n-d) a**n` resp. `δ(n-d)` rule), for every finite sum of causal terms
    `c n^p a^n {u[n-d] | δ[n-d]} {1 | cos(b n + c) | sin(b n + c)}`: the returned rational function of
    `E = e^{-jΩ}` expands to `Σ_{n≥0} x[n] E^n` coefficient-wise (for every n).
    `DTerm.ok`: d ≥ 0 (advanced gates are covered by `dtft_impulse`/`dtft_shift` and the oracle), `j² = -1`. -/
theorem dtft_rule_cascade_sound (ts : List (DTerm K)) (h : ∀ t ∈ ts, t.ok) :
    IsZT (fun n : ℕ => dsigVal ts n) (dtftRegSig ts) := by
  induction ts with
  | nil => simpa [dsigVal, dtftRegSig] using isZT_zero
  | cons t ts ih =>
    have h1 := isZT_dtftReg t (h t (by simp))
    have h2 := ih (fun t ht => h t (by simp [ht]))
    simpa [dsigVal, dtftRegSig] using h1.add h2

example : (⟨3, 1, 1 / 2, true, 2, .cos (3 / 5) (4 / 5)⟩ : DTerm ℚ).ok := by simp [DTerm.ok]

/-- DTFT = z-transform at `z = e^{jΩ}`: the DTFT closed form of a causal term and ANY closed form that is the
    unilateral z-transform of the same sequence (in particular the one produced by `ZTransformer.term`) take
    the same value at every z where both denominators are non-zero -/
theorem dtft_is_zt_on_unit_circle (ts : List (DTerm K)) (h : ∀ t ∈ ts, t.ok) (r : ZR K)
    (hr : IsZT (fun n : ℕ => dsigVal ts n) r) (z : K)
    (h1 : peval (dtftRegSig ts).den (1 / z) ≠ 0) (h2 : peval r.den (1 / z) ≠ 0) :
    (dtftRegSig ts).eval z = r.eval z :=
  eval_eq_of_isZT (dtft_rule_cascade_sound ts h) hr z h1 h2

/-- instance: `c n^p a^n u[n-d]` — the DTFT rule and the z-transform rule cascade agree on the circle -/
theorem dtft_is_zt_geometric_family (c : K) (p : ℕ) (a : K) (d : ℕ) (z : K)
    (h1 : peval (dtftReg ⟨c, p, a, true, d, .none⟩).den (1 / z) ≠ 0)
    (h2 : peval (ztTerm ⟨c, p, a, .step d⟩).den (1 / z) ≠ 0) :
    (dtftReg ⟨c, p, a, true, d, .none⟩).eval z = (ztTerm ⟨c, p, a, .step d⟩).eval z := by
  have ok : (⟨c, p, a, true, (d : ℤ), .none⟩ : DTerm K).ok := ⟨by simp, trivial⟩
  have hz := isZT_term (⟨c, p, a, .step d⟩ : CTerm K) (by simp [Base.ok])
  refine eval_eq_of_isZT (isZT_dtftReg _ ok) (hz.congr (fun n => ?_)) z h1 h2
  simp [CTerm.val, DTerm.val, Base.val, DMod.val]

/-- analytic anchor for the delayed geometric entry: on the unit circle, `‖a‖ < 1`, the bilateral defining
    sum `Σ_n a^n u[n-d] e^{-jΩn}` converges to the model's closed form -/
theorem dtft_geometric_delayed_on_circle {𝕜 : Type} [NormedField 𝕜] [CompleteSpace 𝕜] (a z : 𝕜) (d : ℕ)
    (hz : ‖z‖ = 1) (ha : ‖a‖ < 1) :
    ∑' n : ℕ, (if d ≤ n then a ^ n else 0) * (z⁻¹) ^ n
      = (dtftReg (⟨1, 0, a, true, d, .none⟩ : DTerm 𝕜)).eval z := by
  have hr : ‖a / z‖ < 1 := by rw [norm_div, hz, div_one]; exact ha
  have H := (hasSum_geometric_of_norm_lt_one hr).mul_left ((a / z) ^ d)
  have e : (dtftReg (⟨1, 0, a, true, d, .none⟩ : DTerm 𝕜)) = ⟨0, pscale 1 (pshift d [zpowK a d]), [1, -a]⟩ := by
    simp only [dtftReg, ZR.scale, iter, dtftGate, Int.natCast_nonneg, ge_iff_le, ↓reduceIte, Int.toNat_natCast]
  have hv : (dtftReg (⟨1, 0, a, true, d, .none⟩ : DTerm 𝕜)).eval z = (a / z) ^ d * (1 - a / z)⁻¹ := by
    rw [e]
    simp only [ZR.eval, powK_eq, pow_zero, one_mul, peval_pscale, peval_pshift, peval_cons, peval_nil, zpowK_eq,
      zpow_natCast, mul_zero, add_zero, div_eq_mul_inv, inv_pow]
    ring
  -- the first d terms vanish; the rest is (a/z)^d times the geometric series
  rw [hv]
  refine ((hasSum_nat_add_iff' d).mp ?_).tsum_eq
  rw [Finset.sum_eq_zero (fun i hi => by rw [if_neg (by simpa using hi), zero_mul]), sub_zero]
  refine H.congr_fun (fun i => ?_)
  rw [if_pos (Nat.le_add_left d i), ← mul_pow, ← div_eq_mul_inv, pow_add, mul_comm]

/-! ## 7. Sequences with an origin (`seq`, `nseq.ZT/DFT`, `zseq.IZT`, `Sequence.convolve`) -/

theorem seq_zt_origin (vals : List K) (n0 : ℤ) (z : K) (hz : z ≠ 0) :
    lsum (seqZT vals n0 z) = dtftSum (litVal vals n0) (1 / z) n0 vals.length := by
  rw [dtft_finite_support vals n0 (1 / z) (by simpa using hz)]
  simp [seqZT, lsum_pdilateFrom]

/-- `nseq.ZT` for a sequence whose first index is 0: the terms sum to `Σ x[n] z^{-n}`.
    (This is the list-position form `seqZTPy`, which the code used for every origin before the repair of finding F27;
    the translator tx_dtseq selects `seqZT` — theorem `seq_zt_origin` — when the source uses `self.n[ni]`.) -/
theorem seq_zt_partial (vals : List K) (z : K) (hz : z ≠ 0) :
    lsum (seqZTPy vals z) = dtftSum (litVal vals 0) (1 / z) 0 vals.length :=
  seq_zt_origin vals 0 z hz

/-- `zseq.IZT ∘ nseq.ZT` returns the values — sequence-index pair (`z**(-self.n[ni])` then `z**self.n[ni]`), first
    index n0 of any sign -/
theorem seq_izt_zt_origin (vals : List K) (n0 : ℤ) (z : K) (hz : z ≠ 0) :
    seqIZT (seqZT vals n0 z) n0 z = vals := by
  simp only [seqIZT, seqZT, pdilateFrom_pdilateFrom]
  have h1 : 1 / z * z = 1 := by field_simp
  have h2 : zpowK (1 / z) n0 * zpowK z n0 = 1 := by
    rw [zpowK_eq, zpowK_eq, one_div, inv_zpow, inv_mul_cancel₀ (zpow_ne_zero _ hz)]
  rw [h1, h2, pdilateFrom_one]

/-- … list-position pair (the code before the repair of F27; not the executed
    pair any more, see `seq_izt_zt_executed`) -/
theorem seq_izt_zt_position_partial (vals : List K) (z : K) (hz : z ≠ 0) : seqIZTPy (seqZTPy vals z) z = vals :=
  seq_izt_zt_origin vals 0 z hz

/-- THE EXECUTED PAIR: the models that Driver/C13.lean runs — selected by the flags tx_dtseq regenerates from
    lcapy/nseq.py and lcapy/zseq.py on every run (`Model/DTSel.lean`) — round-trip, values and first index.
    With the generated flags this is the sequence-index pair with kept indices (`seq_izt_zt_origin`); for an inconsistent
    pair the statement is false and this obligation breaks, as it should. -/
theorem seq_izt_zt_executed (vals : List K) (n0 : ℤ) (z : K) (hz : z ≠ 0) :
    seqIZTModel (seqZTModel vals n0 z) (seqZTIndex n0) z = vals
      ∧ (Lcapy.Generated.DTSeq.ztUsesSequenceIndex = true → seqIZTIndex (seqZTIndex n0) = n0) := by
  constructor
  · simp only [seqIZTModel, seqZTModel, seqZTIndex, Lcapy.Generated.DTSeq.ztUsesSequenceIndex,
      Lcapy.Generated.DTSeq.iztUsesSequenceIndex, Lcapy.Generated.DTSeq.ztKeepsIndices, ↓reduceIte]
    exact seq_izt_zt_origin vals n0 z hz
  · simp [seqIZTIndex, seqZTIndex, Lcapy.Generated.DTSeq.ztUsesSequenceIndex, Lcapy.Generated.DTSeq.ztKeepsIndices,
      Lcapy.Generated.DTSeq.iztKeepsIndices]

/-- `nseq.DFT`: element k is the bilateral defining sum over the sequence's own index range -/
theorem seq_dft_is_sum (vals : List K) (n0 : ℤ) (q : K) (hq : q ≠ 0) :
    seqDFTPy vals n0 q = dtftSum (litVal vals n0) q n0 vals.length := by
  rw [dtft_finite_support vals n0 q hq]; simp [seqDFTPy, lsum_pdilateFrom]

/-- `Sequence.convolve` multiplies generating polynomials … -/
theorem seq_convolve_poly (x h : List K) (hx : x ≠ []) (hh : h ≠ []) (w : K) :
    peval (convolvePy x h) w = peval x w * peval h w := by
  have := peval_eq_of_toPS _ _ ((toPS_convolve x h hx hh).trans (toPS_pmul h x).symm) w
  rw [this, peval_pmul]; ring

/-- … hence it is commutative (as lists, also with empty operands) … -/
theorem seq_convolve_comm (x h : List K) : convolvePy x h = convolvePy h x := by
  by_cases hx : x = []
  · subst hx; simp [convolvePy]
  by_cases hh : h = []
  · subst hh; simp [convolvePy]
  apply list_eq_of_toPS
  · rw [convolvePy_length x h hx hh, convolvePy_length h x hh hx]
    have := List.length_pos_iff.mpr hx
    have := List.length_pos_iff.mpr hh
    omega
  · rw [toPS_convolve x h hx hh, toPS_convolve h x hh hx, mul_comm]

/-- … and associative -/
theorem seq_convolve_assoc (x h g : List K) (hx : x ≠ []) (hh : h ≠ []) (hg : g ≠ []) :
    convolvePy (convolvePy x h) g = convolvePy x (convolvePy h g) := by
  have n1 := convolvePy_ne_nil x h hx hh
  have n2 := convolvePy_ne_nil h g hh hg
  apply list_eq_of_toPS
  · rw [convolvePy_length _ g n1 hg, convolvePy_length x h hx hh, convolvePy_length x _ hx n2,
      convolvePy_length h g hh hg]
    have := List.length_pos_iff.mpr hx
    have := List.length_pos_iff.mpr hh
    have := List.length_pos_iff.mpr hg
    omega
  · rw [toPS_convolve _ g n1 hg, toPS_convolve x h hx hh, toPS_convolve x _ hx n2, toPS_convolve h g hh hg]
    ring

/-- origin arithmetic: with first indices x0, h0 the result starts at x0 + h0 and is the bilateral convolution sum
    at EVERY integer index (also outside all supports) -/
theorem seq_convolve_origin (x : List K) (x0 : ℤ) (h : List K) (h0 : ℤ) (hx : x ≠ []) (hh : h ≠ []) (n : ℤ) :
    litVal (convolveSeq x x0 h h0).1 (convolveSeq x x0 h h0).2 n = convAt h (litVal x x0) (n - h0) := by
  simp only [convolveSeq, convAt, litVal_eq_litZ]
  rw [litZ_convolve x h hx hh]
  have : (fun k => litZ x (k - x0)) = fun k => litVal x x0 k := by funext k; rw [litVal_eq_litZ]
  have e2 : bsum h (litVal x x0) (n - h0) = bsum h (fun k => litZ x (k - x0)) (n - h0) := by rw [this]
  rw [e2, bsum_shift]
  congr 1; ring

example : convolveSeq ([1, 2, 3] : List ℚ) (-1) [0, 1] 2 = ([0, 1, 2, 3], 1) := by decide +kernel

/-! ## 8. Difference equations: initial-condition order, transfer function, impulse response, `lfilter` -/

/-- the initial-condition list is `ic = [y[-1], y[-2], …]` (most recent first) … -/
theorem response_ic_indexing (b a : List K) (x : ℤ → K) (ic : List K) (i : ℕ) (hi : i < ic.length) :
    respY b a x ic (-((i : ℤ) + 1)) = ic[i] := by
  rw [respY_neg b a x ic i, List.getD_eq_getElem _ _ hi]

example : (2 : ℕ) < ([5, 7, 9] : List ℚ).length := by decide

/-- … and this is how it enters the first computed sample:
    `a_0 y[0] = Σ_l b_l x[-l] - Σ_{k≥1} a_k ic[k-1]` (seeded change C13-2 loads the list reversed) -/
theorem response_first_sample (b a : List K) (x : ℤ → K) (ic : List K) :
    respY b a x ic 0 = (bsum b x 0 - dot a.tail ic) / a.headD 0 := by
  simp [respY, respRun, respStep]

/-- the same fact read off the difference equation at n = 0 with `y[-k] = ic[k-1]` -/
theorem response_first_sample_de (b a : List K) (x : ℤ → K) (ic : List K) (ha : a.headD 0 ≠ 0)
    (hlen : a.length = ic.length + 1) :
    a.headD 0 * respY b a x ic 0 + dot a.tail ic = bsum b x 0 := by
  rw [response_first_sample]; field_simp; ring

/-- difference equation ⇔ transfer function, arbitrary causal input and output (any orders):
    `Σ_k a_k y[n-k] = Σ_l b_l x[n-l]` for all n ≥ 0  ⇔  `A(w) Y(w) = B(w) X(w)` -/
theorem difference_equation_iff_transfer (a b : List K) (x y : ℕ → K) :
    toPS a * PowerSeries.mk y = toPS b * PowerSeries.mk x
      ↔ ∀ n : ℕ, bsum a (extZ y) n = bsum b (extZ x) n := by
  have e1 : ∀ u : ℕ → K, extZ (fun m => coeff m (PowerSeries.mk u)) = extZ u := by
    intro u; funext i; simp [extZ]
  constructor
  · intro e n
    have := congrArg (coeff n) e
    rwa [coeff_toPS_mul, coeff_toPS_mul, e1, e1] at this
  · intro e
    ext n
    rw [coeff_toPS_mul, coeff_toPS_mul, e1, e1]
    exact e n

/-- the impulse response (inverse z-transform of B/A by long division) is the recursion's response to `δ[n]` at rest -/
theorem impulse_response_is_delta_response (b a : List K) (ha : a.headD 0 ≠ 0) (n : ℕ) :
    respY b a (fun i => if i = 0 then 1 else 0) (List.replicate (a.length - 1) 0) n = hCoeff b a n := by
  rw [recursion_is_convolution' b a _ _ ha (lfilter_zeros_len a ha)
    (by intro v hv; exact (List.mem_replicate.mp hv).2) (by intro i hi; simp; omega) n]
  rw [Finset.sum_eq_single (n, 0)]
  · simp
  · intro p hp hne
    have h1 : p.1 + p.2 = n := by simpa using hp
    have : p.2 ≠ 0 := by
      intro h0; apply hne; ext <;> simp <;> omega
    simp [this]
  · intro h; simp at h

/-- `Sequence.lfilter(b, a)` IS the z-domain route: the first `len x` coefficients of `B(w) X(w) / A(w)`,
    for every numerator and denominator order -/
theorem lfilter_eq_series (b a x : List K) (ha : a.headD 0 ≠ 0) :
    lfilterPy b a x = series (pmul b x) a x.length := by
  apply List.ext_getElem
  · simp [lfilterPy_length, series, seriesFrom_length]
  · intro i h1 h2
    have hi : i < x.length := by simpa [lfilterPy_length] using h1
    have := series_unique (pmul b x) a ha _ (lfilter_ps b a x ha) x.length i hi
    rw [List.getD_eq_getElem _ _ h2] at this
    rw [this, coeff_mk, ← lfilter_getD b a x i hi, List.getD_eq_getElem _ _ h1]

example : lfilterPy ([1, 1] : List ℚ) [1, -1 / 2] [1, 2, 3] = series (pmul [1, 1] [1, 2, 3]) [1, -1 / 2] 3 := by
  decide +kernel

/-! ## 9. `discretize`: substitutions `s = f(z)` -/

/-- the model's coefficient-level substitution is composition with the map, for all degrees -/
theorem discretize_is_substitution (num den sn sd : List K) (w : K) (hD : peval sd w ≠ 0) :
    peval (substRat num den sn sd).1 w / peval (substRat num den sn sd).2 w
      = peval num (peval sn w / peval sd w) / peval den (peval sn w / peval sd w) := by
  simp only [substRat, peval_homSubst]
  rw [hval_eq _ _ hD num _ (by omega), hval_eq _ _ hD den _ (by omega)]
  have : peval sd w ^ (max num.length den.length - 1) ≠ 0 := pow_ne_zero _ hD
  rw [mul_div_mul_left _ _ this]

/-- `generalized_bilinear_transform(alpha)`: the model's (numerator, denominator) pair is the documented map
    `s = (1/Δ) (1 - z⁻¹)/(α + (1 - α) z⁻¹)` -/
theorem gbt_documented_map (alpha dt w : K) (hdt : dt ≠ 0) :
    peval gbtNum w / peval (gbtDen alpha dt) w = 1 / dt * (1 - w) / (alpha + (1 - alpha) * w) := by
  simp only [gbtNum, gbtDen, peval_cons, peval_nil]
  rw [div_mul_eq_mul_div, one_mul, div_div]
  congr 1 <;> ring

/-- `bilinear_transform` (α = 1/2): `s = (2/Δ) (1 - z⁻¹)/(1 + z⁻¹)` -/
theorem bilinear_documented_map (dt w : K) (hdt : dt ≠ 0) (h2 : (1 + 1 : K) ≠ 0) (hw : 1 + w ≠ 0) :
    peval gbtNum w / peval (gbtDen (1 / (1 + 1)) dt) w = (1 + 1) / dt * (1 - w) / (1 + w) := by
  rw [gbt_documented_map _ _ _ hdt, ← mul_div_mul_left _ _ h2]
  congr 1
  · ring
  · field_simp; ring

/-- `forward_euler_transform` (α = 0): `s = (1/Δ) (1 - z⁻¹)/z⁻¹` -/
theorem forward_euler_documented_map (dt w : K) (hdt : dt ≠ 0) :
    peval gbtNum w / peval (gbtDen 0 dt) w = 1 / dt * (1 - w) / w := by
  rw [gbt_documented_map _ _ _ hdt]; simp

/-- `backward_euler_transform` (α = 1): `s = (1/Δ) (1 - z⁻¹)` -/
theorem backward_euler_documented_map (dt w : K) (hdt : dt ≠ 0) :
    peval gbtNum w / peval (gbtDen 1 dt) w = 1 / dt * (1 - w) := by
  rw [gbt_documented_map _ _ _ hdt]; simp

/-- `simpson_transform`: `s = (3/Δ) (z² - 1)/(z² + 4 z + 1)` -/
theorem simpson_documented_map (dt z : K) (hdt : dt ≠ 0) (hz : z ≠ 0) (hd : z ^ 2 + (1 + 1 + 1 + 1) * z + 1 ≠ 0) :
    peval simpsonNum (1 / z) / peval (simpsonDen dt) (1 / z)
      = (1 + 1 + 1) / dt * (z ^ 2 - 1) / (z ^ 2 + (1 + 1 + 1 + 1) * z + 1) := by
  -- numerator and denominator of the left side are those of the right side divided by z² (w = 1/z, z w = 1)
  have hw : z * (1 / z) = 1 := mul_one_div_cancel hz
  generalize 1 / z = w at hw
  have e1 : peval (simpsonDen dt) w * z ^ 2 = dt * (z ^ 2 + (1 + 1 + 1 + 1) * z + 1) := by
    simp only [simpsonDen, peval_cons, peval_nil]
    linear_combination (dt * (z * w + 1 + (1 + 1 + 1 + 1) * z)) * hw
  have e2 : peval simpsonNum w * z ^ 2 = (1 + 1 + 1) * (z ^ 2 - 1) := by
    simp only [simpsonNum, peval_cons, peval_nil]
    linear_combination (-(1 + 1 + 1) * (z * w + 1)) * hw
  rw [← mul_div_mul_right _ _ (pow_ne_zero 2 hz), e1, e2, div_mul_eq_mul_div, div_div]

/-- the bilinear map sends the s-plane pole p to `z = (2 + pΔ)/(2 - pΔ)` -/
theorem bilinear_pole_map (dt p z : K) (hdt : dt ≠ 0) (hz : z ≠ 0) (hz1 : z + 1 ≠ 0)
    (hp : (1 + 1) - p * dt ≠ 0) :
    (1 + 1) / dt * (1 - 1 / z) / (1 + 1 / z) = p ↔ z = ((1 + 1) + p * dt) / ((1 + 1) - p * dt) := by
  have key : (1 + 1) / dt * (1 - 1 / z) / (1 + 1 / z) = (1 + 1) * (z - 1) / (dt * (z + 1)) := by
    field_simp
  rw [key, div_eq_iff (mul_ne_zero hdt hz1), eq_div_iff hp]
  constructor <;> intro e <;> linear_combination e

/-- forward Euler: `p ↦ z = 1 + pΔ` -/
theorem forward_euler_pole_map (dt p z : K) (hdt : dt ≠ 0) (hz : z ≠ 0) :
    1 / dt * (1 - 1 / z) / (1 / z) = p ↔ z = 1 + p * dt := by
  constructor
  · intro e; field_simp at e; linear_combination e
  · intro e; field_simp; linear_combination e

/-- backward Euler: `p ↦ z = 1/(1 - pΔ)` -/
theorem backward_euler_pole_map (dt p z : K) (hdt : dt ≠ 0) (hz : z ≠ 0) (hp : 1 - p * dt ≠ 0) :
    1 / dt * (1 - 1 / z) = p ↔ z = 1 / (1 - p * dt) := by
  constructor
  · intro e; field_simp at e; field_simp; linear_combination e
  · intro e; field_simp at e; field_simp; linear_combination e

/-- stability is preserved by the bilinear map: a pole in the open left half-plane lands strictly inside the
    unit circle, for every sampling interval Δ > 0 -/
theorem bilinear_lhp_to_unit_disc (p : ℂ) (dt : ℝ) (hdt : 0 < dt) (hp : p.re < 0) :
    ‖((2 : ℂ) + p * dt) / ((2 : ℂ) - p * dt)‖ < 1 := by
  have hne : (2 : ℂ) - p * dt ≠ 0 := by
    intro e
    have := congrArg Complex.re e
    simp at this
    nlinarith
  rw [norm_div, div_lt_one (norm_pos_iff.mpr hne)]
  have hsq : ‖(2 : ℂ) + p * dt‖ ^ 2 < ‖(2 : ℂ) - p * dt‖ ^ 2 := by
    rw [Complex.sq_norm, Complex.sq_norm, Complex.normSq_apply, Complex.normSq_apply]
    simp
    nlinarith
  exact lt_of_pow_lt_pow_left₀ 2 (norm_nonneg _) hsq

/-- impulse invariance for simple poles, `H(s) = Σ_i r_i/(s - p_i)`, `E_i = e^{p_i Δ}`: the returned H(z) is the
    z-transform of the sampled impulse response scaled by Δ, `h[n] = Δ Σ_i r_i E_i^n = Δ h_c(nΔ)`, for every n -/
theorem impulse_invariance_samples (dt : K) (l : List (K × K)) :
    IsZT (fun n : ℕ => dt * (l.map (fun re => re.1 * re.2 ^ n)).sum) (impulseInvariance dt l) := by
  induction l with
  | nil => simpa [impulseInvariance] using isZT_zero
  | cons re rest ih =>
    obtain ⟨r, e⟩ := re
    have h1 : IsZT (fun n : ℕ => dt * r * (e ^ n * (if 0 ≤ n then (1 : K) else 0)))
        (⟨0, [dt * r], [1, -e]⟩ : ZR K) := by
      have := (isZT_dtftGate e true 0).scale (dt * r)
      refine IsZT.of_toPS this rfl ?_ ?_
      · simp [ZR.scale, dtftGate, pscale, pshift]
      · simp [ZR.scale, dtftGate]
    have := h1.add ih
    simp only [impulseInvariance]
    refine this.congr (fun n => ?_)
    simp
    ring

/-! ## 10. The DFT bin where the geometric base meets the kernel (`a q = 1`, a an N-th root of unity) -/

/-- at the bin `k0` with `a · ω^{k0} = 1` the defining sum of `wt[n] a^n` is `Σ wt[n]` — the value the "special case"
    of `termXq` carries there since the repair of finding F20 (the model branch `numeric ∧ a^N = 1 ∧ a q = 1`) -/
theorem dft_root_of_unity_bin (wt : ℕ → K) (a q : K) (haq : a * q = 1) (N : ℕ) :
    dftSum (fun n => wt n * a ^ n) q N = dftSum wt 1 N := by
  induction N with
  | zero => rfl
  | succ N ih =>
    simp only [dftSum, ih, powK_eq, one_pow, mul_one]
    rw [mul_assoc, ← mul_pow, haq, one_pow, mul_one]

/-- p = 0: `Σ_{l ≤ n < N} a^n q^n = N - l` -/
theorem dft_root_of_unity_bin_step (a q : K) (haq : a * q = 1) (l N : ℕ) (hl : l ≤ N) :
    dftSum (fun n => if l ≤ n then a ^ n else 0) q N = (N : K) - (l : K) :=
  dftSum_bin_step a q haq l N hl

/-- p = 1: Faulhaber, `2 Σ_{l ≤ n < N} n = N(N-1) - l(l-1)` -/
theorem dft_root_of_unity_bin_ramp (a q : K) (haq : a * q = 1) (l N : ℕ) (hl : l ≤ N) :
    (1 + 1) * dftSum (fun n => if l ≤ n then (n : K) * a ^ n else 0) q N
      = (N : K) * ((N : K) - 1) - (l : K) * ((l : K) - 1) :=
  dftSum_bin_ramp a q haq l N hl

example : ((-1 : ℚ) * (-1) = 1) := by norm_num

end Lcapy.C13
