/-
  C16 -- checks of the GENERATED configuration (Lcapy/Generated/Caches.lean, rewritten from
  lcapy's source text on every run) that hold of the current code, and the instance of
  `fresh_refinement_partial` at that configuration.
-/
import Lcapy.Props.C16
import Lcapy.Props.C16Pure
import Lcapy.Generated.Caches
namespace Lcapy.C16
open Lcapy.Cache Lcapy.Gen.Caches

/-- public `add` calls `_invalidate()` -/
theorem add_invalidates : config.addInvalidates = true := by decide

/-- ... unconditionally, hence also after a multi-line `add` (for which `_add` returns None) -/
theorem add_multi_invalidates : config.addMultiInvalidates = true := by decide

/-- public `remove` calls `_invalidate()` -/
theorem remove_invalidates : config.removeInvalidates = true := by decide

/-- `Netlist.remove` detaches the component from EVERY node it has (`for node in cpt.nodes`), whatever its arity -/
theorem remove_detaches_all_nodes : config.removeSel = .all := by decide

/-- ... and so does the override branch of `_cpt_add` with the component it replaces -/
theorem override_detaches_all_nodes : config.overrideSel = .all := by decide

/-- AST scan of the whole package: no helper class that keeps a reference to a cached / memoised object of the
    netlist it was given (`cct.cg`, `cct.node_map`, `cct.components`, ...), and no netlist member, calls a mutating
    method on such an object or assigns into it -/
theorem shared_cached_objects_not_mutated : sharedMutations = [] := by decide

/-- hence no public read-only member damages a memo slot -/
theorem no_query_damages_cache : config.damages = [] := by decide

/-- the scan is not vacuous: cached objects ARE handed out by reference (`CircuitGraph` keeps `cct.node_map`) -/
example : sharedHandouts ≠ [] := by decide

/-- the grammar table read from grammar.py has components with more than two nodes (E, G, TF, TP, opamp forms) -/
example : ∃ r ∈ rules, r.1 = "E" ∧ (r.2.filter (· == "n")).length = 4 := by decide

/-- every context is given the one process-wide symbol registry (`State.new_context`), which is what the symbol
    machine of Props/C16Sym.lean assumes (`use_ignores_context`) -/
theorem contexts_share_symbols : contextsShareSymbols = true := by decide

/-- a key that occurs in a table is found by `lookup` -/
theorem lookup_isSome_of_mem_keys {α : Type} (l : List (String × α)) (k : String) (h : k ∈ l.map (·.1)) :
    (l.lookup k).isSome = true := by
  induction l with
  | nil => simp at h
  | cons x xs ih =>
    obtain ⟨a, b⟩ := x
    by_cases hk : k = a
    · subst hk; simp [List.lookup]
    · have : (k == a) = false := by simpa using hk
      simp only [List.map_cons, List.mem_cons] at h
      rcases h with h | h
      · exact absurd h hk
      · simp [List.lookup, this, ih h]

/-- the generated sub-tables are aligned with the lists of names they are made for (row k belongs to name k) -/
theorem public_rows_aligned : publicReads.map (·.1) = publicMembers ∧ memberWrites.map (·.1) = publicMembers :=
  ⟨rfl, rfl⟩

theorem harness_rows_aligned : harnessReads.map (·.1) = harnessQueries := rfl

/-- EVERY public member of the netlist classes has a row in the generated tables: its memo closure (`reads`) and the
    non-memo instance state it writes (`memberWrites`).  A member without a row would be treated as reading and writing
    nothing; with this theorem a missing row is a broken obligation. -/
theorem every_public_member_has_rows :
    ∀ m ∈ publicMembers, (config.reads.lookup m).isSome = true ∧ (memberWrites.lookup m).isSome = true := by
  intro m hm
  refine ⟨?_, ?_⟩
  · apply lookup_isSome_of_mem_keys
    show m ∈ (harnessReads ++ queryReads ++ publicReads).map (·.1)
    simp only [List.map_append, List.mem_append]
    exact Or.inr (public_rows_aligned.1 ▸ hm)
  · exact lookup_isSome_of_mem_keys _ _ (public_rows_aligned.2 ▸ hm)

/-- ... and every query the harness asks has a row: it is never silently treated as reading nothing -/
theorem harness_queries_have_rows : ∀ q ∈ harnessQueries, (config.reads.lookup q).isSome = true := by
  intro q hq
  apply lookup_isSome_of_mem_keys
  show q ∈ (harnessReads ++ queryReads ++ publicReads).map (·.1)
  simp only [List.map_append, List.mem_append]
  exact Or.inl (Or.inl (harness_rows_aligned ▸ hq))

/-- the modules of the netlist / memo layer: what computes and stores the memoised analyses -/
def netlistLayer : List String := ["netlist.py", "netlistmixin.py", "netlistopsmixin.py", "netlistsimplifymixin.py", "netfile.py",
  "mna.py", "subnetlist.py", "circuitgraph.py", "analysis.py", "components.py", "nodalanalysis.py", "loopanalysis.py",
  "statespacemaker.py", "laddernetworkmaker.py", "simulator.py", "nodes.py", "node.py", "mnacpts.py"]

/-- Over the WHOLE generated settings table: the only process-wide setting that a module of the netlist / memo layer
    reads is `config.solver_method` (netlist.py copies it into every instance at construction, `matrix.py` uses it as the
    default method).  The solver method cannot change the value of a result (C01 `solver_independent`), only the form of
    an expression; it is toggled in the oracle together with the `state.*` flags, where results are compared by value.
    Every `state.<setting>` is consulted by the expression layer only (expr.py, texpr.py, sexpr.py, current.py, ...), i.e.
    at the time an expression is built, transformed or printed.  Whether a memoised analysis is sensitive to a setting
    is decided on the real code by the toggle oracle (Props/C16Env.lean only describes the mechanism). -/
theorem netlist_layer_reads_only_solver_method :
    ∀ s ∈ settings, ∀ m ∈ s.2.2, m ∈ netlistLayer → s.1 = "config.solver_method" := by decide +kernel

/-- the `state.*` part of it, as a list of reader modules -/
theorem netlist_layer_reads_no_state_setting : ∀ m ∈ stateSettingReaders, m ∉ netlistLayer := by decide +kernel

/-- the table is not empty: the settings ARE read somewhere -/
example : "expr.py" ∈ stateSettingReaders ∧ settings.length ≥ 10 := by decide

/-- no function of the package has a mutable default argument (`def f(..., p={})`): no dictionary / list is shared by
    all calls of the process (side condition of Props/C16Alias.lean `renumber_history_independent`) -/
theorem no_mutable_default_arguments : mutableDefaults = [] := by decide

/-- no function of the package mutates an object owned by one of its arguments through an un-copied alias
    (`x = arg.attr; x.set(...)`): side condition of Props/C16Alias.lean `derivations_keep_source` -/
theorem arguments_not_mutated_through_alias : argAliasMutations = [] := by decide

/-- `_invalidate` only names members that are memoised (anything else would raise) -/
theorem cleared_are_memoised : ∀ s ∈ config.cleared, (config.kindOf s).isSome = true := by decide +kernel

/-- every memo dependency and every slot a query of the harness reads is a memoised member -/
theorem reads_are_memoised :
    (∀ p ∈ config.deps, ∀ d ∈ p.2, (config.kindOf d).isSome = true) ∧
    (∀ p ∈ harnessReads, ∀ d ∈ p.2, (config.kindOf d).isSome = true) := by decide +kernel

/-- every keyword argument a transformer class looks at also enters its cache key, with a default
    of the same truth value (otherwise a call that omits the argument and a call that passes the
    other value share a memo entry: the hypothesis of `memo_transparent` fails) -/
theorem transform_keys_complete :
    ∀ t ∈ transformers, ∀ p ∈ t.2.2, p ∈ t.2.1 := by decide +kernel

/-- slots for which history independence is claimed of the current code: everything that is
    neither uncleared nor computed (transitively) from an uncleared slot -/
def Gpartial (s : String) : Bool := Gexcl config knownUncleared s

/-- for those slots the generated configuration meets the side conditions -/
theorem partial_slots_ok : cfgOKb config Gpartial = true := by decide +kernel

/-- non-vacuity: the claimed set contains the solver caches and the cached properties -/
example : Gpartial "_subcircuits_make" = true ∧ Gpartial "Vdict" = true ∧ Gpartial "node_list" = true ∧
    Gpartial "node_map" = true ∧ Gpartial "branch_list" = true := by decide +kernel

/-- CURRENT CODE, PARTIAL: for every history of admissible operations (public, no exception, an
    `add` over an existing name only if `_cpt_add` detaches the old component), every query that
    reads only slots of `Gpartial` answers as on a freshly built circuit.
    Excluded: queries reading a slot of `knownUncleared` (`_components`, `_sim`, the slots finding C16-F14a was about) or
    what is computed from them (`analyse`, `modified_nodal_analysis`), and overriding adds. -/
theorem fresh_refinement_partial_current (ops : List Op) (hr : RunOK config World.empty ops)
    (i : Nat) (inst : Inst) (hi : (run config World.empty ops).insts[i]? = some inst)
    (q : String) (hq : ∀ d ∈ config.readsOf q, Gpartial d = true) :
    answer config (run config World.empty ops) i q = answer config (build inst.elts) 0 q :=
  fresh_refinement_partial config Gpartial partial_slots_ok add_invalidates remove_invalidates ops hr i inst hi q hq

/-- which of the harness's queries are covered by the partial theorem -/
example : (∀ d ∈ config.readsOf "get_Vd", Gpartial d = true) ∧ (∀ d ∈ config.readsOf "get_I", Gpartial d = true) ∧
    (∀ d ∈ config.readsOf "node_list", Gpartial d = true) ∧ (∀ d ∈ config.readsOf "kinds", Gpartial d = true) := by
  decide +kernel

end Lcapy.C16
