/-
  PROPERTY C03 -- responses are linear in the sources: superposition over sources and
  signal kinds.  Helpers are in Lcapy/Proofs/Linear.lean and Lcapy/Proofs/LinearN.lean.
-/
import Lcapy.Proofs.Linear
import Lcapy.Proofs.LinearN
import Lcapy.Model.Decompose
import Lcapy.Spec.Noise
import Lcapy.Props.C01
namespace Lcapy.C03
open Lcapy.MNA Ix
variable {K : Type} [Field K]

/-- **scaling** (ALL independent quantities at once; one source: Props/C03Groups.lean `scaling_one_source`,
    `scaling_one_of_many`): scaling every independent source (and initial condition) by `a` scales every
    node voltage and branch current by `a`.  Any netlist, any analysis kind, any point s. -/
theorem scaling (kind : Kind) (s a : K) (cs : List (Cpt K)) (x : Ix → K)
    (h : Solves kind s cs x) :
    Solves kind s (cs.map (Cpt.mapSrc (fun v => a * v))) (fun i => a * x i) := by
  intro r hr
  rw [residual_scale, h r hr, mul_zero]

/-- **superposition**: if two copies of a circuit differ only in the values of their
    independent sources / initial conditions, the sum of their solutions solves the circuit
    whose source values are the sums.  Netlists of any size. -/
theorem superposition (kind : Kind) (s : K) (cs cs' : List (Cpt K)) (x y : Ix → K)
    (hs : List.Forall₂ SameShape cs cs')
    (hx : Solves kind s cs x) (hy : Solves kind s cs' y) :
    Solves kind s (List.zipWith Cpt.addSrc cs cs') (fun i => x i + y i) := by
  intro r hr
  have hx' := hx r hr
  have hy' := hy r hr
  rw [residual_stampAll] at hx' hy' ⊢
  have key : ∀ (l l' : List (Cpt K)), List.Forall₂ SameShape l l' →
      lsum ((List.zipWith Cpt.addSrc l l').map (fun c => residual (stamp kind s c) (fun i => x i + y i) r)) =
        lsum (l.map (fun c => residual (stamp kind s c) x r)) +
        lsum (l'.map (fun c => residual (stamp kind s c) y r)) := by
    intro l l' hl
    induction hl with
    | nil => simp [lsum]
    | cons hc _ ih =>
      simp only [List.zipWith_cons_cons, List.map_cons, lsum, ih, residual_add_cpt kind s _ _ hc]
      ring
  rw [key cs cs' hs, hx', hy', add_zero]

/-- each source acting alone: the response to the sum of the sources is the sum of the responses,
    and by `C01.mna_unique` it is THE response when the circuit is non-singular. -/
theorem superposition_unique (kind : Kind) (s : K) (cs cs' : List (Cpt K)) (x y z : Ix → K)
    (hs : List.Forall₂ SameShape cs cs')
    (hx : Solves kind s cs x) (hy : Solves kind s cs' y)
    (hz : Solves kind s (List.zipWith Cpt.addSrc cs cs') z)
    (hns : C01.Nonsingular kind s (List.zipWith Cpt.addSrc cs cs')) :
    ∀ i, C01.Unknown kind s (List.zipWith Cpt.addSrc cs cs') i → z i = x i + y i :=
  C01.mna_unique kind s _ z _ hns hz (superposition kind s cs cs' x y hs hx hy)

/-- REMARK (the definition of `outflow` at value 0, not a claimed result; the kill content is Props/C03Wire.lean
    `kill_V_equiv`): a killed current source (value 0) injects nothing anywhere, like an open circuit -/
theorem killed_I_is_open (kind : Kind) (s : K) (x : Ix → K) (n1 n2 k : Nat) :
    outflow kind s x k (.I n1 n2 0) = outflow kind s x k (.Open n1 n2) := by
  simp [outflow, twoTerm]

/-- REMARK (the definition of `laws` at value 0; says nothing about currents/KCL — the statement that a killed V
    source IS the wire Lcapy replaces it with, node merging included, is Props/C03Wire.lean `kill_V_equiv`):
    a killed voltage source (value 0) forces its two nodes to the same voltage -/
theorem killed_V_is_short (kind : Kind) (s : K) (x : Ix → K) (n1 n2 m : Nat) :
    (∀ p ∈ laws kind s x (.V n1 n2 m 0), p.2 = 0) ↔ volt x n1 = volt x n2 := by
  simp [laws, vd, sub_eq_zero]

/-! ### decomposition into dc / per-frequency ac / transient parts reassembles to the signal -/
section
open Lcapy.Decompose
variable [DecidableEq K]

omit [DecidableEq K] in
theorem sumK_append (a b : List K) : sumK (a ++ b) = sumK a + sumK b := by
  induction a with
  | nil => simp [sumK]
  | cons h t ih => simp [sumK, ih, add_assoc]

omit [DecidableEq K] in
theorem sumK_perm {l l' : List K} (h : l.Perm l') : sumK l = sumK l' := by
  induction h with
  | nil => rfl
  | cons _ _ ih => simp [sumK, ih]
  | swap a b l => simp [sumK]; ring
  | trans _ _ ih1 ih2 => rw [ih1, ih2]

/-- accumulating a sinusoid into the per-frequency list adds its value, for any reading `f w a b` of an entry that is
    additive in the two amplitudes -/
theorem acInsert_sum (f : K → K → K → K) (hf : ∀ w a a' b b', f w (a' + a) (b' + b) = f w a' b' + f w a b)
    (w a b : K) (l : List (K × K × K)) :
    sumK ((acInsert w a b l).map (fun p => f p.1 p.2.1 p.2.2)) = sumK (l.map (fun p => f p.1 p.2.1 p.2.2)) + f w a b := by
  induction l with
  | nil => simp [acInsert, sumK]
  | cons h t ih =>
    obtain ⟨w', a', b'⟩ := h
    by_cases hw : w' = w
    · subst hw; simp only [acInsert, if_true, List.map_cons, sumK, hf]; ring
    · simp only [acInsert, hw, if_false, List.map_cons, sumK, ih]; ring

theorem step_sem (C S : K → K) (X : Nat → K) (d : Decomp K) (t : Term K) :
    semDecomp C S X (step d t) = semDecomp C S X d + semTerm C S X t := by
  cases t with
  | dc c => simp [step, semDecomp, semTerm]; ring
  | ac w a b =>
    simp [step, semDecomp, semTerm, acInsert_sum (fun w a b => a * C w + b * S w) (fun _ _ _ _ _ => by ring)]; ring
  | tr i c => simp [step, semDecomp, semTerm, sumK_append, sumK]; ring

/-- **decompose_reassemble**: however many terms of whatever kinds a source expression has
    (including several sinusoids of one frequency), the DC + per-frequency phasor + transient
    decomposition adds back to the same signal at every instant. -/
theorem decompose_reassemble (C S : K → K) (X : Nat → K) (ts : List (Term K)) :
    semDecomp C S X (decompose ts) = sumK (ts.map (semTerm C S X)) := by
  have gen : ∀ (d : Decomp K), semDecomp C S X (ts.foldl step d) =
      semDecomp C S X d + sumK (ts.map (semTerm C S X)) := by
    induction ts with
    | nil => intro d; simp [sumK]
    | cons t ts ih => intro d; simp only [List.foldl_cons, List.map_cons, sumK, ih, step_sem]; ring
  rw [decompose, gen]; simp [semDecomp, sumK]

/-- grouping invariance: decomposing a permutation of the terms gives the same signal -/
theorem grouping_invariant (C S : K → K) (X : Nat → K) (ts ts' : List (Term K)) (h : ts.Perm ts') :
    semDecomp C S X (decompose ts) = semDecomp C S X (decompose ts') := by
  rw [decompose_reassemble, decompose_reassemble]
  exact sumK_perm (h.map _)
end

/-! ### noise: same identifier adds in amplitude, distinct identifiers add in power -/
section
open Lcapy.Noise

/-- REMARK (sanity of the SPEC formula on a 2-element list, same transfer value; the claimed noise content is
    Props/C03Noise.lean `parts_power_is_noisePower`, `lookup_superAdd`, `noise_sub_zero_left`): one identifier, amplitudes add -/
theorem noise_same_id_amplitude (h : K × K) (a b : K) :
    noisePower [[(h, a), (h, b)]] = normSq h * ((a + b) * (a + b)) := by
  simp [noisePower, groupSum, normSq]; ring

/-- REMARK (sanity of the spec formula, 2 sources): distinct identifiers, powers add -/
theorem noise_distinct_ids_power (h : K × K) (a b : K) :
    noisePower [[(h, a)], [(h, b)]] = normSq h * (a * a + b * b) := by
  simp [noisePower, groupSum, normSq]; ring

theorem groupSum_perm (g g' : List ((K × K) × K)) (hp : g.Perm g') : groupSum g = groupSum g' := by
  induction hp with
  | nil => rfl
  | cons x _ ih => obtain ⟨⟨re, im⟩, a⟩ := x; simp [groupSum, ih]
  | swap x y l =>
    obtain ⟨⟨re, im⟩, a⟩ := x; obtain ⟨⟨re', im'⟩, a'⟩ := y
    simp [groupSum]; constructor <;> ring
  | trans _ _ ih1 ih2 => rw [ih1, ih2]

/-- the total does not depend on the order in which the noise sources of an identifier are listed,
    nor on the order of the identifiers -/
theorem noisePower_perm (gs gs' : List (List ((K × K) × K))) (hp : gs.Perm gs') :
    noisePower gs = noisePower gs' := by
  induction hp with
  | nil => rfl
  | cons _ _ ih => simp [noisePower, ih]
  | swap x y l => simp [noisePower]; ring
  | trans _ _ ih1 ih2 => rw [ih1, ih2]

/-- REMARK (sanity of the spec formula, 2 sources): splitting one identifier group into two identifiers changes the
    power by the cross term: same-identifier sources are NOT interchangeable with distinct ones -/
theorem noise_cross_term (h1 h2 : K × K) (a b : K) :
    noisePower [[(h1, a), (h2, b)]] =
      noisePower [[(h1, a)], [(h2, b)]] + 2 * (a * b) * (h1.1 * h2.1 + h1.2 * h2.2) := by
  simp [noisePower, groupSum, normSq]; ring
end

/-! ### N sources: the response is the sum of the responses to each source acting alone -/

/-- **each_source_alone** (the property's first sentence at full strength): take ANY netlist with any
    number of components; `alone cs` lists, for every component in turn, the netlist in which only that
    component keeps its independent quantities (source value / initial conditions) and every other one
    is zeroed — what `kill_except` builds.  If `xs` are solutions of these single-source circuits, their
    sum solves the full circuit.  Every analysis kind, every point s, netlists of any size. -/
theorem each_source_alone (kind : Kind) (s : K) (cs : List (Cpt K)) (xs : List (Ix → K))
    (hl : xs.length = cs.length)
    (h : List.Forall₂ (fun a x => Solves kind s a x) (alone cs) xs) :
    Solves kind s cs (sumX xs) := by
  intro r hr
  rw [← sumRes_alone kind s r cs xs hl]
  have key : ∀ (as : List (List (Cpt K))) (ys : List (Ix → K)),
      List.Forall₂ (fun a x => Solves kind s a x) as ys → sumRes kind s r as ys = 0 := by
    intro as ys hf
    induction hf with
    | nil => simp [sumRes]
    | cons hax _ ih => simp [sumRes, hax r hr, ih]
  exact key _ _ h

/-- … and when the full circuit is non-singular it is THE reported response (C01.mna_unique) -/
theorem each_source_alone_unique (kind : Kind) (s : K) (cs : List (Cpt K)) (xs : List (Ix → K))
    (z : Ix → K) (hl : xs.length = cs.length)
    (h : List.Forall₂ (fun a x => Solves kind s a x) (alone cs) xs)
    (hz : Solves kind s cs z) (hns : C01.Nonsingular kind s cs) :
    ∀ i, C01.Unknown kind s cs i → z i = sumX xs i :=
  C01.mna_unique kind s _ z _ hns hz (each_source_alone kind s cs xs hl h)

/-- the single-source family has one member per component -/
theorem alone_card (cs : List (Cpt K)) : (alone cs).length = cs.length := alone_length cs

/-- the single-source family of V1 1 0 6; R1 1 2 2; I1 2 0 3: in member j exactly component j keeps its sources -/
example :
    let cs : List (Cpt ℚ) := [.V 1 0 0 6, .R 1 2 2, .I 2 0 3]
    alone cs = [[.V 1 0 0 6, .R 1 2 2, .I 2 0 0], [.V 1 0 0 0, .R 1 2 2, .I 2 0 0],
                [.V 1 0 0 0, .R 1 2 2, .I 2 0 3]] := by
  simp [alone, killAll, Cpt.zeroSrc, Cpt.mapSrc]

/-- non-vacuity: two sinusoids of one frequency plus DC -/
example : (Lcapy.Decompose.decompose [Lcapy.Decompose.Term.ac (3 : ℚ) 1 0, .dc 2, .ac 3 0 1]).ac = [(3, 1, 1)] := by
  simp [Lcapy.Decompose.decompose, Lcapy.Decompose.step, Lcapy.Decompose.acInsert]

end Lcapy.C03
