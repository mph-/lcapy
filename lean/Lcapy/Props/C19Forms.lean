/-
  PROPERTY C19 (continued) -- the synthesis forms END TO END from `Z = N/D`, their acceptance conditions, the entry
  points `network` / `transform`.

  Model: `Lcapy/Model/PolyFoster.lean` (on top of Model/PolySynth.lean, Model/Ratfun.lean, Model/Poly.lean).
  What Lcapy asks SymPy's root finder for is an input, CHECKED inside the model (`rootsCheck`, `distinctB`): a
  wrong table gives `.badTable`, never a network.  `none`/`.raises`/`.err _` = Lcapy raises.

  Guards.  Lean's field division is total; every statement about an impedance carries the explicit hypotheses
  `x ≠ 0`, `N(x) ≠ 0`, `D(x) ≠ 0` (the evaluation point is neither a pole nor a zero, nor the pole of `1/(sC)`),
  so nothing holds "because of" `1/0 = 0`.
  Only property theorems live here; helper lemmas are in Proofs/PolyFoster.lean, Proofs/PolyBridge.lean.
-/
import Lcapy.Props.C19
import Lcapy.Proofs.PolyFoster
import Lcapy.Proofs.PolyBridge
namespace Lcapy.C19
open Lcapy Lcapy.Poly Lcapy.Ratfun Lcapy.Synth
variable {K : Type} [Field K] [DecidableEq K]
set_option linter.unusedVariables false
set_option linter.unusedSectionVars false

/-! ## 1. Foster forms from `N/D` (any number of poles, any multiplicities, any pairing predicate) -/

/-- `Ratfun.as_QRPO` as modelled (`Q, M = div(N, D)`; residues by peeling; zero residues pruned) is a partial-fraction
    expansion of `N/D`: `N/D = Q + Σ r/(x − p)^o` at every point that is not a pole. -/
theorem partfrac_from_roots (N D : List K) (poles : List (K × Nat)) (Q : List K) (ts : List (K × K × Nat)) (x : K)
    (h : pfData N D poles = some (Q, ts)) (hD : Poly.eval D x ≠ 0) :
    Poly.eval N x / Poly.eval D x = Poly.eval Q x + pfValue ts x := (pfData_sound N D poles Q ts x h hD).1
example : pfData ([2, 1] : List ℚ) [1, 2, 1] [(-1, 2)] = some ([0, 0], [(1, -1, 2), (1, -1, 1)]) := by decide +kernel

/-- `as_QRF(combine_conjugates=True)`: merging conjugate terms (whatever the pairing predicate decides) keeps the sum -/
theorem combine_preserves (isConj : K → K → Bool) (ts : List (K × K × Nat)) (x : K)
    (hx : ∀ t ∈ ts, x - t.2.1 ≠ 0) : secsValue (combine isConj ts.length ts) x = pfValue ts x :=
  combine_value isConj ts.length ts x (le_refl _) hx

/-- **fosterI_realises_ratfun**: from `N/D` and a checked pole table to the series connection of sections -/
theorem fosterI_realises_ratfun (isConj : K → K → Bool) (N D : List K) (poles : List (K × Nat)) (net : Net K) (x : K)
    (h : fosterI isConj N D poles = .ok net) (hx : x ≠ 0) (hD : Poly.eval D x ≠ 0) :
    net.Z x = Poly.eval N x / Poly.eval D x := by
  unfold fosterI at h
  split at h
  · cases h
  · rename_i secs hsecs
    have e := fosterSecs_value isConj N D poles secs x hsecs hD
    split at h
    · cases h
    · rename_i nets hm
      split at h
      · rename_i n hs
        cases h
        have hz := Z_serAll nets x
        rw [hs] at hz
        rw [show net.Z x = _ from hz, mapOpt_map secNetI (fun n => n.Z x) (Sec.value x) _ nets hm
          (fun a _ b hb => secNetI_value a b x hb hx)]
        exact e
      · cases h
example : (fosterI (fun _ _ => false) ([3, 1] : List ℚ) [2, 3, 1] [(-1, 1), (-2, 1)]).isOk = true := by decide +kernel

/-- **fosterII_realises_ratfun**: sections of the admittance `D/N` in parallel (`zeros` = root table of `N`) -/
theorem fosterII_realises_ratfun (isConj : K → K → Bool) (N D : List K) (zeros : List (K × Nat)) (net : Net K) (x : K)
    (h : fosterII isConj N D zeros = .ok net) (hx : x ≠ 0) (hN : Poly.eval N x ≠ 0) (hD : Poly.eval D x ≠ 0) :
    net.Z x = Poly.eval N x / Poly.eval D x := by
  unfold fosterII at h
  split at h
  · cases h
  split at h
  · cases h
  · rename_i secs hsecs
    have e := fosterSecs_value isConj D N zeros secs x hsecs hN
    split at h
    · cases h
    · rename_i nets hm
      split at h
      · rename_i n hs
        cases h
        have hy := Y_parAll nets x
        rw [hs, mapOpt_map secNetII (fun n => 1 / n.Z x) (Sec.value x) _ nets hm
          (fun a _ b hb => secNetII_value a b x hb hx)] at hy
        rw [← one_div_one_div (net.Z x), show 1 / net.Z x = _ from hy, show (List.map _ secs).sum = _ from e,
          one_div_div]
      · cases h
example : (fosterII (fun _ _ => false) ([2, 1] : List ℚ) [1, 2, 1] [(-2, 1)]).isOk = true := by decide +kernel
/-- the repeated pole of `(s+2)/(s+1)²` has a non-zero residue of order 2: Foster I raises -/
example : (fosterI (fun _ _ => false) ([2, 1] : List ℚ) [1, 2, 1] [(-1, 2)]).isOk = false := by decide +kernel

/-- which terms a Foster I section exists for (`parallelRLC` accepts `1/term`): constants and `q·var`, simple poles,
    conjugate pairs with a numerator proportional to `var` -- nothing else -/
theorem secNetI_accepts_iff (sec : Sec K) :
    secNetI sec ≠ none ↔
      (∃ q, sec = .mono q 0 ∨ sec = .mono q 1) ∨ (∃ r p, sec = .single r p 1 ∧ r ≠ 0) ∨
      (∃ n1 a b, sec = .pair n1 0 a b ∧ n1 ≠ 0) := by
  cases sec with
  | mono q k =>
    match k with
    | 0 => exact iff_of_true (Option.some_ne_none _) (Or.inl ⟨q, Or.inl rfl⟩)
    | 1 => exact iff_of_true (Option.some_ne_none _) (Or.inl ⟨q, Or.inr rfl⟩)
    | k + 2 =>
      refine iff_of_false (fun h => h rfl) ?_
      rintro (⟨q, h | h⟩ | ⟨r, p, h, -⟩ | ⟨n1, a, b, h, -⟩) <;> cases h
  | single r p o =>
    match o with
    | 0 =>
      refine iff_of_false (fun h => h rfl) ?_
      rintro (⟨q, h | h⟩ | ⟨r, p, h, -⟩ | ⟨n1, a, b, h, -⟩) <;> cases h
    | 1 =>
      rw [secNetI]
      split
      · rename_i hr
        refine iff_of_false (fun h => h rfl) ?_
        rintro (⟨q, h | h⟩ | ⟨r', p', h, hr'⟩ | ⟨n1, a, b, h, -⟩) <;> cases h
        exact hr' hr
      · rename_i hr
        refine iff_of_true ?_ (Or.inr (Or.inl ⟨r, p, rfl, hr⟩))
        split <;> exact Option.some_ne_none _
    | o + 2 =>
      refine iff_of_false (fun h => h rfl) ?_
      rintro (⟨q, h | h⟩ | ⟨r, p, h, -⟩ | ⟨n1, a, b, h, -⟩) <;> cases h
  | pair n1 n0 a b =>
    rw [secNetI]
    split
    · rename_i hc
      obtain ⟨rfl, hn1⟩ : n0 = 0 ∧ n1 ≠ 0 := by simpa using hc
      exact iff_of_true (parO_some_ne_none _ _) (Or.inr (Or.inr ⟨n1, a, b, rfl, hn1⟩))
    · rename_i hc
      refine iff_of_false (fun h => h rfl) ?_
      rintro (⟨q, h | h⟩ | ⟨r, p, h, -⟩ | ⟨n1', a', b', h, hn⟩) <;> cases h
      exact hc (by simpa using hn)

/-- Foster I returns a network exactly when the table is accepted, there is at least one term and every term has a section;
    in particular a repeated pole with a non-zero higher-order residue, a quotient of degree ≥ 2 and a conjugate pair with
    a constant in the numerator are all REJECTED (an error, never a different network) -/
theorem fosterI_accepts_iff (isConj : K → K → Bool) (N D : List K) (poles : List (K × Nat)) :
    (∃ net, fosterI isConj N D poles = .ok net) ↔
      ∃ secs, fosterSecs isConj N D poles = some secs ∧ secs ≠ [] ∧ ∀ s ∈ secs, secNetI s ≠ none := by
  unfold fosterI
  cases hs : fosterSecs isConj N D poles with
  | none => simp
  | some secs =>
    simp only [Option.some.injEq, exists_eq_left']
    constructor
    · rintro ⟨net, h⟩
      cases hm : mapOpt secNetI secs with
      | none => simp [hm] at h
      | some nets =>
        simp only [hm] at h
        refine ⟨?_, fun s hsm => mapOpt_ne_none secNetI secs nets hm s hsm⟩
        rintro rfl
        simp only [mapOpt, Option.some.injEq] at hm
        subst hm
        simp [serAll] at h
    · rintro ⟨hne, hall⟩
      obtain ⟨nets, hm, hlen⟩ := mapOpt_of_all secNetI secs hall
      simp only [hm]
      cases nets with
      | nil => exact absurd (List.length_eq_zero_iff.1 (by simpa using hlen.symm)) hne
      | cons n rest =>
        cases hr : serAll rest with
        | none => exact ⟨n, by simp [serAll, hr, serO]⟩
        | some m => exact ⟨.ser n m, by simp [serAll, hr, serO]⟩

/-! ## 2. Pattern forms decided from `N/D`: `accepts_iff`, `realises`, `rejects` -/

/-- soundness of the dictionary in every field: `collOf` only reports a shape that `N/D` has -/
theorem coll_sound (N D : List K) (hD : lc D ≠ 0) (h : (collOf N D).other = false) :
    IsShape N D ((collOf N D).cm.getD 0) ((collOf N D).c0.getD 0) ((collOf N D).cp.getD 0) := collOf_spec N D hD h

/-- completeness over an infinite field: if `N/D = cm/var + c0 + cp·var` then `collOf` reports exactly these
    coefficients (absent when zero) -/
theorem coll_complete [Infinite K] (N D : List K) (cm c0 cp : K) (hD : lc D ≠ 0) (h : IsShape N D cm c0 cp) :
    collOf N D = ⟨nz c0, nz cp, nz cm, false⟩ := collOf_complete N D cm c0 cp hD h
example : ((collOf ([3, 5, 2] : List ℚ) [0, 1, 1]).c0, (collOf ([3, 5, 2] : List ℚ) [0, 1, 1]).cp,
    (collOf ([3, 5, 2] : List ℚ) [0, 1, 1]).cm, (collOf ([3, 5, 2] : List ℚ) [0, 1, 1]).other) = (some 2, none, some 3, false) := by
  decide +kernel

/-- the dictionary `collOf` builds never contains a zero coefficient (the guard `hnz` of `series_forms_realise` /
    `parallel_forms_realise` holds for it, as it does for SymPy's `collect`) -/
theorem collOf_entries_nonzero (N D : List K) : (collOf N D).EntriesNonzero := by
  unfold collOf Coll.EntriesNonzero
  simp only
  split
  · refine ⟨fun v h => ?_, fun v h => ?_, fun v h => ?_⟩ <;>
    · simp only [nz] at h
      split at h
      · cases h
      · rename_i hne; simp only [Option.some.injEq] at h; subst h; exact hne
  · simp

/-- **accepts_iff** (series forms, dictionary of `N/D`; the parallel forms read the dictionary of `D/N`, so the same
    statements hold for them with `N` and `D` exchanged -- `accepts_iff_parallel`):
    a form accepts `N/D` iff `N/D` IS `cm/var + c0 + cp·var` with the terms the form has no element for equal to zero. -/
theorem accepts_iff [Infinite K] (N D : List K) (hD : lc D ≠ 0) :
    (seriesRL (collOf N D) ≠ none ↔ ∃ c0 cp, IsShape N D 0 c0 cp) ∧
    (seriesRC (collOf N D) ≠ none ↔ ∃ cm c0, IsShape N D cm c0 0) ∧
    (seriesGC (collOf N D) ≠ none ↔ ∃ cm c0, IsShape N D cm c0 0) ∧
    (seriesLC (collOf N D) ≠ none ↔ ∃ cm cp, IsShape N D cm 0 cp) ∧
    (seriesRLC (collOf N D) ≠ none ↔ ∃ cm c0 cp, IsShape N D cm c0 cp) := by
  exact ⟨(seriesRL_accepts _).trans (collOf_cm_none_iff N D hD), (seriesRC_accepts _).trans (collOf_cp_none_iff N D hD),
    (seriesGC_accepts _).trans (collOf_cp_none_iff N D hD), (seriesLC_accepts _).trans (collOf_c0_zero_iff N D hD),
    (seriesRLC_accepts _).trans (collOf_other_iff N D hD)⟩

/-- the parallel forms: dictionary of the ADMITTANCE `D/N` (apply with the roles of `N` and `D` exchanged) -/
theorem accepts_iff_parallel [Infinite K] (N D : List K) (hN : lc N ≠ 0) :
    (parallelRL (collOf D N) ≠ none ↔ ∃ cm c0, IsShape D N cm c0 0) ∧
    (parallelRC (collOf D N) ≠ none ↔ ∃ c0 cp, IsShape D N 0 c0 cp) ∧
    (parallelGC (collOf D N) ≠ none ↔ ∃ c0 cp, IsShape D N 0 c0 cp) ∧
    (parallelLC (collOf D N) ≠ none ↔ ∃ cm cp, IsShape D N cm 0 cp) ∧
    (parallelRLC (collOf D N) ≠ none ↔ ∃ cm c0 cp, IsShape D N cm c0 cp) := by
  exact ⟨(parallelRL_accepts _).trans (collOf_cp_none_iff D N hN), (parallelRC_accepts _).trans (collOf_cm_none_iff D N hN),
    (parallelGC_accepts _).trans (collOf_cm_none_iff D N hN), (parallelLC_accepts _).trans (collOf_c0_zero_iff D N hN),
    (parallelRLC_accepts _).trans (collOf_other_iff D N hN)⟩

/-- **realises**: a pattern form that returns a network for `N/D` returns one with impedance `N/D`
    (every rational function, every field) -/
theorem pattern_realises_ratfun (F : Form) (g : List K → List K → Option (Option (Net K))) (hg : patternOf F = some g)
    (N D : List K) (net : Net K) (x : K) (h : g N D = some (some net)) (hx : x ≠ 0)
    (hN : Poly.eval N x ≠ 0) (hD : Poly.eval D x ≠ 0) : net.Z x = Poly.eval N x / Poly.eval D x := by
  cases F <;> simp only [patternOf, Option.some.injEq] at hg <;> try (exact absurd hg (by simp))
  all_goals subst hg
  · exact seriesForm_value _ _ N D net x (fun d n hn => Or.inl hn) h hx hD
  · exact seriesForm_value _ _ N D net x (fun d n hn => Or.inr (Or.inl hn)) h hx hD
  · exact seriesForm_value _ _ N D net x (fun d n hn => Or.inr (Or.inr (Or.inl hn))) h hx hD
  · exact seriesForm_value _ _ N D net x (fun d n hn => Or.inr (Or.inr (Or.inr (Or.inl hn)))) h hx hD
  · exact seriesForm_value _ _ N D net x (fun d n hn => Or.inr (Or.inr (Or.inr (Or.inr hn)))) h hx hD
  · exact parallelForm_value _ _ N D net x (fun d n hn => Or.inl hn) h hx hN
  · exact parallelForm_value _ _ N D net x (fun d n hn => Or.inr (Or.inl hn)) h hx hN
  · exact parallelForm_value _ _ N D net x (fun d n hn => Or.inr (Or.inr (Or.inl hn))) h hx hN
  · exact parallelForm_value _ _ N D net x (fun d n hn => Or.inr (Or.inr (Or.inr (Or.inl hn)))) h hx hN
  · exact parallelForm_value _ _ N D net x (fun d n hn => Or.inr (Or.inr (Or.inr (Or.inr hn)))) h hx hN
example : ((seriesForm seriesRC false ([3, 5, 2] : List ℚ) [0, 1, 1]).map (·.isSome)) = some true := by decide +kernel

/-- `RLC` = `seriesRLC`, else `parallelRLC` -/
theorem rlc_realises_ratfun (N D : List K) (net : Net K) (x : K) (h : rlcForm N D = some (some net)) (hx : x ≠ 0)
    (hN : Poly.eval N x ≠ 0) (hD : Poly.eval D x ≠ 0) : net.Z x = Poly.eval N x / Poly.eval D x := by
  unfold rlcForm at h
  split at h
  · rename_i r hs
    cases h
    exact seriesForm_value _ _ N D net x (fun d n hn => Or.inr (Or.inr (Or.inr (Or.inr hn)))) hs hx hD
  · exact parallelForm_value _ _ N D net x (fun d n hn => Or.inr (Or.inr (Or.inr (Or.inr hn)))) h hx hN

/-- **rejects**: no pattern form returns a network for an `N/D` that is not of the shape `cm/var + c0 + cp·var`
    (resp. whose reciprocal is not): it raises.  Holds in every field. -/
theorem pattern_rejects (N D : List K) (hD : lc D ≠ 0) (h : ¬ ∃ cm c0 cp, IsShape N D cm c0 cp) :
    seriesRL (collOf N D) = none ∧ seriesRC (collOf N D) = none ∧ seriesGC (collOf N D) = none ∧
    seriesLC (collOf N D) = none ∧ seriesRLC (collOf N D) = none := by
  have ho : (collOf N D).other = true := by
    by_contra hne
    have hf : (collOf N D).other = false := by simpa using hne
    exact h ⟨_, _, _, collOf_spec N D hD hf⟩
  have := reject_otherwise (collOf N D) ho
  exact ⟨this.1, this.2.1, this.2.2.1, this.2.2.2.1, this.2.2.2.2.1⟩

/-! ## 3. `network(lexpr, form)` and `Network.transform(form)` -/

/-- an expression that is not an impedance is refused whatever the form (an admittance handed to
    `synthesis.network` is NOT silently synthesised as if it were an impedance) -/
theorem network_not_impedance (isConj : K → K → Bool) (kind : Kind) (form : String) (N D : List K)
    (poles zeros : List (K × Nat)) (h : kind ≠ .impedance) :
    network isConj kind form N D poles zeros = .err .notImpedance := by
  simp [network, h]

/-- an unknown form name is an error -/
theorem network_unknown_form (isConj : K → K → Bool) (form : String) (N D : List K)
    (poles zeros : List (K × Nat)) (h : Form.ofString form = none) :
    network isConj .impedance form N D poles zeros = .err .unknownForm := by
  simp [network, h]

/-- the continued fraction `Expr.continued_fraction_coeffs()` builds -- including the leading `0` it inserts when
    `deg D > deg N` -- has the value `N/D` -/
theorem cfCoeffs_value (N D : List K) (cs : List (K × Nat)) (env : Env K) (h : cfCoeffs N D = .ok cs)
    (hdef : (if degree D > degree N then cfDefined ((trim N).length + (trim D).length + 1) D N env.x
             else cfDefined ((trim N).length + (trim D).length + 1) N D env.x) = true) :
    cfVal false env.x cs = Poly.eval N env.x / Poly.eval D env.x := by
  unfold cfCoeffs at h
  simp only at h
  split at h
  · rename_i hdeg
    simp only [hdeg, if_true] at hdef
    obtain ⟨cs', hr, rfl⟩ := cons_ok h
    have hv := cf_value _ D N cs' env hr hdef
    rw [cfExpr_eq_cfVal] at hv
    rw [cfVal_cons false env.x 0 0 cs' _ (fun h0 => absurd h0 (cfRunSwap_ne_nil _ D N cs' (cfRunSwap_of_cfRun hr)))
      (fun _ => rfl), hv, one_div_div, monoVal, if_neg Bool.false_ne_true, zero_mul, zero_add]
  · rename_i hdeg
    simp only [hdeg, if_false] at hdef
    rw [← cfExpr_eq_cfVal]
    exact cf_value _ N D cs env h hdef

/-- side conditions of the Cauer ladders at the evaluation point (no intermediate immittance vanishes); `True` for
    the other forms -/
def CauerSide (form : String) (N D : List K) (x : K) : Prop :=
  match Form.ofString form with
  | some .cauerI =>
    (if degree D > degree N then cfDefined ((trim N).length + (trim D).length + 1) D N x
       else cfDefined ((trim N).length + (trim D).length + 1) N D x) = true ∧
    ∀ cs, cfCoeffs N D = .ok cs → LadderDefined false x cs
  | some .cauerII =>
    N ≠ [] ∧
    cfDefinedSwap (2 * (max D.length N.length + max D.length N.length) + 3)
      (revPad D (max D.length N.length)) (revPad N (max D.length N.length)) (1 / x) = true ∧
    ∀ cs, cfiCoeffs D N = .ok cs → LadderDefined true x cs
  | _ => True

/-- **network_realises**: whatever the form (default, Cauer I/II, Foster I/II, the ten patterns, RLC), a network
    returned by `network(N/D, form)` has impedance `N/D` -/
theorem network_realises (isConj : K → K → Bool) (kind : Kind) (form : String) (N D : List K)
    (poles zeros : List (K × Nat)) (net : Net K) (x : K)
    (h : network isConj kind form N D poles zeros = .ok net) (hx : x ≠ 0)
    (hN : Poly.eval N x ≠ 0) (hD : Poly.eval D x ≠ 0) (hside : CauerSide form N D x) :
    net.Z x = Poly.eval N x / Poly.eval D x := by
  unfold network at h
  split at h
  · simp at h
  cases hf : Form.ofString form with
  | none => simp [hf] at h
  | some F =>
    simp only [hf] at h
    unfold CauerSide at hside
    simp only [hf] at hside
    have hpat := pattern_realises_ratfun (K := K) F
    cases F with
    | cauerI =>
      simp only at h hside
      split at h
      · rename_i cs hc
        have hl := ofOO_ok _ net h
        rw [cauerI_realises x cs net hl (hside.2 cs hc)]
        exact cfCoeffs_value N D cs ⟨x, fun _ => 0, 0⟩ hc hside.1
      · cases h
    | cauerII =>
      simp only at h hside
      split at h
      · rename_i cs hc
        have hl := ofOO_ok _ net h
        -- the ladder's admittance is `cfVal`, the continued fraction of `D/N`
        have hy := (cauerII_value x cs true true (some net) hl (by rintro rfl; cases hl)).1 rfl
        rw [← one_div_one_div (net.Z x), show 1 / net.Z x = _ from hy, cfi_value D N cs x hx hc hside.1 hside.2.1,
          one_div_div]
      · cases h
    | fosterI => exact fosterI_realises_ratfun isConj N D poles net x (ofF_ok _ net h) hx hD
    | fosterII => exact fosterII_realises_ratfun isConj N D zeros net x (ofF_ok _ net h) hx hN hD
    | RLC => exact rlc_realises_ratfun N D net x (ofOO_ok _ net h) hx hN hD
    | _ =>
      simp only [patternOf] at h
      exact hpat _ rfl N D net x (ofOO_ok _ net h) hx hN hD

/-- **transform_preserves_Z**: `net.transform(form)` is `network(net.Z, form)`; for EVERY form a returned network has
    the impedance of the network it was made from -/
theorem transform_preserves_Z (isConj : K → K → Bool) (form : String) (net net' : Net K)
    (poles zeros : List (K × Nat)) (x : K)
    (h : transform isConj form net poles zeros = .ok net') (hx : x ≠ 0) (hdef : net.DefinedAt x)
    (hz : net.Z x ≠ 0)
    (hside : CauerSide form (Poly.cancel net.ratZ.1 net.ratZ.2).1 (Poly.cancel net.ratZ.1 net.ratZ.2).2 x) :
    net'.Z x = net.Z x := by
  obtain ⟨hD, hv⟩ := ratZ_value net x hdef
  obtain ⟨hc, hcD⟩ := cancel_value net.ratZ.1 net.ratZ.2 x hD
  have hcN : Poly.eval (Poly.cancel net.ratZ.1 net.ratZ.2).1 x ≠ 0 := by
    intro h0
    apply hz
    rw [hv, ← hc, h0, zero_div]
  unfold transform at h
  rw [network_realises isConj .impedance form _ _ poles zeros net' x h hx hcN hcD hside, hc, hv]
example : Net.DefinedAt (2 : ℚ) (.ser (.R 2) (.par (.R 3) (.C (1 / 3)))) := by
  simp [Net.DefinedAt, Net.Z]; norm_num

end Lcapy.C19
