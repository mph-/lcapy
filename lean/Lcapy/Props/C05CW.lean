/-
  PROPERTY C05 -- the COMPONENTWISE rewrites (s_model, ac_model, noise_model with the
  noise sources killed, subs, replace_switches) preserve every retained voltage and current,
  for netlists of ANY size.

  Model: Lcapy/Model/RewriteCW.lean (`sModelCpt`, `noisyKilledCpt`, `Cpt.mapVal`, `replaceSwitches`).
  Spec : `Laws` of Spec/Laws.lean; `Simulates` of Spec/PortRel.lean.

  1. `componentwise_congruence`: per-component simulations whose private unknowns (dummy nodes, new or
     vanishing branch currents) are pairwise apart compose to a simulation of the whole netlist
     (induction over the component list) -- the vehicle for every componentwise rewrite.
  2. `s_model_equiv`: Laws .ivp s cs x  ⇄  Laws .lap s (sModel cs) y with y = x on every unknown that
     exists on both sides; `s_model_preserves` adds uniqueness (C01); `ac_model_equiv` is the same at
     s = jω.
  3. `noise_model_killed_equiv`: every R split into NR + a zero-volt source is the same circuit.
  4. `subs_commutes`: solving then substituting = substituting then solving, for any value map that
     respects the arithmetic (guarded division).
  5. `replace_switches_noevent`: away from every switching instant the replacement just before and at
     `t` is the same netlist; `replace_switches_const`: it is constant between two consecutive events.
  Property theorems and the witnesses their examples are made of live here; helper lemmas are in
  Lcapy/Proofs/RewriteCW.lean and Lcapy/Proofs/RewriteCWSteps.lean.
-/
import Lcapy.Proofs.RewriteCWSteps
import Lcapy.Proofs.Witness
namespace Lcapy.C05
open Lcapy.MNA Lcapy.Rewrite Ix
variable {K : Type} [Field K]
set_option linter.unusedSectionVars false

/-! ## 1. componentwise congruence -/

/-- **componentwise_congruence**: a netlist rewritten component by component (each step a simulation
    on everything but its private unknowns, no step reading another step's private unknowns) has,
    for every solution of the original, a solution that agrees on every non-private unknown. -/
theorem componentwise_congruence (kind : Kind) (s : K) (ps : List (Rw K))
    (h1 : ∀ p ∈ ps, Simulates kind s (AllBut' p.hid) p.orig p.rep)
    (h2 : ps.Pairwise (fun p q => p.Sep q ∧ q.Sep p)) (x : Ix → K)
    (hx : Laws kind s (ps.flatMap (·.orig)) x) :
    ∃ y, (∀ i, i ∉ ps.flatMap (·.hid) → y i = x i) ∧ Laws kind s (ps.flatMap (·.rep)) y := by
  have hsim := componentwise_simulates kind s ps h1 h2
  obtain ⟨y, hy, hl⟩ := subcircuit_congruence kind s _ _ _ [] hsim (by intro c hc; cases hc) x (by simpa using hx)
  exact ⟨y, hy, by simpa using hl⟩

/-- … and in both directions when every step simulates both ways: the two netlists have the same solutions on
    every unknown that is not private to a step -/
theorem componentwise_equiv (kind : Kind) (s : K) (ps : List (Rw K))
    (h1 : ∀ p ∈ ps, Simulates kind s (AllBut' p.hid) p.orig p.rep ∧ Simulates kind s (AllBut' p.hid) p.rep p.orig)
    (h2 : ps.Pairwise (fun p q => p.Sep q ∧ q.Sep p)) :
    (∀ x, Laws kind s (ps.flatMap (·.orig)) x →
      ∃ y, (∀ i, i ∉ ps.flatMap (·.hid) → y i = x i) ∧ Laws kind s (ps.flatMap (·.rep)) y) ∧
    (∀ y, Laws kind s (ps.flatMap (·.rep)) y →
      ∃ x, (∀ i, i ∉ ps.flatMap (·.hid) → x i = y i) ∧ Laws kind s (ps.flatMap (·.orig)) x) := by
  refine ⟨componentwise_congruence kind s ps (fun p hp => (h1 p hp).1) h2, fun y hy => ?_⟩
  have := componentwise_congruence kind s (ps.map Rw.swap)
    (by intro p hp; obtain ⟨a, ha, rfl⟩ := List.mem_map.mp hp; exact (h1 a ha).2)
    (by rw [List.pairwise_map]; exact h2.imp fun h => ⟨h.1.swap, h.2.swap⟩) y (by rw [List.flatMap_map]; exact hy)
  simp only [List.flatMap_map] at this
  exact this

/-! ## 2. s_model / ac_model

  `Alloc` (Proofs/RewriteCWSteps.lean) = a component with the dummy node `d` and the branch index `b` the
  rewrite allots to it; `Alloc.OK s` = the allotment is fresh for the component, inductors are uncoupled
  with s·L ≠ 0; `Alloc.Apart p q` = nothing of step q touches the dummy node / new branch / inductor
  branch of step p.  `sModel s ps` = the concatenation of `sModelCpt`; `sHidden ps` = the unknowns that
  exist on one side only. -/

variable [DecidableEq K]

/-- **s_model_equiv** (`_sep`: with the exact separation condition -- no step reads an unknown that is PRIVATE to
    another step, `Rw.Sep`): for a netlist of ANY size whose components get pairwise fresh dummy nodes and
    source branches, at every point `s ≠ 0`: every solution of the initial-value problem extends to a
    solution of the s-domain model analysed WITHOUT initial conditions (they now sit in the series
    sources), and every solution of the s-domain model restricts to a solution of the initial-value
    problem.  The two solutions agree on every unknown that is not private to a step (all original
    nodes, all source / controlled-source / capacitor-free branch currents). -/
theorem s_model_equiv_sep (s : K) (hs : s ≠ 0) (ps : List (Alloc K)) (hok : ∀ a ∈ ps, a.OK s)
    (hap : ps.Pairwise (fun p q => (p.sRw s).Sep (q.sRw s) ∧ (q.sRw s).Sep (p.sRw s))) :
    (∀ x, Laws .ivp s (ps.map (·.c)) x → ∃ y, (∀ i, i ∉ sHidden ps → y i = x i) ∧ Laws .lap s (sModel s ps) y) ∧
    (∀ y, Laws .lap s (sModel s ps) y → ∃ x, (∀ i, i ∉ sHidden ps → x i = y i) ∧ Laws .ivp s (ps.map (·.c)) x) := by
  have h := componentwise_equiv .ivp s (ps.map (Alloc.sRw s))
    (by intro p hp; obtain ⟨a, ha, rfl⟩ := List.mem_map.mp hp; exact sModel_step s hs a (hok a ha))
    (by rw [List.pairwise_map]; exact hap)
  simp only [List.flatMap_map, Alloc.sRw, ← List.map_eq_flatMap] at h
  -- the s-domain model has no reactive component left: its two analyses coincide
  have hk := Laws_kindFree .ivp .lap s _ (sModel_kindFree s ps hok)
  exact ⟨fun x hx => (h.1 x hx).imp fun y hy => ⟨hy.1, (hk y).mp hy.2⟩, fun y hy => h.2 y ((hk y).mpr hy)⟩

/-- the same under the coarser, easily checked freshness condition `Alloc.Apart` (every allotted dummy node and
    branch index -- used or not -- is untouched by every other step) -/
theorem s_model_equiv (s : K) (hs : s ≠ 0) (ps : List (Alloc K)) (hok : ∀ a ∈ ps, a.OK s)
    (hap : ps.Pairwise (fun p q => p.Apart q ∧ q.Apart p)) :
    (∀ x, Laws .ivp s (ps.map (·.c)) x → ∃ y, (∀ i, i ∉ sHidden ps → y i = x i) ∧ Laws .lap s (sModel s ps) y) ∧
    (∀ y, Laws .lap s (sModel s ps) y → ∃ x, (∀ i, i ∉ sHidden ps → x i = y i) ∧ Laws .ivp s (ps.map (·.c)) x) :=
  s_model_equiv_sep s hs ps hok (hap.imp fun h => ⟨apart_sep s _ _ h.1, apart_sep s _ _ h.2⟩)

/-- **s_model_preserves** (the property for `s_model`): when the s-domain model is well formed and
    non-singular, ITS solution -- whatever solver produced it -- equals the solution of the
    original initial-value problem on every unknown the two circuits share. -/
theorem s_model_preserves (s : K) (hs : s ≠ 0) (ps : List (Alloc K)) (hok : ∀ a ∈ ps, a.OK s)
    (hap : ps.Pairwise (fun p q => p.Apart q ∧ q.Apart p))
    (hwf : C01.WF (sModel s ps)) (hns : C01.Nonsingular .lap s (sModel s ps))
    (x y : Ix → K) (hx : Laws .ivp s (ps.map (·.c)) x) (hy : Laws .lap s (sModel s ps) y) :
    ∀ i, i ∉ sHidden ps → C01.Unknown .lap s (sModel s ps) i → y i = x i := by
  obtain ⟨y', hy', hl'⟩ := (s_model_equiv s hs ps hok hap).1 x hx
  intro i hi hu
  rw [C01.laws_unique .lap s _ y y' hwf hns hy hl' i hu]
  exact hy' i hi

/-- `V1 1 0 {6/s}; C1 1 0 2 5` at s = 2 (dummy node 12, new branch 12) -/
def exSm : List (Alloc ℚ) := [⟨.V 1 0 0 3, 10, 10⟩, ⟨.Cap 1 0 2 (some 5), 12, 12⟩]

theorem exSm_ok : ∀ a ∈ exSm, a.OK (2 : ℚ) := by
  intro a ha
  simp only [exSm, List.mem_cons, List.mem_nil_iff, or_false] at ha
  rcases ha with rfl | rfl <;> simp [Alloc.OK, Alloc.Fresh, mentions]

theorem exSm_apart : exSm.Pairwise (fun p q => p.Apart q ∧ q.Apart p) := by decide

theorem exSm_eq : sModel (2 : ℚ) exSm = [.V 1 0 0 3, .Y 1 12 (1 / (1 / (2 * 2))), .V 12 0 12 (5 / 2)] := rfl

theorem exSm_wf : C01.WF (sModel (2 : ℚ) exSm) := by unfold C01.WF; decide +kernel

/-- the killed model is `V 1 0 0 0; Y 1 12 4; V 12 0 12 0`: the sources' laws ground both nodes, Kirchhoff's current law
    then leaves no current -/
theorem exSm_ns : C01.Nonsingular .lap (2 : ℚ) (sModel 2 exSm) := by
  refine nonsingular_of_killed [node 1, node 12, br 0, br 12] exSm_wf (by decide +kernel) ?_
  rintro z ⟨hk, hl⟩
  have e : killAll (sModel (2 : ℚ) exSm) = [.V 1 0 0 0, .Y 1 12 (1 / (1 / (2 * 2))), .V 12 0 12 0] := rfl
  rw [e] at hk hl
  have e1 : z (node 1) = 0 := by simpa [vd, volt] using hl (.V 1 0 0 0) (by simp) (0, _) (List.mem_singleton.mpr rfl)
  have e2 : z (node 12) = 0 := by simpa [vd, volt] using hl (.V 12 0 12 0) (by simp) (12, _) (List.mem_singleton.mpr rfl)
  have k1 := hk 1 (by decide)
  have k2 := hk 12 (by decide)
  simp only [List.map_cons, List.map_nil, outflow, twoTerm, lsum, vd, volt, e1, e2, reduceIte, OfNat.zero_ne_ofNat,
    OfNat.ofNat_ne_one, OfNat.one_ne_ofNat, sub_zero, add_zero, zero_ne_one, mul_zero] at k1 k2
  intro i hi
  simp only [List.mem_cons, List.mem_nil_iff, or_false] at hi
  rcases hi with rfl | rfl | rfl | rfl
  · exact e1
  · exact e2
  · exact k1
  · linarith

/-- the initial-value problem has the solution V(1) = 3, J(V1) = −2 -/
theorem exSm_hx : Laws .ivp (2 : ℚ) (exSm.map (·.c)) (fun i => match i with | node 1 => 3 | br 0 => -2 | _ => 0) :=
  laws_of_range 2 (by decide) (by decide +kernel) (by decide +kernel)

/-- non-vacuity of `s_model_preserves` on `exSm`:
    every hypothesis holds -- the allotment is fresh, the s-domain model `V1; ZC1 1 12; VC1 12 0` is well
    formed and non-singular, and the initial-value problem has the solution V(1) = 3, J(V1) = −2 -/
example :
    let ps : List (Alloc ℚ) := [⟨.V 1 0 0 3, 10, 10⟩, ⟨.Cap 1 0 2 (some 5), 12, 12⟩]
    (∀ a ∈ ps, a.OK (2 : ℚ)) ∧ ps.Pairwise (fun p q => p.Apart q ∧ q.Apart p) ∧
    C01.WF (sModel (2 : ℚ) ps) ∧ C01.Nonsingular .lap (2 : ℚ) (sModel 2 ps) ∧
    Laws .ivp (2 : ℚ) (ps.map (·.c)) (fun i => match i with | node 1 => 3 | br 0 => -2 | _ => 0) :=
  ⟨exSm_ok, exSm_apart, exSm_wf, exSm_ns, exSm_hx⟩

/-- **ac_model_equiv**: `ac_model` is `s_model` at s = jω (`j` any element with j² = −1) -/
theorem ac_model_equiv (j ω : K) (_hj : j * j = -1) (hω : j * ω ≠ 0) (ps : List (Alloc K)) (hok : ∀ a ∈ ps, a.OK (j * ω))
    (hap : ps.Pairwise (fun p q => p.Apart q ∧ q.Apart p)) :
    (∀ x, Laws .ivp (j * ω) (ps.map (·.c)) x →
      ∃ y, (∀ i, i ∉ sHidden ps → y i = x i) ∧ Laws .lap (j * ω) (sModel (j * ω) ps) y) ∧
    (∀ y, Laws .lap (j * ω) (sModel (j * ω) ps) y →
      ∃ x, (∀ i, i ∉ sHidden ps → x i = y i) ∧ Laws .ivp (j * ω) (ps.map (·.c)) x) :=
  s_model_equiv (j * ω) hω ps hok hap


/-- **ac_model_equiv_noic** (what `ac_model` is for): for a netlist WITHOUT initial conditions, phasor analysis -- the
    zero-state Laplace analysis at s = jω, `Kind.lap` -- of the netlist and of its `ac_model` have the same solutions
    on the shared unknowns (here `j * j = −1` places the point on the imaginary axis; with initial conditions present
    `ac_model` keeps their sources, which is `ac_model_equiv` above) -/
theorem ac_model_equiv_noic (j ω : K) (_hj : j * j = -1) (hω : j * ω ≠ 0) (ps : List (Alloc K)) (hok : ∀ a ∈ ps, a.OK (j * ω))
    (hap : ps.Pairwise (fun p q => p.Apart q ∧ q.Apart p)) (hnoic : ∀ a ∈ ps, a.c.noIC = true) :
    (∀ x, Laws .lap (j * ω) (ps.map (·.c)) x →
      ∃ y, (∀ i, i ∉ sHidden ps → y i = x i) ∧ Laws .lap (j * ω) (sModel (j * ω) ps) y) ∧
    (∀ y, Laws .lap (j * ω) (sModel (j * ω) ps) y →
      ∃ x, (∀ i, i ∉ sHidden ps → x i = y i) ∧ Laws .lap (j * ω) (ps.map (·.c)) x) := by
  have hn : ∀ c ∈ ps.map (·.c), c.noIC = true := by
    intro c hc; obtain ⟨a, ha, rfl⟩ := List.mem_map.mp hc; exact hnoic a ha
  have h := s_model_equiv (j * ω) hω ps hok hap
  constructor
  · intro x hx; exact h.1 x ((Laws_lap_ivp_noIC _ _ hn x).mp hx)
  · intro y hy
    obtain ⟨x, hx, hl⟩ := h.2 y hy
    exact ⟨x, hx, (Laws_lap_ivp_noIC _ _ hn x).mpr hl⟩

/-- non-vacuity of `s_model_equiv`: `V1 1 0 {6/s}; R1 1 2 3; C1 2 0 2 5; L1 2 3 4 7; R2 3 0 1` at s = 2 with
    dummy nodes 10.. and branches 10..: every hypothesis holds -/
example :
    let ps : List (Alloc ℚ) := [⟨.V 1 0 0 3, 10, 10⟩, ⟨.R 1 2 3, 11, 11⟩, ⟨.Cap 2 0 2 (some 5), 12, 12⟩,
                                ⟨.Ind 2 3 1 4 (some 7) [], 13, 13⟩, ⟨.R 3 0 1, 14, 14⟩]
    (∀ a ∈ ps, a.OK (2 : ℚ)) ∧ ps.Pairwise (fun p q => p.Apart q ∧ q.Apart p) ∧
    sModel (2 : ℚ) ps = [.V 1 0 0 3, .Y 1 2 (1 / 3), .Y 2 12 (1 / (1 / (2 * 2))), .V 12 0 12 (5 / 2),
                        .Y 2 13 (1 / (2 * 4)), .V 13 3 1 (-(4 * 7)), .Y 3 0 (1 / 1)] := by
  have h5 : ¬ (5 : ℚ) = 0 := by norm_num
  have h7 : ¬ (4 : ℚ) * 7 = 0 := by norm_num
  refine ⟨?_, by decide, ?_⟩
  · intro a ha
    simp only [List.mem_cons, List.mem_nil_iff, or_false] at ha
    rcases ha with rfl | rfl | rfl | rfl | rfl <;> simp [Alloc.OK, Alloc.Fresh, mentions]
  · simp only [sModel, List.flatMap_cons, List.flatMap_nil, sModelCpt, icv, h5, h7, if_false, List.cons_append,
      List.nil_append]

/-! ## 3. noise model with the noise sources killed -/

omit [DecidableEq K] in
/-- **noise_model_killed_equiv**: `noise_model()` splits every resistor into `NR` + a series noise
    source on a fresh node; with the noise sources killed (zero volts) the circuit has, in every
    analysis kind, the same solutions as the original on every shared unknown. -/
theorem noise_model_killed_equiv (kind : Kind) (s : K) (ps : List (Alloc K)) (hf : ∀ a ∈ ps, a.Fresh)
    (hap : ps.Pairwise (fun p q => p.Apart q ∧ q.Apart p)) :
    let new := ps.flatMap (fun a => noisyKilledCpt a.d a.b a.c)
    let hid := ps.flatMap (fun a => noisyHidden a.d a.b a.c)
    (∀ x, Laws kind s (ps.map (·.c)) x → ∃ y, (∀ i, i ∉ hid → y i = x i) ∧ Laws kind s new y) ∧
    (∀ y, Laws kind s new y → ∃ x, (∀ i, i ∉ hid → x i = y i) ∧ Laws kind s (ps.map (·.c)) x) := by
  have h := componentwise_equiv kind s (ps.map Alloc.nRw)
    (by intro p hp; obtain ⟨a, ha, rfl⟩ := List.mem_map.mp hp; exact noisy_step kind s a (hf a ha))
    (by rw [List.pairwise_map]; exact hap.imp fun h => ⟨noisy_sep _ _ h.1, noisy_sep _ _ h.2⟩)
  simp only [List.flatMap_map, Alloc.nRw, ← List.map_eq_flatMap] at h
  exact h

/-! ## 4. subs -/

section subs
variable {A : Type} [Add A] [Mul A] [Neg A] [Sub A] [Div A] [OfNat A 0] [OfNat A 1] [OfNat A 2]

omit [DecidableEq K] in
/-- **subs_commutes**: component values live in a symbolic domain `A` (expressions in parameters);
    `φ : A → K` substitutes and evaluates.  Solving symbolically and then substituting gives a solution
    of the substituted netlist (`Netlist.subs` = `Cpt.mapVal φ` on every component) -- for every netlist,
    every analysis kind, provided `φ` respects the arithmetic, division only where the substituted
    divisor (a resistance) is not zero. -/
theorem subs_commutes {φ : A → K} (h : ValHom φ) (kind : Kind) (s : A) (cs : List (Cpt A)) (x : Ix → A)
    (hc : ∀ c ∈ cs, c.divOK φ) (hx : Laws kind s cs x) :
    Laws kind (φ s) (cs.map (Cpt.mapVal φ)) (fun i => φ (x i)) := h.Laws kind s cs x hc hx

omit [DecidableEq K] in
/-- … and when the substituted netlist is well formed and non-singular, THE solution of the
    substituted netlist is the substituted symbolic solution (evaluating after substitution =
    substituting after evaluation), on every unknown of the netlist. -/
theorem subs_preserves {φ : A → K} (h : ValHom φ) (kind : Kind) (s : A) (cs : List (Cpt A)) (x : Ix → A)
    (hc : ∀ c ∈ cs, c.divOK φ) (hx : Laws kind s cs x)
    (hwf : C01.WF (cs.map (Cpt.mapVal φ))) (hns : C01.Nonsingular kind (φ s) (cs.map (Cpt.mapVal φ)))
    (y : Ix → K) (hy : Laws kind (φ s) (cs.map (Cpt.mapVal φ)) y) :
    ∀ i, C01.Unknown kind (φ s) (cs.map (Cpt.mapVal φ)) i → y i = φ (x i) :=
  C01.laws_unique kind (φ s) _ y _ hwf hns hy (subs_commutes h kind s cs x hc hx)

end subs

/-- non-vacuity: values that are FUNCTIONS of a parameter, `φ` = evaluation at a point, respects
    every operation (division pointwise, so unconditionally) -/
example (p0 : ℚ) : ValHom (K := ℚ) (fun f : ℚ → ℚ => f p0) :=
  ⟨rfl, rfl, fun _ _ => rfl, fun _ _ => rfl, fun _ => rfl, fun _ _ => rfl, fun _ _ _ => rfl⟩

/-- … applied to a symbolic circuit: `V1 1 0 6; R1 1 2 p; R2 2 0 2p` has V(2) = 4 and source current
    −2/p for every p; substituting p = 3 gives a solution of `V1 1 0 6; R1 1 2 3; R2 2 0 6` -/
example : Laws Kind.dc ((0 : ℚ → ℚ) 3) [Cpt.V 1 0 0 6, Cpt.R 1 2 3, Cpt.R 2 0 (2 * 3)]
    (fun i => (match i with | node 1 => (fun _ => 6) | node 2 => (fun _ => 4) | br 0 => (fun p => -2 / p) | _ => (fun _ => 0) : ℚ → ℚ) 3) := by
  have hφ : ValHom (K := ℚ) (fun f : ℚ → ℚ => f 3) :=
    ⟨rfl, rfl, fun _ _ => rfl, fun _ _ => rfl, fun _ => rfl, fun _ _ => rfl, fun _ _ _ => rfl⟩
  refine subs_commutes hφ Kind.dc (0 : ℚ → ℚ) [Cpt.V 1 0 0 (fun _ => 6), Cpt.R 1 2 (fun p => p), Cpt.R 2 0 (fun p => 2 * p)]
    (fun i => match i with | node 1 => (fun _ => 6) | node 2 => (fun _ => 4) | br 0 => (fun p => -2 / p) | _ => (fun _ => 0))
    (by intro c hc; simp only [List.mem_cons, List.mem_nil_iff, or_false] at hc
        rcases hc with rfl | rfl | rfl <;> simp [Cpt.divOK]) ?_
  constructor
  · intro k hk
    match k with
    | 0 => exact absurd rfl hk
    | 1 => funext p; simp [outflow, twoTerm, lsum, vd, volt]; ring
    | 2 => funext p; simp [outflow, twoTerm, lsum, vd, volt]; ring
    | (k + 3) => funext p; simp [outflow, twoTerm, lsum]
  · intro c hc q hq
    simp only [List.mem_cons, List.mem_nil_iff, or_false] at hc
    rcases hc with rfl | rfl | rfl <;> simp [laws] at hq
    subst hq; funext p; simp [vd, volt]

/-- non-vacuity of `subs_preserves`: the substituted netlist `V1 1 0 6; R1 1 2 3; R2 2 0 6` (p = 3) is well
    formed and non-singular at dc (its symbolic solution is the example above) -/
example :
    let φ : (ℚ → ℚ) → ℚ := fun f => f 3
    let cs : List (Cpt (ℚ → ℚ)) := [Cpt.V 1 0 0 (fun _ => 6), Cpt.R 1 2 (fun p => p), Cpt.R 2 0 (fun p => 2 * p)]
    (∀ c ∈ cs, c.divOK φ) ∧ C01.WF (cs.map (Cpt.mapVal φ)) ∧ C01.Nonsingular .dc (φ 0) (cs.map (Cpt.mapVal φ)) := by
  intro φ cs
  have hwf : C01.WF (cs.map (Cpt.mapVal φ)) := by unfold C01.WF; decide +kernel
  refine ⟨?_, hwf, ?_⟩
  · intro c hc; simp only [cs, List.mem_cons, List.mem_nil_iff, or_false] at hc
    rcases hc with rfl | rfl | rfl <;> simp [Cpt.divOK, φ]
  · -- killed: `V 1 0 0 0; R 1 2 3; R 2 0 6`: V(1) = 0 by the source, then V(2) and J(V1) by Kirchhoff's current law
    refine nonsingular_of_killed [node 1, node 2, br 0] hwf (by decide +kernel) ?_
    rintro z ⟨hk, hl⟩
    have e : killAll (cs.map (Cpt.mapVal φ)) = [.V 1 0 0 0, .R 1 2 3, .R 2 0 (2 * 3)] := rfl
    rw [e] at hk hl
    have e1 : z (node 1) = 0 := by simpa [vd, volt] using hl (.V 1 0 0 0) (by simp) (0, _) (List.mem_singleton.mpr rfl)
    have k1 := hk 1 (by decide)
    have k2 := hk 2 (by decide)
    simp only [List.map_cons, List.map_nil, outflow, twoTerm, lsum, vd, volt, e1, reduceIte, OfNat.zero_ne_ofNat,
      OfNat.ofNat_ne_one, OfNat.one_ne_ofNat, sub_zero, add_zero, zero_ne_one, zero_sub, zero_add] at k1 k2
    have e2 : z (node 2) = 0 := by linarith
    intro i hi
    simp only [List.mem_cons, List.mem_nil_iff, or_false] at hi
    rcases hi with rfl | rfl | rfl
    · exact e1
    · exact e2
    · rw [e2] at k1; linarith

/-! ## 5. replace_switches

  `SW._replace_switch(t, before)`: `active = t > t_a` when `before` else `t ≥ t_a`.
  (Before the repair of finding C05-switch-before the `before` test was `t < t_a`, the negation of the
  other rule at every time; `replace_switches_noevent` was false for it.) -/

section switches
variable {T : Type} [LinearOrder T] [OfNat T 0]

/-- **replace_switches_const**: `replace_switches(t)` is constant between switching events: if
    every switch's activation time is on the same side of t1 and of t2, the two netlists are equal -/
theorem replace_switches_const (t1 t2 : T) (net : Net T)
    (hne : ∀ e ∈ net, (swKindOf e).isSome → (e.val.getD 0 ≤ t1 ↔ e.val.getD 0 ≤ t2)) :
    replaceSwitches t1 false net = replaceSwitches t2 false net := by
  simp only [replaceSwitches]
  apply List.map_congr_left
  intro e he
  cases hk : swKindOf e with
  | none => rfl
  | some k =>
    have hta := hne e he (by simp [hk])
    have : switchClosed k (e.val.getD 0) t1 false = switchClosed k (e.val.getD 0) t2 false := by
      simp only [switchClosed, Bool.false_eq_true, if_false, decide_eq_decide.mpr hta]
    simp only [this]

/-- **replace_switches_noevent**: at an instant that is not the switching time of any switch the
    circuit just before `t` is the circuit at `t`: `replace_switches_before(t) = replace_switches(t)` -/
theorem replace_switches_noevent (t : T) (net : Net T)
    (hne : ∀ e ∈ net, (swKindOf e).isSome → e.val.getD 0 ≠ t) :
    replaceSwitches t true net = replaceSwitches t false net := by
  simp only [replaceSwitches]
  apply List.map_congr_left
  intro e he
  cases hk : swKindOf e with
  | none => rfl
  | some k =>
    have hta := hne e he (by simp [hk])
    have hd : decide (e.val.getD 0 < t) = decide (e.val.getD 0 ≤ t) :=
      decide_eq_decide.mpr ⟨le_of_lt, fun h => lt_of_le_of_ne h hta⟩
    have : switchClosed k (e.val.getD 0) t true = switchClosed k (e.val.getD 0) t false := by
      cases k <;> simp [switchClosed, hd]
    simp only [this]

/-- **switch_before_at_event**: at a switching instant the `before` rule gives the state the switch
    has at every earlier time (it has not operated yet) -/
theorem switch_before_at_event (k : SwKind) (ta t' : T) (h : t' < ta) :
    switchClosed k ta ta true = switchClosed k ta t' false := by
  cases k <;> simp [switchClosed, not_le.mpr h]

/-- … and differs from the state at the instant itself (the switch operates at `t_a`) -/
theorem switch_operates_at_event (k : SwKind) (ta : T) :
    switchClosed k ta ta true = !switchClosed k ta ta false := by
  cases k <;> simp [switchClosed]

end switches

/-- non-vacuity: `SW1 4 5 no 2` at t = 1 and t = 3/2 (no event in between) -/
example : replaceSwitches (1 : ℚ) false [({ name := "SW1", ty := "SW", nodes := ["4", "5"], kw := "no", val := some 2 } : Elt ℚ)]
    = replaceSwitches (3 / 2 : ℚ) false [{ name := "SW1", ty := "SW", nodes := ["4", "5"], kw := "no", val := some 2 }] := by
  apply replace_switches_const
  intro e he _
  simp only [List.mem_cons, List.mem_nil_iff, or_false] at he
  subst he
  norm_num

end Lcapy.C05
