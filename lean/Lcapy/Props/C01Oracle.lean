/-
  PROPERTY C01, soundness of the ORACLE.

  The predicate that judges Lcapy's reported voltages and currents is the executable `MNA.checkLaws`
  (Spec/LawsExec.lean), run by the native driver over the checked Gaussian rationals `GQ` (division by zero is an
  error value, never 0).  `Laws`, `outflow`, `laws` are polymorphic in the carrier's operations, so they can be READ at
  the carrier `GQ` itself.  `checkLaws_ok`: the check answers `ok` exactly when the spec predicate holds at `GQ` on the
  nodes of the netlist -- every KCL sum and every law expression is DEFINED and equal to 0.  (`GQ` is not a field;
  that a defined `GQ` value equals the value of the same expression in the field ℚ(j) is the carrier-level transfer
  lemma, which is about `GQ`'s operations only and is shared by all properties.)
  Only property theorems (and the definitions they are stated with) live here.
-/
import Lcapy.Props.C01
import Lcapy.Spec.LawsExec
import Lcapy.Model.Netlist
namespace Lcapy.C01
open Lcapy Lcapy.MNA Ix

/-- `Laws` on the nodes 1 … n−1 (the nodes of the netlist; no component touches any other node) -/
def LawsUpTo {K : Type} [Add K] [Mul K] [Neg K] [Sub K] [Div K] [OfNat K 0] [OfNat K 1] [OfNat K 2]
    (n : Nat) (kind : Kind) (s : K) (cs : List (Cpt K)) (x : Ix → K) : Prop :=
  (∀ k, k < n → k ≠ 0 → lsum (cs.map (outflow kind s x k)) = 0) ∧
  (∀ c ∈ cs, ∀ p ∈ laws kind s x c, p.2 = 0)

theorem GQ.isZero_iff (a : GQ) : a.isZero = true ↔ a = 0 := by
  obtain ⟨v⟩ := a
  simp only [GQ.isZero, beq_iff_eq]
  constructor
  · intro h; subst h; show _ = (⟨some (((0 : Nat) : Rat), 0)⟩ : GQ); simp
  · intro h
    have : (⟨v⟩ : GQ) = ⟨some (((0 : Nat) : Rat), 0)⟩ := h
    simpa using congrArg GQ.v this

/-- **checkLaws_ok**: the executable oracle answers `ok` iff the spec predicate `Laws`, read at the driver's carrier,
    holds on the nodes of the netlist: all residuals are defined and zero. -/
theorem checkLaws_ok (kind : Kind) (s : GQ) (cs : List (Cpt GQ)) (x : Ix → GQ) (n : Nat) :
    checkLaws kind s cs x n = .ok ↔ LawsUpTo n kind s cs x := by
  unfold checkLaws LawsUpTo
  simp only
  cases hk : (List.range n).findSome? (fun k =>
      if k = 0 then none else
        if (lsum (cs.map (outflow kind s x k))).isZero then none
        else some (LawsVerdict.kcl k (lsum (cs.map (outflow kind s x k))))) with
  | some v =>
    obtain ⟨k, hkm, hkv⟩ := List.exists_of_findSome?_eq_some hk
    by_cases hk0 : k = 0
    · simp [hk0] at hkv
    · simp only [hk0, if_false] at hkv
      by_cases hz : (lsum (cs.map (outflow kind s x k))).isZero = true
      · simp [hz] at hkv
      · simp only [hz] at hkv
        have hv : v = LawsVerdict.kcl k (lsum (cs.map (outflow kind s x k))) := by
          simpa using hkv.symm
        subst hv
        constructor
        · intro h; cases h
        · rintro ⟨h1, _⟩
          exact absurd ((GQ.isZero_iff _).mpr (h1 k (List.mem_range.mp hkm) hk0)) hz
  | none =>
    simp only
    rw [List.findSome?_eq_none_iff] at hk
    have hkcl : ∀ k, k < n → k ≠ 0 → lsum (cs.map (outflow kind s x k)) = 0 := by
      intro k hkn hk0
      have := hk k (List.mem_range.mpr hkn)
      simp only [hk0, if_false] at this
      by_cases hz : (lsum (cs.map (outflow kind s x k))).isZero = true
      · exact (GQ.isZero_iff _).mp hz
      · simp [hz] at this
    cases hl : (cs.zipIdx).findSome? (fun (ci : Cpt GQ × Nat) =>
        (laws kind s x ci.1).findSome? (fun p => if p.2.isZero then none else some (LawsVerdict.law ci.2 p.1 p.2))) with
    | some v =>
      obtain ⟨ci, hcim, hci⟩ := List.exists_of_findSome?_eq_some hl
      obtain ⟨p, hpm, hp⟩ := List.exists_of_findSome?_eq_some hci
      by_cases hz : p.2.isZero = true
      · simp [hz] at hp
      · simp only [hz] at hp
        have hv : v = LawsVerdict.law ci.2 p.1 p.2 := by simpa using hp.symm
        subst hv
        have hc : ci.1 ∈ cs := List.mem_of_getElem? (List.mem_zipIdx_iff_getElem?.mp hcim)
        constructor
        · intro h; cases h
        · rintro ⟨_, h2⟩
          exact absurd ((GQ.isZero_iff _).mpr (h2 ci.1 hc p hpm)) hz
    | none =>
      simp only [true_iff]
      refine ⟨hkcl, ?_⟩
      rw [List.findSome?_eq_none_iff] at hl
      intro c hc p hp
      obtain ⟨i, hi⟩ := List.getElem?_of_mem hc
      have h1 := hl (c, i) (List.mem_zipIdx_iff_getElem?.mpr hi)
      rw [List.findSome?_eq_none_iff] at h1
      have h2 := h1 p hp
      by_cases hz : p.2.isZero = true
      · exact (GQ.isZero_iff _).mp hz
      · simp [hz] at h2

/-- **frontend_valok**: every netlist the front-end accepts satisfies the value guard `ValOK` of the spec (read at the
    driver's carrier): no resistance is zero -- so the oracle never judges a netlist outside the guard of `mna_iff_ohm`. -/
theorem frontend_valok (an : Netlist.Analysis) (lines : List String) (e : Netlist.Elab)
    (h : Netlist.elaborate an lines = .ok e) : ValOK (e.cpts.map (·.2)) := by
  unfold Netlist.elaborate at h
  split at h
  · cases h
  · split_ifs at h with hok
    cases h
    have hv := (Bool.and_eq_true _ _ ▸ hok).2
    simp only [Netlist.valOkB, List.all_eq_true] at hv
    intro c hc
    obtain ⟨p, hp, rfl⟩ := List.mem_map.mp hc
    have := hv p hp
    cases hc2 : p.2 <;> simp only [Cpt.valOK] <;> try trivial
    rename_i n1 n2 r
    rw [hc2] at this
    intro hr
    rw [hr] at this
    simp [(GQ.isZero_iff 0).mpr rfl] at this

def isOk : LawsVerdict → Bool
  | .ok => true
  | _ => false

/-- non-vacuity: the divider `V1 1 0 6; R1 1 2 2; R2 2 0 4` with its solution passes the executable check … -/
example : isOk (checkLaws .dc 0 ([.V 1 0 0 6, .R 1 2 2, .R 2 0 4] : List (Cpt GQ))
    (fun i => match i with | node 1 => 6 | node 2 => 4 | br 0 => -1 | _ => 0) 3) = true := by
  decide +kernel

/-- … and a zero-ohm resistor makes the residual UNDEFINED, which the check reports (it is not read as an open circuit) -/
example : isOk (checkLaws .dc 0 ([.V 1 0 0 6, .R 1 0 0] : List (Cpt GQ))
    (fun i => match i with | node 1 => 6 | _ => 0) 2) = false := by
  decide +kernel

end Lcapy.C01
