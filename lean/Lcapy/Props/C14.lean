/-
  PROPERTY C14 -- phasor (AC) results equal the transfer function on the jω axis.

  This file: `phasor_is_transfer_times_source` (output phasor = H(jω) · source phasor, with H the transfer function that the
  C04 experiment `transferExp` MEASURES at s = jω: unit test source, everything else killed) and `same_freq_sum` (sources of
  one frequency add as complex numbers).  The steady state is in Props/C14SS.lean, the conversions of lcapy/phasor.py and
  lcapy/acdc.py in Props/C14Conv.lean, immittances at jω in Props/C14Imm.lean.

  REMARKS (definitional, not claims): in the executable model, AC analysis at angular frequency ω IS the Laplace-domain
  stamping at the point s = j·ω (Model/Netlist.lean `Analysis.ac`), so `ac_is_s_at_jw` and `impedance_at_jw` hold by `rfl`;
  that the CODE's separate phasor path (kind = ω, immittances from `Y.sympy` in the phasor domain) agrees with this is what the
  correspondence check establishes on every run.
-/
import Lcapy.Props.C03
import Lcapy.Model.Netlist
import Lcapy.Props.C04Ground
import Lcapy.Proofs.PortOps
namespace Lcapy.C14
open Lcapy.MNA Ix
variable {K : Type} [Field K]
set_option linter.unusedSectionVars false
set_option linter.unnecessarySeqFocus false

/-- REMARK (rfl): the element stamps the model uses for AC analysis are the s-domain stamps at s = jω -/
theorem ac_is_s_at_jw (w : GQ) (c : Cpt GQ) :
    stamp (Netlist.Analysis.ac w).kind (Netlist.Analysis.ac w).s c = stamp Kind.lap (GQ.j * w) c := rfl

/-- REMARK (rfl): jωC and jωL -/
theorem impedance_at_jw (j ω c l : K) :
    capY Kind.lap (j * ω) c = j * ω * c ∧ indZ Kind.lap (j * ω) l = j * ω * l := ⟨rfl, rfl⟩

/-- homogeneity (an instance of `C03.scaling`): scaling every source phasor by P scales every phasor of the solution by P.
    (The statement about a transfer function is `phasor_is_transfer_times_source`.) -/
theorem phasor_is_transfer (j ω P : K) (cs : List (Cpt K)) (xu : Ix → K)
    (h : Solves .lap (j * ω) cs xu) :
    Solves .lap (j * ω) (cs.map (Cpt.mapSrc (fun v => P * v))) (fun i => P * xu i) :=
  C03.scaling .lap (j * ω) P cs xu h

/-- **same_freq_sum**: responses to several sources of one frequency add as complex numbers -/
theorem same_freq_sum (j ω : K) (cs cs' : List (Cpt K)) (x y : Ix → K)
    (hs : List.Forall₂ SameShape cs cs')
    (hx : Solves .lap (j * ω) cs x) (hy : Solves .lap (j * ω) cs' y) :
    Solves .lap (j * ω) (List.zipWith Cpt.addSrc cs cs') (fun i => x i + y i) :=
  C03.superposition .lap (j * ω) cs cs' x y hs hx hy

/-! ### output phasor = H(jω) · source phasor -/

theorem wf_mapSrc (f : K → K) (cs : List (Cpt K)) (h : C01.WF cs) : C01.WF (cs.map (Cpt.mapSrc f)) := by
  simp only [C01.WF, List.flatMap_map, owned_mapSrc] at h ⊢
  exact h

/-- **phasor_is_transfer_times_source**: let H be the voltage transfer function of the netlist from the port (p1, m1)
    to the port (p2, m2) at the point s (s = jω in `Cx R`, see `phasor_is_transfer_at_jw`) — i.e. what the C04 experiment
    `transferExp` MEASURES there: sources and initial conditions killed, UNIT test source across the input pair,
    V(p2) − V(m2) read, in every solution.  Then in EVERY solution of the same circuit whose input source carries the
    phasor P, the output phasor is H·P. -/
theorem phasor_is_transfer_times_source (s : K) (cs : List (Cpt K)) (p1 m1 p2 m2 b : Nat) (H P : K) (hP : P ≠ 0)
    (hwf : C01.WF (transferExp cs p1 m1 p2 m2 b).ckt)
    (hH : C04.Measures .lap s (transferExp cs p1 m1 p2 m2 b) H)
    (z : Ix → K)
    (hz : Laws .lap s ((transferExp cs p1 m1 p2 m2 b).ckt.map (Cpt.mapSrc (fun v => P * v))) z) :
    vd z p2 m2 = H * P := by
  obtain ⟨_, hall⟩ := hH
  have hz' := (C01.mna_iff_laws .lap s _ z (wf_mapSrc _ _ hwf)).mpr hz
  have hs := C03.scaling .lap s (1 / P) _ z hz'
  have e : ((transferExp cs p1 m1 p2 m2 b).ckt.map (Cpt.mapSrc (fun v => P * v))).map (Cpt.mapSrc (fun v => 1 / P * v)) =
      (transferExp cs p1 m1 p2 m2 b).ckt := by
    rw [List.map_map]
    conv_rhs => rw [← List.map_id (transferExp cs p1 m1 p2 m2 b).ckt]
    apply List.map_congr_left
    intro c _
    simp only [Function.comp, mapSrc_comp, id]
    have : ((fun v => 1 / P * v) ∘ fun v => P * v) = fun v : K => v := by
      funext v; simp only [Function.comp]; field_simp
    rw [this, mapSrc_id]
  rw [e] at hs
  have hl := (C01.mna_iff_laws .lap s _ _ hwf).mp hs
  have := hall _ hl
  simp only [transferExp, Obs.read, vd_smul] at this
  rw [← this]; field_simp

/-- the driven circuit of `phasor_is_transfer_times_source` spelled out: the killed netlist with the source `V p1 m1`
    of phasor P (and nothing else alive) -/
theorem driven_circuit (cs : List (Cpt K)) (p1 m1 p2 m2 b : Nat) (P : K) :
    (transferExp cs p1 m1 p2 m2 b).ckt.map (Cpt.mapSrc (fun v => P * v)) =
      killAll (cs.filter (fun c => !c.isVAcross p1 m1)) ++ [.V p1 m1 b P] := by
  simp [transferExp, vProbe, List.map_append, killAll_scale, Cpt.mapSrc]

end Lcapy.C14
