/-
  Machine-checked NON-VACUITY witnesses for the theorems of
  Props/C16*.lean that carry hypotheses.  The state-machine theorems are instantiated at the GENERATED
  configuration `Gen.Caches.config` (what the driver runs) on a realistic two-instance history with an
  override, queries through lru / cached_property / hasattr slots, a removal, a derived circuit and
  failing operations -- not at the small example configurations of the Props files.
-/
import Lcapy.Props.C16
import Lcapy.Props.C16Pure
import Lcapy.Props.C16Tables
import Lcapy.Props.C16Full
import Lcapy.Props.C16Atomic
import Lcapy.Props.C16Sym
import Lcapy.Props.C16SymCode
import Lcapy.Props.C16Env
set_option linter.defProp false
namespace Lcapy.NonVacuity.C16
open Lcapy.Cache Lcapy.Gen.Caches Lcapy.C16

/-! ## the history -/

def Vs : Elt := ⟨"V1", "V", ["1", "0"], "5"⟩
def Ra : Elt := ⟨"R1", "R", ["1", "2"], "1"⟩
def Cb : Elt := ⟨"C1", "C", ["2", "0"], "1"⟩
def Ra' : Elt := ⟨"R1", "R", ["1", "3"], "5"⟩
def Ea : Elt := ⟨"E1", "E", ["3", "0", "2", "0"], "10"⟩

/-- a public, exception-free history on the generated configuration: build, query the solver caches
    (`Vdict` reads the lru slot `_subcircuits_make` and a cached_property), mutate, override `R1`, add a
    four-terminal VCVS, remove it, copy, work on the copy, query both -/
def hist : List Op :=
  [.new, .addLines 0 [Vs, Ra], .query 0 "Vdict", .add 0 Cb, .query 0 "is_connected", .add 0 Ra', .add 0 Ea,
   .query 0 "sim", .remove 0 "E1", .derive 0 "copy" [Vs, Ra', Cb], .add 1 ⟨"L1", "L", ["3", "0"], "2"⟩,
   .query 1 "Vdict", .query 0 "node_list"]

/-- failing operations on the generated configuration: unknown name, malformed second line of a two-line
    `add`, a component that cannot be registered (late failure), then queries -/
def histF : List Op :=
  hist ++ [.remove 0 "R99", .addFail 0 [⟨"R9", "R", ["2", "7"], "1"⟩] ⟨"R5", "R", ["2"], ""⟩ false,
    .addFail 1 [] ⟨"Isc", "I", ["2", "3"], "1"⟩ true, .query 0 "Vdict", .query 1 "node_list"]

theorem hist_public : ∀ op ∈ hist, op.isPublic := by
  intro op hop
  simp only [hist, List.mem_cons, List.mem_nil_iff, or_false] at hop
  rcases hop with h | h | h | h | h | h | h | h | h | h | h | h | h <;> subst h <;>
    simp [Op.isPublic, uniqueNames, Vs, Ra', Cb]

theorem hist_noraise : NoRaise config World.empty hist := by
  simp only [NoRaise, hist]; decide +kernel

theorem hist_runOK : RunOK config World.empty hist :=
  runOK_of_flags config add_invalidates add_multi_invalidates remove_invalidates override_detaches
    remove_detaches_all_nodes override_detaches_all_nodes _ _ hist_public hist_noraise

/-- what the theorems below say about the worlds reached by `hist` and `histF`, evaluated together because
    running the history is the expensive step -/
theorem hist_eval :
    ((run config World.empty hist).insts.length = 2 ∧
      (eltsOf (run config World.empty hist) 0).length = 3 ∧ (eltsOf (run config World.empty hist) 1).length = 4) ∧
    ((run config World.empty hist).lru ≠ [] ∧
      ((run config World.empty hist).insts.map (fun x => x.memo.length)) ≠ [0, 0]) ∧
    (((run config World.empty hist).insts[0]?).isSome = true ∧
      ((run config World.empty hist).insts[1]?).isSome = true) ∧
    findElt (eltsOf (run config World.empty hist) 0) "R99" = none ∧
    (findElt (eltsOf (run config World.empty hist) 0) "C1").isSome = true ∧
    (step config (run config World.empty hist) (.remove 0 "R99")).2 = false ∧
    (((run config World.empty histF).insts[0]?).isSome = true ∧
      ((run config World.empty histF).insts[1]?).isSome = true) := by
  decide +kernel

/-- both instances exist at the end, instance 0 holds three components (V1, the overriding R1, C1) -/
theorem hist_final : (run config World.empty hist).insts.length = 2 ∧
    (eltsOf (run config World.empty hist) 0).length = 3 ∧ (eltsOf (run config World.empty hist) 1).length = 4 :=
  hist_eval.1

/-- memo entries ARE live at the end (the refinement is not about an empty memo layer) -/
theorem hist_memos_live : (run config World.empty hist).lru ≠ [] ∧
    ((run config World.empty hist).insts.map (fun x => x.memo.length)) ≠ [0, 0] := hist_eval.2.1

/-! ## Props/C16.lean -/

def nv_inv_run := inv_run config (fun _ => true) cfg_ok_current hist hist_runOK

/-- the step after the history: an overriding `add` (admissible because the code detaches) -/
def nv_inv_step :=
  inv_step config (fun _ => true) cfg_ok_current (run config World.empty hist) nv_inv_run (.add 0 Ra)
    ⟨add_invalidates, Or.inl ⟨override_detaches, override_detaches_all_nodes⟩⟩ (by decide)

def nv_inv_implies_fresh (inst : Inst) (hi : (run config World.empty hist).insts[0]? = some inst) :=
  inv_implies_fresh config (fun _ => true) cfg_ok_current _ nv_inv_run 0 inst hi

def nv_fresh_refinement_on (inst : Inst) (hi : (run config World.empty hist).insts[1]? = some inst) :=
  fresh_refinement_on config (fun _ => true) cfg_ok_current hist hist_runOK 1 inst hi

def nv_fresh_refinement (inst : Inst) (hi : (run config World.empty hist).insts[0]? = some inst) :=
  fresh_refinement config memoised_subset_cleared add_invalidates add_multi_invalidates remove_invalidates
    override_detaches remove_detaches_all_nodes override_detaches_all_nodes no_query_damages_cache hist hist_public
    hist_noraise 0 inst hi

/-- the `hi` hypotheses above are inhabited -/
theorem nv_hi : ((run config World.empty hist).insts[0]?).isSome = true ∧
    ((run config World.empty hist).insts[1]?).isSome = true := hist_eval.2.2.1

def nv_fresh_refinement_partial (inst : Inst) (hi : (run config World.empty hist).insts[0]? = some inst) :=
  fresh_refinement_partial config Gpartial partial_slots_ok add_invalidates remove_invalidates hist hist_runOK 0 inst hi
    "Vdict" (by decide)

def nv_copy_isolated :=
  copy_isolated config (run config World.empty hist) (.remove 1 "L1") 0 (by decide) (by decide)

def nv_derive_keeps_source :=
  Lcapy.C16.derive_keeps_source config (run config World.empty hist) 0 "copy" [Vs, Cb] (by decide)

def nv_remove_unknown_atomic (inst : Inst) (hi : (run config World.empty hist).insts[0]? = some inst)
    (hn : findElt inst.elts "R99" = none) :=
  remove_unknown_atomic config (run config World.empty hist) 0 "R99" inst hi hn

/-- ... and `hn` holds for the instance that is there -/
theorem nv_remove_unknown_atomic_hn : findElt (eltsOf (run config World.empty hist) 0) "R99" = none :=
  hist_eval.2.2.2.1

def nv_remove_known_completes (inst : Inst) (hi : (run config World.empty hist).insts[0]? = some inst)
    (e : Elt) (he : findElt inst.elts "C1" = some e) :=
  remove_known_completes config node_delete_guarded (run config World.empty hist) 0 "C1" inst e hi he

theorem nv_remove_known_completes_he : (findElt (eltsOf (run config World.empty hist) 0) "C1").isSome = true :=
  hist_eval.2.2.2.2.1

/-- a transformer memo keyed by (expression, causal flag): the key determines the result -/
def nv_memo_transparent :=
  memo_transparent (A := String × Bool × Nat) (K := String × Bool) (R := String)
    (fun a => (a.1, a.2.1)) (fun a => a.1 ++ toString a.2.1) (by intro a b h; simp only [Prod.mk.injEq] at h; simp [h.1, h.2])
    [.tr ("1/s", true, 0), .tr ("1/s", true, 1), .tr ("1/s", false, 2)]

/-- a key that forgets the flag -/
def nv_memo_needs_key :=
  memo_needs_key (A := String × Bool) (K := String) (R := Bool) (fun a => a.1) (fun a => a.2) ("1/s", true) ("1/s", false)
    rfl (by decide)

def nv_perm_invariant_partial :=
  perm_invariant_partial (g := [⟨"R1", "1", "2", 1⟩, ⟨"R2", "2", "0", 2⟩]) (h := [⟨"R2", "2", "0", 2⟩, ⟨"R1", "1", "2", 1⟩])
    (List.Perm.swap _ _ _)

/-! ## Props/C16Pure.lean -/

def nv_abstraction :=
  abstraction config (run config World.empty hist) (strip (run config World.empty hist)) (by decide) (.remove 0 "C1")

def nv_history_abstraction :=
  history_abstraction config (run config World.empty hist) (strip (run config World.empty hist)) (by decide)
    [.remove 0 "C1", .query 0 "Vdict"]

/-- `hist = pre ++ post` with a query inserted after the fourth operation -/
def nv_query_transparent :=
  query_transparent config (fun _ => true) cfg_ok_current (hist.take 4) (hist.drop 4) 0 "circuit_graph"
    (by simpa using hist_runOK) 0 "Vdict" (fun _ _ => rfl)

theorem histF_runOKF : RunOKF config World.empty histF := by
  simp only [RunOKF, Op.admissible, histF, hist, List.cons_append, List.nil_append, uniqueNames]; decide

theorem histF_some_fail : (step config (run config World.empty hist) (.remove 0 "R99")).2 = false :=
  hist_eval.2.2.2.2.2.1

def nv_fresh_refinement_with_failures (inst : Inst) (hi : (run config World.empty histF).insts[0]? = some inst) :=
  fresh_refinement_with_failures config (fun _ => true) cfg_ok_current node_delete_guarded histF histF_runOKF 0 inst hi

def nv_failed_op_atomic :=
  failed_op_atomic config node_delete_guarded (run config World.empty hist)
    (.addFail 1 [] ⟨"Isc", "I", ["2", "3"], "1"⟩ true) ⟨rfl, fun _ => failed_add_detaches⟩ (by decide)

/-! ## Props/C16Tables.lean, C16Full.lean, C16Atomic.lean -/

def nv_fresh_refinement_partial_current (inst : Inst) (hi : (run config World.empty hist).insts[1]? = some inst) :=
  fresh_refinement_partial_current hist hist_runOK 1 inst hi "get_Vd" (by decide)

def nv_fresh_refinement_current (inst : Inst) (hi : (run config World.empty hist).insts[0]? = some inst) :=
  fresh_refinement_current hist hist_public hist_noraise 0 inst hi "modified_nodal_analysis"

def nv_query_transparent_current :=
  query_transparent_current (hist.take 4) (hist.drop 4) 0 "mesh_analysis" (by simpa using hist_public)
    (by simpa using hist_noraise) 1 "Vdict"

def nv_fresh_refinement_with_failures_current (inst : Inst)
    (hi : (run config World.empty histF).insts[1]? = some inst) :=
  fresh_refinement_with_failures_current histF histF_runOKF 1 inst hi "Vdict"

theorem nv_hiF : ((run config World.empty histF).insts[0]?).isSome = true ∧
    ((run config World.empty histF).insts[1]?).isSome = true := hist_eval.2.2.2.2.2.2

def nv_failed_op_atomic_current :=
  failed_op_atomic_current (run config World.empty hist) (.remove 0 "R99") trivial histF_some_fail

/-! ## Props/C16Sym.lean -/
section Sym
open Lcapy.SymReg

def symHist : List SymReg.Op :=
  [.declare "Rx" "real", .add 1 ["Rx", "C"] true, .use "tau" "positive", .delete "Rx", .add 2 ["Rx"] false, .enter 3, .leave]

def nv_unmentioned_is_fresh :=
  unmentioned_is_fresh ⟨false, false⟩ symHist "omega0" "real" (by decide)

def nv_agreeing_is_fresh :=
  agreeing_is_fresh ⟨true, true⟩ symHist "C" "positive" (by
    intro op hop
    simp only [symHist, List.mem_cons, List.mem_nil_iff, or_false] at hop
    rcases hop with h | h | h | h | h | h | h <;> subst h <;> simp [Op.agrees])

/-- `tau` is registered by the prefix; the tail re-declares and deletes other names only -/
def nv_stable_tail :=
  stable_tail ⟨true, true⟩ (SymReg.run ⟨true, true⟩ St.init (symHist.take 3)) (symHist.drop 3) "tau" "positive"
    (by decide) (by decide)

def nv_delete_restores_fresh :=
  delete_restores_fresh ⟨deleteCleansKinds, addRestoresContextOnError⟩ delete_cleans_kinds
    (SymReg.run ⟨deleteCleansKinds, addRestoresContextOnError⟩ St.init (symHist.take 3)) "Rx"

def nv_delete_resets_history :=
  delete_resets_history ⟨deleteCleansKinds, addRestoresContextOnError⟩ delete_cleans_kinds (symHist.take 3)
    [.use "Rx" "complex"] "Rx" "positive"

/-- a failing `add` with the context restored in a `finally` (generated flag) -/
def nv_add_balanced :=
  add_balanced ⟨deleteCleansKinds, addRestoresContextOnError⟩ St.init 2 ["Rx"] false (Or.inr add_restores_context_on_error)

def nv_run_balanced :=
  run_balanced ⟨deleteCleansKinds, addRestoresContextOnError⟩ add_restores_context_on_error (symHist.take 5) St.init (by
    intro op hop
    simp only [symHist, List.take, List.mem_cons, List.mem_nil_iff, or_false] at hop
    rcases hop with h | h | h | h | h <;> subst h <;> simp [Op.noSwitch])

end Sym

/-! ## Props/C16Env.lean -/
section Env
open Lcapy.EnvMemo

/-- an analysis (here: the number of elements, signed by the sign convention) that reads
    `current_sign_convention` but not `loose_units` -/
def fA : Nat → Env → Int := fun e env => if env "current_sign_convention" = "active" then -(e : Int) else e

def envHist : List (EnvMemo.Op Nat) :=
  [.query, .set "loose_units" "False", .mutate 4, .query, .set "loose_units" "True", .query]

def nv_answer_is_function_of_elements_and_settings :=
  answer_is_function_of_elements_and_settings fA envHist ⟨3, fun _ => "passive", none⟩ rfl

def nv_insensitive_history_independent :=
  insensitive_history_independent fA envHist ⟨3, fun _ => "passive", none⟩ rfl (by
    intro e a b h
    have : a "current_sign_convention" = b "current_sign_convention" := h _ (by decide)
    simp [fA, this])

def nv_toggle_query_back_trace :=
  toggle_query_back_trace fA ⟨3, fun _ => "passive", none⟩ rfl "current_sign_convention" "active"

end Env

end Lcapy.NonVacuity.C16
