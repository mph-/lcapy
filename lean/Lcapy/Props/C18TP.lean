/-
  PROPERTY C18, part 2 -- "Every voltage, current, impedance, admittance and transfer function
  produced by circuit analysis carries the corresponding quantity and units": the derived
  attributes of the two-port classes and the transfer-type netlist methods.

  `derivedPorts`, `entryPorts`, `attrDerived`, `tpExpect` are REGENERATED on every run from the C08
  spec (Lcapy/Spec/TwoPort.lean) and from the statements proved in Lcapy/Props/C08.lean;
  `docPorts`, `tpWrap`, `netPorts`, `netWrap` from /repo/lcapy/twoport.py and netlistopsmixin.py.
  The dimension rule (`ratioQ`, `dimPV`) is in Lcapy/Spec/DimTP.lean, the SI dimensions in
  Lcapy/Spec/Dim.lean; neither depends on the code.
-/
import Lcapy.Generated.Quantities
import Lcapy.Generated.QuantitiesTP
import Lcapy.Proofs.QuantitiesBase
import Lcapy.Props.C18
namespace Lcapy.C18
open Lcapy.Dim Lcapy.DimTP Lcapy.QModel Lcapy.Gen.Q Lcapy.Gen.QTP Lcapy.QBase Lcapy.Spec

/-! ## 1. the expectation table is the C08 spec -/

/-- the generated (numerator, denominator, zeroed variable) of every derived quantity IS the
    clause of `Spec.Derived.holds` (definitional unfolding, for any coefficient type) -/
theorem derived_ports_match_spec {K : Type} [Add K] [Mul K] [Sub K] [OfNat K 0] (Z0 q : K)
    (p : Port K) :
    ∀ r ∈ derivedPorts,
      (r.1.holds q p ↔ (r.2.2.2.get Z0 p = 0 → r.2.1.get Z0 p = q * r.2.2.1.get Z0 p)) := by
  intro r hr
  simp only [derivedPorts, List.mem_cons, List.mem_nil_iff, or_false] at hr
  rcases hr with rfl | rfl | rfl | rfl | rfl | rfl | rfl | rfl | rfl | rfl | rfl | rfl <;> exact Iff.rfl

/-- every derived quantity of the spec has exactly one row -/
theorem derived_ports_complete (d : Derived) :
    (derivedPorts.filter (fun r => r.1 == d)).length = 1 := by
  cases d <;> decide +kernel

/-- the rule's case analysis is exhaustive on port variables: every ratio of two port variables
    has a quantity, it is a defined one, and it has the dimension numerator - denominator -/
theorem ratio_rule_sound (num den : PortVar) :
    ∃ q, expectedRatio num den = some q ∧ q.isDefined = true ∧
      dimQ q = subVA (dimPV num) (dimPV den) := by
  obtain ⟨q, h, hk, hd⟩ := expectedRatio_cases num den
  exact ⟨q, h, by rcases hk with rfl | rfl | rfl <;> rfl, hd⟩

/-- ... and the dimension determines it: a defined quantity with the dimension of the ratio that is
    itself a ratio quantity is the expected one (no second candidate) -/
theorem ratio_rule_unique (num den : PortVar) (q : Quantity)
    (hq : q = .transfer ∨ q = .impedance ∨ q = .admittance)
    (hd : dimQ q = subVA (dimPV num) (dimPV den)) : expectedRatio num den = some q := by
  simp only [expectedRatio, ratioQ, ← hd]
  rcases hq with rfl | rfl | rfl <;> rfl

/-- THE EXPECTATION THEOREM: the expected quantity of each attribute of the table is defined and its
    dimension equals dim(numerator) - dim(denominator) under Spec/Dim.lean; it is what the rule
    yields -/
theorem tp_expected_dimension :
    ∀ r ∈ tpExpect, r.2.2.2.isDefined = true ∧
      dimQ r.2.2.2 = subVA (dimPV r.2.1) (dimPV r.2.2.1) ∧
      expectedRatio r.2.1 r.2.2.1 = some r.2.2.2 := by decide +kernel

/-- every attribute whose port definition C08 proves has a row, and the row's numerator and
    denominator are those of the spec clause of its derived quantity -/
theorem tp_expect_from_c08 :
    ∀ a ∈ attrDerived, ∃ r ∈ tpExpect, r.1 = a.1 ∧
      (a.2, r.2.1, r.2.2.1) ∈ derivedPorts.map (fun d => (d.1, d.2.1, d.2.2.1)) := by decide +kernel

theorem tp_expect_only_from_c08 :
    ∀ r ∈ tpExpect, ∃ a ∈ attrDerived, r.1 = a.1 := by decide +kernel

/-- matrix elements: the ratio of every (lhs_i, rhs_j) pair of every representation has a quantity
    under the rule (Z: impedances, Y: admittances, A/B/G/H: mixed, S/T: dimensionless) -/
theorem entry_ports_have_quantity :
    ∀ r ∈ entryPorts, (expectedRatio r.2.2.1 r.2.2.2).isSome = true := by decide +kernel

theorem entry_ports_Z_Y :
    (∀ r ∈ entryPorts, r.1 = "Z" → expectedRatio r.2.2.1 r.2.2.2 = some .impedance) ∧
    (∀ r ∈ entryPorts, r.1 = "Y" → expectedRatio r.2.2.1 r.2.2.2 = some .admittance) ∧
    (∀ r ∈ entryPorts, r.1 = "S" ∨ r.1 = "T" → expectedRatio r.2.2.1 r.2.2.2 = some .transfer) := by
  decide +kernel

/-! ## 2. the code wraps every attribute in the class of the expected quantity -/

def expectOf (attr : String) : Option Quantity :=
  (tpExpect.find? (fun r => r.1 == attr)).map (fun r => r.2.2.2)

/-- the code's own documentation (`Return A / B for ...`) names the ratio of the spec, for every
    documented attribute of the table -/
theorem tp_docstrings_agree :
    ∀ r ∈ docPorts, ∀ e ∈ tpExpect, e.1 = r.2.1 → (e.2.1, e.2.2.1) = (r.2.2.1, r.2.2.2) := by
  decide +kernel

/-- the sweep behind `tp_code_wrappers_expected` and the number of rows it speaks of, evaluated together
    because the lookups `expectOf` are the expensive part -/
theorem tpWrap_expected_rows :
    tpWrap.all (fun r => (expectOf r.2.1).all (fun q => decide (r.2.2 = some q))) = true ∧
      100 ≤ (tpWrap.filter (fun r => (expectOf r.2.1).isSome)).length := by
  decide +kernel

/-- every (class, attribute) of the C08 table -- TwoPortMatrix, the eight parameter-matrix classes
    and the TwoPort networks, the rows of `tpWrap` that have an expectation -- returns its value wrapped in a class of exactly the
    expected quantity, whichever chain of delegations the code takes -/
theorem tp_code_wrappers_expected :
    ∀ r ∈ tpWrap, ∀ q, expectOf r.2.1 = some q → r.2.2 = some q :=
  fun _ hr _ hq => of_decide_eq_true (all_option_all tpWrap_expected_rows.1 hr hq)

/-- the quantity the code's documentation implies for a documented attribute of a class -/
def docExpectOf (cls attr : String) : Option Quantity :=
  (docPorts.find? (fun r => r.1 == cls && r.2.1 == attr)).bind
    (fun r => expectedRatio r.2.2.1 r.2.2.2)

theorem tpWrap_documented_rows :
    tpWrap.all (fun r => (docExpectOf r.1 r.2.1).all (fun q => decide (r.2.2 = some q))) = true ∧
      5 ≤ (tpWrap.filter (fun r => (docExpectOf r.1 r.2.1).isSome)).length ∧
      ∀ a ∈ ["Vtransfer", "Itransfer", "Ytrans12", "Ytransfer", "Ztransfer"],
        tpWrap.any (fun r => r.1 == "TwoPort" && r.2.1 == a && (docExpectOf r.1 r.2.1).isSome) = true := by
  decide +kernel

/-- attributes outside the C08 table that the code documents as a ratio (`Vtransfer`, `Itransfer`,
    `Ytrans12`, `Ytransfer`, `Ztransfer`): wrapped in the class of the documented ratio; a
    delegation to something that is not a property (a bound method: finding C18-F26, fixed) reads
    as `none` and breaks this theorem -/
theorem tp_code_wrappers_documented :
    ∀ r ∈ tpWrap, ∀ q, docExpectOf r.1 r.2.1 = some q → r.2.2 = some q :=
  fun _ hr _ hq => of_decide_eq_true (all_option_all tpWrap_documented_rows.1 hr hq)

/-- the five extra documented attributes are in the table (non-vacuity) -/
theorem tp_documented_attributes_present :
    ∀ a ∈ ["Vtransfer", "Itransfer", "Ytrans12", "Ytransfer", "Ztransfer"],
      tpWrap.any (fun r => r.1 == "TwoPort" && r.2.1 == a && (docExpectOf r.1 r.2.1).isSome) = true :=
  tpWrap_documented_rows.2.2

/-! ## 3. the transfer-type netlist methods, on every internal route -/

def netExpectOf (m : String) : Option Quantity :=
  (netPorts.find? (fun r => r.1 == m)).bind (fun r => expectedRatio r.2.1 r.2.2)

theorem netWrap_rows :
    netWrap.all (fun r => (netExpectOf r.1).all (fun q => decide (r.2.2 = some q))) = true ∧
      10 ≤ (netWrap.filter (fun r => (netExpectOf r.1).isSome)).length := by
  decide +kernel

/-- `transfer`, `voltage_gain`, `current_gain`, `transimpedance`, `transadmittance`: every `return`
    of the method -- the ladder shortcut (`ladder.<attribute>`, resolved through the two-port
    classes) and the test-source route -- yields the quantity of the ratio its documentation names -/
theorem net_methods_typed_on_every_route :
    ∀ r ∈ netWrap, ∀ q, netExpectOf r.1 = some q → r.2.2 = some q :=
  fun _ hr _ hq => of_decide_eq_true (all_option_all netWrap_rows.1 hr hq)

/-- both routes are present for each of the five two-port methods (the theorem above is not
    vacuous), and the driving-point methods claim an impedance / admittance -/
theorem net_routes_present :
    (∀ m ∈ ["transfer", "voltage_gain", "current_gain", "transimpedance", "transadmittance"],
      (netWrap.any (fun r => r.1 == m && r.2.1 == "ladder") &&
       netWrap.any (fun r => r.1 == m && r.2.1 == "test-source") &&
       (netExpectOf m).isSome) = true) ∧
    ("impedance", "test-source", some Quantity.impedance) ∈ netWrap ∧
    ("admittance", "test-source", some Quantity.admittance) ∈ netWrap := by decide +kernel

/-! ## 4. using a typed result: Ohm's law on the model of `*`, refusal of `+` -/

/-- for every row of the expectation table the quantity table contains the product
    `denominator's quantity * attribute's quantity = numerator's quantity` (in either order):
    V1(s) * transadmittance is a current, I1(s) * transimpedance a voltage, V1(s) * voltage_gain a
    voltage, ... -/
theorem tp_times_denominator_in_table :
    ∀ r ∈ tpExpect, mulLookup tables (pvQuantity r.2.2.1) r.2.2.2 = some (pvQuantity r.2.1) ∧
      mulLookup tables r.2.2.2 (pvQuantity r.2.2.1) = some (pvQuantity r.2.1) := by decide +kernel

/-- for ALL operands: whenever the model of `__mul__` forms the product of an expression of the
    denominator's quantity with a result carrying the expected quantity of a row, the product has
    the (V, A) dimension of the numerator and its units are the product of the units -/
theorem tp_times_denominator (a x : Opd) (d : Domain) (q : Quantity) (u : U)
    (num den : PortVar) (hx : dimQ x.q = subVA (dimPV num) (dimPV den))
    (ha : dimQ a.q = dimPV den) (h : mulM tables a x = .ok d q u) (hg : genericPair a x = false) :
    dimQ q = dimPV num ∧ u = a.units + x.units := by
  have h2 := mul_quantity_dimension tables mul_dim a x d q u h hg
  rcases op_units_mul tables a x d q u h with ⟨h1, _⟩ | ⟨_, h3⟩
  · rw [hg] at h1; cases h1
  · refine ⟨?_, h3⟩
    rw [h2, ha, hx]
    simp only [addVA, subVA]
    ext <;> simp <;> omega

theorem witness_tp_times_denominator :
    mulM tables ⟨.laplace, .voltage, ⟨1, 0, 0, 0, 0, -1, 0, 0⟩, false, false, false⟩
      ⟨.laplace, .admittance, ⟨0, 0, 0, 1, 0, 0, 0, 0⟩, false, false, false⟩ =
      .ok .laplace .current ⟨1, 0, 0, 1, 0, -1, 0, 0⟩ := by decide +kernel

/-- a typed result can not be added to, and never compares equal with, an expression of another
    defined quantity (instance of `add_refuses_quantities_now` for the rows of the table) -/
theorem tp_not_addable_to_other_quantity (c : Cfg) (a x : Opd)
    (ha : a.q = .transfer ∨ a.q = .impedance ∨ a.q = .admittance)
    (hx : x.q.isDefined = true) (hne : a.q ≠ x.q) :
    (∃ e, compatAdd tables c a x = .error e) ∧ eqM tables c a x = none := by
  have had : a.q.isDefined = true := by rcases ha with h | h | h <;> rw [h] <;> rfl
  exact ⟨add_refuses_quantities_now c a x had hx hne, eq_false_when_quantities_differ c a x had hx hne⟩

/-- the spec predicate the oracle evaluates accepts exactly the expected quantity with Laplace-domain
    units of that quantity: (soundness of `ratioOk` w.r.t. the table) -/
theorem ratioOk_iff_expected (num den : PortVar) (q : Quantity) (u : U) :
    ratioOk num den .laplace q u = true ↔
      (expectedRatio num den = some q ∧ dimU u = ⟨(dimQ q).1, (dimQ q).2, 0⟩) := by
  have key : expectedRatio num den = some q → q.isDefined = true ∧
      dimQ q = subVA (dimPV num) (dimPV den) ∧ expectedDim .laplace q = ⟨(dimQ q).1, (dimQ q).2, 0⟩ := by
    intro he
    obtain ⟨q', hq', hk, hdim⟩ := expectedRatio_cases num den
    cases he.symm.trans hq'
    exact ⟨by rcases hk with rfl | rfl | rfl <;> rfl, hdim, by rcases hk with rfl | rfl | rfl <;> rfl⟩
  simp only [ratioOk, freshOk, Bool.and_eq_true, beq_iff_eq, decide_eq_true_eq]
  constructor
  · rintro ⟨⟨⟨hdef, _⟩, he⟩, hf⟩
    exact ⟨he, by simpa [hdef, (key he).2.2] using hf⟩
  · rintro ⟨he, hu⟩
    obtain ⟨hdef, hdim, ht⟩ := key he
    simp [hdef, hdim, he, ht, hu]

end Lcapy.C18
