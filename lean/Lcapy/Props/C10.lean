/-
  C10 — the inverse Laplace transform inverts the forward transform and respects causality.

  `ilt` (Model/ILT.lean) mirrors the synthesis in `InverseLaplaceTransformer.ratfun` (+ `delay_factor`),
  `conjPair` its conjugate-pair formulas, `termModel/makeModel` the causal / `t ≥ 0` bookkeeping of `term` and
  `UnilateralInverseTransformer.make`; `pfCheck` is the verified checker applied, on every run, to the
  `(Q, R, P, O)` data that `Ratfun.as_QRPO` really returns.  `L` is the formal forward transform of C09
  (Spec/Signal.lean), anchored to the integral there.
-/
import Lcapy.Proofs.Laplace
import Lcapy.Proofs.LaplaceILT
import Mathlib.Algebra.Order.Field.Basic
import Mathlib.Tactic.Linarith
namespace Lcapy.C10
open Lcapy.Laplace

section
variable {K : Type} [Field K] (E : K → K)

/-- Round trip: the forward transform of the synthesised time function is the partial-fraction expression
    it was synthesised from — for all partial-fraction data (any number of poles, any orders, polynomial part
    of any degree, any delay), at every non-pole point.  (`0 < o`: `as_QRPO` numbers orders from 1.)
    This is the PLAIN synthesis `ilt pf`; the synthesis the driver executes (source-text polynomial loop + conjugate pairing)
    has the same statement as `ilt_executed_laplace` / `ilt_executed_inverts` in Props/C10b.lean. -/
theorem ilt_laplace (pf : PF K) (s : K) (ho : ∀ x ∈ pf.R, 0 < x.2.2) :
    L E (ilt pf) s = evalPF E pf s := ilt_laplace' E pf s ho

/-- Soundness of the partial-fraction checker: if it accepts `(Q, R, P, O)` (with any candidate cofactors) then
    `B(s)/A(s) = Q(s) + Σ r_i/(s−p_i)^{o_i}` wherever `A(s) ≠ 0`, and no such `s` is one of the listed poles. -/
theorem pf_check_sound [DecidableEq K] (B A Q : Poly K) (R : List (K × K × Nat)) (cofs : List (Poly K))
    (h : pfCheck B A Q R cofs = true) (s : K) (hA : Poly.eval A s ≠ 0) :
    Poly.eval B s / Poly.eval A s = Poly.eval Q s + sumPF R s ∧
    (∀ x ∈ R, 0 < x.2.2 → s - x.2.1 ≠ 0) := by
  simp only [pfCheck, Bool.and_eq_true] at h
  refine ⟨?_, pf_check_nonpole A s hA R cofs h.1⟩
  have h2 := Poly.eval_eqv _ _ s h.2
  rw [Poly.eval_add, Poly.eval_mul, sumCof_eval A s hA R cofs h.1] at h2
  rw [h2]; field_simp

/-- consequently: checked data + synthesis = the input rational function times the delay factor -/
theorem ilt_inverts [DecidableEq K] (B A : Poly K) (pf : PF K) (cofs : List (Poly K))
    (h : pfCheck B A pf.Q pf.R cofs = true) (ho : ∀ x ∈ pf.R, 0 < x.2.2) (s : K) (hA : Poly.eval A s ≠ 0) :
    L E (ilt pf) s = E (-(s * pf.T)) * (Poly.eval B s / Poly.eval A s) := by
  rw [ilt_laplace E pf s ho, evalPF, (pf_check_sound B A pf.Q pf.R cofs h s hA).1]

/-- improper rational functions: the polynomial part becomes Dirac deltas and their derivatives -/
theorem improper_deltas (T s : K) (q : Poly K) :
    L E (iltQ T 0 q) s = E (-(s * T)) * Poly.eval q s := by
  rw [L_iltQ]; ring

/-- a delay factor `e^{−sT}` shifts the response -/
theorem delay_shift (hE : IsExp E) (Q : Poly K) (R : List (K × K × Nat)) (T s : K) (ho : ∀ x ∈ R, 0 < x.2.2) :
    L E (ilt ⟨Q, R, T⟩) s = E (-(s * T)) * L E (ilt ⟨Q, R, 0⟩) s := by
  rw [ilt_laplace E _ s ho, ilt_laplace E _ s ho]
  simp [evalPF, hE.zero]

/-- the conjugate-pair branch (`Ac cos ωt + As sin ωt) e^{−αt}` with the code's `Ac, As, α, ω`) replaces exactly the
    two partial fractions `r/(s−p) + rc/(s−pc)`; over any field with `j² = −1`, `2 ≠ 0`. -/
theorem conj_pair_combine [DecidableEq K] {J : K} (hJ : J * J = -1) (h20 : (1 + 1 : K) ≠ 0)
    (r rc p pc T s : K) (hp : p ≠ pc) (h1 : s - p ≠ 0) (h2 : s - pc ≠ 0) :
    L E (conjPair J r rc p pc T) s = E (-(s * T)) * (r / (s - p) + rc / (s - pc)) :=
  conj_pair_combine' E hJ h20 r rc p pc T s hp h1 h2

/-- The whole residue loop of `ratfun` (conjugate partners searched among the later entries, combined by
    `conjPair`, everything else synthesised directly) has the transform `e^{−sT} Σ r/(s−p)^o`, for all residue lists.
    Depends on the GENERATED flag `Gen.conjPartnerMustBeSimple` (tx_ilt reads the partner filter from the source text):
    with the unfiltered search of finding F21 the `rfl` below fails and this obligation breaks. -/
theorem ratfun_loop_sound [DecidableEq K] {J : K} (hJ : J * J = -1) (h20 : (1 + 1 : K) ≠ 0) (conj : K → K) (T s : K)
    (R : List (K × K × Nat)) (ho : ∀ x ∈ R, 0 < x.2.2) (hn : ∀ x ∈ R, s - x.2.1 ≠ 0) :
    L E (ratfunLoop J conj T (R.length + 1) R) s = E (-(s * T)) * sumPF R s :=
  ratfun_loop_sound' E rfl hJ h20 conj T s (R.length + 1) R (Nat.le_succ _) ho hn

/-- residues by substitution, two distinct simple poles (`_find_residues_sub`): `r_i = B(p_i)/Π_{j≠i}(p_i − p_j)`.
    Two poles and a numerator of degree ≤ 1; the general statement (n poles, repeated poles with the derivative formula) is
    `find_residues_sub_sound` (Props/C10c.lean). -/
theorem residue_sub_simple_partial (b0 b1 p q s : K) (hpq : p ≠ q) (h1 : s - p ≠ 0) (h2 : s - q ≠ 0) :
    (b0 + b1 * s) / ((s - p) * (s - q))
      = ((b0 + b1 * p) / (p - q)) / (s - p) + ((b0 + b1 * q) / (q - p)) / (s - q) := by
  have : p - q ≠ 0 := sub_ne_zero.mpr hpq
  have : q - p ≠ 0 := sub_ne_zero.mpr (Ne.symm hpq)
  field_simp; ring

/-- MODEL REMARK (bookkeeping, not a transform fact).  `make`: not causal and a non-empty unilateral part ⇒ the result
    carries the `t ≥ 0` condition.  `makeModel` is three lines; what makes this more than its own definition is the tie:
    its two guard conditions are READ FROM THE SOURCE of `UnilateralInverseTransformer.make` on every run (tx_ilt:
    `Gen.makeGuardOnlyIfNotCausal`, `Gen.makeGuardOnlyIfUnilateral`), and the harness compares the model's `guarded` flag with
    the presence of `Piecewise((…, t >= 0))` in Lcapy's result for every generated case and option set; the spec oracle
    (guard / causal flags of the REAL result) does not use the model. -/
theorem make_guard [DecidableEq K] (parts : List (ExpPoly K × ExpPoly K))
    (h : ∃ x ∈ parts, x.2 ≠ []) : (makeModel false parts).guarded = true := by
  obtain ⟨x, hx, hne⟩ := h
  have hu : (parts.flatMap (fun x => x.2)).isEmpty = false := by
    rw [List.isEmpty_eq_false_iff]
    intro h0
    exact hne (List.flatMap_eq_nil_iff.mp h0 x hx)
  simp [makeModel, hu]

/-- MODEL REMARK.  With `causal=True` nothing is left in the unilateral part and no condition is attached (needs the generated
    flag `Gen.makeGuardOnlyIfNotCausal = true`: the `if not kwargs.get('causal', False)` of the source).  That the causal output
    really is a causal signal, hence zero before `t = 0`, is `ilt_causal_output` (Props/C10b.lean). -/
theorem make_causal [DecidableEq K] (hasDelay : Bool) (c u : ExpPoly K) (parts : List (ExpPoly K × ExpPoly K)) :
    (termModel true hasDelay c u).2 = [] ∧ (makeModel true parts).guarded = false :=
  ⟨by cases hasDelay <;> simp [termModel], make_causal' parts⟩

/-- initial value: `s·F(s) = f(0⁺) + L{f'}(s)` for an undelayed signal without impulses (`f'` the classical
    derivative, again without impulses), so `f(0⁺) = lim_{s→∞} s F(s)`. -/
theorem initial_value_identity [DecidableEq K] (hE : IsExp E) (f : ExpPoly K) (s : K) (hn : NonPole f s)
    (hd : NoDelta f) (h0 : ∀ t ∈ f, t.delayOf = 0) :
    s * L E f s = val0plus f + L E ((deriv f).filter (fun t => match t with | .ep _ _ _ _ => true | .dl _ _ _ => false)) s :=
  eq_add_of_sub_eq' (L_derivC E hE f s hn ⟨hd, h0⟩).symm

/-- final value: `s·F(s) = (sum of the step coefficients) + s·L{rest}(s)`; when every pole at the origin is
    simple, `0` is not a pole of `rest`, so `lim_{s→0} s F(s)` is the sum of the step coefficients `valInf f`. -/
theorem final_value_identity [DecidableEq K] (hE : IsExp E) (f : ExpPoly K) (s : K) (hs : s ≠ 0)
    (h0 : ∀ t ∈ f, t.delayOf = 0) :
    s * L E f s = valInf f + s * L E (f.filter (fun t => match t with
        | .ep _ 0 p _ => decide (p ≠ 0) | _ => true)) s := by
  induction f with
  | nil => simp [valInf]
  | cons t f ih =>
    have ih' := ih (fun x hx => h0 x (by simp [hx]))
    rw [L_cons, mul_add, ih']
    cases t with
    | dl c n d => rw [List.filter_cons_of_pos rfl, L_cons]; simp only [valInf]; ring
    | ep c k p d =>
      cases k with
      | succ k => rw [List.filter_cons_of_pos rfl, L_cons]; simp only [valInf]; ring
      | zero =>
        obtain rfl : d = 0 := h0 (.ep c 0 p d) (by simp)
        by_cases hp : p = 0
        · subst hp
          rw [List.filter_cons_of_neg (by simp), valInf, if_pos rfl]
          simp only [Term.L, pw, mul_zero, neg_zero, hE.zero, sub_zero, one_mul, mul_one]
          field_simp; ring
        · rw [List.filter_cons_of_pos (by simpa using hp), L_cons, valInf, if_neg hp]; ring

end

/-! ### the result cache is keyed on every option that influences the result
   (tables GENERATED by tx_ilt from the source text of `InverseLaplaceTransformer.key`, of the other methods of the class
   and of `UnilateralInverseTransformer`; complete finite tables, decided outright) -/

/-- every option the inverse transformer reads from `kwargs` is a component of the cache key -/
theorem ilt_key_complete : Gen.keyTranslated = true ∧ ∀ o ∈ Gen.readOptions, o ∈ Gen.keyOptions := by decide

/-- … and `key` uses the same default as every place that reads the option (otherwise "option omitted" and
    "option given with its default" would be cached apart or, worse, together with the other value) -/
theorem ilt_key_defaults_agree : ∀ od ∈ Gen.readOptionDefaults, od ∈ Gen.keyOptionDefaults := by decide

section ordered
variable {K : Type} [Field K] [LinearOrder K] [IsStrictOrderedRing K] (E : K → K)

/-- a causal result (all delays ≥ 0, every regular term multiplied by its step) is zero before `t = 0`; that the model's
    `causal=True` output satisfies `Causal` is proved as `ilt_causal_output` / `damped_sin_causal_output` (Props/C10b.lean) -/
theorem causal_zero_before (f : ExpPoly K) (hc : Causal f) (t : K) (ht : t < 0) : evalAt E f t = 0 := by
  induction f with
  | nil => rfl
  | cons x f ih =>
    have ih' := ih (fun y hy => hc y (by simp [hy]))
    simp only [evalAt, ih', add_zero]
    cases x with
    | dl c n d => rfl
    | ep c k p d =>
      have hd : (0 : K) ≤ d := hc (.ep c k p d) (by simp)
      have : ¬ d ≤ t := by intro h; linarith
      simp [Term.at, this]

-- non-vacuity
example : Causal [Term.ep (1 : ℚ) 0 (-1) 2, Term.dl 1 1 0] := by
  intro t ht; simp at ht; rcases ht with rfl | rfl <;> simp [Term.delayOf]
example : pfCheck (K := ℚ) [1] [2, 3, 1] [] [(1, -1, 1), (-1, -2, 1)] [[2, 1], [1, 1]] = true := by
  norm_num [pfCheck, checkCofs, sumCof, Poly.eqv, Poly.mul, Poly.add, Poly.smul, Poly.linPow]
end ordered

end Lcapy.C10
