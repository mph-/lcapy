/-
  Machine-checked NON-VACUITY witnesses for the theorems of
  Props/C18.lean, C18Sup.lean, C18TP.lean, C18Tr.lean that carry hypotheses.  Every `nv_*` instantiates
  the theorem itself on a concrete, realistic operand / table row, so all of its hypotheses are
  proved to hold together.  Nothing here weakens or replaces a property theorem.
-/
import Lcapy.Props.C18
import Lcapy.Props.C18Sup
import Lcapy.Props.C18TP
import Lcapy.Props.C18Tr
set_option linter.defProp false
namespace Lcapy.NonVacuity.C18
open Lcapy.Dim Lcapy.DimTP Lcapy.QModel Lcapy.QSup Lcapy.Gen.Q Lcapy.Gen.QSup Lcapy.Gen.QTP Lcapy.QBase Lcapy.C18

/-! operands as the real API produces them -/
/-- `voltage('V(s)')`: Laplace voltage, V/Hz -/
def vL : Opd := ⟨.laplace, .voltage, ⟨1, 0, 0, 0, 0, -1, 0, 0⟩, false, false, false⟩
/-- Laplace current, A/Hz -/
def iL : Opd := ⟨.laplace, .current, ⟨0, 1, 0, 0, 0, -1, 0, 0⟩, false, false, false⟩
/-- Laplace admittance, S -/
def yL : Opd := ⟨.laplace, .admittance, ⟨0, 0, 0, 1, 0, 0, 0, 0⟩, false, false, false⟩
/-- Laplace impedance, ohm -/
def zL : Opd := ⟨.laplace, .impedance, ⟨0, 0, 1, 0, 0, 0, 0, 0⟩, false, false, false⟩
/-- time-domain voltage, V -/
def vT : Opd := ⟨.time, .voltage, ⟨1, 0, 0, 0, 0, 0, 0, 0⟩, false, false, false⟩
/-- time-domain current, A -/
def iT : Opd := ⟨.time, .current, ⟨0, 1, 0, 0, 0, 0, 0, 0⟩, false, false, false⟩
/-- time-domain impedance (impulse response), ohm/s -/
def zT : Opd := ⟨.time, .impedance, ⟨0, 0, 1, 0, 0, 0, -1, 0⟩, false, false, false⟩
/-- Fourier-domain voltage -/
def vF : Opd := ⟨.fourier, .voltage, ⟨1, 0, 0, 0, 0, -1, 0, 0⟩, false, false, false⟩
/-- the constant `3` held in the generic Laplace class (numerator of `3 / Z(s)`) -/
def three : Opd := ⟨.laplace, .undefined, U.one, false, true, true⟩

/-! ## Props/C18.lean, table theorems whose body is an implication: the antecedent is inhabited -/

theorem nv_constant_results_dimensionless :
    (∃ r ∈ mulTable, r.2.2 = .constant) ∧ (∃ r ∈ divTable, r.2.2 = .constant) := by decide +kernel

theorem nv_class_units_expected : (classTable.filter (fun r => r.units.isSome)).length = 190 :=
  class_units_rows.2

theorem nv_transform_units :
    ∃ r ∈ transformTable, r.src ∈ namedDomains ∧ r.dst ∈ namedDomains ∧ r.scale.isSome := by decide +kernel

theorem nv_transform_scale_exact :
    (∃ r ∈ transformTable, r.scale.isSome ∧ r.src = .time) ∧
    (∃ r ∈ transformTable, r.scale.isSome ∧ r.dst = .time) := by decide +kernel

theorem nv_transform_roundtrip :
    ∃ r1 ∈ transformTable, ∃ r2 ∈ transformTable, r1.src = r2.dst ∧ r1.dst = r2.src ∧
      r1.scale.isSome ∧ r2.scale.isSome := by decide +kernel

theorem nv_transform_units_other_partial :
    ∃ r ∈ transformTable, r.src ≠ .normFourier ∧ r.src ≠ .normAngularFourier ∧ r.scale.isSome ∧
      r.src ∉ namedDomains := by decide +kernel

/-! ## `*` -/

theorem nv_mul_refuses_absent : mulM tables vT zT = .err .quantities :=
  mul_refuses_absent tables vT zT (by intro r; cases r <;> decide +kernel) (by intro r; cases r <;> decide +kernel)
    (by decide +kernel) (by decide +kernel)

theorem nv_mul_only_from_table :
    ∃ r, ((constify vL.q, constify yL.q, r) ∈ tables.mul ∨ (constify yL.q, constify vL.q, r) ∈ tables.mul) ∧
      Quantity.current = unconstify r :=
  mul_only_from_table tables vL yL .laplace .current ⟨1, 0, 0, 1, 0, -1, 0, 0⟩ (by decide +kernel) (by decide +kernel)

def nv_op_units_mul := op_units_mul tables vL yL .laplace .current ⟨1, 0, 0, 1, 0, -1, 0, 0⟩ (by decide)

def nv_mul_dimension :=
  mul_dimension tables vL yL .laplace .current ⟨1, 0, 0, 1, 0, -1, 0, 0⟩ (by decide) (by decide)

def nv_mul_quantity_dimension :=
  mul_quantity_dimension tables mul_dim vL yL .laplace .current ⟨1, 0, 0, 1, 0, -1, 0, 0⟩ (by decide)
    (by decide)

def nv_mul_consistent :=
  mul_consistent vL yL .laplace .current ⟨1, 0, 0, 1, 0, -1, 0, 0⟩ (by decide) (by decide) (by decide)
    (by decide)

/-- the generic branch of `op_units_mul` is inhabited too (`s * t`) -/
theorem nv_op_units_mul_generic :
    genericPair ⟨.laplace, .undefined, U.one, false, false, false⟩ ⟨.time, .undefined, U.one, false, false, false⟩
      = true := by decide +kernel

/-! ## `/` -/

theorem nv_div_reflected : divM tables three zL = recipImmittance tables three.units zL :=
  div_reflected tables three zL (by decide +kernel)

def nv_div_only_from_table :=
  div_only_from_table tables vL iL .laplace .impedance ⟨1, -1, 0, 0, 0, 0, 0, 0⟩ (by decide)

theorem nv_div_refuses_absent : divCore tables vT ⟨.time, .power, ⟨0, 0, 0, 0, 1, 0, 0, 0⟩, false, false, false⟩
    = .err .quantities :=
  div_refuses_absent tables vT _ (by intro r; cases r <;> decide +kernel) (by decide +kernel)

def nv_op_units_div :=
  op_units_div tables flag_div_restores_units vL iL .laplace .impedance ⟨1, -1, 0, 0, 0, 0, 0, 0⟩ (by decide)

def nv_div_quantity_dimension :=
  div_quantity_dimension tables div_dim vL iL .laplace .impedance ⟨1, -1, 0, 0, 0, 0, 0, 0⟩ (by decide)

def nv_div_consistent :=
  div_consistent vL iL .laplace .impedance ⟨1, -1, 0, 0, 0, 0, 0, 0⟩ (by decide) (by decide) (by decide)

def nv_recip_consistent := recip_consistent U.one zT (Or.inl rfl) (by decide) (by decide)

/-! ## `+`, `-`, `==` -/

def nv_add_refuses_quantities :=
  add_refuses_quantities tables flag_omega_needs_quantity ⟨true, false, false⟩ vL iL (by decide) (by decide)
    (by decide)

def nv_add_refuses_quantities_now :=
  add_refuses_quantities_now ⟨false, true, true⟩ vL zL (by decide) (by decide) (by decide)

def nv_add_refuses_domains_partial :=
  add_refuses_domains_partial tables ⟨true, false, false⟩ vL vF (by decide) (by decide) (by decide) (by decide)

def nv_add_refuses_partial :=
  add_refuses_partial tables flag_omega_needs_quantity ⟨true, false, false⟩ vL vF (by decide)
    (Or.inl (by decide))

def nv_eq_false_when_refused_partial :=
  eq_false_when_refused_partial tables flag_omega_needs_quantity ⟨true, false, false⟩ vL vF (by decide)
    (Or.inl (by decide))

def nv_eq_false_when_quantities_differ :=
  eq_false_when_quantities_differ ⟨true, true, false⟩ vL iL (by decide) (by decide) (by decide)

def nv_add_result :=
  add_result tables ⟨true, true, false⟩ vL vL .laplace .voltage (defaultUnits tables .laplace .voltage)
    (by decide)

def nv_add_accepts_same := add_accepts_same tables ⟨true, true, false⟩ vL vL rfl rfl (by decide)

def nv_canon_fold := canon_fold tables flag_canon_folds_hertz ⟨0, 0, 1, 0, 0, 1, 0, 0⟩

def nv_add_checks_units :=
  add_checks_units tables false false vT iT (by decide) ⟨rfl, rfl⟩ (Or.inl rfl)

/-- the second branch of `hl` (loose_units on, neither operand reports `is_undefined`) -/
def nv_add_checks_units_loose :=
  add_checks_units tables true false vT iT (by decide) ⟨rfl, rfl⟩ (Or.inr (by decide))

/-! ## `**`, transforms -/

def nv_pow_two_consistent :=
  pow_two_consistent vT .time .voltagesquared ⟨2, 0, 0, 0, 0, 0, 0, 0⟩ (by decide) (by decide) (by decide)

def nv_pow_general := pow_general tables flag_pow_sets_units vT 3 (by decide) (by decide)
def nv_pow_general_now := pow_general_now vT (-2) (by decide) (by decide)
def nv_pow_minus_one_immittance := pow_minus_one_immittance tables zL (Or.inl rfl)

def nv_transform_model_units :=
  transform_model_units tables vT "LT" .laplace .voltage ⟨1, 0, 0, 0, 0, 0, 1, 0⟩ (by decide)

/-! ## Props/C18Sup.lean -/

def nv_sup_add_refuses_quantities :=
  sup_add_refuses_quantities tables supTables flag_sup_add_checks_quantity .voltage iL (by decide) (by decide)

def nv_sup_add_refuses_superposition :=
  sup_add_refuses_superposition tables supTables flag_sup_add_checks_quantity .voltage .current (by decide)

def nv_sup_add_refuses_quantities_now :=
  sup_add_refuses_quantities_now .voltage iL (by decide) (by decide)

def nv_sup_sub_eq_refuse := sup_sub_eq_refuse .current vT (by decide) (by decide)

def nv_sup_add_keeps_quantity :=
  sup_add_keeps_quantity tables supTables flag_sup_add_checks_quantity .voltage (.ex vL) .voltage
    (some ("s", .laplace, .voltage)) (by decide)

def nv_sup_mul_refuses :=
  sup_mul_refuses supTables .voltage _ (by decide : mulRow supTables .voltage = some
    ⟨.voltage, .admittance, .impedance, .current, true, true,
      [(.dc, .atZero), (.ac, .atJOmega0), (.n, .atOmega), (.s, .asLaplace), (.t, .asIs)]⟩) zL (by decide)

def nv_sup_div_refuses :=
  sup_div_refuses supTables .voltage _ (by decide : mulRow supTables .voltage = some
    ⟨.voltage, .admittance, .impedance, .current, true, true,
      [(.dc, .atZero), (.ac, .atJOmega0), (.n, .atOmega), (.s, .asLaplace), (.t, .asIs)]⟩) yL (by decide)

def nv_sup_mul_result :=
  sup_mul_result supTables .voltage _ (by decide : mulRow supTables .voltage = some
    ⟨.voltage, .admittance, .impedance, .current, true, true,
      [(.dc, .atZero), (.ac, .atJOmega0), (.n, .atOmega), (.s, .asLaplace), (.t, .asIs)]⟩) yL .current none
    (by decide)

/-- the 's' component (V/Hz) of a SuperpositionVoltage times a Laplace admittance -/
def nv_sup_mul_component_consistent :=
  sup_mul_component_consistent .voltage (Or.inl rfl) ⟨1, 0, 0, 0, 0, -1, 0, 0⟩ .s .asLaplace yL .laplace .current
    ⟨1, 0, 0, 1, 0, -1, 0, 0⟩ (by decide) (by decide) (by decide)

def ph (q : Quantity) (u : U) (n : Nat) : POpd := ⟨⟨.phasor, q, u, false, true, true⟩, .num n⟩

def nv_ph_unequal_omega_mul_refused :=
  ph_unequal_omega_mul_refused tables supTables flag_phasor_omega_checked
    (ph .voltage ⟨1, 0, 0, 0, 0, 0, 0, 0⟩ 3) (ph .voltage ⟨1, 0, 0, 0, 0, 0, 0, 0⟩ 5)
    (by decide) (by decide) (by decide) (by decide) (by decide) (by decide) (by decide)

def nv_ph_unequal_omega_div_refused :=
  ph_unequal_omega_div_refused tables supTables flag_phasor_omega_checked
    (ph .voltage ⟨1, 0, 0, 0, 0, 0, 0, 0⟩ 3) (ph .current ⟨0, 1, 0, 0, 0, 0, 0, 0⟩ 5)
    (by decide) (by decide) (by decide) (by decide) (by decide) (by decide) (by decide) (by decide)

def nv_ph_unequal_omega_add_refused :=
  ph_unequal_omega_add_refused tables supTables flag_phasor_omega_checked ⟨true, true, false⟩
    (ph .voltage ⟨1, 0, 0, 0, 0, 0, 0, 0⟩ 3) (ph .voltage ⟨1, 0, 0, 0, 0, 0, 0, 0⟩ 5)
    (by decide) (by decide) (by decide) (by decide) (by decide) (by decide)

/-- the same-domain branch (V(3) * V(3)) ... -/
def nv_ph_equal_omega_mul :=
  ph_equal_omega_mul tables supTables (ph .voltage ⟨1, 0, 0, 0, 0, 0, 0, 0⟩ 3)
    (ph .voltage ⟨1, 0, 0, 0, 0, 0, 0, 0⟩ 3) (by decide) (Or.inl rfl) (Or.inl (by decide))

/-- ... and the constant-domain branch (V(3) * Y(j3)) -/
def nv_ph_equal_omega_mul_const :=
  ph_equal_omega_mul tables supTables (ph .voltage ⟨1, 0, 0, 0, 0, 0, 0, 0⟩ 3)
    ⟨⟨.constantFrequencyResponse, .admittance, ⟨0, 0, 0, 1, 0, 0, 0, 0⟩, false, true, true⟩, .none⟩
    (by decide) (Or.inr (by decide)) (Or.inr (by decide))

def nv_ph_mul_consistent :=
  ph_mul_consistent (ph .voltage ⟨1, 0, 0, 0, 0, 0, 0, 0⟩ 3)
    ⟨⟨.constantFrequencyResponse, .admittance, ⟨0, 0, 0, 1, 0, 0, 0, 0⟩, false, true, true⟩, .none⟩
    .phasor .current ⟨1, 0, 0, 1, 0, 0, 0, 0⟩ (.num 3) (by decide) (by decide) (by decide) (by decide)

/-! ## Props/C18TP.lean -/

def nv_ratio_rule_unique := ratio_rule_unique .V2 .I1 .impedance (Or.inr (Or.inl rfl)) (by decide)

/-- the antecedent `expectOf r.2.1 = some q` of `tp_code_wrappers_expected` holds for most rows -/
theorem nv_tp_code_wrappers_expected :
    100 ≤ (tpWrap.filter (fun r => (expectOf r.2.1).isSome)).length := tpWrap_expected_rows.2

theorem nv_tp_code_wrappers_documented :
    5 ≤ (tpWrap.filter (fun r => (docExpectOf r.1 r.2.1).isSome)).length := tpWrap_documented_rows.2.1

theorem nv_net_methods_typed_on_every_route :
    10 ≤ (netWrap.filter (fun r => (netExpectOf r.1).isSome)).length := netWrap_rows.2

theorem nv_tp_docstrings_agree :
    ∃ r ∈ docPorts, ∃ e ∈ tpExpect, e.1 = r.2.1 := by decide +kernel

/-- V1(s) * transadmittance (= I2/V1) is a current -/
def nv_tp_times_denominator :=
  tp_times_denominator vL yL .laplace .current ⟨1, 0, 0, 1, 0, -1, 0, 0⟩ .I2 .V1 (by decide) (by decide)
    (by decide) (by decide)

def nv_tp_not_addable_to_other_quantity :=
  tp_not_addable_to_other_quantity ⟨true, true, false⟩ zL vL (Or.inr (Or.inl rfl)) (by decide) (by decide)

/-! ## Props/C18Tr.lean -/

theorem nv_constant_immittance_products_stay_responses :
    ∃ r ∈ mulTable ++ divTable, isResponseQ r.1 = true ∧ isResponseQ r.2.1 = true ∧ r.2.2 ≠ .constant := by
  decide +kernel

theorem nv_discrete_transforms_unscaled :
    ∃ r ∈ transformTable, r.src = .discreteTime ∧ r.dst = .Z := by decide +kernel

theorem nv_constant_domain_changes_unscaled :
    ∃ r ∈ transformTable, isConst tables r.src = true := by decide +kernel

theorem nv_method_named_after_domain :
    5 ≤ (transformTable.filter (fun r => (domainOfMethodName r.method).isSome)).length := method_rows.2

/-- every pair of `inversePairs` meets class rows with units (the antecedents of
    `transform_roundtrip_class_table` are inhabited for all eight pairs) -/
theorem nv_transform_roundtrip_class_table :
    ∀ p ∈ inversePairs, 5 ≤ (classTable.filter (fun c => c.dom == p.1.src && c.units.isSome)).length :=
  inversePairs_rows.2.2

end Lcapy.NonVacuity.C18
