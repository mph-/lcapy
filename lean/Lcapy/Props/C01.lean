/-
  PROPERTY C01 -- solved circuits obey Kirchhoff's laws and every component's defining
  relation; the solution is unique and does not depend on the solver.

  `Laws`   : the spec (Lcapy/Spec/Laws.lean): KCL at every non-ground node + each component's
             documented relation, in each analysis kind.
  `Solves` : the model (Lcapy/Model/MNA.lean): every row of A x = Z assembled from the
             `_stamp` mirror vanishes.
  Helper lemmas are in Lcapy/Proofs/MNA.lean.
-/
import Lcapy.Proofs.MNA
import Mathlib.Tactic.NormNum
import Mathlib.Tactic.Linarith
import Mathlib.Tactic.LinearCombination
namespace Lcapy.C01
open Lcapy.MNA Ix
variable {K : Type} [Field K]

/-- Well-formed netlist: no branch current is claimed by two components
    (`unknown_branch_currents` has no duplicates). -/
def WF (cs : List (Cpt K)) : Prop := (cs.flatMap owned).Nodup

/-- **mna_iff_laws**: for every well-formed netlist of any size, in every analysis kind, at every
    point s, an assignment of node voltages and branch currents solves the assembled MNA
    system iff it satisfies Kirchhoff's current law at every non-ground node and the defining
    relation of every component. -/
theorem mna_iff_laws (kind : Kind) (s : K) (cs : List (Cpt K)) (x : Ix → K) (hwf : WF cs) :
    Solves kind s cs x ↔ Laws kind s cs x := by
  have hnd : ((cs.flatMap (laws kind s x)).map Prod.fst).Nodup := by
    have : (cs.flatMap (laws kind s x)).map Prod.fst = cs.flatMap owned := by
      rw [List.map_flatMap]
      congr 1
      funext c
      exact laws_fst kind s x c
    rw [this]; exact hwf
  have hbr := filtered_sums_zero_iff (cs.flatMap (laws kind s x)) hnd
  constructor
  · intro h
    refine ⟨?_, ?_⟩
    · intro k hk
      have := h (node k) (by simp [hk])
      rw [residual_stampAll] at this
      rw [← this]
      congr 1
      apply List.map_congr_left
      intro c _
      exact (stamp_node_row kind s c x k hk).symm
    · intro c hc p hp
      apply hbr.mp
      · intro m
        have := h (br m) (by simp)
        rw [residual_stampAll] at this
        rw [← lawsAt_sum, ← this]
        congr 1
        apply List.map_congr_left
        intro c _
        exact (stamp_branch_row kind s c x m).symm
      · exact List.mem_flatMap.mpr ⟨c, hc, hp⟩
  · rintro ⟨hk, hl⟩ r hr
    rw [residual_stampAll]
    cases r with
    | node k =>
      have hk0 : k ≠ 0 := by intro h0; apply hr; rw [h0]
      rw [← hk k hk0]
      congr 1
      apply List.map_congr_left
      intro c _
      exact stamp_node_row kind s c x k hk0
    | br m =>
      have := hbr.mpr (fun p hp => by
        obtain ⟨c, hc, hpc⟩ := List.mem_flatMap.mp hp
        exact hl c hc p hpc) m
      rw [← lawsAt_sum] at this
      rw [← this]
      congr 1
      apply List.map_congr_left
      intro c _
      exact stamp_branch_row kind s c x m

/-- `mna_iff_laws` at the point s = j·ω.  Nothing here is specific to phasors: AC analysis at angular frequency ω IS the
    Laplace analysis at s = jω in this model (`j` any element of the carrier, e.g. the imaginary unit of ℚ(j)); what makes an
    analysis a phasor analysis -- source values given as phasors V·e^{jφ} -- is the front-end's `srcValue`, tied by the
    correspondence. -/
theorem mna_iff_laws_ac (j ω : K) (cs : List (Cpt K)) (x : Ix → K) (hwf : WF cs) :
    Solves .lap (j * ω) cs x ↔ Laws .lap (j * ω) cs x :=
  mna_iff_laws .lap (j * ω) cs x hwf

/-! ### Uniqueness and solver independence -/

/-- the homogeneous system: all right-hand sides dropped -/
def SolvesHom (kind : Kind) (s : K) (cs : List (Cpt K)) (z : Ix → K) : Prop :=
  ∀ r, r ≠ node 0 → lhsSum r (ground z) (stampAll kind s cs).lhs = 0

/-- the indices that occur in an assembled system: rows and columns of A, rows of Z -/
def unknowns (st : Stamp K) : List Ix :=
  st.lhs.flatMap (fun e => [e.1, e.2.1]) ++ st.rhs.map (fun e => e.1)

/-- `i` is an unknown of the netlist: a non-ground node voltage or a branch current that occurs in the
    assembled system.  (An index of `Ix` that does not occur has an empty row and an empty column: the
    system says nothing about it, and Lcapy reports nothing for it.) -/
def Unknown (kind : Kind) (s : K) (cs : List (Cpt K)) (i : Ix) : Prop :=
  i ≠ node 0 ∧ i ∈ unknowns (stampAll kind s cs)

theorem mem_unknowns_append (a b : Stamp K) (i : Ix) :
    i ∈ unknowns (a.append b) ↔ i ∈ unknowns a ∨ i ∈ unknowns b := by
  simp only [unknowns, Stamp.append, List.flatMap_append, List.map_append, List.mem_append]
  tauto

/-- every index that a component's own stamp mentions is an unknown of the netlist -/
theorem mem_unknowns_stampAll (kind : Kind) (s : K) (cs : List (Cpt K)) (c : Cpt K) (hc : c ∈ cs) (i : Ix)
    (hi : i ∈ unknowns (stamp kind s c)) : i ∈ unknowns (stampAll kind s cs) := by
  induction cs with
  | nil => simp at hc
  | cons h t ih =>
    simp only [stampAll, List.foldr_cons] at ih ⊢
    rw [mem_unknowns_append]
    rcases List.mem_cons.mp hc with rfl | hct
    · exact Or.inl hi
    · exact Or.inr (ih hct)

/-- the homogeneous system forces the unknowns in `U` to vanish -/
def NonsingularOn (U : Ix → Prop) (kind : Kind) (s : K) (cs : List (Cpt K)) : Prop :=
  ∀ z, SolvesHom kind s cs z → ∀ i, U i → z i = 0

/-- the MNA matrix is non-singular: the homogeneous system has only the trivial solution ON THE UNKNOWNS OF
    THE NETLIST.  (Quantifying over every index of `Ix` would include indices that do not occur in the netlist and
    are unconstrained, so that no finite netlist could satisfy it; `ex_nonsingular` is a netlist that satisfies this one.) -/
def Nonsingular (kind : Kind) (s : K) (cs : List (Cpt K)) : Prop :=
  NonsingularOn (Unknown kind s cs) kind s cs

/-- uniqueness on any set of unknowns on which the homogeneous system is trivial -/
theorem mna_unique_on (U : Ix → Prop) (kind : Kind) (s : K) (cs : List (Cpt K)) (x y : Ix → K)
    (hns : NonsingularOn U kind s cs) (hx : Solves kind s cs x) (hy : Solves kind s cs y) :
    ∀ i, U i → x i = y i := by
  intro i hi
  have hz : SolvesHom kind s cs (fun i => x i - y i) := by
    intro r hr
    have h1 := hx r hr
    have h2 := hy r hr
    simp only [residual] at h1 h2
    have hg : ground (fun i => x i - y i) = fun i => ground x i - ground y i := by
      funext i
      cases i with
      | node k => cases k <;> simp [ground]
      | br m => simp [ground]
    rw [hg, lhsSum_sub]
    rw [sub_eq_zero] at h1 h2
    rw [h1, h2, sub_self]
  have := hns _ hz i hi
  exact sub_eq_zero.mp this

/-- **mna_unique**: when the matrix is non-singular the reported solution is THE solution: every node
    voltage and branch current of the netlist is determined. -/
theorem mna_unique (kind : Kind) (s : K) (cs : List (Cpt K)) (x y : Ix → K)
    (hns : Nonsingular kind s cs) (hx : Solves kind s cs x) (hy : Solves kind s cs y) :
    ∀ i, Unknown kind s cs i → x i = y i :=
  mna_unique_on _ kind s cs x y hns hx hy

/-- **solver_independent**: `mna_unique` RESTATED for two arbitrary procedures that return a solution of the assembled system.
    No solver (DM, LU, GE, ADJ, …) is modelled: that each of Lcapy's methods returns a solution when it succeeds is checked by
    the oracle on the real code (every method against `Laws` / against DM), not proved. -/
theorem solver_independent (kind : Kind) (s : K) (cs : List (Cpt K))
    (solver₁ solver₂ : List (Cpt K) → Ix → K)
    (h₁ : Solves kind s cs (solver₁ cs)) (h₂ : Solves kind s cs (solver₂ cs))
    (hns : Nonsingular kind s cs) : ∀ i, Unknown kind s cs i → solver₁ cs i = solver₂ cs i :=
  mna_unique kind s cs _ _ hns h₁ h₂

/-- consequently the unique solution of the MNA system is the unique assignment obeying the laws -/
theorem laws_unique (kind : Kind) (s : K) (cs : List (Cpt K)) (x y : Ix → K) (hwf : WF cs)
    (hns : Nonsingular kind s cs) (hx : Laws kind s cs x) (hy : Laws kind s cs y) :
    ∀ i, Unknown kind s cs i → x i = y i :=
  mna_unique kind s cs x y hns ((mna_iff_laws kind s cs x hwf).mpr hx) ((mna_iff_laws kind s cs y hwf).mpr hy)

/-- `laws_unique` on any set of unknowns -/
theorem laws_unique_on (U : Ix → Prop) (kind : Kind) (s : K) (cs : List (Cpt K)) (x y : Ix → K) (hwf : WF cs)
    (hns : NonsingularOn U kind s cs) (hx : Laws kind s cs x) (hy : Laws kind s cs y) :
    ∀ i, U i → x i = y i :=
  mna_unique_on U kind s cs x y hns ((mna_iff_laws kind s cs x hwf).mpr hx) ((mna_iff_laws kind s cs y hwf).mpr hy)

/-- non-vacuity of `Nonsingular` (and so of mna_unique / solver_independent / laws_unique):
    `V1 1 0 6; R1 1 2 2; R2 2 0 3` at dc — the homogeneous system forces V(1), V(2) and the source
    current to vanish, and these are exactly the unknowns of the netlist. -/
theorem ex_nonsingular :
    Nonsingular .dc (0 : ℚ) [.V 1 0 0 6, .R 1 2 2, .R 2 0 3] := by
  intro z hz i hi
  have h1 := hz (node 1) (by simp)
  have h2 := hz (node 2) (by simp)
  have e1 : z (node 1) = 0 := by
    simpa [stampAll, stamp, Stamp.append, branchPattern, admPattern, lhsSum, ground] using hz (br 0) (by simp)
  simp [stampAll, stamp, Stamp.append, branchPattern, admPattern, lhsSum, ground, e1] at h1 h2
  have e2 : z (node 2) = 0 := by linarith
  have e3 : z (br 0) = 0 := by rw [e2] at h1; linarith
  have hU : (unknowns (stampAll .dc (0 : ℚ) [.V 1 0 0 6, .R 1 2 2, .R 2 0 3])).all
      (fun i => i = node 0 ∨ i ∈ [node 1, node 2, br 0]) = true := rfl
  rcases of_decide_eq_true (List.all_eq_true.mp hU i hi.2) with h | h
  · exact absurd h hi.1
  · simp only [List.mem_cons, List.not_mem_nil, or_false] at h
    rcases h with rfl | rfl | rfl <;> assumption

/-! ### Rows stamped more than once -/

/-- **dup_row_same_solutions**: every CCVS that names the same admittance-type controlling component stamps that
    component's control row again (`+=`), so the assembled row `mc` is a multiple `(1 + c)` of itself.  Whenever
    `1 + c ≠ 0` (always, over ℚ or ℂ, for c further copies) the solutions are those of the system with the row
    stamped once -- the system `mna_iff_laws` speaks about. -/
theorem dup_row_same_solutions (st d : Stamp K) (mc : Nat) (c : K) (hc : 1 + c ≠ 0) (x : Ix → K)
    (hd : ∀ r, residual d x r = if r = br mc then c * residual st x (br mc) else 0) :
    (∀ r, r ≠ node 0 → residual (st.append d) x r = 0) ↔ (∀ r, r ≠ node 0 → residual st x r = 0) := by
  have key : ∀ r, residual (st.append d) x r = 0 ↔ residual st x r = 0 := by
    intro r
    rw [residual_append, hd r]
    by_cases hr : r = br mc
    · subst hr
      simp only [if_true]
      constructor
      · intro h
        have : (1 + c) * residual st x (br mc) = 0 := by rw [← h]; ring
        rcases mul_eq_zero.mp this with h1 | h1
        · exact absurd h1 hc
        · exact h1
      · intro h; rw [h]; ring
    · simp [hr]
  constructor
  · intro h r hr; exact (key r).mp (h r hr)
  · intro h r hr; exact (key r).mpr (h r hr)

/-- non-vacuity: a CCVS controlled by a resistor, and the control row stamped a second time -/
example (x : Ix → ℚ) (r : Ix) :
    residual (ctrlRow 3 4 1 (1/2 : ℚ) 0) x r =
      if r = br 1 then 1 * residual (stamp .dc 0 (.HY 1 2 0 3 4 1 (1/2 : ℚ) 0 5)) x (br 1) else 0 := by
  by_cases hr : r = br 1
  · subst hr; simp [ctrlRow, stamp, branchPattern, residual, lhsSum, rhsSum, lhsSum_append]
  · simp only [hr, if_false]
    cases r with
    | node k => simp [ctrlRow, residual, lhsSum, rhsSum]
    | br m =>
      have : m ≠ 1 := fun h => hr (by rw [h])
      simp [ctrlRow, residual, lhsSum, rhsSum, Ne.symm this]

/-! ### Opamp form (`Ename Np Nm opamp Ncp Ncm Ad Ac Ro`, expanded by `Eopamp._expand`) -/

/-- (the list `[E o n2 …, R o n1 Ro]` is what the executed `Netlist.expandRaw` produces for an `opamp` line with Ro ≠ 0:
    `opamp_expandRaw_Ro` in Props/C01Amp.lean)
    **opamp_expand_law**: the expansion of an opamp with output resistance Ro — a VCVS from a
    fresh internal node `o` plus Ro from `o` to the output node — obeys the documented amplifier
    relation at its terminals: V(Np) − V(Nm) = Ad·(Vcp − Vcm) + Ac·(Vcp + Vcm)/2 + Ro·J, where J is the
    current flowing into the output terminal (−J is delivered to the circuit), whenever KCL holds at
    the internal node (to which nothing else is attached) and the VCVS law holds. -/
theorem opamp_expand_law (kind : Kind) (s : K) (x : Ix → K) (o n1 n2 ncp ncm m : Nat) (Ad Ac Ro : K)
    (hRo : Ro ≠ 0) (ho1 : o ≠ n1) (ho2 : o ≠ n2)
    (hkcl : lsum ([Cpt.E o n2 ncp ncm m Ad Ac, Cpt.R o n1 Ro].map (outflow kind s x o)) = 0)
    (hlaw : ∀ p ∈ laws kind s x (Cpt.E o n2 ncp ncm m Ad Ac), p.2 = 0) :
    vd x n1 n2 = Ad * vd x ncp ncm + Ac * ((volt x ncp + volt x ncm) / 2) + Ro * x (br m) := by
  have hE := hlaw (m, vd x o n2 - (Ad * vd x ncp ncm + Ac * ((volt x ncp + volt x ncm) / 2))) (by simp [laws])
  simp only [List.map_cons, List.map_nil, lsum, outflow, twoTerm, if_true, ho1, ho2, if_false,
    (Ne.symm ho1), (Ne.symm ho2)] at hkcl
  simp only [vd] at hE hkcl ⊢
  simp at hkcl
  field_simp at hkcl
  linear_combination hE - hkcl

/-! ### Non-vacuity: a concrete circuit (V1 1 0 3; R1 1 2 3; L1 2 0 2 with i0 = 1, ivp at s = 2) -/

def exCkt : List (Cpt ℚ) := [.V 1 0 0 3, .R 1 2 3, .Ind 2 0 1 2 (some 1) []]

example : WF exCkt := by simp [WF, exCkt, owned]

/-- V(1) = 3, V(2) = 6/7, J_V1 = −5/7, J_L1 = 5/7 obeys the laws at s = 2 -/
example : Laws .ivp 2 exCkt (fun i => match i with
    | node 1 => 3 | node 2 => 6/7 | br 0 => -5/7 | br 1 => 5/7 | _ => 0) := by
  constructor
  · intro k hk
    match k with
    | 0 => exact absurd rfl hk
    | 1 => norm_num [exCkt, outflow, twoTerm, lsum, vd, volt]
    | 2 => norm_num [exCkt, outflow, twoTerm, lsum, vd, volt]
    | (k + 3) => simp [exCkt, outflow, twoTerm, lsum]
  · intro c hc p hp
    simp only [exCkt, List.mem_cons, List.mem_nil_iff, or_false] at hc
    rcases hc with rfl | rfl | rfl <;>
      simp only [laws, List.mem_cons, List.mem_nil_iff, or_false] at hp <;>
      (try subst hp) <;> norm_num [vd, volt, mutualDrop, mutualIC, lsum]

end Lcapy.C01
