/-
  Machine-checked NON-VACUITY witnesses for the theorems of
  Props/C01.lean, C01Stamps.lean, C01Glue.lean, C01Amp.lean, C01TwoPort.lean: for every theorem with hypotheses,
  a concrete realistic input on which all hypotheses are PROVED (and, where it says something, the theorem applied).
  Findings are in /verif/audit/AUDIT-A.md.
-/
import Lcapy.Props.C01
import Lcapy.Props.C01Stamps
import Lcapy.Props.C01Glue
import Lcapy.Props.C01Amp
import Lcapy.Props.C01TwoPort
import Lcapy.Proofs.Cx
import Lcapy.Proofs.Witness
namespace Lcapy.NonVacuity.C01
open Lcapy Lcapy.MNA Lcapy.C01 Lcapy.Netlist Lcapy.Spec Lcapy.Gen Ix
open Lcapy.Gen.Stamps (SrcKind)

/-! ## Props/C01.lean -/

/-- the reported solution of `V1 1 0 3; R1 1 2 3; L1 2 0 2 1` (ivp, s = 2) -/
def exX : Ix → ℚ := fun i => match i with
  | node 1 => 3 | node 2 => 6/7 | br 0 => -5/7 | br 1 => 5/7 | _ => 0

theorem exCkt_wf : WF exCkt := by unfold WF; decide

theorem exCkt_laws : Laws .ivp 2 exCkt exX :=
  laws_of_range 3 (by decide) (by decide +kernel) (by decide +kernel)

/-- `mna_iff_laws` applied: the reported solution solves the assembled system -/
theorem nv_mna_iff_laws : Solves .ivp 2 exCkt exX :=
  (mna_iff_laws .ivp 2 exCkt exX exCkt_wf).mpr exCkt_laws

/-- `Nonsingular` holds for a REACTIVE initial-value circuit at s = 2 (not only the resistive dc one of `ex_nonsingular`) -/
theorem nv_nonsingular_ivp : Nonsingular .ivp (2 : ℚ) exCkt := by
  refine nonsingular_of_killed [node 1, node 2, br 0, br 1] (by unfold WF; decide) rfl ?_
  rintro z ⟨hk, hl⟩
  have e : killAll exCkt = [.V 1 0 0 0, .R 1 2 3, .Ind 2 0 1 2 (some 0) []] := rfl
  rw [e] at hk hl
  have k1 := hk 1 (by decide)
  have k2 := hk 2 (by decide)
  have l1 := hl (.V 1 0 0 0) (by simp) (0, _) (List.mem_singleton.mpr rfl)
  have l2 := hl (.Ind 2 0 1 2 (some 0) []) (by simp) (1, _) (List.mem_singleton.mpr rfl)
  simp [outflow, twoTerm, lsum, vd, volt, mutualDrop, mutualIC] at k1 k2 l1 l2
  have e1 : z (node 1) = 0 := l1
  rw [e1] at k1 k2
  have e4 : z (br 1) = 0 := by linarith
  have e2 : z (node 2) = 0 := by linarith
  have e3 : z (br 0) = 0 := by linarith
  simp [e1, e2, e3, e4]

/-- `mna_unique` / `laws_unique` / `solver_independent` / `*_on` applied: ANY assignment obeying the laws of this circuit
    reports V(2) = 6/7 and I(L1) = 5/7 -/
theorem nv_laws_unique (y : Ix → ℚ) (hy : Laws .ivp 2 exCkt y) : y (node 2) = 6/7 ∧ y (br 1) = 5/7 := by
  have hU : ∀ i, i ≠ node 0 → i ∈ C01.unknowns (stampAll .ivp (2:ℚ) exCkt) → Unknown .ivp 2 exCkt i := fun i a b => ⟨a, b⟩
  have h := laws_unique .ivp 2 exCkt y exX exCkt_wf nv_nonsingular_ivp hy exCkt_laws
  exact ⟨h (node 2) (hU _ (by simp) (by decide)),
         h (br 1) (hU _ (by simp) (by decide))⟩

theorem nv_mna_unique (y : Ix → ℚ) (hy : Solves .ivp 2 exCkt y) : ∀ i, Unknown .ivp 2 exCkt i → y i = exX i :=
  mna_unique .ivp 2 exCkt y exX nv_nonsingular_ivp hy nv_mna_iff_laws

theorem nv_mna_unique_on (y : Ix → ℚ) (hy : Solves .ivp 2 exCkt y) : ∀ i, Unknown .ivp 2 exCkt i → y i = exX i :=
  mna_unique_on _ .ivp 2 exCkt y exX nv_nonsingular_ivp hy nv_mna_iff_laws

theorem nv_laws_unique_on (y : Ix → ℚ) (hy : Laws .ivp 2 exCkt y) : ∀ i, Unknown .ivp 2 exCkt i → y i = exX i :=
  laws_unique_on _ .ivp 2 exCkt y exX exCkt_wf nv_nonsingular_ivp hy exCkt_laws

theorem nv_solver_independent (solver : List (Cpt ℚ) → Ix → ℚ) (h : Solves .ivp 2 exCkt (solver exCkt)) :
    ∀ i, Unknown .ivp 2 exCkt i → solver exCkt i = exX i :=
  solver_independent .ivp 2 exCkt solver (fun _ => exX) h nv_mna_iff_laws nv_nonsingular_ivp

theorem nv_mem_unknowns_stampAll : br 1 ∈ C01.unknowns (stampAll .ivp (2:ℚ) exCkt) :=
  mem_unknowns_stampAll .ivp 2 exCkt (.Ind 2 0 1 2 (some 1) []) (by simp [exCkt]) (br 1)
    (by simp [C01.unknowns, stamp, branchPattern])

/-- `mna_iff_laws_ac` in a carrier that HAS a square root of −1: ℚ(j), at ω = 3, for `V1 1 0 ac 5; R1 1 2 2; C1 2 0 4` -/
theorem nv_mna_iff_laws_ac (x : Ix → Cx ℚ) :
    Solves .lap (Cx.jw 1 * Cx.ofReal 3) [.V 1 0 0 (Cx.ofReal 5), .R 1 2 (Cx.ofReal 2), .Cap 2 0 (Cx.ofReal 4) none] x ↔
    Laws .lap (Cx.jw 1 * Cx.ofReal 3) [.V 1 0 0 (Cx.ofReal 5), .R 1 2 (Cx.ofReal 2), .Cap 2 0 (Cx.ofReal 4) none] x :=
  mna_iff_laws_ac (Cx.jw 1) (Cx.ofReal 3) _ x (by simp [WF, owned])

/-- `dup_row_same_solutions`: `R1 3 4 2; H1 1 2 R1 5; H2 … R1 …` — the control row of R1 stamped a second time (c = 1) -/
theorem nv_dup_row (x : Ix → ℚ) :
    (∀ r, r ≠ node 0 → residual ((stamp .dc 0 (.HY 1 2 0 3 4 1 (1/2 : ℚ) 0 5)).append (ctrlRow 3 4 1 (1/2 : ℚ) 0)) x r = 0) ↔
    (∀ r, r ≠ node 0 → residual (stamp .dc 0 (.HY 1 2 0 3 4 1 (1/2 : ℚ) 0 5)) x r = 0) := by
  refine dup_row_same_solutions _ _ 1 1 (by norm_num) x ?_
  intro r
  by_cases hr : r = br 1
  · subst hr; simp [ctrlRow, stamp, branchPattern, residual, lhsSum, rhsSum]
  · simp only [hr, if_false]
    cases r with
    | node k => simp [ctrlRow, residual, lhsSum, rhsSum]
    | br m =>
      have : m ≠ 1 := fun h => hr (by rw [h])
      simp [ctrlRow, residual, lhsSum, rhsSum, Ne.symm this]

/-- `opamp_expand_law`: `E1 1 0 opamp 2 0 10 0 2` with V(2) = 1 and 1 A drawn from the output: internal node 5 at 10 V,
    output V(1) = 10 + 2·J with J = −1 flowing into the output terminal -/
def opX : Ix → ℚ := fun i => match i with | node 1 => 8 | node 2 => 1 | node 5 => 10 | br 0 => -1 | _ => 0

theorem nv_opamp_expand_law :
    vd opX 1 0 = 10 * vd opX 2 0 + 0 * ((volt opX 2 + volt opX 0) / 2) + 2 * opX (br 0) := by
  refine opamp_expand_law .dc 0 opX 5 1 0 2 0 0 10 0 2 (by norm_num) (by decide) (by decide) ?_ ?_
  · norm_num [lsum, outflow, twoTerm, vd, volt, opX]
  · intro p hp
    simp only [laws, List.mem_singleton] at hp
    subst hp; norm_num [vd, volt, opX]

/-! ## Props/C01Stamps.lean : the hypothesis `parsed_<Class> = true` of every per-class theorem holds for the CURRENT
    generated file (if the translator ever fails to read a class these examples break, which is the right alarm) -/

theorem nv_all_parsed :
    Gen.Stamps.parsed_AM = true ∧ Gen.Stamps.parsed_RC = true ∧ Gen.Stamps.parsed_VCVS = true ∧
    Gen.Stamps.parsed_CCCS = true ∧ Gen.Stamps.parsed_VCCS = true ∧ Gen.Stamps.parsed_GY = true ∧
    Gen.Stamps.parsed_CCVS = true ∧ Gen.Stamps.parsed_I = true ∧ Gen.Stamps.parsed_K = true ∧
    Gen.Stamps.parsed_L = true ∧ Gen.Stamps.parsed_SPpp = true ∧ Gen.Stamps.parsed_SPpm = true ∧
    Gen.Stamps.parsed_SPppp = true ∧ Gen.Stamps.parsed_SPpmm = true ∧ Gen.Stamps.parsed_SPppm = true ∧
    Gen.Stamps.parsed_TF = true ∧ Gen.Stamps.parsed_TPA = true ∧ Gen.Stamps.parsed_TPY = true ∧
    Gen.Stamps.parsed_TR = true ∧ Gen.Stamps.parsed_V = true := by decide

/-- hence no `pick` in `srcStamp` falls back to the hand model: `unparsed = []` -/
theorem nv_unparsed_nil : Gen.Stamps.unparsed = [] := rfl

example (s : ℚ) := stamp_AM (K := ℚ) (by decide) .dc s 1 2 0
example (s : ℚ) := stamp_RC_R (K := ℚ) (by decide) .s s 1 2 3 0 0
example (s : ℚ) := stamp_RC_Y (K := ℚ) (by decide) .ac s 1 2 3 0 0
example (s : ℚ) := stamp_RC_C (K := ℚ) (by decide) .ivp s 1 2 3 (some 4)
example (s : ℚ) := stamp_VCVS (K := ℚ) (by decide) .dc s 1 2 3 4 0 10 1
example (s : ℚ) := stamp_VCVS_noAc (K := ℚ) (by decide) .dc s 1 2 3 4 0 10 0
example (s : ℚ) := stamp_CCCS (K := ℚ) (by decide) .dc s 1 2 0 3
example (s : ℚ) := stamp_VCCS (K := ℚ) (by decide) .dc s 1 2 3 4 5
example (s : ℚ) := stamp_GY (K := ℚ) (by decide) .dc s 1 2 3 4 0 1 5
example (s : ℚ) := stamp_CCVS_branch (K := ℚ) (by decide) .dc s true false false false rfl 1 2 0 1 0 0 5 0 0 0
example (s : ℚ) := stamp_CCVS_RC (K := ℚ) (by decide) .ivp s true true 1 2 0 1 3 4 5 (s * 2) (2 * 7)
example (s : ℚ) := stamp_I (K := ℚ) (by decide) .dc s 1 2 3
example (s : ℚ) := stamp_K (K := ℚ) (by decide) .ivp (by decide) s true false 0 1 (1/2) 6 1 0
example (s : ℚ) := stamp_L (K := ℚ) (by decide) .ivp s 1 2 0 3 (some 1)
example (s : ℚ) := stamp_SPpp (K := ℚ) (by decide) .dc s 1 2 3 0
example (s : ℚ) := stamp_SPpm (K := ℚ) (by decide) .dc s 1 2 3 0
example (s : ℚ) := stamp_SPppp (K := ℚ) (by decide) .dc s 1 2 3 4 0
example (s : ℚ) := stamp_SPpmm (K := ℚ) (by decide) .dc s 1 2 3 4 0
example (s : ℚ) := stamp_SPppm (K := ℚ) (by decide) .dc s 1 2 3 4 0
example (s : ℚ) := stamp_TF (K := ℚ) (by decide) .dc s 1 2 3 4 0 2
example (s : ℚ) := stamp_TPA (K := ℚ) (by decide) .dc s 1 2 3 4 0 2 3 1 2
example (s : ℚ) := stamp_TPY (K := ℚ) (by decide) .dc s 1 2 3 4 2 3 1 2
example (s : ℚ) := stamp_TR (K := ℚ) (by decide) .dc s 1 2 0 2
example (s : ℚ) := stamp_V (K := ℚ) (by decide) .dc s 1 0 0 5

/-- `mna_iff_laws_source` applied to `V1 1 0 3; R1 1 2 3; L1 2 0 2 1` in source form (ivp, s = 2) -/
theorem nv_mna_iff_laws_source (x : Ix → ℚ) :
    SolvesSrc .ivp 2 exSrc x ↔ Laws .ivp 2 (exSrc.map (toCpt .ivp)) x :=
  (mna_iff_laws_source (K := ℚ)).2.2 .ivp 2 exSrc x (by unfold WF; decide)

example (x : Ix → ℚ) := src_solves_iff .ivp 2 exSrc x

/-! ## Props/C01Glue.lean -/

def exPL : List PLine := [⟨"H1", true, false, some "L1"⟩, ⟨"L1", true, false, none⟩, ⟨"GY1", true, true, none⟩]

theorem nv_alloc_complete : "GY1" ++ "X" ∈ alloc exPL :=
  (alloc_complete exPL ⟨"GY1", true, true, none⟩ (by simp [exPL])).2.1 rfl

theorem nv_alloc_nodup : (alloc exPL).Nodup := by
  apply C01.alloc_nodup exPL
  · decide
  · intro c hc hx d hd
    simp only [exPL, List.mem_cons, List.mem_nil_iff, or_false] at hc hd
    rcases hc with rfl | rfl | rfl <;> simp at hx
    rcases hd with rfl | rfl | rfl <;> decide
  · intro c hc cn hcn
    simp only [exPL, List.mem_cons, List.mem_nil_iff, or_false] at hc
    rcases hc with rfl | rfl | rfl <;> simp at hcn
    subst hcn
    exact ⟨⟨"L1", true, false, none⟩, by simp [exPL], rfl⟩

/-- the parsed lines, allocated branches and elaborated components of `V1 1 0 3; R1 1 2 3; L1 2 0 2 1; H1 3 0 L1 5` -/
def exRaw : List RawCpt :=
  [⟨"V1", "V", ["1", "0"], ["3"]⟩, ⟨"R1", "R", ["1", "2"], ["3"]⟩, ⟨"L1", "L", ["2", "0"], ["2", "1"]⟩,
   ⟨"H1", "H", ["3", "0"], ["L1", "5"]⟩]
def exCpts : List (String × Cpt GQ) :=
  [("V1", .V 1 0 0 (GQ.ofRat 3)), ("R1", .R 1 2 (GQ.ofRat 3)), ("L1", .Ind 2 0 1 (GQ.ofRat 2) (some (GQ.ofRat 1)) []),
   ("H1", .H 3 0 2 1 (GQ.ofRat 5))]

theorem nv_branchList : branchList exRaw = ["V1", "L1", "H1"] := by decide +kernel

theorem nv_allocOk : allocOk exRaw (branchList exRaw) exCpts = true := by decide +kernel

theorem nv_alloc_wf : WF (exCpts.map (·.2)) := alloc_wf exRaw (branchList exRaw) exCpts nv_allocOk

/-- `wf_of_owned_eq` / the reading step of `mna_iff_laws_frontend_wf`: the same netlist read in ℚ -/
theorem nv_wf_of_owned_eq : WF ([.V 1 0 0 3, .R 1 2 3, .Ind 2 0 1 2 (some 1) [], .H 3 0 2 1 5] : List (Cpt ℚ)) :=
  wf_of_owned_eq (exCpts.map (·.2)) _ (by simp [exCpts, owned]) nv_alloc_wf

/-- `reported_currents`: a charged capacitor in an initial-value problem (guard: s ≠ 0, C ≠ 0) -/
theorem nv_reported_currents (k : Nat) :
    outflow (K := ℚ) .ivp 2 (fun i => match i with | node 1 => 5 | _ => 0) k (.Cap 1 0 3 (some 4)) = twoTerm 1 0 k 18 :=
  reported_currents .ivp 2 _ (.Cap 1 0 3 (some 4)) 1 0 18 rfl (by intro _; constructor <;> norm_num)
    (by norm_num [reportedCurrent, solveZV0, volt]) k

/-! ## Props/C01Amp.lean : the theorems APPLIED to the adjacent witnesses -/

def fdX : Ix → ℚ := fun i => match i with | node 1 => 1 | node 2 => 0 | node 3 => 7 | node 4 => 3 | node 5 => 5 | _ => 0

theorem nv_fdopamp_expand_law :
    vd fdX 3 4 = 4 * vd fdX 1 2 + 2 * (0 * ((volt fdX 1 + volt fdX 2) / 2)) ∧ volt fdX 3 + volt fdX 4 = 2 * volt fdX 5 := by
  refine fdopamp_expand_law .dc 0 fdX 3 4 1 2 5 0 1 4 0 (by norm_num) ?_
  intro c hc p hp
  simp only [fdopampExpand, List.mem_cons, List.mem_nil_iff, or_false] at hc
  rcases hc with rfl | rfl <;> simp only [laws, List.mem_singleton] at hp <;> subst hp <;> norm_num [vd, volt, fdX]

theorem nv_inamp_expand_law :
    let D := volt exInampX 5 - volt exInampX 6
    let G : ℚ := 1 + 2 * 1 / 2
    vd exInampX 7 0 = D + 3 * ((volt exInampX 5 + volt exInampX 6) / 2) ∧ D * (1 + G / 2) = G * vd exInampX 1 2 := by
  refine inamp_expand_law .dc 0 exInampX 7 0 1 2 3 4 5 6 0 1 2 2 3 1 2 (by norm_num) (by norm_num) (by norm_num)
    (by decide) (by decide) (by decide) (by decide) (by decide) (by decide) (by decide) (by decide) (by decide) (by decide) (by decide)
    ?_ ?_ ?_
  · norm_num [inampExpand, lsum, outflow, twoTerm, vd, volt, exInampX]
  · norm_num [inampExpand, lsum, outflow, twoTerm, vd, volt, exInampX]
  · intro c hc p hp
    simp only [inampExpand, List.mem_cons, List.mem_nil_iff, or_false] at hc
    rcases hc with rfl | rfl | rfl | rfl | rfl <;> simp [laws] at hp <;> subst hp <;> norm_num [vd, volt, exInampX]

/-! ## Props/C01TwoPort.lean -/

/-- `TP1 2 0 1 0 H 2 3 1 2` : h21 = 1 ≠ 0, the H→A conversion the code performs is defined -/
example (x : Ix → ℚ) :=
  tp_bgh_law (K := ℚ) .dc 0 0 x 2 0 1 0 1 .H ⟨2, 3, 1, 2⟩ (Or.inr (Or.inr rfl)) (by simp [convOk, C08.ok_H_A])

example (x : Ix → ℚ) :=
  tp_bgh_law (K := ℚ) .dc 0 0 x 2 0 1 0 1 .B ⟨2, 3, 1, 2⟩ (Or.inl rfl) (by simp [convOk, C08.ok_B_A, M2.det]; norm_num)

example (x : Ix → ℚ) :=
  tp_bgh_law (K := ℚ) .dc 0 0 x 2 0 1 0 1 .G ⟨2, 3, 1, 2⟩ (Or.inr (Or.inl rfl)) (by simp [convOk, C08.ok_G_A])

example (x : Ix → ℚ) :=
  tpz_law (K := ℚ) .dc 0 0 x 2 0 1 0 ⟨2, 3, 1, 2⟩ (by simp [C08.ok_Z_Y, M2.det]; norm_num)

/-! ## true for the wrong reason through `x / 0 = 0` -/

/-- FINDING C01-e1: `R1 1 0 0` (a ZERO-ohm resistor) across `V1 1 0 6`: in a field `1 / 0 = 0`, so both `stamp` and `Laws`
    read the short circuit as an OPEN circuit, and the assignment "6 V, no current" obeys the `Laws` (and by
    `mna_iff_laws` solves the model system).  The real code computes `1/R = zoo`; the driver's carrier `GQ` gives `undef`. -/
theorem e_R_zero_is_open :
    Laws (K := ℚ) .dc 0 [.V 1 0 0 6, .R 1 0 0] (fun i => match i with | node 1 => 6 | _ => 0) :=
  laws_of_range 2 (by decide) (by decide +kernel) (by decide +kernel)

/-- `allAccumulate` / `guardsOk` are computed from `Gen.Stamps.updates` (`updates.all …`), so `rfl` evaluates them -/
example : Gen.Stamps.allAccumulate = true := rfl
example : Gen.Stamps.guardsOk = true := rfl

end Lcapy.NonVacuity.C01
