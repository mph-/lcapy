/- C16: lemmas on the transformer memo table (core Lean only). -/
import Lcapy.Model.CacheAux
namespace Lcapy.TCache

variable {A K R : Type} [DecidableEq K]

/-- every stored entry is the result of some argument with that key -/
def Sound (key : A → K) (f : A → R) (c : List (K × R)) : Prop := ∀ p ∈ c, ∃ a, key a = p.1 ∧ f a = p.2

theorem lookup_sound {key : A → K} {f : A → R} {c : List (K × R)} (hs : Sound key f c) {k : K} {r : R}
    (h : lookup c k = some r) : ∃ a, key a = k ∧ f a = r := by
  unfold lookup at h
  simp only [Option.map_eq_some_iff] at h
  obtain ⟨p, hp, rfl⟩ := h
  obtain ⟨a, h1, h2⟩ := hs p (List.mem_of_find?_eq_some hp)
  have := List.find?_some hp
  simp at this
  exact ⟨a, h1.trans this, h2⟩

theorem runT_eq (key : A → K) (f : A → R) (hkey : ∀ a b, key a = key b → f a = f b)
    (rs : List (Req A)) (c : List (K × R)) (hs : Sound key f c) :
    runT key f c rs = rs.map (uncached f) := by
  induction rs generalizing c with
  | nil => rfl
  | cons r rs ih =>
    cases r with
    | clear =>
      simp only [runT, stepT, List.map_cons, uncached]
      rw [ih [] (by intro p hp; cases hp)]
    | tr a =>
      simp only [runT, stepT, List.map_cons, uncached]
      cases hl : lookup c (key a) with
      | some r =>
        obtain ⟨b, hb1, hb2⟩ := lookup_sound hs hl
        simp only []
        rw [ih c hs, ← hb2, hkey b a hb1]
      | none =>
        simp only []
        rw [ih _ (by
          intro p hp
          simp only [List.mem_cons] at hp
          rcases hp with hp | hp
          · exact ⟨a, by simp [hp], by simp [hp]⟩
          · exact hs p hp)]

end Lcapy.TCache
