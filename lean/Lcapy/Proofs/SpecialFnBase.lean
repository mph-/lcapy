/-
  C17 -- proof helpers: the Spec's special functions piece by piece, the numeric and SymPy primitives
  written with them, the parity facts needed for psinc at integer points, outcomes (`Out`) under arithmetic,
  causal factors, and `mapM` as a map.
-/
import Mathlib.Tactic.Linarith
import Mathlib.Tactic.SplitIfs
import Mathlib.Tactic.NormNum
import Mathlib.Tactic.FieldSimp
import Mathlib.Tactic.Ring
import Mathlib.Algebra.Order.Field.Rat
import Lcapy.Model.Evaluate

namespace Lcapy.C17
open Lcapy.EvalBase Lcapy.Evaluate Lcapy.Gen.SpecialFn

namespace S
export Lcapy.Spec.SpecialFn (heaviside ramp rampstep rect sign tri trap unitstep unitimpulse dtrect dtsign sabs
  negOnePowInt)
end S

/-! ### the Spec functions on the pieces of their domain, and the code paths written with them -/

theorem heaviside_of_neg {x : Rat} (h : x < 0) : S.heaviside x = 0 := if_pos h

theorem heaviside_zero : S.heaviside 0 = 1/2 := rfl

theorem heaviside_of_pos {x : Rat} (h : 0 < x) : S.heaviside x = 1 := by
  rw [S.heaviside, if_neg (not_lt.mpr h.le), if_neg h.ne']

theorem unitstep_of_neg {x : Rat} (h : x < 0) : S.unitstep x = 0 := if_pos h

theorem unitstep_of_nonneg {x : Rat} (h : 0 ≤ x) : S.unitstep x = 1 := if_neg (not_lt.mpr h)

theorem ramp_of_nonneg {x : Rat} (h : 0 ≤ x) : S.ramp x = x := by
  rcases h.eq_or_lt with rfl | h
  · exact zero_mul _
  · rw [S.ramp, heaviside_of_pos h, mul_one]

theorem ramp_of_nonpos {x : Rat} (h : x ≤ 0) : S.ramp x = 0 := by
  rcases h.eq_or_lt with rfl | h
  · exact zero_mul _
  · rw [S.ramp, heaviside_of_neg h, mul_zero]

theorem tri_closed (x : Rat) : S.tri x = if 1 ≤ x then 0 else if x ≤ -1 then 0 else 1 - rabs x := by
  unfold S.tri rabs
  split_ifs with h1 h2 h3
  · rw [ramp_of_nonneg (by linarith), ramp_of_nonneg (by linarith), ramp_of_nonneg (by linarith)]; ring
  · rw [ramp_of_nonpos (by linarith), ramp_of_nonpos (by linarith), ramp_of_nonpos (by linarith)]; ring
  · rw [ramp_of_nonneg (by linarith), ramp_of_nonpos (by linarith), ramp_of_nonpos (by linarith)]; ring
  · rw [ramp_of_nonneg (by linarith), ramp_of_nonneg (by linarith), ramp_of_nonpos (by linarith)]; ring

theorem rampstep_closed (x : Rat) : S.rampstep x = if x < 0 then 0 else if x > 1 then 1 else x := by
  unfold S.rampstep
  split_ifs with h1 h2
  · rw [ramp_of_nonpos h1.le, ramp_of_nonpos (by linarith), sub_zero]
  · rw [ramp_of_nonneg (by linarith), ramp_of_nonneg (by linarith)]; ring
  · rw [ramp_of_nonneg (by linarith), ramp_of_nonpos (by linarith), sub_zero]

/-- the numeric Heaviside called with a value at zero that resolves to 1/2 (the configured default, or SymPy's H0) -/
theorem num_heaviside_eq (x : Rat) (z : Option Rat) (hz : z.getD heavisideZero = 1/2) :
    num_heaviside x z = some (S.heaviside x) := by
  rcases lt_trichotomy x 0 with h | rfl | h
  · rw [heaviside_of_neg h, num_heaviside, if_neg h.ne, if_neg (not_lt.mpr h.le)]
  · rw [heaviside_zero, ← hz]; rfl
  · rw [heaviside_of_pos h, num_heaviside, if_neg h.ne', if_pos h]

theorem num_heaviside_none (x : Rat) : num_heaviside x none = some (S.heaviside x) := num_heaviside_eq x none rfl

theorem num_unitstep_none (x : Rat) : num_unitstep x none = some (S.unitstep x) := by
  rcases lt_trichotomy x 0 with h | rfl | h
  · rw [unitstep_of_neg h, num_unitstep, if_neg h.ne, if_neg (not_le.mpr h)]
  · rfl
  · rw [unitstep_of_nonneg h.le, num_unitstep, if_neg h.ne', if_pos h.le]

theorem sym_UnitStep_none (x : Rat) : sym_UnitStep x none = some (S.unitstep x) := by
  rcases lt_trichotomy x 0 with h | rfl | h
  · rw [unitstep_of_neg h, sym_UnitStep, if_neg h.ne, if_neg (not_le.mpr h), if_pos h]
  · rfl
  · rw [unitstep_of_nonneg h.le, sym_UnitStep, if_neg h.ne', if_pos h.le]

theorem sympyHeaviside_eq (x : Rat) : sympyHeaviside x = some (S.heaviside x) := by
  unfold sympyHeaviside S.heaviside sympyH0
  split_ifs <;> rfl

theorem sympySign_eq (x : Rat) : sympySign x = some (S.sign x) := by
  rcases lt_trichotomy x 0 with h | rfl | h
  · rw [S.sign, heaviside_of_neg h, sympySign, if_pos h]; norm_num
  · rw [S.sign, heaviside_zero, sympySign, if_neg (lt_irrefl 0), if_pos rfl]; norm_num
  · rw [S.sign, heaviside_of_pos h, sympySign, if_neg (not_lt.mpr h.le), if_neg h.ne']; norm_num

/-! ### integer-valued rationals -/

theorem int_of_den_one (x : Rat) (h : x.den = 1) : ∃ n : Int, x = (n : Rat) :=
  ⟨x.num, ((Rat.den_eq_one_iff x).mp h).symm⟩

theorem isInt_iff (x : Rat) : isInt x = true ↔ x.den = 1 := by simp [isInt]

theorem specIsInt_iff (x : Rat) : Lcapy.Spec.SpecialFn.isInt x = true ↔ x.den = 1 := by
  simp [Lcapy.Spec.SpecialFn.isInt]

/-- `(-1) ** k` of the code at an integer is the Spec's `(-1)^k` -/
theorem negOnePow_intCast (k : Int) : negOnePow (k : Rat) = some (S.negOnePowInt k) := by
  simp only [negOnePow, Rat.den_intCast, Rat.num_intCast, beq_self_eq_true, if_true, S.negOnePowInt]
  split_ifs with h <;> simp [h]

theorem mul_emod_two_of_even (n k : Int) (h : n % 2 = 0) : (n * k) % 2 = 0 := by
  rw [Int.mul_emod, h]; simp

theorem mul_emod_two_of_odd (n k : Int) (h : n % 2 ≠ 0) : (n * k) % 2 = k % 2 := by
  have h1 : n % 2 = 1 := by omega
  rw [Int.mul_emod, h1]; simp

/-! ### outcomes -/

theorem arith2_ne_other (f : Rat → Rat → Rat) (a b : Out) (ha : a ≠ .other) (hb : b ≠ .other) :
    arith2 f a b ≠ .other := by
  cases a <;> cases b <;> simp_all [arith2]

theorem arith1_ne_other (f : Rat → Rat) (a : Out) (ha : a ≠ .other) : arith1 f a ≠ .other := by
  cases a <;> simp_all [arith1]

theorem divOut_ne_other (a b : Out) (ha : a ≠ .other) (hb : b ≠ .other) (hz : b ≠ .val 0) :
    divOut a b ≠ .other := by
  cases a <;> cases b <;> simp_all [divOut]

theorem select_eager_eq_lazy (r : Rel) (a b : Rat) (t e : Out) (ht : t ≠ .other) (he : e ≠ .other) :
    selectEager r (.val a) (.val b) t e = selectLazy r (.val a) (.val b) (fun _ => t) (fun _ => e) := by
  simp [selectEager, selectLazy, ht, he]

/-! ### causal factors; `mapM` -/

open Lcapy.Spec.SpecialFn (Fn spec disc inDomain) in
section

theorem causalFn_neg (f : Fn) (y : Rat) (hf : isCausalFn f = true) (hy : y < 0) : spec f y = some 0 := by
  have hy0 : y ≠ 0 := ne_of_lt hy
  cases f <;> simp_all [isCausalFn, spec, S.heaviside, S.unitstep, S.unitimpulse]

theorem prod_val (t : List Factor) (x : Rat) (h : ∀ f ∈ t, ∃ v, specEval f.toE x = .val v) :
    ∃ v, specEval (prodE t) x = .val v := by
  induction t with
  | nil => exact ⟨1, rfl⟩
  | cons f rest ih =>
    obtain ⟨v, hv⟩ := h f (List.mem_cons_self ..)
    obtain ⟨w, hw⟩ := ih (fun g hg => h g (List.mem_cons_of_mem _ hg))
    exact ⟨v * w, by simp [prodE, specEval, hv, hw, arith2]⟩

theorem causal_term_zero (t : List Factor) (x : Rat) (hx : x < 0)
    (hv : ∀ f ∈ t, ∃ v, specEval f.toE x = .val v) (hc : hasCausalFactor t = true) :
    specEval (prodE t) x = .val 0 := by
  induction t with
  | nil => simp [hasCausalFactor] at hc
  | cons f rest ih =>
    obtain ⟨w, hw⟩ := prod_val rest x (fun g hg => hv g (List.mem_cons_of_mem _ hg))
    have hrest := fun h => ih (fun g hg => hv g (List.mem_cons_of_mem _ hg)) h
    obtain ⟨v, hfv⟩ := hv f (List.mem_cons_self ..)
    have tail : hasCausalFactor rest = true → specEval (prodE (f :: rest)) x = .val 0 := by
      intro h
      simp [prodE, specEval, hfv, hrest h, arith2]
    cases f with
    | plain e => exact tail (by simpa [hasCausalFactor] using hc)
    | fn g a b =>
      by_cases hg : isCausalFn g = true
      · have head : a * x + b < 0 → specEval (prodE (Factor.fn g a b :: rest)) x = .val 0 := by
          intro hneg
          simp [prodE, specEval, Factor.toE, hw, arith2, appOut, causalFn_neg g _ hg hneg, Out.ofOption]
        simp only [hasCausalFactor, hg, Bool.not_true, Bool.false_eq_true, if_false] at hc
        split_ifs at hc with h1 h2 h3
        · simp only [Bool.and_eq_true, beq_iff_eq] at h1
          exact head (by rw [h1.1, h1.2]; linarith)
        · simp only [Bool.and_eq_true, decide_eq_true_eq] at h3
          exact head (by nlinarith [h3.1, h3.2])
        · exact tail hc
      · simp only [hasCausalFactor, hg, Bool.not_false, if_true] at hc
        exact tail hc

theorem valOf?_eq_some (o : Out) (v : Rat) : valOf? o = some v ↔ o = .val v := by
  cases o <;> simp [valOf?]

theorem mapM_valOf_iff {α : Type} (f : α → Out) (xs : List α) (vs : List Rat) :
    xs.mapM (fun x => valOf? (f x)) = some vs ↔ xs.map f = vs.map Out.val := by
  induction xs generalizing vs with
  | nil => cases vs <;> simp
  | cons x xs ih =>
    simp only [List.mapM_cons, Option.pure_def, Option.bind_eq_bind, Option.bind_eq_some_iff, Option.some.injEq,
      valOf?_eq_some, ih, List.map_cons]
    constructor
    · rintro ⟨v, hv, us, hus, rfl⟩
      rw [List.map_cons, hv, hus]
    · intro h
      cases vs with
      | nil => simp at h
      | cons v vs' =>
        rw [List.map_cons, List.cons.injEq] at h
        exact ⟨v, h.1, vs', h.2, rfl⟩

end

end Lcapy.C17
