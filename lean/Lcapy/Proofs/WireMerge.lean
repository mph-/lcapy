/-
  Helper lemmas for C03 (Props/C03Wire.lean): a 0 V source (= wire, what `kill` leaves of a voltage
  source) between the nodes a and b is equivalent to merging node b into node a.

  With ρ = `mergeNode a b` (b ↦ a, everything else fixed), under `volt x a = volt x b`:
    * every potential is unchanged by the renaming (`volt_merge`), hence every `vd` and every law;
    * the current a component sends into the merged node a is the SUM of what it sent into a and b,
      it sends nothing into b any more, and the other nodes are untouched
      (`twoTerm_merge_*`, `outflow_merge_*`, `kcl_merge_*`);
    * `outflow` / `laws` of a component only read the branch currents listed in `C03.brRefs`
      (`outflow_mapNodes_congr`, `laws_mapNodes_congr`).
-/
import Lcapy.Spec.PortRel
import Lcapy.Proofs.MNA
import Mathlib.Tactic.Ring
import Mathlib.Tactic.LinearCombination
import Mathlib.Algebra.Field.Basic
namespace Lcapy.C03
open Lcapy.MNA Ix
variable {K : Type} [Field K]

/-- branch indices whose current a component's outflow / laws read: the owned branch(es), the
    control branch `mc` of F, H, HY and the partner branches of the couplings of an inductor -/
def brRefs : Cpt K → List Nat
  | .Ind _ _ m _ _ coup => m :: coup.map (fun p => p.1)
  | .V _ _ m _ => [m]
  | .E _ _ _ _ m _ _ => [m]
  | .F _ _ mc _ => [mc]
  | .H _ _ m mc _ => [m, mc]
  | .TF _ _ _ _ m _ => [m]
  | .GY _ _ _ _ m1 m2 _ => [m1, m2]
  | .AM _ _ m => [m]
  | .TR _ _ m _ => [m]
  | .TPA _ _ _ _ m _ _ _ _ => [m]
  | .SP _ _ _ _ m _ _ _ => [m]
  | .HY _ _ m _ _ mc _ _ _ => [m, mc]
  | .R _ _ _ => []
  | .Cap _ _ _ _ => []
  | .I _ _ _ => []
  | .G _ _ _ _ _ => []
  | .Y _ _ _ => []
  | .Open _ _ => []
  | .TPY _ _ _ _ _ _ _ _ => []

/-- explicit map of unknowns from the merged netlist back to the netlist with the wire:
    `y` with node b := V(a), and then branch m := Σ_cs (current leaving node b), the wire current
    that KCL at b asks for -/
def unmerge (kind : Kind) (s : K) (cs : List (Cpt K)) (a b m : Nat) (y : Ix → K) : Ix → K :=
  fun i => if i = br m then lsum (cs.map (outflow kind s (fun j => if j = node b then volt y a else y j) b))
    else if i = node b then volt y a else y i

end Lcapy.C03

namespace Lcapy.MNA
namespace WireMerge
open Ix
variable {K : Type} [Field K]

/-- node b is renamed to a -/
def mergeNode (a b : Nat) : Nat → Nat := fun k => if k = b then a else k

theorem volt_of_ne_zero (x : Ix → K) (n : Nat) (h : n ≠ 0) : volt x n = x (node n) := by
  cases n with
  | zero => exact absurd rfl h
  | succ k => rfl

theorem volt_congr (x y : Ix → K) (n : Nat) (h : n ≠ 0 → x (node n) = y (node n)) : volt x n = volt y n := by
  cases n with
  | zero => rfl
  | succ k => exact h (Nat.succ_ne_zero k)

theorem mergeNode_zero {a b : Nat} (hb : b ≠ 0) : mergeNode a b 0 = 0 := by
  simp [mergeNode, Ne.symm hb]

theorem mergeNode_ne {a b : Nat} (hab : a ≠ b) (n : Nat) : mergeNode a b n ≠ b := by
  unfold mergeNode
  by_cases h : n = b
  · rw [if_pos h]; exact hab
  · rw [if_neg h]; exact h

theorem volt_merge {a b : Nat} {x : Ix → K} (hv : volt x a = volt x b) (n : Nat) :
    volt x (mergeNode a b n) = volt x n := by
  unfold mergeNode
  by_cases h : n = b
  · rw [if_pos h, h]; exact hv
  · rw [if_neg h]

theorem vd_merge {a b : Nat} {x : Ix → K} (hv : volt x a = volt x b) (n1 n2 : Nat) :
    vd x (mergeNode a b n1) (mergeNode a b n2) = vd x n1 n2 := by
  simp only [vd, volt_merge hv]

theorem ite_merge_a {a b : Nat} (hab : a ≠ b) (n : Nat) (i : K) :
    (if mergeNode a b n = a then i else 0) = (if n = a then i else 0) + (if n = b then i else 0) := by
  unfold mergeNode
  by_cases h1 : n = b
  · simp [h1, Ne.symm hab]
  · by_cases h2 : n = a <;> simp [h1, h2, hab]

theorem ite_merge_b {a b : Nat} (hab : a ≠ b) (n : Nat) (i : K) :
    (if mergeNode a b n = b then i else 0) = 0 := by
  rw [if_neg (mergeNode_ne hab n)]

theorem ite_merge_other {a b k : Nat} (hka : k ≠ a) (hkb : k ≠ b) (n : Nat) (i : K) :
    (if mergeNode a b n = k then i else 0) = (if n = k then i else 0) := by
  unfold mergeNode
  by_cases h1 : n = b
  · have h2 : ¬ n = k := fun h => hkb (h.symm.trans h1)
    rw [if_pos h1, if_neg (Ne.symm hka), if_neg h2]
  · rw [if_neg h1]

theorem twoTerm_merge_a {a b : Nat} (hab : a ≠ b) (n1 n2 : Nat) (i : K) :
    twoTerm (mergeNode a b n1) (mergeNode a b n2) a i = twoTerm n1 n2 a i + twoTerm n1 n2 b i := by
  simp only [twoTerm, ite_merge_a hab]; ring

theorem twoTerm_merge_b {a b : Nat} (hab : a ≠ b) (n1 n2 : Nat) (i : K) :
    twoTerm (mergeNode a b n1) (mergeNode a b n2) b i = 0 := by
  simp only [twoTerm, ite_merge_b hab]; ring

theorem twoTerm_merge_other {a b k : Nat} (hka : k ≠ a) (hkb : k ≠ b) (n1 n2 : Nat) (i : K) :
    twoTerm (mergeNode a b n1) (mergeNode a b n2) k i = twoTerm n1 n2 k i := by
  simp only [twoTerm, ite_merge_other hka hkb]

/-- the same with the literal ground node of `TR` and `SP` (b ≠ 0, so ground is not renamed) -/
theorem twoTerm_merge_a0 {a b : Nat} (hb : b ≠ 0) (hab : a ≠ b) (n : Nat) (i : K) :
    twoTerm (mergeNode a b n) 0 a i = twoTerm n 0 a i + twoTerm n 0 b i := by
  have h := twoTerm_merge_a hab n 0 i
  rwa [mergeNode_zero hb] at h

theorem twoTerm_merge_b0 {a b : Nat} (hb : b ≠ 0) (hab : a ≠ b) (n : Nat) (i : K) :
    twoTerm (mergeNode a b n) 0 b i = 0 := by
  have h := twoTerm_merge_b hab n 0 i
  rwa [mergeNode_zero hb] at h

theorem twoTerm_merge_other0 {a b k : Nat} (hb : b ≠ 0) (hka : k ≠ a) (hkb : k ≠ b) (n : Nat) (i : K) :
    twoTerm (mergeNode a b n) 0 k i = twoTerm n 0 k i := by
  have h := twoTerm_merge_other hka hkb n 0 i
  rwa [mergeNode_zero hb] at h

theorem twoTerm_add_cur (n1 n2 k : Nat) (i j : K) :
    twoTerm n1 n2 k (i + j) = twoTerm n1 n2 k i + twoTerm n1 n2 k j := by
  simp only [twoTerm_indic]; ring

theorem twoTerm_self (n k : Nat) (i : K) : twoTerm n n k i = 0 := by
  simp [twoTerm]

variable (kind : Kind) (s : K)

theorem outflow_merge_a {a b : Nat} {x : Ix → K} (hb : b ≠ 0) (hab : a ≠ b) (hv : volt x a = volt x b)
    (c : Cpt K) :
    outflow kind s x a (c.mapNodes (mergeNode a b)) = outflow kind s x a c + outflow kind s x b c := by
  cases c <;>
    simp only [Cpt.mapNodes, outflow, twoTerm_merge_a hab, twoTerm_merge_a0 hb hab, vd, volt_merge hv] <;>
    ring

theorem outflow_merge_b {a b : Nat} {x : Ix → K} (hb : b ≠ 0) (hab : a ≠ b) (c : Cpt K) :
    outflow kind s x b (c.mapNodes (mergeNode a b)) = 0 := by
  cases c <;>
    simp only [Cpt.mapNodes, outflow, twoTerm_merge_b hab, twoTerm_merge_b0 hb hab, add_zero]

theorem outflow_merge_other {a b k : Nat} {x : Ix → K} (hb : b ≠ 0) (hka : k ≠ a) (hkb : k ≠ b)
    (hv : volt x a = volt x b) (c : Cpt K) :
    outflow kind s x k (c.mapNodes (mergeNode a b)) = outflow kind s x k c := by
  cases c <;>
    simp only [Cpt.mapNodes, outflow, twoTerm_merge_other hka hkb, twoTerm_merge_other0 hb hka hkb, vd,
      volt_merge hv]

theorem laws_merge {a b : Nat} {x : Ix → K} (hv : volt x a = volt x b) (c : Cpt K) :
    laws kind s x (c.mapNodes (mergeNode a b)) = laws kind s x c := by
  cases c with
  | Ind n1 n2 m l i0 coup => cases kind <;> simp only [Cpt.mapNodes, laws, vd, volt_merge hv]
  | _ => simp only [Cpt.mapNodes, laws, vd, volt_merge hv]

theorem mutualDrop_congr_refs (x y : Ix → K) (coup : List (Nat × K × Option K))
    (h : ∀ p ∈ coup, x (br p.1) = y (br p.1)) : mutualDrop s x coup = mutualDrop s y coup := by
  induction coup with
  | nil => rfl
  | cons p t ih =>
    have ih' := ih (fun q hq => h q (List.mem_cons_of_mem _ hq))
    simp only [mutualDrop, List.map_cons, lsum] at ih' ⊢
    rw [h p (List.mem_cons_self ..), ih']

theorem outflow_mapNodes_congr (ρ : Nat → Nat) (x y : Ix → K) (c : Cpt K)
    (hv : ∀ n, volt x (ρ n) = volt y (ρ n)) (hbr : ∀ j ∈ C03.brRefs c, x (br j) = y (br j)) (k : Nat) :
    outflow kind s x k (c.mapNodes ρ) = outflow kind s y k (c.mapNodes ρ) := by
  cases c <;> simp [C03.brRefs] at hbr <;> simp [Cpt.mapNodes, outflow, vd, hv, hbr]

theorem laws_mapNodes_congr (ρ : Nat → Nat) (x y : Ix → K) (c : Cpt K)
    (hv : ∀ n, volt x (ρ n) = volt y (ρ n)) (hbr : ∀ j ∈ C03.brRefs c, x (br j) = y (br j)) :
    laws kind s x (c.mapNodes ρ) = laws kind s y (c.mapNodes ρ) := by
  cases c with
  | Ind n1 n2 m l i0 coup =>
    have hm : x (br m) = y (br m) := hbr m (by simp [C03.brRefs])
    have hmd : mutualDrop s x coup = mutualDrop s y coup :=
      mutualDrop_congr_refs s x y coup (fun p hp => hbr p.1 (by
        simp only [C03.brRefs, List.mem_cons, List.mem_map]
        exact Or.inr ⟨p, hp, rfl⟩))
    cases kind <;> simp [Cpt.mapNodes, laws, vd, hv, hm, hmd]
  | _ => simp [C03.brRefs] at hbr; simp [Cpt.mapNodes, laws, vd, hv, hbr]

omit [Field K] in
theorem mapNodes_id (c : Cpt K) : c.mapNodes (fun n => n) = c := by
  cases c <;> rfl

theorem outflow_congr_refs (x y : Ix → K) (c : Cpt K)
    (hv : ∀ n, volt x n = volt y n) (hbr : ∀ j ∈ C03.brRefs c, x (br j) = y (br j)) (k : Nat) :
    outflow kind s x k c = outflow kind s y k c := by
  have h := outflow_mapNodes_congr kind s (fun n => n) x y c hv hbr k
  rwa [mapNodes_id] at h

theorem laws_congr_refs (x y : Ix → K) (c : Cpt K)
    (hv : ∀ n, volt x n = volt y n) (hbr : ∀ j ∈ C03.brRefs c, x (br j) = y (br j)) :
    laws kind s x c = laws kind s y c := by
  have h := laws_mapNodes_congr kind s (fun n => n) x y c hv hbr
  rwa [mapNodes_id] at h

theorem kcl_congr (cs : List (Cpt K)) (x y : Ix → K) (k : Nat)
    (h : ∀ c ∈ cs, outflow kind s x k c = outflow kind s y k c) :
    lsum (cs.map (outflow kind s x k)) = lsum (cs.map (outflow kind s y k)) := by
  induction cs with
  | nil => rfl
  | cons c t ih =>
    simp only [List.map_cons, lsum]
    rw [h c (List.mem_cons_self ..), ih (fun c' hc' => h c' (List.mem_cons_of_mem _ hc'))]

omit kind s in
/-- `Laws` sees a netlist and an assignment only through the `outflow` and the `laws` of the components -/
theorem Laws_congr_iff {kind kind' : Kind} {s s' : K} (cs : List (Cpt K)) (x y : Ix → K)
    (ho : ∀ c ∈ cs, ∀ k, outflow kind s x k c = outflow kind' s' y k c)
    (hl : ∀ c ∈ cs, laws kind s x c = laws kind' s' y c) : Laws kind s cs x ↔ Laws kind' s' cs y := by
  have hk : ∀ k, cs.map (outflow kind s x k) = cs.map (outflow kind' s' y k) :=
    fun k => List.map_congr_left fun c hc => ho c hc k
  simp only [Laws, hk]
  exact and_congr_right' (forall₂_congr fun c hc => by rw [hl c hc])

theorem Laws_congr (cs : List (Cpt K)) (x y : Ix → K)
    (ho : ∀ c ∈ cs, ∀ k, outflow kind s x k c = outflow kind s y k c)
    (hl : ∀ c ∈ cs, laws kind s x c = laws kind s y c) (h : Laws kind s cs x) : Laws kind s cs y :=
  (Laws_congr_iff cs x y ho hl).mp h

theorem kcl_merge_a {a b : Nat} {x : Ix → K} (hb : b ≠ 0) (hab : a ≠ b) (hv : volt x a = volt x b)
    (cs : List (Cpt K)) :
    lsum ((cs.map (Cpt.mapNodes (mergeNode a b))).map (outflow kind s x a)) =
      lsum (cs.map (outflow kind s x a)) + lsum (cs.map (outflow kind s x b)) := by
  induction cs with
  | nil => simp [lsum]
  | cons c t ih => simp only [List.map_cons, lsum, ih, outflow_merge_a kind s hb hab hv]; ring

theorem kcl_merge_b {a b : Nat} {x : Ix → K} (hb : b ≠ 0) (hab : a ≠ b) (cs : List (Cpt K)) :
    lsum ((cs.map (Cpt.mapNodes (mergeNode a b))).map (outflow kind s x b)) = 0 := by
  induction cs with
  | nil => rfl
  | cons c t ih => simp only [List.map_cons, lsum, ih, outflow_merge_b kind s hb hab, add_zero]

theorem kcl_merge_other {a b k : Nat} {x : Ix → K} (hb : b ≠ 0) (hka : k ≠ a) (hkb : k ≠ b)
    (hv : volt x a = volt x b) (cs : List (Cpt K)) :
    lsum ((cs.map (Cpt.mapNodes (mergeNode a b))).map (outflow kind s x k)) =
      lsum (cs.map (outflow kind s x k)) := by
  induction cs with
  | nil => rfl
  | cons c t ih => simp only [List.map_cons, lsum, ih, outflow_merge_other kind s hb hka hkb hv]

/-- the core: any component `w` that carries a current `J` from a to b and whose laws say exactly
    V(a) = V(b) can be traded for the merge of b into a -/
theorem wire_core {a b : Nat} (cs : List (Cpt K)) (x : Ix → K) (hb : b ≠ 0) (hab : a ≠ b) (w : Cpt K) (J : K)
    (hout : ∀ k, outflow kind s x k w = twoTerm a b k J)
    (hlaw : (∀ p ∈ laws kind s x w, p.2 = 0) ↔ volt x a = volt x b) :
    Laws kind s (w :: cs) x ↔
      (volt x a = volt x b ∧ J = lsum (cs.map (outflow kind s x b)) ∧
       Laws kind s (cs.map (Cpt.mapNodes (mergeNode a b))) x) := by
  have hVb : twoTerm a b b J = -J := by simp [twoTerm, hab]
  have hVa : twoTerm a b a J = J := by simp [twoTerm, Ne.symm hab]
  have hVk : ∀ k, k ≠ a → k ≠ b → twoTerm a b k J = 0 := by
    intro k hka hkb; simp [twoTerm, Ne.symm hka, Ne.symm hkb]
  -- once the potentials agree and J is what KCL at b asks for, the two netlists have the same KCL row at every node
  have key : volt x a = volt x b → J = lsum (cs.map (outflow kind s x b)) → ∀ k,
      (lsum ((w :: cs).map (outflow kind s x k)) = 0 ↔
        lsum ((cs.map (Cpt.mapNodes (mergeNode a b))).map (outflow kind s x k)) = 0) := by
    intro hv hJ k
    simp only [List.map_cons, lsum, hout]
    by_cases hkb : k = b
    · rw [hkb, kcl_merge_b kind s hb hab, hVb, hJ]; simp
    · by_cases hka : k = a
      · rw [hka, kcl_merge_a kind s hb hab hv, hVa, hJ, add_comm]
      · rw [kcl_merge_other kind s hb hka hkb hv, hVk k hka hkb, zero_add]
  constructor
  · rintro ⟨hk, hl⟩
    have hv : volt x a = volt x b := hlaw.mp (hl w (List.mem_cons_self ..))
    have hkb := hk b hb
    simp only [List.map_cons, lsum, hout, hVb] at hkb
    have hJ : J = lsum (cs.map (outflow kind s x b)) := by linear_combination -hkb
    refine ⟨hv, hJ, fun k hk0 => (key hv hJ k).mp (hk k hk0), fun c' hc' p hp => ?_⟩
    obtain ⟨c, hc, rfl⟩ := List.mem_map.mp hc'
    rw [laws_merge kind s hv c] at hp
    exact hl c (List.mem_cons_of_mem _ hc) p hp
  · rintro ⟨hv, hJ, hk, hl⟩
    refine ⟨fun k hk0 => (key hv hJ k).mpr (hk k hk0), fun c hc p hp => ?_⟩
    rcases List.mem_cons.mp hc with rfl | hc
    · exact hlaw.mpr hv p hp
    · rw [← laws_merge kind s hv c] at hp
      exact hl _ (List.mem_map.mpr ⟨c, hc, rfl⟩) p hp

theorem laws_V0 (x : Ix → K) (n1 n2 m : Nat) :
    (∀ p ∈ laws kind s x (Cpt.V n1 n2 m 0), p.2 = 0) ↔ volt x n1 = volt x n2 := by
  simp only [laws, List.mem_singleton, forall_eq, vd, sub_zero]
  exact sub_eq_zero

theorem twoTerm_flip (n1 n2 k : Nat) (i : K) : twoTerm n2 n1 k i = twoTerm n1 n2 k (-i) := by
  simp only [twoTerm_indic]; ring

theorem twoTerm_circ (n1 n2 k : Nat) (i j d : K) :
    twoTerm n1 n2 k (i + d) + twoTerm n1 n2 k (j - d) = twoTerm n1 n2 k i + twoTerm n1 n2 k j := by
  simp only [twoTerm_indic]; ring

/-- two assignments with the same potentials, and the same currents on the branches `cs` reads, obey the laws of
    `ws ++ cs` together as soon as the components `ws` draw the same total current and have the same laws under both -/
theorem Laws_append_congr (ws cs : List (Cpt K)) (x y : Ix → K) (hvolt : ∀ n, volt y n = volt x n)
    (hbr : ∀ c ∈ cs, ∀ j ∈ C03.brRefs c, y (br j) = x (br j))
    (hw : ∀ k, lsum (ws.map (outflow kind s y k)) = lsum (ws.map (outflow kind s x k)))
    (hwl : ∀ c ∈ ws, laws kind s y c = laws kind s x c) (h : Laws kind s (ws ++ cs) x) : Laws kind s (ws ++ cs) y := by
  refine ⟨fun k hk0 => ?_, fun c hc p hp => ?_⟩
  · have hk := h.1 k hk0
    rw [List.map_append, lsum_append] at hk ⊢
    rwa [hw, kcl_congr kind s cs y x k fun c hc => outflow_congr_refs kind s y x c hvolt (hbr c hc) k]
  · rcases List.mem_append.mp hc with hc' | hc'
    · rw [hwl c hc'] at hp; exact h.2 c hc p hp
    · rw [laws_congr_refs kind s y x c hvolt (hbr c hc')] at hp; exact h.2 c hc p hp

end WireMerge
end Lcapy.MNA
