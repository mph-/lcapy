/-
  C17 -- helper lemmas for `Lcapy/Model/Response.lean` (`respIIConv`, `respBilinear`): everything is reduced to the C13
  lemma library (`Proofs/DT.lean`, `Proofs/DT2.lean`): a value list is the power series `toPS`, `Sequence.convolve`
  multiplies the power series (`toPS_convolve`), `lfilter` is the Cauchy product with the impulse response
  (`lfilter_convolution`), a block of `m` leading zeros is the factor `X^m` (`toPS_pshift`).
-/
import Lcapy.Model.Response
import Lcapy.Proofs.DT2
namespace Lcapy.Resp
open Lcapy Lcapy.DT Lcapy.SimBase Lcapy.Gen.Sim PowerSeries
variable {K : Type} [Field K]

/-! ### lists -/

theorem lsum_eq_sum (l : List K) : lsum l = l.sum := by
  induction l with
  | nil => rfl
  | cons a l ih => simp [lsum, ih]

theorem lsum_map_range (f : ℕ → K) (N : ℕ) : lsum ((List.range N).map f) = ∑ k ∈ Finset.range N, f k := by
  rw [lsum_eq_sum]
  induction N with
  | zero => simp
  | succ N ih => rw [List.range_succ, List.map_append, List.sum_append, ih, Finset.sum_range_succ]; simp

theorem getD_replicate_append (m : ℕ) (x : List K) (n : ℕ) :
    (List.replicate m (0 : K) ++ x).getD n 0 = if n < m then 0 else x.getD (n - m) 0 := by
  simp only [List.getD_eq_getElem?_getD, List.getElem?_append, List.length_replicate, List.getElem?_replicate]
  split_ifs <;> simp

/-! ### the two `natK` -/

theorem natK_cast (k : ℕ) : (SimBase.natK k : K) = (k : K) := by
  induction k with
  | zero => simp [SimBase.natK]
  | succ k ih => simp [SimBase.natK, ih]

/-! ### the sampled kernel -/

theorem lagTimes_length (N : ℕ) (dt : K) : (lagTimes N dt).length = N := by simp [lagTimes]

theorem lagKernel_getD (kernel : K → K) (N : ℕ) (dt : K) (k : ℕ) (hk : k < N) :
    ((lagTimes N dt).map kernel).getD k 0 = kernel (SimBase.natK k * dt) := by
  rw [List.getD_eq_getElem _ _ (by simpa [lagTimes] using hk)]
  simp [lagTimes]

theorem lagKernel_ne_nil (kernel : K → K) (N : ℕ) (dt : K) (hN : 0 < N) : (lagTimes N dt).map kernel ≠ [] := by
  intro e
  have := congrArg List.length e
  simp [lagTimes] at this
  omega

/-! ### Cauchy products of value lists -/

theorem coeff_toPS_mul_toPS (h x : List K) (n : ℕ) :
    coeff n (toPS h * toPS x) = ∑ k ∈ Finset.range (n + 1), h.getD k 0 * x.getD (n - k) 0 := by
  rw [coeff_mul, Finset.Nat.sum_antidiagonal_eq_sum_range_succ_mk]
  simp [coeff_toPS]

/-- only the first `n + 1` entries of `h` enter the n-th entry of the product -/
theorem coeff_toPS_mul_congr (h h' : List K) (S : K⟦X⟧) (n : ℕ) (e : ∀ k, k ≤ n → h'.getD k 0 = h.getD k 0) :
    coeff n (toPS h' * S) = coeff n (toPS h * S) := by
  rw [coeff_mul, coeff_mul]
  apply Finset.sum_congr rfl
  intro p hp
  have : p.1 ≤ n := by have := Finset.mem_antidiagonal.mp hp; omega
  rw [coeff_toPS, coeff_toPS, e _ this]

theorem toPS_replicate_append (m : ℕ) (x : List K) : toPS (List.replicate m 0 ++ x) = X ^ m * toPS x :=
  toPS_pshift m x

theorem conv_sum_eq_coeff (hC : ℕ → K) (x : List K) (n : ℕ) :
    ∑ p ∈ Finset.antidiagonal n, hC p.1 * litZ x p.2 = coeff n (PowerSeries.mk hC * toPS x) := by
  rw [← mk_litZ, coeff_mul]
  simp

/-! ### `respIIConv` entry-wise -/

theorem respIIConv_length (kernel : K → K) (x tv : List K) (dt : K) (hx : x ≠ []) :
    (respIIConv kernel x tv dt).length = tv.length := by
  by_cases hN : 0 < tv.length
  · have hh := lagKernel_ne_nil kernel tv.length dt hN
    have hxl : 0 < x.length := List.length_pos_of_ne_nil hx
    simp only [respIIConv, iiKernelTimes, List.length_map, List.length_take, convolvePy_length x _ hx hh,
      lagTimes_length]
    omega
  · simp [respIIConv]; omega

theorem respIIConv_getD (kernel : K → K) (x tv : List K) (dt : K) (n : ℕ) (hx : x ≠ []) (hn : n < tv.length) :
    (respIIConv kernel x tv dt).getD n 0
      = coeff n (toPS ((lagTimes tv.length dt).map kernel) * toPS x) * dt := by
  have hh := lagKernel_ne_nil kernel tv.length dt (by omega)
  have hl := respIIConv_length kernel x tv dt hx
  rw [List.getD_eq_getElem _ _ (by omega)]
  have hc : n < (convolvePy x ((lagTimes tv.length dt).map kernel)).length := by
    rw [convolvePy_length x _ hx hh, List.length_map, lagTimes_length]
    have := List.length_pos_of_ne_nil hx
    omega
  simp only [respIIConv, iiKernelTimes, iiScale, List.getElem_map, List.getElem_take]
  rw [← toPS_convolve x _ hx hh, coeff_toPS, List.getD_eq_getElem _ _ hc]

/-! ### `lfilter` and leading zeros -/

theorem lfilter_shift (b a x : List K) (m : ℕ) (ha : a.headD 0 ≠ 0) :
    lfilterPy b a (List.replicate m 0 ++ x) = List.replicate m 0 ++ lfilterPy b a x := by
  apply list_ext_getD
  · simp [lfilterPy_length]
  · intro n hn
    have hn' : n < (List.replicate m (0 : K) ++ x).length := by simpa [lfilterPy_length] using hn
    rw [lfilter_convolution b a _ ha n hn', conv_sum_eq_coeff, toPS_replicate_append, getD_replicate_append,
      mul_left_comm, coeff_X_pow_mul']
    by_cases h : n < m
    · have : ¬ m ≤ n := by omega
      simp [h, this]
    · have h1 : m ≤ n := by omega
      have h2 : n - m < x.length := by simp at hn'; omega
      rw [if_pos h1, if_neg h, lfilter_convolution b a x ha _ h2, conv_sum_eq_coeff]

end Lcapy.Resp
