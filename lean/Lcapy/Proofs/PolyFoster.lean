/-
  Lemmas for the Foster model (`Lcapy/Model/PolyFoster.lean`): residues by peeling, conjugate pairing,
  sections, the dictionary `collOf`, `Net.ratZ`.
-/
import Lcapy.Model.PolyFoster
import Lcapy.Proofs.Poly
import Lcapy.Proofs.PolyRatfun
import Lcapy.Proofs.PolySynth
namespace Lcapy.Synth
open Lcapy.Poly Lcapy.Ratfun
variable {K : Type} [Field K] [DecidableEq K]
set_option linter.unusedSectionVars false

theorem divLinear_rem (p : K) (P : List K) : (divLinear p P).2 = Poly.eval P p := by
  induction P with
  | nil => rfl
  | cons a P ih => rw [divLinear, eval_cons, ← ih]

theorem divLinear_spec (p : K) (P : List K) (x : K) :
    Poly.eval P x = (x - p) * Poly.eval (divLinear p P).1 x + Poly.eval P p := by
  induction P with
  | nil => simp [divLinear]
  | cons a P ih =>
    rw [divLinear, eval_cons, eval_cons, eval_cons, divLinear_rem, ih]; ring

/-- one peeling step and its iteration: the partial fractions of the pole `p` -/
theorem peelPole_sound (lcA p : K) (C : List K) (n : Nat) (M : List K) (x : K)
    (hx : (x - p) ^ n ≠ 0) (hC : lcA * Poly.eval C p ≠ 0) :
    Poly.eval M x = (x - p) ^ n * Poly.eval (peelPole lcA p C n M).2 x +
      lcA * Poly.eval C x * (x - p) ^ n * pfValue (peelPole lcA p C n M).1 x := by
  induction n generalizing M with
  | zero => simp [peelPole, pfValue]
  | succ n ih =>
    rw [peelPole, pfValue_cons]
    have h1 := divLinear_spec p (Poly.sub M (smul (Poly.eval M p / (lcA * Poly.eval C p) * lcA) C)) x
    have h0 : Poly.eval M p / (lcA * Poly.eval C p) * lcA * Poly.eval C p = Poly.eval M p := by
      rw [mul_assoc, div_mul_cancel₀ _ hC]
    rw [eval_sub, eval_smul, eval_sub, eval_smul, h0, sub_self, add_zero] at h1
    have h2 := ih (divLinear p (Poly.sub M (smul (Poly.eval M p / (lcA * Poly.eval C p) * lcA) C))).1
      (pow_ne_zero n (fun h0 => hx (by rw [h0, zero_pow n.succ_ne_zero])))
    rw [h2] at h1
    linear_combination h1 - lcA * Poly.eval C x * mul_div_cancel₀ (Poly.eval M p / (lcA * Poly.eval C p)) hx

theorem rootsValue_ne_zero_of_distinct (p : K) (rest : List (K × Nat))
    (h : rest.all (fun q => decide (q.1 ≠ p)) = true) : rootsValue rest p ≠ 0 := by
  induction rest with
  | nil => exact one_ne_zero
  | cons q rest ih =>
    rw [List.all_cons, Bool.and_eq_true, decide_eq_true_eq] at h
    exact mul_ne_zero (pow_ne_zero _ (sub_ne_zero.mpr (Ne.symm h.1))) (ih h.2)

theorem pfValue_append (a b : List (K × K × Nat)) (x : K) : pfValue (a ++ b) x = pfValue a x + pfValue b x := by
  rw [pfValue, List.map_append, List.sum_append]; rfl

/-- all poles: `M = Π(x−p)^n · M_f + lc · Π(x−p)^n · Σ r/(x−p)^o` -/
theorem peelAll_sound (lcA : K) (poles : List (K × Nat)) (M : List K) (x : K) (hl : lcA ≠ 0)
    (hd : distinctB poles = true) (hx : rootsValue poles x ≠ 0) :
    Poly.eval M x = rootsValue poles x * Poly.eval (peelAll lcA poles M).2 x +
      lcA * rootsValue poles x * pfValue (peelAll lcA poles M).1 x := by
  induction poles generalizing M with
  | nil => simp [peelAll, rootsValue, pfValue]
  | cons pn rest ih =>
    obtain ⟨p, n⟩ := pn
    rw [distinctB, Bool.and_eq_true] at hd
    rw [rootsValue_cons] at hx ⊢
    have hC : lcA * Poly.eval (prodRoots rest) p ≠ 0 := by
      rw [eval_prodRoots]; exact mul_ne_zero hl (rootsValue_ne_zero_of_distinct p rest hd.1)
    rw [peelAll, pfValue_append, peelPole_sound lcA p (prodRoots rest) n M x (left_ne_zero_of_mul hx) hC,
      ih (peelPole lcA p (prodRoots rest) n M).2 hd.2 (right_ne_zero_of_mul hx), eval_prodRoots]
    ring

theorem pfValue_filter (ts : List (K × K × Nat)) (x : K) :
    pfValue (ts.filter (fun t => decide (t.1 ≠ 0))) x = pfValue ts x := by
  induction ts with
  | nil => rfl
  | cons t rest ih =>
    obtain ⟨r, p, o⟩ := t
    rw [List.filter_cons, pfValue_cons]
    split
    · rw [pfValue_cons, ih]
    · rename_i h
      have hr : r = 0 := by simpa using h
      rw [ih, hr, zero_div, zero_add]

theorem peelPole_poles (lcA p : K) (C : List K) (n : Nat) (M : List K) :
    ∀ t ∈ (peelPole lcA p C n M).1, t.2.1 = p ∧ n ≠ 0 := by
  induction n generalizing M with
  | zero => simp [peelPole]
  | succ n ih =>
    intro t ht
    rw [peelPole, List.mem_cons] at ht
    rcases ht with rfl | ht
    · exact ⟨rfl, n.succ_ne_zero⟩
    · exact ⟨(ih _ t ht).1, n.succ_ne_zero⟩

theorem peelAll_poles (lcA : K) (poles : List (K × Nat)) (M : List K) :
    ∀ t ∈ (peelAll lcA poles M).1, ∃ n, (t.2.1, n) ∈ poles ∧ n ≠ 0 := by
  induction poles generalizing M with
  | nil => simp [peelAll]
  | cons pn rest ih =>
    obtain ⟨p, n⟩ := pn
    intro t ht
    rw [peelAll, List.mem_append] at ht
    rcases ht with ht | ht
    · obtain ⟨e1, e2⟩ := peelPole_poles lcA p (prodRoots rest) n M t ht
      exact ⟨n, e1 ▸ List.mem_cons_self, e2⟩
    · obtain ⟨m, hm, hm0⟩ := ih _ t ht
      exact ⟨m, List.mem_cons_of_mem _ hm, hm0⟩

/-- **pfData is sound**: quotient and pruned residues reconstruct `N/D` at every non-pole point, and no residue sits
    at the evaluation point -/
theorem pfData_sound (N D : List K) (poles : List (K × Nat)) (Q : List K) (ts : List (K × K × Nat)) (x : K)
    (h : pfData N D poles = some (Q, ts)) (hD : Poly.eval D x ≠ 0) :
    Poly.eval N x / Poly.eval D x = Poly.eval Q x + pfValue ts x ∧ ∀ t ∈ ts, x - t.2.1 ≠ 0 := by
  unfold pfData at h
  split at h
  · rename_i hc
    simp only [Bool.and_eq_true] at hc
    obtain ⟨⟨hr, hd⟩, -⟩ := hc
    simp only at h
    split at h
    · rename_i hf
      cases h
      have hlc : lc D ≠ 0 := lc_ne_zero_of_eval hD
      have eD := rootsCheck_eval hr x
      have hrv : rootsValue poles x ≠ 0 := right_ne_zero_of_mul (eD ▸ hD)
      refine ⟨?_, fun t ht => ?_⟩
      · have eM := peelAll_sound (lc D) poles (divmod N D).2 x hlc hd hrv
        rw [eval_of_isZero hf, mul_zero, zero_add, ← eD] at eM
        rw [pfValue_filter, (divmod_spec' N D hlc).1 x, eM, add_div, mul_div_cancel_right₀ _ hD,
          mul_div_cancel_left₀ _ hD]
      · obtain ⟨n, hm, hn⟩ := peelAll_poles (lc D) poles _ t (List.mem_of_mem_filter ht)
        exact fun h0 => hrv (sub_eq_zero.1 h0 ▸ rootsValue_eq_zero hm hn)
    · cases h
  · cases h

def secsValue (secs : List (Sec K)) (x : K) : K := (secs.map (Sec.value x)).sum

theorem secsValue_cons (sec : Sec K) (secs : List (Sec K)) (x : K) :
    secsValue (sec :: secs) x = sec.value x + secsValue secs x := by
  rw [secsValue, List.map_cons, List.sum_cons]; rfl

theorem monoSecs_value (Q : List K) (k : Nat) (x : K) : secsValue (monoSecs Q k) x = x ^ k * Poly.eval Q x := by
  induction Q generalizing k with
  | nil => exact (mul_zero _).symm
  | cons q rest ih =>
    rw [monoSecs, eval_cons]
    split
    · rename_i hq; rw [ih, hq, pow_succ]; ring
    · rw [secsValue_cons, ih, Sec.value, npow_eq, pow_succ]; ring

theorem takeConj_spec (isConj : K → K → Bool) (p : K) (rest : List (K × K × Nat)) (rc pc : K)
    (rest' : List (K × K × Nat)) (h : takeConj isConj p rest = some ((rc, pc), rest')) (x : K) :
    pfValue rest x = rc / (x - pc) + pfValue rest' x ∧ rest'.length + 1 = rest.length ∧
      (rc, pc, 1) ∈ rest ∧ ∀ t ∈ rest', t ∈ rest := by
  induction rest generalizing rest' with
  | nil => cases h
  | cons t rest ih =>
    obtain ⟨r, p', o⟩ := t
    rw [takeConj] at h
    split at h
    · rename_i hc
      cases h
      obtain rfl : o = 1 := of_decide_eq_true (Bool.and_eq_true_iff.1 hc).1
      exact ⟨by rw [pfValue_cons, pow_one], rfl, List.mem_cons_self, fun t ht => List.mem_cons_of_mem _ ht⟩
    · obtain ⟨⟨⟨rc', pc'⟩, r2⟩, h2, h3⟩ := Option.map_eq_some_iff.1 h
      cases h3
      obtain ⟨e1, e2, e3, e4⟩ := ih r2 h2
      refine ⟨?_, congrArg (· + 1) e2, List.mem_cons_of_mem _ e3, fun u hu => ?_⟩
      · rw [pfValue_cons, pfValue_cons, e1, add_left_comm]
      · rcases List.mem_cons.1 hu with rfl | hu
        · exact List.mem_cons_self
        · exact List.mem_cons_of_mem _ (e4 u hu)

/-- combining conjugate pairs does not change the sum (any pairing predicate) -/
theorem combine_value (isConj : K → K → Bool) (f : Nat) (ts : List (K × K × Nat)) (x : K)
    (hf : ts.length ≤ f) (hx : ∀ t ∈ ts, x - t.2.1 ≠ 0) :
    secsValue (combine isConj f ts) x = pfValue ts x := by
  induction f generalizing ts with
  | zero => rw [List.length_eq_zero_iff.1 (Nat.le_zero.1 hf)]; rfl
  | succ f ih =>
    cases ts with
    | nil => rfl
    | cons t rest =>
      obtain ⟨r, p, o⟩ := t
      have hrest : ∀ t ∈ rest, x - t.2.1 ≠ 0 := fun t ht => hx t (List.mem_cons_of_mem _ ht)
      have hlen : rest.length ≤ f := Nat.le_of_succ_le_succ hf
      have hsingle : secsValue (Sec.single r p o :: combine isConj f rest) x = pfValue ((r, p, o) :: rest) x := by
        rw [secsValue_cons, ih rest hlen hrest, pfValue_cons, Sec.value, npow_eq]
      rw [combine]
      split
      · rename_i ho
        split
        · rename_i rc pc rest' hc
          obtain ⟨e1, e2, e3, e4⟩ := takeConj_spec isConj p rest rc pc rest' hc x
          have hden : x * x + -(p + pc) * x + p * pc = (x - p) * (x - pc) := by ring
          rw [secsValue_cons, ih rest' (by omega) (fun t ht => hrest t (e4 t ht)), pfValue_cons, e1, ho, pow_one,
            Sec.value, hden, ← add_assoc, div_add_div _ _ (hx (r, p, o) List.mem_cons_self) (hrest (rc, pc, 1) e3)]
          congr 2; ring
        · exact hsingle
      · exact hsingle

theorem YparO_optR (x n1 a : K) : YparO x (if a = 0 then none else some (Net.R (n1 / a))) = a / n1 := by
  split
  · rename_i h; rw [h, zero_div]; rfl
  · exact one_div_div _ _

theorem YparO_optL (x n1 b : K) : YparO x (if b = 0 then none else some (Net.L (n1 / b))) = b / (n1 * x) := by
  split
  · rename_i h; rw [h, zero_div]; rfl
  · show 1 / (n1 / b * x) = _; rw [div_mul_eq_mul_div, one_div_div]

theorem ZserO_optR (x n1 a : K) : ZserO x (if a = 0 then none else some (Net.R (a / n1))) = a / n1 := by
  split
  · rename_i h; rw [h, zero_div]; rfl
  · rfl

theorem ZserO_optC (x n1 b : K) : ZserO x (if b = 0 then none else some (Net.C (n1 / b))) = b / (n1 * x) := by
  split
  · rename_i h; rw [h, zero_div]; rfl
  · show 1 / (n1 / b * x) = _; rw [div_mul_eq_mul_div, one_div_div]

theorem resonator_sum (n1 a b x : K) (hn : n1 ≠ 0) (hx : x ≠ 0) :
    a / n1 + b / (n1 * x) + 1 / n1 * x = (x * x + a * x + b) / (n1 * x) := by
  field_simp; ring

theorem single_sum (r p x : K) (hr : r ≠ 0) : -(p / r) + 1 / r * x = (x - p) / r := by
  field_simp; ring

/-- a Foster I section has the impedance of its term -/
theorem secNetI_value (sec : Sec K) (n : Net K) (x : K) (h : secNetI sec = some n) (hx : x ≠ 0) :
    n.Z x = sec.value x := by
  cases sec with
  | mono q k =>
    match k with
    | 0 => cases h; exact (mul_one q).symm
    | 1 => cases h; show q * x = q * (x * 1); rw [mul_one]
    | k + 2 => cases h
  | single r p o =>
    match o with
    | 0 => cases h
    | 1 =>
      rw [secNetI] at h
      split at h
      · cases h
      · rename_i hr
        rw [Sec.value, npow_eq, pow_one]
        split at h
        · rename_i hp; cases h; rw [hp, sub_zero, Net.Z, one_div_mul_eq_div, one_div_div]
        · cases h
          show 1 / (1 / -(r / p) + 1 / (1 / (1 / r * x))) = _
          rw [one_div_one_div, one_div_neg_eq_neg_one_div, one_div_div, single_sum r p x hr, one_div_div]
    | o + 2 => cases h
  | pair n1 n0 a b =>
    rw [secNetI] at h
    split at h
    · rename_i hc
      obtain ⟨rfl, hn1⟩ : n0 = 0 ∧ n1 ≠ 0 := by simpa using hc
      have hy := Y_parO (parO (if a = 0 then none else some (Net.R (n1 / a)))
        (if b = 0 then none else some (Net.L (n1 / b)))) (some (Net.C (1 / n1))) x
      rw [h, Y_parO, YparO_optR, YparO_optL] at hy
      rw [← one_div_one_div (n.Z x), show 1 / n.Z x = _ from hy, show YparO x (some (Net.C (1 / n1))) =
        1 / (1 / (1 / n1 * x)) from rfl, one_div_one_div, resonator_sum n1 a b x hn1 hx, one_div_div, Sec.value, add_zero]
    · cases h

/-- a Foster II section has the ADMITTANCE of its term -/
theorem secNetII_value (sec : Sec K) (n : Net K) (x : K) (h : secNetII sec = some n) (hx : x ≠ 0) :
    1 / n.Z x = sec.value x := by
  cases sec with
  | mono q k =>
    match k with
    | 0 => cases h; show 1 / (1 / q) = q * 1; rw [one_div_one_div, mul_one]
    | 1 => cases h; show 1 / (1 / (q * x)) = q * (x * 1); rw [one_div_one_div, mul_one]
    | k + 2 => cases h
  | single r p o =>
    match o with
    | 0 => cases h
    | 1 =>
      rw [secNetII] at h
      split at h
      · cases h
      · rename_i hr
        rw [Sec.value, npow_eq, pow_one]
        split at h
        · rename_i hp; cases h; rw [hp, sub_zero, Net.Z, one_div_mul_eq_div, one_div_div]
        · cases h
          show 1 / (-(p / r) + 1 / r * x) = _
          rw [single_sum r p x hr, one_div_div]
    | o + 2 => cases h
  | pair n1 n0 a b =>
    rw [secNetII] at h
    split at h
    · rename_i hc
      obtain ⟨rfl, hn1⟩ : n0 = 0 ∧ n1 ≠ 0 := by simpa using hc
      have hz := Z_serO (serO (if a = 0 then none else some (Net.R (a / n1)))
        (if b = 0 then none else some (Net.C (n1 / b)))) (some (Net.L (1 / n1))) x
      rw [h, Z_serO, ZserO_optR, ZserO_optC] at hz
      rw [show n.Z x = _ from hz, show ZserO x (some (Net.L (1 / n1))) = 1 / n1 * x from rfl,
        resonator_sum n1 a b x hn1 hx, one_div_div, Sec.value, add_zero]
    · cases h

theorem mapOpt_map {α β : Type} (f : α → Option β) (g : β → K) (v : α → K) (l : List α) (l' : List β)
    (h : mapOpt f l = some l') (hv : ∀ a ∈ l, ∀ b, f a = some b → g b = v a) :
    l'.map g = l.map v := by
  induction l generalizing l' with
  | nil => cases h; rfl
  | cons a l ih =>
    rw [mapOpt] at h
    split at h
    · rename_i b bs ha hl
      cases h
      rw [List.map_cons, List.map_cons, hv a List.mem_cons_self b ha,
        ih bs hl (fun a' ha' => hv a' (List.mem_cons_of_mem _ ha'))]
    · cases h

/-- the sections of `N/D` add up to `N/D` -/
theorem fosterSecs_value (isConj : K → K → Bool) (N D : List K) (poles : List (K × Nat)) (secs : List (Sec K)) (x : K)
    (h : fosterSecs isConj N D poles = some secs) (hD : Poly.eval D x ≠ 0) :
    secsValue secs x = Poly.eval N x / Poly.eval D x := by
  obtain ⟨⟨Q, ts⟩, hp, rfl⟩ := Option.map_eq_some_iff.1 h
  obtain ⟨e, hpoles⟩ := pfData_sound N D poles Q ts x hp hD
  rw [secsValue, List.map_append, List.sum_append, ← secsValue, ← secsValue, monoSecs_value,
    combine_value isConj ts.length ts x (le_refl _) hpoles, e, pow_zero, one_mul]

theorem nz_getD (a : K) : (nz a).getD 0 = a := by
  unfold nz
  split
  · rename_i h; exact h.symm
  · rfl

theorem eval_le3 (q : List K) (h : q.length ≤ 3) (x : K) :
    Poly.eval q x = q.getD 0 0 + q.getD 1 0 * x + q.getD 2 0 * x ^ 2 := by
  match q, h with
  | [], _ => simp only [eval_nil, List.getD_nil]; ring
  | [a], _ => simp only [eval_cons, eval_nil, List.getD_cons_zero, List.getD_cons_succ, List.getD_nil]; ring
  | [a, b], _ => simp only [eval_cons, eval_nil, List.getD_cons_zero, List.getD_cons_succ, List.getD_nil]; ring
  | [a, b, c], _ => simp only [eval_cons, eval_nil, List.getD_cons_zero, List.getD_cons_succ]; ring

/-- `collOf` finds `var·N = (cm + c0·var + cp·var²)·D` -/
theorem collOf_spec (N D : List K) (hD : lc D ≠ 0) (h : (collOf N D).other = false) (x : K) :
    x * Poly.eval N x =
      (((collOf N D).cm.getD 0) + ((collOf N D).c0.getD 0) * x + ((collOf N D).cp.getD 0) * x ^ 2) * Poly.eval D x := by
  unfold collOf at h ⊢
  simp only at h ⊢
  split at h
  · rename_i hc
    rw [Bool.and_eq_true, decide_eq_true_eq] at hc
    rw [if_pos (by rw [hc.1, decide_eq_true hc.2]; rfl)]
    have e := (divmod_spec' (0 :: N) D hD).1 x
    rw [eval_of_isZero hc.1, add_zero, eval_cons, zero_add, ← eval_trim (divmod (0 :: N) D).1,
      eval_le3 _ hc.2] at e
    simp only [nz_getD]
    exact e
  · cases h

/-- the collected dictionary has the value of `N/D` -/
theorem collOf_value (N D : List K) (h : (collOf N D).other = false) (x : K) (hx : x ≠ 0)
    (hD : Poly.eval D x ≠ 0) : (collOf N D).value x = Poly.eval N x / Poly.eval D x := by
  have e := collOf_spec N D (lc_ne_zero_of_eval hD) h x
  rw [eq_div_iff hD, Coll.value, ← mul_right_inj' hx, e]
  field_simp
  ring

/-- a series pattern applied to `N/D` -/
theorem seriesForm_value (f : Coll K → Option (Option (Net K))) (z : Bool) (N D : List K) (net : Net K) (x : K)
    (hf : ∀ d n, f d = some n → (seriesRL d = some n ∨ seriesRC d = some n ∨ seriesGC d = some n ∨
      seriesLC d = some n ∨ seriesRLC d = some n))
    (h : seriesForm f z N D = some (some net)) (hx : x ≠ 0) (hD : Poly.eval D x ≠ 0) :
    net.Z x = Poly.eval N x / Poly.eval D x := by
  unfold seriesForm at h
  split at h
  · split at h <;> cases h
  · split at h
    · cases h
    · obtain ⟨ho, hv⟩ := series_forms_value (collOf N D) x (some net) (hf _ _ h)
      rw [← collOf_value N D ho x hx hD, ← hv]; rfl

/-- a parallel pattern applied to `N/D` (dictionary of `D/N`) -/
theorem parallelForm_value (f : Coll K → Option (Option (Net K))) (z : Bool) (N D : List K) (net : Net K) (x : K)
    (hf : ∀ d n, f d = some n → (parallelRL d = some n ∨ parallelRC d = some n ∨ parallelGC d = some n ∨
      parallelLC d = some n ∨ parallelRLC d = some n))
    (h : parallelForm f z N D = some (some net)) (hx : x ≠ 0) (hN : Poly.eval N x ≠ 0) :
    net.Z x = Poly.eval N x / Poly.eval D x := by
  unfold parallelForm at h
  split at h
  · split at h <;> cases h
  · split at h
    · cases h
    · obtain ⟨ho, hv⟩ := parallel_forms_value (collOf D N) x (some net) (hf _ _ h)
      rw [← one_div_one_div (net.Z x), show 1 / net.Z x = _ from hv, collOf_value D N ho x hx hN, one_div_div]

/-- no element or sub-network of `net` has an undefined (infinite) immittance at `x` -/
def Net.DefinedAt (x : K) : Net K → Prop
  | .R _ => True
  | .L _ => True
  | .C c => c * x ≠ 0
  | .G g => g ≠ 0
  | .ser a b => a.DefinedAt x ∧ b.DefinedAt x
  | .par a b => a.DefinedAt x ∧ b.DefinedAt x ∧ a.Z x ≠ 0 ∧ b.Z x ≠ 0 ∧ 1 / a.Z x + 1 / b.Z x ≠ 0

/-- `Net.ratZ` is the impedance as a quotient of polynomials -/
theorem ratZ_value (net : Net K) (x : K) (h : net.DefinedAt x) :
    Poly.eval net.ratZ.2 x ≠ 0 ∧ net.Z x = Poly.eval net.ratZ.1 x / Poly.eval net.ratZ.2 x := by
  induction net with
  | R r => exact ⟨by simp [Net.ratZ], by simp [Net.ratZ, Net.Z]⟩
  | L l => exact ⟨by simp [Net.ratZ], by simp [Net.ratZ, Net.Z, mul_comm]⟩
  | C c =>
    have : Poly.eval [0, c] x = c * x := by simp [mul_comm]
    exact ⟨this ▸ h, by simp only [Net.ratZ, Net.Z, this, eval_cons, eval_nil, mul_zero, add_zero]⟩
  | G g =>
    have hg : g ≠ 0 := h
    exact ⟨by simpa [Net.ratZ] using hg, by simp [Net.ratZ, Net.Z]⟩
  | ser a b iha ihb =>
    obtain ⟨ha1, ha2⟩ := iha h.1
    obtain ⟨hb1, hb2⟩ := ihb h.2
    simp only [Net.ratZ, Net.Z, eval_add, eval_mul]
    exact ⟨mul_ne_zero ha1 hb1, by rw [ha2, hb2, div_add_div _ _ ha1 hb1, mul_comm (Poly.eval a.ratZ.2 x)]⟩
  | par a b iha ihb =>
    obtain ⟨ha, hb, hza, hzb, hs⟩ := h
    obtain ⟨ha1, ha2⟩ := iha ha
    obtain ⟨hb1, hb2⟩ := ihb hb
    rw [ha2] at hza hs
    rw [hb2] at hzb hs
    have hna := (div_ne_zero_iff.1 hza).1
    have hnb := (div_ne_zero_iff.1 hzb).1
    rw [one_div_div, one_div_div, div_add_div _ _ hna hnb, add_comm, mul_comm (Poly.eval a.ratZ.2 x)] at hs
    simp only [Net.ratZ, Net.Z, eval_add, eval_mul]
    refine ⟨(div_ne_zero_iff.1 hs).1, ?_⟩
    rw [ha2, hb2, one_div_div, one_div_div, div_add_div _ _ hna hnb, one_div_div, add_comm,
      mul_comm (Poly.eval a.ratZ.2 x)]

theorem mapOpt_ne_none {α β : Type} (f : α → Option β) (l : List α) (l' : List β) (h : mapOpt f l = some l') :
    ∀ a ∈ l, f a ≠ none := by
  induction l generalizing l' with
  | nil => exact fun _ h => nomatch h
  | cons a l ih =>
    rw [mapOpt] at h
    split at h
    · rename_i b bs ha hl
      intro a' ha'
      rcases List.mem_cons.1 ha' with rfl | ha'
      · rw [ha]; exact Option.some_ne_none _
      · exact ih bs hl a' ha'
    · cases h

theorem mapOpt_of_all {α β : Type} (f : α → Option β) (l : List α) (h : ∀ a ∈ l, f a ≠ none) :
    ∃ l', mapOpt f l = some l' ∧ l'.length = l.length := by
  induction l with
  | nil => exact ⟨[], rfl, rfl⟩
  | cons a l ih =>
    obtain ⟨bs, hb, hlen⟩ := ih (fun a' ha' => h a' (List.mem_cons_of_mem _ ha'))
    obtain ⟨b, ha⟩ := Option.ne_none_iff_exists'.1 (h a List.mem_cons_self)
    exact ⟨b :: bs, by rw [mapOpt, ha, hb], congrArg (· + 1) hlen⟩

omit [Field K] [DecidableEq K] in
theorem ne_none_of_eq_some {α : Type} {o : Option α} {P : Prop} {a : α} (h : ∀ n, o = some n ↔ P ∧ a = n) :
    o ≠ none ↔ P :=
  Option.ne_none_iff_exists'.trans ⟨fun ⟨n, hn⟩ => ((h n).1 hn).1, fun hp => ⟨a, (h a).2 ⟨hp, rfl⟩⟩⟩

theorem seriesRL_accepts (d : Coll K) : seriesRL d ≠ none ↔ d.other = false ∧ d.cm = none :=
  ne_none_of_eq_some fun _ => seriesRL_eq_some
theorem seriesRC_accepts (d : Coll K) : seriesRC d ≠ none ↔ d.other = false ∧ d.cp = none :=
  ne_none_of_eq_some fun _ => seriesRC_eq_some
theorem seriesGC_accepts (d : Coll K) : seriesGC d ≠ none ↔ d.other = false ∧ d.cp = none :=
  ne_none_of_eq_some fun _ => seriesGC_eq_some
theorem seriesLC_accepts (d : Coll K) : seriesLC d ≠ none ↔ d.other = false ∧ d.c0.getD 0 = 0 :=
  ne_none_of_eq_some fun _ => seriesLC_eq_some
theorem seriesRLC_accepts (d : Coll K) : seriesRLC d ≠ none ↔ d.other = false :=
  ne_none_of_eq_some fun _ => seriesRLC_eq_some
theorem parallelRL_accepts (d : Coll K) : parallelRL d ≠ none ↔ d.other = false ∧ d.cp = none :=
  ne_none_of_eq_some fun _ => parallelRL_eq_some
theorem parallelRC_accepts (d : Coll K) : parallelRC d ≠ none ↔ d.other = false ∧ d.cm = none :=
  ne_none_of_eq_some fun _ => parallelRC_eq_some
theorem parallelGC_accepts (d : Coll K) : parallelGC d ≠ none ↔ d.other = false ∧ d.cm = none :=
  ne_none_of_eq_some fun _ => parallelGC_eq_some
theorem parallelLC_accepts (d : Coll K) : parallelLC d ≠ none ↔ d.other = false ∧ d.c0.getD 0 = 0 :=
  ne_none_of_eq_some fun _ => parallelLC_eq_some
theorem parallelRLC_accepts (d : Coll K) : parallelRLC d ≠ none ↔ d.other = false :=
  ne_none_of_eq_some fun _ => parallelRLC_eq_some

omit [Field K] [DecidableEq K] in
theorem parO_some_ne_none (a : Option (Net K)) (c : Net K) : parO a (some c) ≠ none := by
  cases a <;> exact Option.some_ne_none _

theorem nz_eq_none (a : K) : nz a = none ↔ a = 0 := by
  unfold nz; by_cases h : a = 0 <;> simp [h]

theorem ofOO_ok (r : Option (Option (Net K))) (net : Net K) (h : ofOO r = .ok net) : r = some (some net) := by
  match r, h with
  | some (some n), h => cases h; rfl

theorem ofF_ok (r : FRes K) (net : Net K) (h : ofF r = .ok net) : r = .ok net := by
  match r, h with
  | .ok n, h => cases h; rfl
end Lcapy.Synth
