/-
  C10 helper lemmas: polynomial evaluation is a ring homomorphism on coefficient lists, soundness of the
  partial-fraction checker, the transform of the synthesised time function, the conjugate-pair formulas.
-/
import Lcapy.Proofs.Laplace
import Lcapy.Model.ILT
import Mathlib.Tactic.LinearCombination
namespace Lcapy.Laplace
variable {K : Type} [Field K]

namespace Poly
@[simp] theorem eval_nil (x : K) : eval ([] : Poly K) x = 0 := rfl
@[simp] theorem eval_cons (a : K) (p : Poly K) (x : K) : eval (a :: p) x = a + x * eval p x := rfl

theorem eval_add (p q : Poly K) (x : K) : eval (add p q) x = eval p x + eval q x := by
  induction p generalizing q with
  | nil => simp [add]
  | cons a p ih =>
    cases q with
    | nil => simp [add]
    | cons b q => simp [add, ih]; ring

theorem eval_smul (c : K) (p : Poly K) (x : K) : eval (smul c p) x = c * eval p x := by
  induction p with
  | nil => simp [smul]
  | cons a p ih => simp only [smul, List.map_cons, eval_cons] at ih ⊢; rw [ih]; ring

theorem eval_mul (p q : Poly K) (x : K) : eval (mul p q) x = eval p x * eval q x := by
  induction p with
  | nil => simp [mul]
  | cons a p ih => simp [mul, eval_add, eval_smul, ih]; ring

theorem eval_linPow (p x : K) (n : Nat) : eval (linPow p n) x = (x - p) ^ n := by
  induction n with
  | zero => simp [linPow]
  | succ n ih => simp [linPow, eval_mul, ih]; ring

theorem eval_eqv_nil [DecidableEq K] (p : Poly K) (x : K) :
    (eqv p [] = true → eval p x = 0) ∧ (eqv [] p = true → eval p x = 0) := by
  induction p with
  | nil => simp
  | cons a p ih =>
    constructor
    · intro h; simp [eqv] at h; simp [h.1, ih.1 h.2]
    · intro h; simp [eqv] at h; simp [h.1, ih.2 h.2]

theorem eval_eqv [DecidableEq K] (p q : Poly K) (x : K) (h : eqv p q = true) : eval p x = eval q x := by
  induction p generalizing q with
  | nil => rw [(eval_eqv_nil q x).2 h]; rfl
  | cons a p ih =>
    cases q with
    | nil => rw [(eval_eqv_nil (a :: p) x).1 h]; rfl
    | cons b q => simp [eqv] at h; simp [h.1, ih q h.2]
end Poly

/-! ### the checker -/

theorem sumCof_eval [DecidableEq K] (A : Poly K) (s : K) (hA : Poly.eval A s ≠ 0) :
    ∀ (R : List (K × K × Nat)) (cs : List (Poly K)), checkCofs A R cs = true →
      Poly.eval (sumCof R cs) s = Poly.eval A s * sumPF R s := by
  intro R
  induction R with
  | nil => intro cs _; cases cs <;> simp [sumCof, sumPF]
  | cons x R ih =>
    intro cs h
    obtain ⟨r, p, o⟩ := x
    cases cs with
    | nil => simp [checkCofs] at h
    | cons c cs =>
      simp only [checkCofs, Bool.and_eq_true] at h
      have h1 := Poly.eval_eqv _ _ s h.1
      rw [Poly.eval_mul, Poly.eval_linPow] at h1
      have hp : (s - p) ^ o ≠ 0 := by
        intro h0; rw [h0, mul_zero] at h1; exact hA h1.symm
      simp only [sumCof, sumPF, Poly.eval_add, Poly.eval_smul, ih cs h.2, pw_eq]
      rw [← h1]; field_simp

/-- the checker also certifies that no listed pole is a zero of anything but `A` -/
theorem pf_check_nonpole [DecidableEq K] (A : Poly K) (s : K) (hA : Poly.eval A s ≠ 0) :
    ∀ (R : List (K × K × Nat)) (cs : List (Poly K)), checkCofs A R cs = true →
      ∀ x ∈ R, 0 < x.2.2 → s - x.2.1 ≠ 0 := by
  intro R
  induction R with
  | nil => intro cs _ x hx; simp at hx
  | cons y R ih =>
    intro cs h x hx ho
    obtain ⟨r, p, o⟩ := y
    cases cs with
    | nil => simp [checkCofs] at h
    | cons c cs =>
      simp only [checkCofs, Bool.and_eq_true] at h
      rcases List.mem_cons.mp hx with rfl | hx'
      · have h1 := Poly.eval_eqv _ _ s h.1
        rw [Poly.eval_mul, Poly.eval_linPow] at h1
        intro h0
        simp only at h0 ho
        rw [h0, zero_pow (Nat.pos_iff_ne_zero.mp ho), mul_zero] at h1
        exact hA h1.symm
      · exact ih cs h.2 x hx' ho

/-! ### transform of the synthesised time function -/

variable (E : K → K)

theorem L_iltQ (T s : K) (q : Poly K) (n : Nat) :
    L E (iltQ T n q) s = E (-(s * T)) * (s ^ n * Poly.eval q s) := by
  induction q generalizing n with
  | nil => simp [iltQ]
  | cons c q ih => simp [iltQ, Term.L, pw_eq, ih (n + 1)]; ring

theorem L_iltR (T s : K) (R : List (K × K × Nat)) (ho : ∀ x ∈ R, 0 < x.2.2) :
    L E (iltR T R) s = E (-(s * T)) * sumPF R s := by
  induction R with
  | nil => simp [iltR, sumPF]
  | cons x R ih =>
    obtain ⟨r, p, o⟩ := x
    have h1 : o - 1 + 1 = o := Nat.sub_add_cancel (ho (r, p, o) (by simp))
    have := ih (fun y hy => ho y (by simp [hy]))
    simp only [iltR, List.map_cons, L_cons, Term.L, sumPF, pw_eq, h1] at this ⊢
    rw [this]; ring

theorem ilt_laplace' (pf : PF K) (s : K) (ho : ∀ x ∈ pf.R, 0 < x.2.2) :
    L E (ilt pf) s = evalPF E pf s := by
  simp only [ilt, evalPF, L_append, L_iltQ, L_iltR E pf.T s pf.R ho]; ring

theorem L_cosSin {J : K} (hJ : J * J = -1) (h20 : (1 + 1 : K) ≠ 0) (Ac As al om T s : K)
    (h1 : s - (-al + J * om) ≠ 0) (h2 : s - (-al - J * om) ≠ 0) :
    L E (cosSin J Ac As al om T) s
      = E (-(s * T)) * ((Ac * (s + al) + As * om) / ((s + al) ^ 2 + om ^ 2)) := by
  have hJ0 : J ≠ 0 := by intro h; rw [h] at hJ; simp at hJ
  rw [cosSin, L_conj_pair E hJ _ _ _ _ _ _ h1 h2, show om * om + (s - -al) * (s - -al) = (s + al) ^ 2 + om ^ 2 by ring]
  congr 2
  field_simp
  ring

/-- the conjugate-pair combination of `ratfun` has the transform of the two partial fractions it replaces
    (no conjugacy of `r, rc` is needed, only `p ≠ pc`) -/
theorem conj_pair_combine' [DecidableEq K] {J : K} (hJ : J * J = -1) (h20 : (1 + 1 : K) ≠ 0)
    (r rc p pc T s : K) (hp : p ≠ pc) (h1 : s - p ≠ 0) (h2 : s - pc ≠ 0) :
    L E (conjPair J r rc p pc T) s = E (-(s * T)) * (r / (s - p) + rc / (s - pc)) := by
  have hJ0 : J ≠ 0 := by intro h; rw [h] at hJ; simp at hJ
  have hpp : p - pc ≠ 0 := sub_ne_zero.mpr hp
  have hom : -(p - pc) / ((1 + 1) * J) ≠ 0 := by
    apply div_ne_zero (neg_ne_zero.mpr hpp) (mul_ne_zero h20 hJ0)
  have e1 : -(-(p + pc) / (1 + 1)) + J * (-(p - pc) / ((1 + 1) * J)) = pc := by field_simp; ring
  have e2 : -(-(p + pc) / (1 + 1)) - J * (-(p - pc) / ((1 + 1) * J)) = p := by field_simp; ring
  have hden : (s + -(p + pc) / (1 + 1)) ^ 2 + (-(p - pc) / ((1 + 1) * J)) ^ 2 = (s - p) * (s - pc) := by
    field_simp
    linear_combination ((p - pc) ^ 2) * hJ
  unfold conjPair
  simp only
  split
  · rename_i hb
    rw [L_cosSin E hJ h20 _ _ _ _ _ _ (by rw [e1]; exact h2) (by rw [e2]; exact h1), hden]
    congr 1
    have hrc : rc = -r := by linear_combination hb
    subst hrc
    field_simp
    ring
  · rw [L_cosSin E hJ h20 _ _ _ _ _ _ (by rw [e1]; exact h2) (by rw [e2]; exact h1), hden]
    congr 1
    field_simp
    ring

/-! ### the residue loop -/

section loop
variable [DecidableEq K]

theorem sumPF_erase (s : K) (R : List (K × K × Nat)) (x : K × K × Nat) (hx : x ∈ R) :
    sumPF R s = x.1 / pw (s - x.2.1) x.2.2 + sumPF (R.erase x) s := by
  induction R with
  | nil => simp at hx
  | cons y R ih =>
    by_cases hxy : y = x
    · subst hxy; obtain ⟨r, p, o⟩ := y; simp [sumPF]
    · have hx' : x ∈ R := by
        rcases List.mem_cons.mp hx with h | h
        · exact absurd h.symm hxy
        · exact h
      obtain ⟨r, p, o⟩ := y
      have : ((r, p, o) :: R).erase x = (r, p, o) :: R.erase x := by
        rw [List.erase_cons_tail]; simpa using hxy
      rw [this]; simp only [sumPF, ih hx']; ring

/-- the whole residue loop of `ratfun`: when the partner search only accepts first-order entries
    (`Gen.conjPartnerMustBeSimple`), its output has the transform `e^{−sT} Σ r/(s−p)^o`. -/
theorem ratfun_loop_sound' (hflag : Gen.conjPartnerMustBeSimple = true) {J : K} (hJ : J * J = -1)
    (h20 : (1 + 1 : K) ≠ 0) (conj : K → K) (T s : K) :
    ∀ (fuel : Nat) (R : List (K × K × Nat)), R.length ≤ fuel → (∀ x ∈ R, 0 < x.2.2) → (∀ x ∈ R, s - x.2.1 ≠ 0) →
      L E (ratfunLoop J conj T fuel R) s = E (-(s * T)) * sumPF R s := by
  intro fuel
  induction fuel with
  | zero =>
    intro R hl _ _
    have : R = [] := List.eq_nil_of_length_eq_zero (Nat.le_zero.mp hl)
    subst this; simp [ratfunLoop, sumPF]
  | succ fuel ih =>
    intro R hl ho hn
    cases R with
    | nil => simp [ratfunLoop, sumPF]
    | cons y R =>
      obtain ⟨r, p, o⟩ := y
      have hl' : R.length ≤ fuel := by simpa using hl
      have ho' : ∀ x ∈ R, 0 < x.2.2 := fun x hx => ho x (by simp [hx])
      have hn' : ∀ x ∈ R, s - x.2.1 ≠ 0 := fun x hx => hn x (by simp [hx])
      have hp : s - p ≠ 0 := hn (r, p, o) (by simp)
      have hop : 0 < o := ho (r, p, o) (by simp)
      simp only [ratfunLoop]
      split
      · rename_i ho1
        subst ho1
        split
        · rename_i rc pc oc hfind
          have hmem : (rc, pc, oc) ∈ R := List.mem_of_find?_eq_some hfind
          have hprop := List.find?_some hfind
          simp only [hflag, Bool.not_true, Bool.or_false, decide_eq_true_eq, Bool.and_eq_true, Bool.decide_and] at hprop
          obtain ⟨hpc, hne, hoc⟩ := hprop
          have hoc1 : oc = 1 := by rcases hoc with h | h; exact h; exact absurd h (by simp)
          subst hoc1
          have hpc' : s - pc ≠ 0 := hn' _ hmem
          rw [L_append, conj_pair_combine' E hJ h20 r rc p pc T s (Ne.symm hne) hp hpc',
            ih (R.erase (rc, pc, 1)) (by
              have := List.length_erase_of_mem hmem; omega)
              (fun x hx => ho' x (List.mem_of_mem_erase hx)) (fun x hx => hn' x (List.mem_of_mem_erase hx))]
          rw [show sumPF ((r, p, 1) :: R) s = r / pw (s - p) 1 + sumPF R s from rfl,
            sumPF_erase s R (rc, pc, 1) hmem]
          simp [pw]; ring
        · rw [L_cons, ih R hl' ho' hn']
          simp [Term.L, sumPF, pw]; ring
      · rw [L_cons, ih R hl' ho' hn']
        have : o - 1 + 1 = o := Nat.sub_add_cancel hop
        simp only [Term.L, sumPF, pw_eq, this]; ring
end loop

/-! ### causality bookkeeping -/

/-- depends on the GENERATED flag `Gen.makeGuardOnlyIfNotCausal` (the `if not kwargs.get('causal', False)` around the
    Piecewise in the source of `make`): without that condition in the source this fails -/
theorem make_causal' [DecidableEq K] (parts : List (ExpPoly K × ExpPoly K)) :
    (makeModel true parts).guarded = false := by
  simp [makeModel, show Gen.makeGuardOnlyIfNotCausal = true from rfl]

/-! ### classical derivative of a regular undelayed signal -/

/-- regular (no impulses), undelayed -/
def Regular0 (f : ExpPoly K) : Prop := NoDelta f ∧ ∀ t ∈ f, t.delayOf = 0

theorem L_derivC [DecidableEq K] (hE : IsExp E) (f : ExpPoly K) (s : K) (hn : NonPole f s) (hr : Regular0 f) :
    L E (derivC f) s = s * L E f s - val0plus f := by
  obtain ⟨hd, h0⟩ := hr
  rw [← L_deriv E s f hn]
  induction f with
  | nil => simp [deriv, derivC, val0plus]
  | cons t f ih =>
    have ih' := ih (NonPole.cons hn).2 (fun x hx => hd x (by simp [hx])) (fun x hx => h0 x (by simp [hx]))
    simp only [derivC, deriv, List.flatMap_cons, L_append, List.filter_append] at ih' ⊢
    rw [ih']
    cases t with
    | dl c n d => exact absurd (hd (.dl c n d) (by simp)) (by simp)
    | ep c k p d =>
      have hd0 : d = 0 := h0 (.ep c k p d) (by simp)
      subst hd0
      cases k with
      | zero => simp [Term.deriv, val0plus, List.filter, Term.isEp, Term.L, pw, hE.zero]; ring
      | succ k => simp [Term.deriv, val0plus, List.filter, Term.isEp]; ring

end Lcapy.Laplace
