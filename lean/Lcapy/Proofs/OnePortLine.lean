/-
  Helper lemmas for C07: the executable spec evaluator `Net.line` (Spec/OnePortExec.lean) is
  exact -- series / parallel composition of lines and of the empty relation.
-/
import Lcapy.Spec.OnePortExec
import Lcapy.Proofs.OnePort
namespace Lcapy.OnePort
variable {K : Type} [Field K] [DecidableEq K]

omit [DecidableEq K] in
theorem solve_a {a b c i : K} (h : a ≠ 0) : a * ((c - b * i) / a) + b * i = c := by
  rw [mul_div_cancel₀ _ h, sub_add_cancel]

theorem serLine_exact (o1 o2 : Option (Line K)) (R1 R2 : K → K → Prop)
    (h1 : Describes o1 R1) (h2 : Describes o2 R2) : Describes (serLine o1 o2) (SerRel R1 R2) := by
  cases o1 with
  | none => intro v i ⟨v1, v2, a, _, _⟩; exact h1 v1 i a
  | some p =>
    cases o2 with
    | none => intro v i ⟨v1, v2, _, b, _⟩; exact h2 v2 i b
    | some q =>
      obtain ⟨np, hp⟩ := h1
      obtain ⟨nq, hq⟩ := h2
      simp only [serLine]
      by_cases pa : p.a = 0
      · have pb : p.b ≠ 0 := np.resolve_left (not_not.mpr pa)
        by_cases qa : q.a = 0
        · have qb : q.b ≠ 0 := nq.resolve_left (not_not.mpr qa)
          -- two current sources in series: the same current, or nothing
          by_cases hc : p.c * q.b = q.c * p.b
          · rw [if_pos pa, if_pos qa, if_pos hc]
            refine ⟨Or.inr pb, fun v i => ?_⟩
            simp only [SerRel, hp, hq, pa, qa, zero_mul, zero_add]
            constructor
            · rintro ⟨_, _, h, _, _⟩; exact h
            · intro h; exact ⟨v, 0, h, mul_left_cancel₀ pb (by linear_combination q.b * h + hc), (add_zero v).symm⟩
          · rw [if_pos pa, if_pos qa, if_neg hc]
            intro v i ⟨v1, v2, a, b, _⟩
            rw [hp, pa] at a; rw [hq, qa] at b
            apply hc; linear_combination -q.b * a + p.b * b
        · rw [if_pos pa, if_neg qa]
          refine ⟨Or.inr pb, fun v i => ?_⟩
          simp only [SerRel, hp, hq, pa, zero_mul, zero_add]
          constructor
          · rintro ⟨_, _, h, _, _⟩; exact h
          · intro h; exact ⟨v - (q.c - q.b * i) / q.a, (q.c - q.b * i) / q.a, h, solve_a qa, (sub_add_cancel _ _).symm⟩
      · by_cases qa : q.a = 0
        · have qb : q.b ≠ 0 := nq.resolve_left (not_not.mpr qa)
          rw [if_neg pa, if_pos qa]
          refine ⟨Or.inr qb, fun v i => ?_⟩
          simp only [SerRel, hp, hq, qa, zero_mul, zero_add]
          constructor
          · rintro ⟨_, _, _, h, _⟩; exact h
          · intro h; exact ⟨(p.c - p.b * i) / p.a, v - (p.c - p.b * i) / p.a, solve_a pa, h, (add_sub_cancel _ _).symm⟩
        · rw [if_neg pa, if_neg qa]
          refine ⟨Or.inl (mul_ne_zero pa qa), fun v i => ?_⟩
          simp only [SerRel, hp, hq]
          constructor
          · rintro ⟨v1, v2, a, b, rfl⟩; linear_combination q.a * a + p.a * b
          · intro h
            refine ⟨(p.c - p.b * i) / p.a, v - (p.c - p.b * i) / p.a, solve_a pa, ?_, (add_sub_cancel _ _).symm⟩
            have hX : p.a * ((p.c - p.b * i) / p.a) = p.c - p.b * i := mul_div_cancel₀ _ pa
            apply mul_left_cancel₀ pa
            linear_combination h - q.a * hX

/-- exchange the roles of voltage and current -/
def Line.swap (l : Line K) : Line K := ⟨l.b, l.a, l.c⟩

omit [DecidableEq K] in
theorem describes_swap {o : Option (Line K)} {R : K → K → Prop} (h : Describes o R) :
    Describes (o.map Line.swap) (fun i v => R v i) := by
  cases o with
  | none => exact fun i v => h v i
  | some l => exact ⟨h.1.symm, fun i v => (h.2 v i).trans (by rw [add_comm]; rfl)⟩

theorem parLine_eq_swap (o1 o2 : Option (Line K)) :
    parLine o1 o2 = (serLine (o1.map Line.swap) (o2.map Line.swap)).map Line.swap := by
  cases o1 <;> cases o2 <;> try rfl
  simp only [parLine, serLine, Option.map, Line.swap]
  split_ifs <;> rfl

/-- the parallel rule is the series rule with voltage and current exchanged -/
theorem parLine_exact (o1 o2 : Option (Line K)) (R1 R2 : K → K → Prop)
    (h1 : Describes o1 R1) (h2 : Describes o2 R2) : Describes (parLine o1 o2) (ParRel R1 R2) := by
  have := describes_swap (serLine_exact _ _ _ _ (describes_swap h1) (describes_swap h2))
  rw [parLine_eq_swap]
  exact this

omit [DecidableEq K] in
theorem IsThev.describes {R : K → K → Prop} {E Z : K} (h : IsThev R E Z) : Describes (some ⟨1, -Z, E⟩) R :=
  ⟨Or.inl one_ne_zero, fun v i => (h v i).trans ⟨fun e => by linear_combination e, fun e => by linear_combination e⟩⟩

omit [DecidableEq K] in
theorem IsNort.describes {R : K → K → Prop} {J Y : K} (h : IsNort R J Y) : Describes (some ⟨Y, -1, J⟩) R :=
  ⟨Or.inr (neg_ne_zero.mpr one_ne_zero),
    fun v i => (h v i).trans ⟨fun e => by linear_combination -e, fun e => by linear_combination -e⟩⟩

theorem leaf_line_exact (s : K) (l : Leaf K) : Describes (l.line s) (l.rel s) := by
  have hR := fun r : K => (relR_thev r).describes
  have hL := fun (l : K) i0 => (relL_thev s l i0).describes
  have hC := fun (c : K) v0 => (relC_nort s c v0).describes
  cases l with
  | R r => exact hR r
  | G g => exact (adm_nort g).describes
  | L l i0 => exact hL l i0
  | C c v0 => exact hC c v0
  | Y y => exact (adm_nort y).describes
  | Z z => exact hR z
  | V k e => exact ⟨Or.inl one_ne_zero, fun v i => by simp only [Leaf.rel, one_mul, zero_mul, add_zero]⟩
  | I k j => exact ⟨Or.inr one_ne_zero, fun v i => by simp only [Leaf.rel, one_mul, zero_mul, zero_add]⟩
  | CPE k a => exact (adm_nort _).describes
  | Xtal c0 r1 l1 c1 =>
    exact parLine_exact _ _ _ _ (serLine_exact _ _ _ _ (serLine_exact _ _ _ _ (hR r1) (hL l1 none)) (hC c1 none)) (hC c0 none)
  | FB rs rp cp lp =>
    exact serLine_exact _ _ _ _ (hR rs) (parLine_exact _ _ _ _ (parLine_exact _ _ _ _ (hR rp) (hL lp none)) (hC cp none))

omit [DecidableEq K] in
/-- the line a·v + b·i = c is the Thévenin line v = Voc + Z·i iff it is not vertical and passes through the points
    i = 0 and i = 1 of that line -/
theorem line_eq_thev (a b c Z Voc : K) :
    (a ≠ 0 ∧ a * Voc = c ∧ a * Z + b = 0) ↔ ∀ v i, a * v + b * i = c ↔ v = Voc + Z * i := by
  constructor
  · rintro ⟨ha, hv, hz⟩ v i
    constructor
    · intro h; exact mul_left_cancel₀ ha (by linear_combination h - hv - i * hz)
    · rintro rfl; linear_combination hv + i * hz
  · intro h
    have e0 : a * Voc = c := by have := (h _ 0).mpr rfl; linear_combination this
    have e1 : a * Z + b = 0 := by have := (h _ 1).mpr rfl; linear_combination this - e0
    refine ⟨fun ha => ?_, e0, e1⟩
    have := (h (Voc + 1) 0).mp (by rw [ha] at e0 e1 ⊢; linear_combination e0)
    exact one_ne_zero (by linear_combination this)

end Lcapy.OnePort
