/-
  C17 -- helper lemmas for the model of `Expr.evaluate`'s `limit` fallbacks (Model/EvalLimit.lean):
  synthetic division by (t - a), cancellation of the common power of (t - a), and the shape of `limitAt`.
  Everything over `Rat`, for ALL coefficient lists / points.
-/
import Mathlib.Tactic.Ring
import Mathlib.Tactic.FieldSimp
import Mathlib.Tactic.Linarith
import Mathlib.Tactic.NormNum
import Mathlib.Algebra.Field.Basic
import Mathlib.Algebra.Order.Field.Rat
import Lcapy.Model.EvalLimit

namespace Lcapy.EvalLimit
open Lcapy.DT (peval)
open Lcapy.Evaluate (Out)

/-! ### polynomial evaluation (local copies of the two one-liners of Proofs/DT2, at K = Rat) -/

theorem pevalQ_nil (w : Rat) : peval ([] : List Rat) w = 0 := rfl
theorem pevalQ_cons (c : Rat) (p : List Rat) (w : Rat) : peval (c :: p) w = c + w * peval p w := rfl

/-! ### synthetic division -/

theorem divLin_nil (a : Rat) : divLin [] a = ([], 0) := rfl
theorem divLin_cons (c : Rat) (p : List Rat) (a : Rat) :
    divLin (c :: p) a = ((divLin p a).2 :: (divLin p a).1, c + a * (divLin p a).2) := rfl

/-- `p(t) = (t - a) * quot(t) + rem` at every t -/
theorem divLin_eval (p : List Rat) (a t : Rat) :
    peval p t = (t - a) * peval (divLin p a).1 t + (divLin p a).2 := by
  induction p with
  | nil => simp [divLin_nil, pevalQ_nil]
  | cons c p ih =>
    rw [divLin_cons, pevalQ_cons, pevalQ_cons, ih]
    ring

/-- the remainder is the value at a -/
theorem divLin_rem_eq (p : List Rat) (a : Rat) : (divLin p a).2 = peval p a := by
  have h := divLin_eval p a a
  rw [sub_self, zero_mul, zero_add] at h
  exact h.symm

/-- the quotient list keeps the length (its top coefficient is a padding zero) -/
theorem divLin_length (p : List Rat) (a : Rat) : (divLin p a).1.length = p.length := by
  induction p with
  | nil => rfl
  | cons c p ih => rw [divLin_cons]; simp [ih]

/-- at a root the division is exact -/
theorem divLin_exact (p : List Rat) (a t : Rat) (h : peval p a = 0) :
    peval p t = (t - a) * peval (divLin p a).1 t := by
  have := divLin_eval p a t
  rw [divLin_rem_eq, h, add_zero] at this
  exact this

/-! ### cancellation -/

theorem cancelAt_zero (p q : List Rat) (a : Rat) : cancelAt 0 p q a = (p, q) := rfl

theorem cancelAt_succ (n : Nat) (p q : List Rat) (a : Rat) :
    cancelAt (n + 1) p q a =
      if peval p a = 0 ∧ peval q a = 0 ∧ q.length > 1 then cancelAt n (divLin p a).1 (divLin q a).1 a else (p, q) := rfl

/-- nothing is cancelled unless numerator and denominator both vanish at a -/
theorem cancelAt_of_not (n : Nat) (p q : List Rat) (a : Rat) (h : ¬ (peval p a = 0 ∧ peval q a = 0 ∧ q.length > 1)) :
    cancelAt n p q a = (p, q) := by
  cases n with
  | zero => rfl
  | succ n => rw [cancelAt_succ, if_neg h]

/-! ### `limitAt` -/

theorem limitAt_eq_some (p q : List Rat) (a v : Rat) :
    limitAt p q a = some v ↔
      peval (cancelAt q.length p q a).2 a ≠ 0 ∧
        v = peval (cancelAt q.length p q a).1 a / peval (cancelAt q.length p q a).2 a := by
  unfold limitAt
  simp only
  split_ifs with h
  · simp [h]
  · simp only [Option.some.injEq, ne_eq, h, not_false_eq_true, true_and]
    exact eq_comm

/-- a genuine pole (numerator non-zero, denominator zero): SymPy's limit is ±oo -/
theorem limitAt_pole (p q : List Rat) (a : Rat) (hp : peval p a ≠ 0) (hq : peval q a = 0) : limitAt p q a = none := by
  unfold limitAt
  simp only [cancelAt_of_not _ p q a fun h => hp h.1, hq, if_true]

/-- at a regular point the limit is the value -/
theorem limitAt_regular (p q : List Rat) (a : Rat) (hq : peval q a ≠ 0) :
    limitAt p q a = some (peval p a / peval q a) := by
  unfold limitAt
  simp only [cancelAt_of_not _ p q a fun h => hq h.2.1, if_neg hq]

theorem outOfLimit_eq_val (o : Option Rat) (v : Rat) : outOfLimit o = .val v ↔ o = some v := by
  cases o <;> simp [outOfLimit]

/-! ### `evalRatfun` unfolded by cases -/

theorem evalRatfun_regular (pyFloat : Bool) (p q : List Rat) (x : Rat) (hq : peval q x ≠ 0) :
    evalRatfun pyFloat p q x = (.direct, .val (peval p x / peval q x)) := by
  unfold evalRatfun
  rw [if_pos hq]

theorem evalRatfun_scalar_zero (p q : List Rat) (x : Rat) (hq : peval q x = 0) :
    evalRatfun true p q x = (.zeroDivLimit, outOfLimit (limitAt p q x)) := by
  unfold evalRatfun
  rw [if_neg (not_not.mpr hq)]
  rfl

theorem evalRatfun_array_nan (p q : List Rat) (x : Rat) (hq : peval q x = 0) (hp : peval p x = 0) :
    evalRatfun false p q x = (.nanLimit, outOfLimit (limitAt p q x)) := by
  unfold evalRatfun
  rw [if_neg (not_not.mpr hq)]
  simp [hp]

theorem evalRatfun_array_inf (p q : List Rat) (x : Rat) (hq : peval q x = 0) (hp : peval p x ≠ 0) :
    evalRatfun false p q x = (.infSimplifyLimit, .other) := by
  unfold evalRatfun
  rw [if_neg (not_not.mpr hq)]
  simp [hp]

end Lcapy.EvalLimit
