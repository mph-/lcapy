/-
  Helper lemmas for C07: the n-ary scan of `ParSer.simplify` preserves the relation.
    * the relation of a Ser / Par argument list is a congruence, is invariant under exchanging
      neighbours, and is associative (nesting / splicing of a same-class sub-list);
    * `absorb` (inner loop) and `scan` (outer loop) preserve it, by induction over the list / fuel;
    * one step of `flatten` (first loop of `simplify`) and the tail of `simplify` preserve it.
-/
import Lcapy.Proofs.OnePortSimplify
import Lcapy.Model.OnePortGuard
namespace Lcapy.OnePort
set_option linter.unusedSectionVars false
variable {K : Type} [Field K] [DecidableEq K]

/-- relation of an argument list under `op` -/
def relArgs (s : K) (op : Op) (l : List (Net K)) : K → K → Prop :=
  match op with
  | .ser => relSer s l
  | .par => relPar s l

theorem mk_rel (s : K) (op : Op) (l : List (Net K)) : (mk op l).rel s = relArgs s op l := by
  cases op <;> rfl

theorem relArgs_cons (s : K) (op : Op) (a : Net K) (t : List (Net K)) :
    relArgs s op (a :: t) = match op with
      | .ser => SerRel (a.rel s) (relArgs s .ser t)
      | .par => ParRel (a.rel s) (relArgs s .par t) := by
  cases op <;> rfl

/-! ### the list-level facts, for both classes -/

theorem relArgs_congr_tail (s : K) (op : Op) (a : Net K) {t t' : List (Net K)} (h : REq (relArgs s op t) (relArgs s op t')) :
    REq (relArgs s op (a :: t)) (relArgs s op (a :: t')) := by
  cases op
  · exact SerRel_congr (REq.refl _) h
  · exact ParRel_congr (REq.refl _) h

theorem relArgs_congr_head (s : K) (op : Op) {a a' : Net K} (t : List (Net K)) (h : REq (a.rel s) (a'.rel s)) :
    REq (relArgs s op (a :: t)) (relArgs s op (a' :: t)) := by
  cases op
  · exact SerRel_congr h (REq.refl _)
  · exact ParRel_congr h (REq.refl _)

theorem relArgs_swap (s : K) (op : Op) (a b : Net K) (t : List (Net K)) :
    REq (relArgs s op (a :: b :: t)) (relArgs s op (b :: a :: t)) := by
  cases op
  · exact ((SerRel_assoc _ _ _).trans (SerRel_congr (SerRel_comm _ _) (REq.refl _))).trans (SerRel_assoc _ _ _).symm
  · exact ((ParRel_assoc _ _ _).trans (ParRel_congr (ParRel_comm _ _) (REq.refl _))).trans (ParRel_assoc _ _ _).symm

theorem relArgs_singleton (s : K) (op : Op) (x : Net K) : REq (relArgs s op [x]) (x.rel s) := by
  cases op
  · exact SerRel_zero_right _
  · exact ParRel_zero_right _

/-- splicing the arguments of a nested network of the same class (the flattening of `simplify`) -/
theorem relArgs_append (s : K) (op : Op) (xs r : List (Net K)) :
    REq (relArgs s op (xs ++ r)) (relArgs s op (mk op xs :: r)) := by
  induction xs with
  | nil =>
    cases op
    · intro v i
      simp only [List.nil_append, relArgs, relSer, mk, Net.rel, SerRel]
      constructor
      · intro h; exact ⟨0, v, rfl, h, by ring⟩
      · rintro ⟨v1, v2, rfl, h2, rfl⟩; simpa using h2
    · intro v i
      simp only [List.nil_append, relArgs, relPar, mk, Net.rel, ParRel]
      constructor
      · intro h; exact ⟨0, i, rfl, h, by ring⟩
      · rintro ⟨v1, v2, rfl, h2, rfl⟩; simpa using h2
  | cons x xs ih =>
    cases op
    · have : REq (relArgs s .ser (x :: (xs ++ r))) (SerRel (x.rel s) (SerRel (relArgs s .ser xs) (relArgs s .ser r))) :=
        SerRel_congr (REq.refl _) ih
      exact this.trans (SerRel_assoc _ _ _)
    · have : REq (relArgs s .par (x :: (xs ++ r))) (ParRel (x.rel s) (ParRel (relArgs s .par xs) (relArgs s .par r))) :=
        ParRel_congr (REq.refl _) ih
      exact this.trans (ParRel_assoc _ _ _)

theorem bind_ok {ε α β : Type} {x : Except ε α} {f : α → Except ε β} {b : β} (h : x >>= f = .ok b) :
    ∃ a, x = .ok a ∧ f a = .ok b := by
  cases x with
  | error e => cases h
  | ok a => exact ⟨a, rfl, h⟩

theorem relArgs_skip (s : K) (op : Op) (n : Net K) {a a' : Net K} {t t' : List (Net K)}
    (h : REq (relArgs s op (a :: t)) (relArgs s op (a' :: t'))) :
    REq (relArgs s op (a :: n :: t)) (relArgs s op (a' :: n :: t')) :=
  ((relArgs_swap s op _ _ t).trans (relArgs_congr_tail s op n h)).trans (relArgs_swap s op _ _ t')

/-! ### `_combine` on the head pair -/

theorem combGuardB_sound (s : K) (op : Op) (a b : Leaf K) (h : combGuardB s op a b = true) : combGuard s op a b := by
  unfold combGuard
  unfold combGuardB at h
  split <;> simp only [Bool.and_eq_true, decide_eq_true_eq, and_assoc] at h ⊢ <;> exact h

/-! ### inner loop -/

theorem absorb_sound (s : K) (op : Op) : ∀ (l : List (Net K)) (acc acc' : Leaf K) (l' : List (Net K)) (ch : Bool),
    absorb op acc l = .ok (acc', l', ch) → absorbGuard s op acc l = true →
    REq (relArgs s op (.leaf acc :: l)) (relArgs s op (.leaf acc' :: l'))
  | [], acc, acc', l', ch, h, _ => by cases h; exact REq.refl _
  | .leaf x :: t, acc, acc', l', ch, h, hg => by
      simp only [absorb] at h
      simp only [absorbGuard] at hg
      cases hc : combine op acc x with
      | error e => simp [hc] at h
      | one y =>
        simp only [hc, Bool.and_eq_true] at h hg
        obtain ⟨⟨a2, t2, c2⟩, hr, h⟩ := bind_ok h
        cases h
        exact ((relArgs_append s op [.leaf acc, .leaf x] t).trans
          (relArgs_congr_head s op t (combine_pair_sound s op acc x y hc (combGuardB_sound s op acc x hg.1)))).trans
          (absorb_sound s op t y _ _ c2 hr hg.2)
      | none =>
        simp only [hc] at h hg
        obtain ⟨⟨a2, t2, c2⟩, hr, h⟩ := bind_ok h
        cases h
        exact relArgs_skip s op _ (absorb_sound s op t acc _ _ _ hr hg)
  | .ser as :: t, acc, acc', l', ch, h, hg => by
      obtain ⟨⟨a2, t2, c2⟩, hr, h⟩ := bind_ok h
      cases h
      exact relArgs_skip s op _ (absorb_sound s op t acc _ _ _ hr hg)
  | .par as :: t, acc, acc', l', ch, h, hg => by
      obtain ⟨⟨a2, t2, c2⟩, hr, h⟩ := bind_ok h
      cases h
      exact relArgs_skip s op _ (absorb_sound s op t acc _ _ _ hr hg)
/-! ### outer loop -/

theorem scan_sound (s : K) (op : Op) : ∀ (f : Nat) (l l' : List (Net K)) (ch : Bool),
    scan op f l = .ok (l', ch) → scanGuard s op f l = true → REq (relArgs s op l) (relArgs s op l')
  | 0, l, l', ch, h, _ => by cases h; exact REq.refl _
  | f + 1, [], l', ch, h, _ => by cases h; exact REq.refl _
  | f + 1, .leaf a :: t, l', ch, h, hg => by
      simp only [scanGuard, Bool.and_eq_true] at hg
      obtain ⟨⟨a2, t2, c2⟩, hr, h⟩ := bind_ok h
      obtain ⟨⟨rest, c3⟩, hs, h⟩ := bind_ok h
      cases h
      rw [hr] at hg
      exact (absorb_sound s op t a a2 t2 c2 hr hg.1).trans
        (relArgs_congr_tail s op (.leaf a2) (scan_sound s op f t2 rest c3 hs hg.2))
  | f + 1, .ser as :: t, l', ch, h, hg => by
      obtain ⟨⟨rest, c3⟩, hs, h⟩ := bind_ok h
      cases h
      exact relArgs_congr_tail s op _ (scan_sound s op f t _ _ hs hg)
  | f + 1, .par as :: t, l', ch, h, hg => by
      obtain ⟨⟨rest, c3⟩, hs, h⟩ := bind_ok h
      cases h
      exact relArgs_congr_tail s op _ (scan_sound s op f t _ _ hs hg)

/-- one step of the flattening loop on a nested argument, given what it does to the head and to the tail -/
theorem flatten_step (s : K) (op : Op) (n n' : Net K) (t r flat : List (Net K)) (new : Bool)
    (h : (match op, n' with
      | .ser, .ser xs => pure (xs ++ r, true)
      | .par, .par xs => pure (xs ++ r, true)
      | _, _ => pure (n' :: r, true) : Except String (List (Net K) × Bool)) = .ok (flat, new))
    (hhead : REq (n.rel s) (n'.rel s)) (htail : REq (relArgs s op t) (relArgs s op r)) :
    REq (relArgs s op (n :: t)) (relArgs s op flat) := by
  have hmid := (relArgs_congr_head s op t hhead).trans (relArgs_congr_tail s op n' htail)
  split at h <;> cases h
  · exact hmid.trans (relArgs_append s .ser _ r).symm
  · exact hmid.trans (relArgs_append s .par _ r).symm
  · exact hmid

/-! ### the tail of `simplify` -/

/-- the part of `simplify` after the flattening loop: constructor check, scan, rebuild -/
theorem simplify_finish (s : K) (op : Op) (flat : List (Net K)) (new : Bool) (m : Net K)
    (h : (do
        if new then ctorCheck op flat
        let (args, ch) ← scan op flat.length flat
        if ch then
          match args with
          | [x] => pure x
          | _ => do ctorCheck op args; pure (mk op args)
        else pure (mk op flat) : Except String (Net K)) = .ok m)
    (hg : scanGuard s op flat.length flat = true) : REq (relArgs s op flat) (m.rel s) := by
  -- the constructor check in front yields nothing
  replace h : (do
        let (args, ch) ← scan op flat.length flat
        if ch then
          match args with
          | [x] => pure x
          | _ => do ctorCheck op args; pure (mk op args)
        else pure (mk op flat) : Except String (Net K)) = .ok m := by
    cases new
    · exact h
    · exact (bind_ok h).choose_spec.2
  obtain ⟨⟨args, ch⟩, hs, h⟩ := bind_ok h
  have hscan := scan_sound s op flat.length flat args ch hs hg
  cases ch
  · cases h; rw [mk_rel]; exact REq.refl _
  · simp only [if_true] at h
    split at h
    · cases h; exact hscan.trans (relArgs_singleton s op _)
    · obtain ⟨_, _, h⟩ := bind_ok h
      cases h; rw [mk_rel]; exact hscan

end Lcapy.OnePort
