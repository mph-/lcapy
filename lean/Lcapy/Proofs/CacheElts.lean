/- C16: helper lemmas on the element dictionary and its incidence counters (core Lean only). -/
import Lcapy.Proofs.CacheTab
namespace Lcapy.Cache

theorem findElt_none (E : List Elt) (nm : String) : findElt E nm = none ↔ ∀ x ∈ E, x.name ≠ nm := by
  induction E with
  | nil => simp [findElt]
  | cons x xs ih =>
    unfold findElt at ih ⊢
    by_cases hx : x.name = nm <;> simp [List.find?, hx, ih]

theorem findElt_some_mem (E : List Elt) (nm : String) (e : Elt) (h : findElt E nm = some e) : e ∈ E ∧ e.name = nm := by
  unfold findElt at h
  have h1 := List.mem_of_find?_eq_some h
  have h2 := List.find?_some h
  simp at h2
  exact ⟨h1, h2⟩

theorem upsert_new_inc (E : List Elt) (e : Elt) (n : String) (h : findElt E e.name = none) :
    incCount (upsert E e) n = incCount E n + contribC e n ∧ incDeg (upsert E e) n = incDeg E n + contribD e n := by
  induction E with
  | nil => simp [upsert, incCount, incDeg, contribC, contribD]
  | cons x xs ih =>
    have hx : ¬ x.name = e.name := (findElt_none _ _).1 h x (List.mem_cons_self ..)
    have h' : findElt xs e.name = none := by
      rw [findElt_none] at h ⊢; intro y hy; exact h y (List.mem_cons_of_mem _ hy)
    simp [upsert, hx, incCount, incDeg, ih h']; omega

theorem upsert_old_inc (E : List Elt) (e old : Elt) (n : String) (h : findElt E e.name = some old) :
    incCount (upsert E e) n + contribC old n = incCount E n + contribC e n ∧
    incDeg (upsert E e) n + contribD old n = incDeg E n + contribD e n := by
  induction E with
  | nil => simp [findElt] at h
  | cons x xs ih =>
    by_cases hx : x.name = e.name
    · have : old = x := by unfold findElt at h; simp [List.find?, hx] at h; exact h.symm
      subst this
      simp [upsert, hx, incCount, incDeg, contribC, contribD]; omega
    · have h' : findElt xs e.name = some old := by
        unfold findElt at h ⊢; simpa [List.find?, hx] using h
      have := ih h'
      simp [upsert, hx, incCount, incDeg]; omega

theorem upsert_new_eq (E : List Elt) (e : Elt) (h : findElt E e.name = none) : upsert E e = E ++ [e] := by
  induction E with
  | nil => rfl
  | cons x xs ih =>
    have hx : ¬ x.name = e.name := (findElt_none _ _).1 h x (List.mem_cons_self ..)
    have h' : findElt xs e.name = none := by
      rw [findElt_none] at h ⊢; intro y hy; exact h y (List.mem_cons_of_mem _ hy)
    simp [upsert, hx, ih h']

theorem eraseName_notin (E : List Elt) (nm : String) (h : ∀ x ∈ E, x.name ≠ nm) : eraseName E nm = E := by
  induction E with
  | nil => rfl
  | cons x xs ih =>
    have hx : ¬ x.name = nm := h x (List.mem_cons_self ..)
    simp [eraseName, hx, ih (fun y hy => h y (List.mem_cons_of_mem _ hy))]

theorem eraseName_inc (E : List Elt) (nm : String) (e : Elt) (n : String)
    (h : findElt E nm = some e) (hu : uniqueNames E) :
    incCount (eraseName E nm) n + contribC e n = incCount E n ∧ incDeg (eraseName E nm) n + contribD e n = incDeg E n := by
  induction E with
  | nil => simp [findElt] at h
  | cons x xs ih =>
    by_cases hx : x.name = nm
    · have : e = x := by unfold findElt at h; simp [List.find?, hx] at h; exact h.symm
      subst this
      have hn : ∀ y ∈ xs, y.name ≠ nm := fun y hy => hx ▸ hu.1 y hy
      simp [eraseName, hx, incCount, incDeg, contribC, contribD, eraseName_notin xs nm hn]; omega
    · have h' : findElt xs nm = some e := by
        unfold findElt at h ⊢; simpa [List.find?, hx] using h
      have := ih h' hu.2
      simp [eraseName, hx, incCount, incDeg]; omega

theorem mem_upsert (E : List Elt) (e y : Elt) (h : y ∈ upsert E e) : y = e ∨ y ∈ E := by
  induction E with
  | nil => simp [upsert] at h; exact Or.inl h
  | cons x xs ih =>
    by_cases hx : x.name = e.name
    · simp [upsert, hx] at h
      rcases h with h | h
      · exact Or.inl h
      · exact Or.inr (List.mem_cons_of_mem _ h)
    · simp [upsert, hx] at h
      rcases h with h | h
      · subst h; exact Or.inr (List.mem_cons_self ..)
      · rcases ih h with h2 | h2
        · exact Or.inl h2
        · exact Or.inr (List.mem_cons_of_mem _ h2)

/-- a name that is absent stays absent when a component of another name is stored -/
theorem findElt_upsert_none {E : List Elt} {e : Elt} {nm : String} (h : findElt E nm = none) (hne : e.name ≠ nm) :
    findElt (upsert E e) nm = none := by
  rw [findElt_none]
  intro y hy
  rcases mem_upsert _ _ _ hy with rfl | hy
  · exact hne
  · exact (findElt_none _ _).1 h y hy

theorem uniqueNames_upsert (E : List Elt) (e : Elt) (hu : uniqueNames E) : uniqueNames (upsert E e) := by
  induction E with
  | nil => simp [upsert, uniqueNames]
  | cons x xs ih =>
    by_cases hx : x.name = e.name
    · simp only [upsert, hx, if_true, uniqueNames]
      exact ⟨fun y hy => hx ▸ hu.1 y hy, hu.2⟩
    · simp only [upsert, hx, if_false, uniqueNames]
      refine ⟨fun y hy => ?_, ih hu.2⟩
      rcases mem_upsert xs e y hy with h | h
      · subst h; exact fun h2 => hx h2.symm
      · exact hu.1 y h

theorem mem_eraseName (E : List Elt) (nm : String) (y : Elt) (h : y ∈ eraseName E nm) : y ∈ E := by
  induction E with
  | nil => simp [eraseName] at h
  | cons x xs ih =>
    by_cases hx : x.name = nm
    · simp [eraseName, hx] at h; exact List.mem_cons_of_mem _ (ih h)
    · simp [eraseName, hx] at h
      rcases h with h | h
      · subst h; exact List.mem_cons_self ..
      · exact List.mem_cons_of_mem _ (ih h)

theorem uniqueNames_eraseName (E : List Elt) (nm : String) (hu : uniqueNames E) : uniqueNames (eraseName E nm) := by
  induction E with
  | nil => simp [eraseName, uniqueNames]
  | cons x xs ih =>
    by_cases hx : x.name = nm
    · simp only [eraseName, hx, if_true]; exact ih hu.2
    · simp only [eraseName, hx, if_false, uniqueNames]
      exact ⟨fun y hy => hu.1 y (mem_eraseName xs nm y hy), ih hu.2⟩

/-! ### the table built from scratch has the incidence counters -/

theorem foldl_attachElt_ent (E : List Elt) (t : NodeTab) (n : String) :
    countOf (E.foldl attachElt t) n = countOf t n + incCount E n ∧ degOf (E.foldl attachElt t) n = degOf t n + incDeg E n := by
  induction E generalizing t with
  | nil => simp [incCount, incDeg]
  | cons e es ih => simp only [List.foldl, ih, attachElt_ent, incCount, incDeg]; omega

theorem buildTab_ent (E : List Elt) (n : String) :
    countOf (buildTab E) n = incCount E n ∧ degOf (buildTab E) n = incDeg E n := by
  simp [buildTab, foldl_attachElt_ent, countOf, degOf]

end Lcapy.Cache
