/-
  Helper lemmas for C05: componentwise rewrites.
    * `componentwise_simulates`: per-component simulations with pairwise separated private unknowns
      compose to a simulation of the whole netlist (induction over the component list);
    * kind-independence of `Laws` for netlists without reactive components;
    * per-component simulations for `_s_model` and the killed noise model.
-/
import Lcapy.Model.RewriteCW
import Lcapy.Proofs.Rewrite
namespace Lcapy.MNA
open Ix
variable {K : Type} [Field K]

/-- one step of a componentwise rewrite: the components `orig` are replaced by `rep`; `hid` are
    the unknowns private to either side (interior nodes, branch currents that appear or vanish) -/
structure Rw (K : Type) where
  orig : List (Cpt K)
  rep : List (Cpt K)
  hid : List Ix

/-- everything is retained except the listed unknowns -/
def AllBut' (hidden : List Ix) : Ix → Prop := fun i => i ∉ hidden

/-- nothing of step `q` reads a private unknown of step `p` -/
def Rw.Sep (p q : Rw K) : Prop := SupportedIn (AllBut' p.hid) (q.orig ++ q.rep)

instance (p q : Rw K) : Decidable (p.Sep q) :=
  inferInstanceAs (Decidable (∀ c ∈ q.orig ++ q.rep, ∀ i ∈ mentions c, i ∉ p.hid))

/-- the step read backwards -/
def Rw.swap (p : Rw K) : Rw K := ⟨p.rep, p.orig, p.hid⟩

theorem Rw.Sep.swap {p q : Rw K} (h : p.Sep q) : p.swap.Sep q.swap :=
  fun c hc => h c (List.mem_append.mpr (List.mem_append.mp hc).symm)

/-- **componentwise_simulates**: if every step is a simulation on everything but its private
    unknowns and no step reads another step's private unknowns, the rewritten netlist simulates
    the original one on everything but the private unknowns -- for netlists of any length. -/
theorem componentwise_simulates (kind : Kind) (s : K) (ps : List (Rw K))
    (h1 : ∀ p ∈ ps, Simulates kind s (AllBut' p.hid) p.orig p.rep)
    (h2 : ps.Pairwise (fun p q => p.Sep q ∧ q.Sep p)) :
    Simulates kind s (AllBut' (ps.flatMap (·.hid))) (ps.flatMap (·.orig)) (ps.flatMap (·.rep)) := by
  induction ps with
  | nil => exact Simulates.refl kind s _ []
  | cons p t ih =>
    have hp := h1 p List.mem_cons_self
    have ht := ih (fun q hq => h1 q (List.mem_cons_of_mem _ hq)) (List.pairwise_cons.mp h2).2
    have hsep := (List.pairwise_cons.mp h2).1
    simp only [List.flatMap_cons]
    -- the rest of the netlist (in either form) does not read the private unknowns of `p`
    have hrest_o : SupportedIn (AllBut' p.hid) (t.flatMap (·.orig)) := by
      intro c hc
      obtain ⟨q, hq, hcq⟩ := List.mem_flatMap.mp hc
      exact ((SupportedIn_append _ _).mp (hsep q hq).1).1 c hcq
    -- `p.rep` does not read the private unknowns of the rest
    have hp_rep : SupportedIn (AllBut' (t.flatMap (·.hid))) p.rep := by
      intro c hc i hi hmem
      obtain ⟨q, hq, hiq⟩ := List.mem_flatMap.mp hmem
      exact ((SupportedIn_append _ _).mp (hsep q hq).2).2 c hc i hi hiq
    have hsub1 : ∀ i, AllBut' (p.hid ++ t.flatMap (·.hid)) i → AllBut' p.hid i := by
      intro i hi hm; exact hi (List.mem_append_left _ hm)
    have hsub2 : ∀ i, AllBut' (p.hid ++ t.flatMap (·.hid)) i → AllBut' (t.flatMap (·.hid)) i := by
      intro i hi hm; exact hi (List.mem_append_right _ hm)
    have s1 : Simulates kind s (AllBut' p.hid) (p.orig ++ t.flatMap (·.orig)) (p.rep ++ t.flatMap (·.orig)) := by
      have := Simulates.context hp [] (t.flatMap (·.orig)) (by intro c hc; cases hc) hrest_o
      simpa using this
    have s2 : Simulates kind s (AllBut' (t.flatMap (·.hid))) (p.rep ++ t.flatMap (·.orig)) (p.rep ++ t.flatMap (·.rep)) := by
      have := Simulates.context ht p.rep [] hp_rep (by intro c hc; cases hc)
      simpa using this
    exact (s1.mono hsub1).trans (s2.mono hsub2)

/-! ### kind independence -/

/-- the component's equations do not depend on the analysis kind -/
def Cpt.kindFree : Cpt K → Bool
  | .Cap _ _ _ _ => false
  | .Ind _ _ _ _ _ _ => false
  | _ => true

theorem Laws_congr_kind (k1 k2 : Kind) (s : K) (cs : List (Cpt K)) (x : Ix → K)
    (ho : ∀ c ∈ cs, ∀ k, outflow k1 s x k c = outflow k2 s x k c) (hl : ∀ c ∈ cs, laws k1 s x c = laws k2 s x c) :
    Laws k1 s cs x ↔ Laws k2 s cs x := by
  have hk : ∀ k, lsum (cs.map (outflow k1 s x k)) = lsum (cs.map (outflow k2 s x k)) := fun k => by
    rw [List.map_congr_left fun c hc => ho c hc k]
  simp only [Laws, hk]
  exact and_congr_right fun _ => forall₂_congr fun c hc => by rw [hl c hc]

theorem Laws_kindFree (k1 k2 : Kind) (s : K) (cs : List (Cpt K)) (h : ∀ c ∈ cs, c.kindFree = true) (x : Ix → K) :
    Laws k1 s cs x ↔ Laws k2 s cs x :=
  Laws_congr_kind k1 k2 s cs x (fun c hc k => by have := h c hc; cases c <;> first | rfl | cases this)
    fun c hc => by have := h c hc; cases c <;> first | rfl | cases this

/-- the component carries no initial condition (absent, not merely zero) -/
def Cpt.noIC : Cpt K → Bool
  | .Cap _ _ _ v0 => v0.isNone
  | .Ind _ _ _ _ i0 coup => i0.isNone && coup.all (fun p => p.2.2.isNone)
  | _ => true

theorem mutualIC_none (coup : List (Nat × K × Option K)) (h : coup.all (fun p => p.2.2.isNone) = true) :
    mutualIC coup = 0 := by
  induction coup with
  | nil => rfl
  | cons p t ih =>
    simp only [List.all_cons, Bool.and_eq_true] at h
    obtain ⟨a, b, c⟩ := p
    cases c with
    | some _ => simp at h
    | none =>
      simp only [mutualIC, List.map_cons, lsum, icFlux, zero_add] at ih ⊢
      exact ih h.2

/-- without initial conditions the initial-value analysis IS the zero-state Laplace analysis (phasor analysis at s = jω) -/
theorem Laws_lap_ivp_noIC (s : K) (cs : List (Cpt K)) (h : ∀ c ∈ cs, c.noIC = true) (x : Ix → K) :
    Laws .lap s cs x ↔ Laws .ivp s cs x := by
  refine Laws_congr_kind .lap .ivp s cs x (fun c hc k => ?_) fun c hc => ?_
  · have := h c hc
    cases c <;> try rfl
    case Cap n1 n2 cc v0 =>
      cases v0 with
      | some _ => cases this
      | none => simp only [outflow, capCurrent, sub_zero]
  · have := h c hc
    cases c <;> try rfl
    case Ind n1 n2 m l i0 coup =>
      simp only [Cpt.noIC, Bool.and_eq_true] at this
      cases i0 with
      | some _ => cases this.1
      | none => simp only [laws, mutualIC_none coup this.2, sub_zero]

/-! ### single components that simulate one another -/

theorem lawsOf_pair (kind : Kind) (s : K) (c1 c2 : Cpt K) (x : Ix → K) :
    lawsOf kind s [c1, c2] x ↔ lawsOf kind s [c1] x ∧ lawsOf kind s [c2] x := lawsOf_cons kind s c1 [c2] x


/-- identical equations: the identity map of unknowns is a simulation -/
theorem Simulates_of_eq (kind : Kind) (s : K) (R : Ix → Prop) (a b : List (Cpt K))
    (hk : ∀ x k, kclAt kind s b x k = kclAt kind s a x k)
    (hl : ∀ x, lawsOf kind s a x → lawsOf kind s b x) : Simulates kind s R a b :=
  fun x hla hka => ⟨x, fun _ _ => rfl, hl x hla, fun k hk0 hR => by rw [hk]; exact hka k hk0 hR, fun k _ _ => hk x k⟩

/-- two components without laws of their own that draw the same currents are interchangeable -/
theorem sim_of_outflow_eq (kind : Kind) (s : K) (R : Ix → Prop) (c c' : Cpt K)
    (ho : ∀ x k, outflow kind s x k c' = outflow kind s x k c)
    (hl : ∀ x, laws kind s x c = []) (hl' : ∀ x, laws kind s x c' = []) :
    Simulates kind s R [c] [c'] ∧ Simulates kind s R [c'] [c] := by
  have hk : ∀ x k, kclAt kind s [c'] x k = kclAt kind s [c] x k := fun x k => by
    rw [kclAt_cons, kclAt_cons, ho]
  exact ⟨Simulates_of_eq kind s R _ _ hk fun x _ => lawsOf_of_nil kind s _ x (hl' x),
    Simulates_of_eq kind s R _ _ (fun x k => (hk x k).symm) fun x _ => lawsOf_of_nil kind s _ x (hl x)⟩

/-- a resistor is the admittance 1/R (`ZR1 n1 n2 R`), in every analysis kind -/
theorem sim_R_Y (kind : Kind) (s : K) (R : Ix → Prop) (n1 n2 : Nat) (r : K) :
    Simulates kind s R [.R n1 n2 r] [.Y n1 n2 (1 / r)] ∧ Simulates kind s R [.Y n1 n2 (1 / r)] [.R n1 n2 r] :=
  sim_of_outflow_eq kind s R _ _ (fun x k => by simp only [outflow, one_div_mul_eq_div]) (fun _ => rfl) fun _ => rfl

/-- an admittance re-emitted as the impedance 1/Y (`ZY1 n1 n2 {1/y}`) -/
theorem sim_Y_Y (kind : Kind) (s : K) (R : Ix → Prop) (n1 n2 : Nat) (y : K) :
    Simulates kind s R [.Y n1 n2 y] [.Y n1 n2 (1 / (1 / y))] ∧ Simulates kind s R [.Y n1 n2 (1 / (1 / y))] [.Y n1 n2 y] := by
  rw [one_div_one_div]; exact ⟨Simulates.refl _ _ _ _, Simulates.refl _ _ _ _⟩

/-- a capacitor whose initial voltage is zero or absent is the admittance 1/(1/(sC)) in Laplace
    analysis with or without initial conditions -/
theorem sim_C_Y (kind : Kind) (hk : kind = .lap ∨ kind = .ivp) (s : K) (R : Ix → Prop) (n1 n2 : Nat) (c : K) (v0 : Option K)
    (h0 : icv v0 = 0) :
    Simulates kind s R [.Cap n1 n2 c v0] [.Y n1 n2 (1 / (1 / (s * c)))] ∧
    Simulates kind s R [.Y n1 n2 (1 / (1 / (s * c)))] [.Cap n1 n2 c v0] := by
  refine sim_of_outflow_eq kind s R _ _ (fun x k => ?_) (fun _ => rfl) fun _ => rfl
  rcases hk with rfl | rfl
  · simp only [outflow, one_div_one_div, capCurrent]
  · simp only [outflow, one_div_one_div, capCurrent_ivp, h0, mul_zero, sub_zero]

theorem laws_Ind_ivp (s : K) (x : Ix → K) (n1 n2 m : Nat) (l : K) (i0 : Option K) :
    laws .ivp s x (.Ind n1 n2 m l i0 []) = [(m, vd x n1 n2 - (s * l * x (br m) - l * icv i0))] := by
  cases i0 <;> simp [laws, icv, mutualDrop, mutualIC, lsum]

/-- an uncoupled inductor whose initial current contributes nothing is the admittance 1/(sL);
    its branch current disappears from the unknowns -/
theorem sim_L_Y (s : K) (n1 n2 m : Nat) (l : K) (i0 : Option K) (h0 : l * icv i0 = 0) (hsl : s * l ≠ 0) :
    Simulates .ivp s (AllBut' [br m]) [.Ind n1 n2 m l i0 []] [.Y n1 n2 (1 / (s * l))] ∧
    Simulates .ivp s (AllBut' [br m]) [.Y n1 n2 (1 / (s * l))] [.Ind n1 n2 m l i0 []] := by
  have hlaw : ∀ x, lawsOf .ivp s [.Ind n1 n2 m l i0 []] x ↔ vd x n1 n2 = s * l * x (br m) := fun x => by
    rw [lawsOf_singleton, laws_Ind_ivp, h0]
    simp only [List.forall_mem_singleton, sub_zero, sub_eq_zero]
  -- under the inductor's law its branch current is the current of the admittance
  have hkcl : ∀ x k, vd x n1 n2 = s * l * x (br m) →
      kclAt .ivp s [.Y n1 n2 (1 / (s * l))] x k = kclAt .ivp s [.Ind n1 n2 m l i0 []] x k := fun x k h => by
    simp only [kclAt_cons, kclAt_nil, outflow, h, one_div, inv_mul_cancel_left₀ hsl]
  constructor
  · intro x hl hk
    have h := (hlaw x).mp hl
    exact ⟨x, fun _ _ => rfl, lawsOf_of_nil _ _ _ x rfl, fun k hk0 hR => (hkcl x k h).trans (hk k hk0 hR),
      fun k _ _ => hkcl x k h⟩
  · intro y _ hk
    let x := Function.update y (br m) (1 / (s * l) * vd y n1 n2)
    have h : vd x n1 n2 = s * l * x (br m) := by
      simp only [x, vd_update_br, Function.update_self, one_div, mul_inv_cancel_left₀ hsl]
    have hy : ∀ k, kclAt .ivp s [.Ind n1 n2 m l i0 []] x k = kclAt .ivp s [.Y n1 n2 (1 / (s * l))] y k := fun k => by
      rw [← hkcl x k h]; simp only [kclAt_cons, kclAt_nil, outflow, x, vd_update_br]
    exact ⟨x, update_of_not_mem (List.mem_singleton_self _) y _, (hlaw x).mpr h,
      fun k hk0 hR => (hy k).trans (hk k hk0 hR), fun k _ _ => hy k⟩

/-! ### substitution: value maps that respect the arithmetic -/

section subs
variable {A : Type} [Add A] [Mul A] [Neg A] [Sub A] [Div A] [OfNat A 0] [OfNat A 1] [OfNat A 2]

/-- `φ` (substitute, then evaluate) respects the arithmetic of the value domain; division only
    where the image of the divisor does not vanish (evaluation of rational functions away from
    their poles; pointwise evaluation of functions of the parameters satisfies it everywhere) -/
structure ValHom (φ : A → K) : Prop where
  zero : φ 0 = 0
  two : φ 2 = 2
  add : ∀ a b, φ (a + b) = φ a + φ b
  mul : ∀ a b, φ (a * b) = φ a * φ b
  neg : ∀ a, φ (-a) = -φ a
  sub : ∀ a b, φ (a - b) = φ a - φ b
  div : ∀ a b, φ b ≠ 0 → φ (a / b) = φ a / φ b

/-- the divisions `Laws` performs on this component are respected by `φ` -/
def Cpt.divOK (φ : A → K) : Cpt A → Prop
  | .R _ _ r => φ r ≠ 0
  | .E _ _ _ _ _ _ _ => (2 : K) ≠ 0
  | _ => True

variable {φ : A → K}

theorem ValHom.volt (h : ValHom φ) (x : Ix → A) (n : Nat) : volt (fun i => φ (x i)) n = φ (volt x n) := by
  cases n <;> simp [MNA.volt, h.zero]

theorem ValHom.vd (h : ValHom φ) (x : Ix → A) (a b : Nat) : vd (fun i => φ (x i)) a b = φ (vd x a b) := by
  simp [MNA.vd, h.volt, h.sub]

theorem ValHom.twoTerm (h : ValHom φ) (n1 n2 k : Nat) (i : A) : twoTerm n1 n2 k (φ i) = φ (twoTerm n1 n2 k i) := by
  simp only [MNA.twoTerm, h.sub]
  split_ifs <;> simp [h.zero]

theorem ValHom.lsum (h : ValHom φ) (l : List A) : lsum (l.map φ) = φ (lsum l) := by
  induction l with
  | nil => simp [MNA.lsum, h.zero]
  | cons a t ih => simp [MNA.lsum, h.add, ih]

theorem ValHom.icv (h : ValHom φ) (o : Option A) : icv (o.map φ) = φ (icv o) := by
  cases o <;> simp [MNA.icv, h.zero]

theorem ValHom.capCurrent (h : ValHom φ) (kind : Kind) (s c : A) (v0 : Option A) (v : A) :
    capCurrent kind (φ s) (φ c) (v0.map φ) (φ v) = φ (capCurrent kind s c v0 v) := by
  cases kind <;> cases v0 <;> simp [MNA.capCurrent, h.zero, h.mul, h.sub]

theorem ValHom.mutualDrop (h : ValHom φ) (s : A) (x : Ix → A) (coup : List (Nat × A × Option A)) :
    mutualDrop (φ s) (fun i => φ (x i)) (coup.map (fun p => (p.1, φ p.2.1, p.2.2.map φ))) = φ (mutualDrop s x coup) := by
  simp only [MNA.mutualDrop, ← h.lsum, List.map_map]
  congr 1
  apply List.map_congr_left
  intro p _
  simp [h.mul]

theorem ValHom.mutualIC (h : ValHom φ) (coup : List (Nat × A × Option A)) :
    mutualIC (coup.map (fun p => (p.1, φ p.2.1, p.2.2.map φ))) = φ (mutualIC coup) := by
  simp only [MNA.mutualIC, ← h.lsum, List.map_map]
  congr 1
  apply List.map_congr_left
  intro p _
  obtain ⟨a, b, c⟩ := p
  cases c <;> simp [icFlux, h.mul, h.zero]

theorem ValHom.outflow (h : ValHom φ) (kind : Kind) (s : A) (x : Ix → A) (k : Nat) (c : Cpt A) (hc : c.divOK φ) :
    outflow kind (φ s) (fun i => φ (x i)) k (c.mapVal φ) = φ (outflow kind s x k c) := by
  cases c <;>
    simp only [MNA.outflow, Cpt.mapVal, h.vd, h.capCurrent, ← h.twoTerm, h.add, h.mul, h.neg, h.sub, h.zero]
  · simp only [Cpt.divOK] at hc; rw [h.div _ _ hc]

theorem ValHom.laws (h : ValHom φ) (kind : Kind) (s : A) (x : Ix → A) (c : Cpt A) (hc : c.divOK φ) :
    laws kind (φ s) (fun i => φ (x i)) (c.mapVal φ) = (laws kind s x c).map (fun p => (p.1, φ p.2)) := by
  cases c with
  | Ind n1 n2 m l i0 coup =>
    cases kind <;> cases i0 <;>
      simp only [MNA.laws, Cpt.mapVal, Option.map_some, Option.map_none, List.map_cons, List.map_nil, h.vd,
        h.mutualDrop, h.mutualIC, h.add, h.mul, h.sub, h.zero]
  | E n1 n2 n3 n4 m a b =>
    have h2 : φ 2 ≠ 0 := by rw [h.two]; exact hc
    simp only [MNA.laws, Cpt.mapVal, List.map_cons, List.map_nil, h.vd, h.volt, h.add, h.mul, h.sub, h.div _ _ h2, h.two]
  | _ => simp only [MNA.laws, Cpt.mapVal, List.map_cons, List.map_nil, h.vd, h.volt, h.add, h.mul, h.sub]

/-- the substituted solution solves the substituted netlist -/
theorem ValHom.Laws (h : ValHom φ) (kind : Kind) (s : A) (cs : List (Cpt A)) (x : Ix → A)
    (hc : ∀ c ∈ cs, c.divOK φ) (hx : Laws kind s cs x) :
    MNA.Laws kind (φ s) (cs.map (Cpt.mapVal φ)) (fun i => φ (x i)) := by
  constructor
  · intro k hk
    have := hx.1 k hk
    rw [List.map_map]
    have e : (cs.map ((MNA.outflow kind (φ s) (fun i => φ (x i)) k) ∘ Cpt.mapVal φ)) = (cs.map (MNA.outflow kind s x k)).map φ := by
      rw [List.map_map]
      apply List.map_congr_left
      intro c hcm
      exact h.outflow kind s x k c (hc c hcm)
    rw [e, h.lsum, this, h.zero]
  · intro c' hc' p hp
    obtain ⟨c, hcm, rfl⟩ := List.mem_map.mp hc'
    rw [h.laws kind s x c (hc c hcm)] at hp
    obtain ⟨q, hq, rfl⟩ := List.mem_map.mp hp
    simp only
    rw [hx.2 c hcm q hq, h.zero]

end subs

end Lcapy.MNA
