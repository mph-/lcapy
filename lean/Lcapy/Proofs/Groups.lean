/-
  Helper lemmas for Props/C03Groups.lean: source valuations by netlist position (`assignAt`), their sums, and the
  indicator sum over a duplicate-free key list.
-/
import Lcapy.Proofs.LinearN
import Lcapy.Model.Groups
import Mathlib.Algebra.BigOperators.Group.List.Basic
import Mathlib.Data.List.Dedup
namespace Lcapy.MNA
open Ix
variable {K : Type} [Field K]
set_option linter.unusedSimpArgs false
set_option linter.unusedSectionVars false

/-- the netlist `cs` with every independent quantity of the component at position `p + i` set to `w (p + i)`:
    the sub-netlist of one analysis group, in which each source carries the part of its value that the group takes
    (`select(kind)`), positions without independent quantities are unaffected -/
def assignAt (w : Nat → K) : Nat → List (Cpt K) → List (Cpt K)
  | _, [] => []
  | p, c :: t => c.mapSrc (fun _ => w p) :: assignAt w (p + 1) t

/-- pointwise sum of a family of valuations -/
def sumW : List (Nat → K) → Nat → K
  | [] => fun _ => 0
  | w :: t => fun p => w p + sumW t p

theorem assignAt_add (w1 w2 : Nat → K) (p : Nat) (cs : List (Cpt K)) :
    List.zipWith Cpt.addSrc (assignAt w1 p cs) (assignAt w2 p cs) = assignAt (fun i => w1 i + w2 i) p cs := by
  induction cs generalizing p with
  | nil => rfl
  | cons c t ih => simp only [assignAt, List.zipWith_cons_cons, addSrc_mapSrc, ih]

theorem assignAt_sameShape (w1 w2 : Nat → K) (p : Nat) (cs : List (Cpt K)) :
    List.Forall₂ SameShape (assignAt w1 p cs) (assignAt w2 p cs) := by
  induction cs generalizing p with
  | nil => exact List.Forall₂.nil
  | cons c t ih => exact List.Forall₂.cons (by unfold SameShape; rw [mapSrc_comp, mapSrc_comp]; rfl) (ih (p + 1))

theorem assignAt_zero (p : Nat) (cs : List (Cpt K)) : assignAt (fun _ => (0 : K)) p cs = killAll cs := by
  induction cs generalizing p with
  | nil => rfl
  | cons c t ih => simp only [assignAt, killAll, List.map_cons, ih (p + 1)]

theorem killAll_solved_by_zero (kind : Kind) (s : K) (cs : List (Cpt K)) : Solves kind s (killAll cs) (fun _ => 0) := by
  intro r _
  rw [residual_killAll, homogAll_zero]

theorem sum_indicator {α : Type} [DecidableEq α] (G : List α) (hG : G.Nodup) (k0 : α) (hk : k0 ∈ G) (v : K) :
    (G.map (fun k => if k0 = k then v else 0)).sum = v := by
  induction G with
  | nil => simp at hk
  | cons g t ih =>
    simp only [List.nodup_cons] at hG
    simp only [List.map_cons, List.sum_cons]
    rcases List.mem_cons.mp hk with rfl | hk'
    · have : (t.map (fun k => if k0 = k then v else 0)).sum = 0 := by
        have hz : ∀ k ∈ t, (if k0 = k then v else 0) = (0 : K) := by
          intro k hkt; have : k0 ≠ k := fun h => hG.1 (h ▸ hkt); simp [this]
        rw [List.map_congr_left hz]; simp
      simp [this]
    · have : k0 ≠ g := fun h => hG.1 (h ▸ hk')
      simp [this, ih hG.2 hk']

end Lcapy.MNA

namespace Lcapy.Groups
open Lcapy.Decompose

/-- frequencies keyed in an accumulator -/
def acKeys (l : List (Rat × Rat × Rat)) : List Rat := l.map (·.1)

theorem acInsert_keys (w a b : Rat) (l : List (Rat × Rat × Rat)) : ∀ v ∈ acKeys (acInsert w a b l), v ∈ acKeys l ∨ v = w := by
  induction l with
  | nil => intro v hv; simp [acInsert, acKeys] at hv; exact Or.inr hv
  | cons h t ih =>
    obtain ⟨w', a', b'⟩ := h
    intro v hv
    by_cases hw : w' = w
    · simp only [acInsert, hw, if_true, acKeys, List.map_cons, List.mem_cons] at hv ⊢
      rcases hv with h1 | h1
      · exact Or.inr h1
      · exact Or.inl (Or.inr h1)
    · simp only [acInsert, hw, if_false, acKeys, List.map_cons, List.mem_cons] at hv ⊢
      rcases hv with h1 | h1
      · exact Or.inl (Or.inl h1)
      · rcases ih v h1 with h2 | h2
        · exact Or.inl (Or.inr h2)
        · exact Or.inr h2

theorem fold_dc_unchanged (ts : List (Term Rat)) (d : Decomp Rat) (h : ∀ t ∈ ts, kindOf t ≠ Key.dc) :
    (ts.foldl step d).dc = d.dc := by
  induction ts generalizing d with
  | nil => rfl
  | cons t rest ih =>
    simp only [List.foldl_cons]
    rw [ih _ (fun u hu => h u (by simp [hu]))]
    cases t with
    | dc c => exact absurd rfl (h (Term.dc c) (by simp))
    | ac w a b => rfl
    | tr i c => rfl

theorem fold_tr_unchanged (ts : List (Term Rat)) (d : Decomp Rat) (h : ∀ t ∈ ts, kindOf t ≠ Key.transient) :
    (ts.foldl step d).tr = d.tr := by
  induction ts generalizing d with
  | nil => rfl
  | cons t rest ih =>
    simp only [List.foldl_cons]
    rw [ih _ (fun u hu => h u (by simp [hu]))]
    cases t with
    | dc c => rfl
    | ac w a b => rfl
    | tr i c => exact absurd rfl (h (Term.tr i c) (by simp))

theorem fold_ac_keys (ts : List (Term Rat)) (d : Decomp Rat) (w : Rat) (h : ∀ t ∈ ts, kindOf t ≠ Key.ac w)
    (hw : w ∈ acKeys (ts.foldl step d).ac) : w ∈ acKeys d.ac := by
  induction ts generalizing d with
  | nil => exact hw
  | cons t rest ih =>
    simp only [List.foldl_cons] at hw
    have h1 := ih _ (fun u hu => h u (by simp [hu])) hw
    cases t with
    | dc c => exact h1
    | tr i c => exact h1
    | ac w' a b =>
      simp only [step] at h1
      rcases acInsert_keys w' a b d.ac w h1 with h2 | h2
      · exact h2
      · exact absurd (by rw [h2]; rfl) (h (Term.ac w' a b) (by simp))

theorem acInsert_keys_nodup (w a b : Rat) (l : List (Rat × Rat × Rat)) (h : (acKeys l).Nodup) :
    (acKeys (acInsert w a b l)).Nodup := by
  induction l with
  | nil => simp [acInsert, acKeys]
  | cons p t ih =>
    obtain ⟨w', a', b'⟩ := p
    simp only [acKeys, List.map_cons, List.nodup_cons] at h
    by_cases hw : w' = w
    · simp only [acInsert, hw, if_true, acKeys, List.map_cons, List.nodup_cons]
      rw [← hw]; exact h
    · simp only [acInsert, hw, if_false, acKeys, List.map_cons, List.nodup_cons]
      refine ⟨fun hmem => ?_, ih h.2⟩
      rcases acInsert_keys w a b t w' hmem with h1 | h1
      · exact h.1 h1
      · exact hw h1

theorem fold_ac_nodup (ts : List (Term Rat)) (d : Decomp Rat) (h : (acKeys d.ac).Nodup) :
    (acKeys (ts.foldl step d).ac).Nodup := by
  induction ts generalizing d with
  | nil => exact h
  | cons t rest ih =>
    simp only [List.foldl_cons]
    apply ih
    cases t with
    | dc c => exact h
    | tr i c => exact h
    | ac w a b => exact acInsert_keys_nodup w a b d.ac h

theorem decompose_ac_nodup (ts : List (Term Rat)) : (acKeys (decompose ts).ac).Nodup :=
  fold_ac_nodup ts ⟨0, [], []⟩ (by simp [acKeys])

theorem find_of_nodup (l : List (Rat × Rat × Rat)) (h : (acKeys l).Nodup) (p : Rat × Rat × Rat) (hp : p ∈ l) :
    l.find? (fun q => decide (q.1 = p.1)) = some p := by
  induction l with
  | nil => simp at hp
  | cons q t ih =>
    simp only [acKeys, List.map_cons, List.nodup_cons] at h
    rcases List.mem_cons.mp hp with rfl | hpt
    · simp [List.find?_cons]
    · have hne : q.1 ≠ p.1 := fun he => h.1 (he ▸ List.mem_map.mpr ⟨p, hpt, rfl⟩)
      simp only [List.find?_cons, hne, decide_false]
      exact ih h.2 hpt

theorem acPart_of_mem (d : Decomp Rat) (h : (acKeys d.ac).Nodup) (p : Rat × Rat × Rat) (hp : p ∈ d.ac) :
    acPart d p.1 = p.2 := by
  simp only [acPart, find_of_nodup d.ac h p hp]

theorem sumK_eq_sum (l : List Rat) : sumK l = l.sum := by
  induction l with
  | nil => rfl
  | cons a t ih => simp [sumK, ih]

theorem sum_filter_of_zero {α : Type} (q : α → Bool) (g : α → Rat) (l : List α) (h : ∀ a ∈ l, q a = false → g a = 0) :
    ((l.filter q).map g).sum = (l.map g).sum := by
  induction l with
  | nil => rfl
  | cons a t ih =>
    have iht := ih (fun b hb => h b (by simp [hb]))
    by_cases hq : q a = true
    · simp [List.filter_cons, hq, iht]
    · have hq' : q a = false := by simpa using hq
      simp [List.filter_cons, hq', iht, h a (by simp) hq']

/-- the ω-groups take exactly the accumulated phasors: Σ over the reported ω keys of the transform of the part
    taken = Σ over ALL accumulated entries (the dropped ones are zero phasors) -/
theorem ac_parts_sum (XL : Nat → Rat) (s0 : Rat) (d : Decomp Rat) (h : (acKeys d.ac).Nodup) :
    (((d.ac.filter (fun p => p.2.1 != 0 || p.2.2 != 0)).map (fun p => Key.ac p.1)).map (partLap XL s0 d)).sum =
      sumK (d.ac.map (fun p => phasorLap p.2.1 (-p.2.2) p.1 s0)) := by
  rw [sumK_eq_sum, List.map_map]
  have hcongr : ∀ l : List (Rat × Rat × Rat), (∀ p ∈ l, p ∈ d.ac) →
      (l.map ((partLap XL s0 d) ∘ (fun p => Key.ac p.1))) = l.map (fun p => phasorLap p.2.1 (-p.2.2) p.1 s0) := by
    intro l hl
    apply List.map_congr_left
    intro p hp
    simp only [Function.comp, partLap, acPart_of_mem d h p (hl p hp)]
  rw [hcongr _ (fun p hp => (List.mem_filter.mp hp).1)]
  apply sum_filter_of_zero
  intro p _ hq
  simp only [Bool.or_eq_false_iff, bne_eq_false_iff_eq] at hq
  simp [phasorLap, hq.1, hq.2]

theorem listed_cons (k0 : Key) (l0 : List String) (g : List (Key × List String)) (k' : Key) (n' : String) :
    listed ((k0, l0) :: g) k' n' ↔ (k' = k0 ∧ n' ∈ l0) ∨ listed g k' n' := by
  simp only [listed, List.mem_cons, Prod.mk.injEq]
  constructor
  · rintro ⟨l, (⟨rfl, rfl⟩ | hl), hn⟩
    · exact Or.inl ⟨rfl, hn⟩
    · exact Or.inr ⟨l, hl, hn⟩
  · rintro (⟨rfl, hn⟩ | ⟨l, hl, hn⟩)
    · exact ⟨l0, Or.inl ⟨rfl, rfl⟩, hn⟩
    · exact ⟨l, Or.inr hl, hn⟩

theorem insertG_listed (g : List (Key × List String)) (k : Key) (n : String) (k' : Key) (n' : String) :
    listed (insertG g k n) k' n' ↔ listed g k' n' ∨ (k' = k ∧ n' = n) := by
  induction g with
  | nil => simp [insertG, listed]
  | cons p t ih =>
    obtain ⟨k0, l0⟩ := p
    by_cases hk : k0 = k
    · subst hk
      simp only [insertG, if_true, listed_cons, List.mem_append, List.mem_singleton, and_or_left, or_right_comm]
    · simp only [insertG, hk, if_false, listed_cons, ih, or_assoc]

theorem foldKinds_listed (ks : List Key) (nm : String) (g : List (Key × List String)) (k' : Key) (n' : String) :
    listed (ks.foldl (fun g k => insertG g k nm) g) k' n' ↔ listed g k' n' ∨ (k' ∈ ks ∧ n' = nm) := by
  induction ks generalizing g with
  | nil => simp
  | cons k t ih =>
    simp only [List.foldl_cons, ih, insertG_listed, List.mem_cons]; tauto

theorem foldSrcs_listed (srcs : List Src) (g : List (Key × List String)) (k' : Key) (n' : String) :
    listed (srcs.foldl (fun g s => (srcKinds s).foldl (fun g k => insertG g k s.name) g) g) k' n' ↔
      listed g k' n' ∨ ∃ s ∈ srcs, k' ∈ srcKinds s ∧ n' = s.name := by
  induction srcs generalizing g with
  | nil => simp
  | cons s t ih =>
    simp only [List.foldl_cons, ih, foldKinds_listed, List.mem_cons]
    constructor
    · rintro ((h | h) | ⟨s', hs', h⟩)
      · exact Or.inl h
      · exact Or.inr ⟨s, Or.inl rfl, h⟩
      · exact Or.inr ⟨s', Or.inr hs', h⟩
    · rintro (h | ⟨s', (rfl | hs'), h⟩)
      · exact Or.inl (Or.inl h)
      · exact Or.inl (Or.inr h)
      · exact Or.inr ⟨s', hs', h⟩

end Lcapy.Groups
