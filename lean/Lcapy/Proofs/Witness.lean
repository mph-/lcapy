/-
  Closing `Laws` and `Nonsingular` on a CONCRETE netlist.

  * `laws_of_range`: Kirchhoff's current law needs checking only at the nodes below a bound on the node
    numbers (a node no component touches draws nothing); over ℚ the remaining hypotheses are closed
    terms, so a witness is `laws_of_range N (by decide) (by decide +kernel) (by decide +kernel)`
    (`solves_of_range` for the assembled system, through `C01.mna_iff_laws`).
  * `nonsingular(On)_of_killed`: the homogeneous system of a netlist is the MNA system of the netlist with
    every source killed (`solvesHom_iff_killed`), so non-singularity is a statement about `Laws` of the
    killed netlist on a list `U` that covers the unknowns (`hU` is closed by `rfl`).
-/
import Lcapy.Props.C01
import Lcapy.Proofs.Linear
import Lcapy.Proofs.Ground
namespace Lcapy.MNA
open Ix
variable {K : Type} [Field K]

theorem laws_of_range {kind : Kind} {s : K} {cs : List (Cpt K)} {x : Ix → K} (N : Nat)
    (hN : ∀ c ∈ cs, ∀ n ∈ nodesOf c, n < N)
    (hk : ∀ k ∈ List.range N, k ≠ 0 → lsum (cs.map (outflow kind s x k)) = 0)
    (hl : ∀ c ∈ cs, ∀ p ∈ laws kind s x c, p.2 = 0) : Laws kind s cs x := by
  refine ⟨fun k hk0 => ?_, hl⟩
  by_cases h : k < N
  · exact hk k (List.mem_range.mpr h) hk0
  · exact lsum_outflow_zero kind s x k cs fun c hc n hn => by have := hN c hc n hn; omega

theorem solves_of_range {kind : Kind} {s : K} {cs : List (Cpt K)} {x : Ix → K} (N : Nat) (hwf : C01.WF cs)
    (hN : ∀ c ∈ cs, ∀ n ∈ nodesOf c, n < N)
    (hk : ∀ k ∈ List.range N, k ≠ 0 → lsum (cs.map (outflow kind s x k)) = 0)
    (hl : ∀ c ∈ cs, ∀ p ∈ laws kind s x c, p.2 = 0) : Solves kind s cs x :=
  (C01.mna_iff_laws kind s cs x hwf).mpr (laws_of_range N hN hk hl)

theorem solvesHom_iff_killed (kind : Kind) (s : K) (cs : List (Cpt K)) (z : Ix → K) :
    C01.SolvesHom kind s cs z ↔ Solves kind s (killAll cs) z := by
  have key : ∀ r, residual (stampAll kind s (killAll cs)) z r = lhsSum r (ground z) (stampAll kind s cs).lhs := by
    intro r
    induction cs with
    | nil => simp [killAll, stampAll, residual, lhsSum, rhsSum]
    | cons c t ih =>
      simp only [killAll, List.map_cons, stampAll, List.foldr_cons] at ih ⊢
      rw [residual_append, ih]
      simp only [residual, Stamp.append, lhsSum_append, rhsSum_killed, stamp_lhs_mapSrc, sub_zero]
  simp only [C01.SolvesHom, Solves, key]

theorem nonsingularOn_of_killed {kind : Kind} {s : K} {cs : List (Cpt K)} {U : Ix → Prop}
    (hwf : C01.WF (killAll cs)) (h : ∀ z, Laws kind s (killAll cs) z → ∀ i, U i → z i = 0) :
    C01.NonsingularOn U kind s cs :=
  fun z hz => h z ((C01.mna_iff_laws _ _ _ _ hwf).mp ((solvesHom_iff_killed _ _ _ _).mp hz))

theorem nonsingular_of_killed {kind : Kind} {s : K} {cs : List (Cpt K)} (U : List Ix)
    (hwf : C01.WF (killAll cs))
    (hU : (C01.unknowns (stampAll kind s cs)).all (fun i => i = node 0 ∨ i ∈ U) = true)
    (h : ∀ z, Laws kind s (killAll cs) z → ∀ i ∈ U, z i = 0) : C01.Nonsingular kind s cs :=
  nonsingularOn_of_killed hwf fun z hz i hi =>
    (of_decide_eq_true (List.all_eq_true.mp hU i hi.2)).elim (absurd · hi.1) (h z hz i)

end Lcapy.MNA
