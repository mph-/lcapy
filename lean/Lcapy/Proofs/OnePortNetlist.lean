/-
  Helper lemmas for C07: the generated netlist of a one-port tree has, at its two
  terminals, exactly the tree's relation.  `Good` packages the four facts proved by structural
  induction (index bookkeeping, support, soundness, completeness).
-/
import Lcapy.Model.OnePortNetlist
import Lcapy.Proofs.Rewrite
import Lcapy.Proofs.OnePort
namespace Lcapy.OnePort
open Lcapy.MNA Ix
set_option linter.unusedSectionVars false
variable {K : Type} [Field K] [DecidableEq K]

/-- the unknown is a node or a branch with index in [k, k') -/
def InRange (k k' : Nat) : Ix → Prop
  | .node j => k ≤ j ∧ j < k'
  | .br j => k ≤ j ∧ j < k'

/-- what a sub-netlist between `a` and `b` with fresh indices [k, k') may read -/
def PortR (a b k k' : Nat) : Ix → Prop := fun i => i = node a ∨ i = node b ∨ InRange k k' i

/-- the four facts about a generated (sub-)netlist `r = (components, next index)` for the relation `R` -/
structure Good (s : K) (R : K → K → Prop) (a b k : Nat) (r : List (Cpt K) × Nat) : Prop where
  mono : k ≤ r.2
  supp : SupportedIn (PortR a b k r.2) r.1
  sound : ∀ x, lawsOf .ivp s r.1 x → (∀ j, k ≤ j → j < r.2 → kclAt .ivp s r.1 x j = 0) →
    R (vd x a b) (kclAt .ivp s r.1 x a) ∧ (b ≠ 0 → kclAt .ivp s r.1 x b = -kclAt .ivp s r.1 x a)
  complete : ∀ x0 i, R (vd x0 a b) i → ∃ x, (∀ ix, ¬ InRange k r.2 ix → x ix = x0 ix) ∧
    lawsOf .ivp s r.1 x ∧ (∀ j, k ≤ j → j < r.2 → kclAt .ivp s r.1 x j = 0) ∧ kclAt .ivp s r.1 x a = i

theorem ic_eq_icv (o : Option K) : ic o = icv o := by cases o <;> rfl

theorem twoTerm_at_first (a b : Nat) (h : a ≠ b) (i : K) : twoTerm a b a i = i := by
  simp [twoTerm, h.symm]
theorem twoTerm_at_second (a b : Nat) (h : a ≠ b) (i : K) : twoTerm a b b i = -i := by
  simp [twoTerm, h]
theorem PortR_mono {a b k k' a' b' k2 k2' : Nat} (ha : PortR a' b' k2 k2' (node a)) (hb : PortR a' b' k2 k2' (node b))
    (hk : k2 ≤ k) (hk' : k' ≤ k2') : ∀ i, PortR a b k k' i → PortR a' b' k2 k2' i := by
  intro i hi
  rcases hi with rfl | rfl | h
  · exact ha
  · exact hb
  · right; right
    cases i <;> exact ⟨le_trans hk h.1, lt_of_lt_of_le h.2 hk'⟩


theorem Good.congr {s : K} {R R' : K → K → Prop} {a b k : Nat} {r : List (Cpt K) × Nat}
    (h : Good s R a b k r) (e : ∀ v i, R v i ↔ R' v i) : Good s R' a b k r :=
  ⟨h.mono, h.supp, fun x hl hk => ⟨(e _ _).mp (h.sound x hl hk).1, (h.sound x hl hk).2⟩,
   fun x0 i hr => h.complete x0 i ((e _ _).mpr hr)⟩

theorem vd_congr_of {x y : Ix → K} (a b : Nat) (ha : y (node a) = x (node a)) (hb : y (node b) = x (node b)) :
    vd y a b = vd x a b := by
  simp only [vd]
  rw [volt_of_nodes_eq (y := y) (x := x) a (fun _ => ha), volt_of_nodes_eq (y := y) (x := x) b (fun _ => hb)]

theorem not_inRange_node_lt {k k' j : Nat} (h : j < k) : ¬ InRange k k' (node j) := fun hr => absurd hr.1 (not_le.mpr h)

/-- the empty parallel group: an open circuit -/
theorem good_par_nil (s : K) (a b k : Nat) : Good s (fun _ i => i = (0 : K)) a b k ([], k) :=
  ⟨le_refl _, (fun c hc => by cases hc), (fun x _ _ => ⟨rfl, fun _ => by simp [kclAt, lsum]⟩),
   (fun x0 i hi => ⟨x0, (fun _ _ => rfl), (by simp [lawsOf]), (fun _ _ _ => rfl), (by simp [kclAt, lsum, hi])⟩)⟩

/-- two sub-netlists between the same rails -/
theorem good_parallel (s : K) (R1 R2 : K → K → Prop) (a b k : Nat) (r1 r2 : List (Cpt K) × Nat)
    (ha0 : a ≠ 0) (hab : a ≠ b) (hak : a < k) (hbk : b < k)
    (g1 : Good s R1 a b k r1) (g2 : Good s R2 a b r1.2 r2) :
    Good s (ParRel R1 R2) a b k (r1.1 ++ r2.1, r2.2) := by
  have hk1 := g1.mono
  have hk2 := g2.mono
  -- components of one part do not touch the interior of the other
  have z2 : ∀ x j, k ≤ j → j < r1.2 → kclAt .ivp s r2.1 x j = 0 := by
    intro x j h1 h2
    refine kclAt_supported_zero .ivp s r2.1 g2.supp x j (by omega) ?_
    rintro (h | h | h)
    · exact absurd (Ix.node.inj h) (by omega)
    · exact absurd (Ix.node.inj h) (by omega)
    · exact absurd h.1 (by omega)
  have z1 : ∀ x j, r1.2 ≤ j → j < r2.2 → kclAt .ivp s r1.1 x j = 0 := by
    intro x j h1 h2
    refine kclAt_supported_zero .ivp s r1.1 g1.supp x j (by omega) ?_
    rintro (h | h | h)
    · exact absurd (Ix.node.inj h) (by omega)
    · exact absurd (Ix.node.inj h) (by omega)
    · exact absurd h.2 (by omega)
  refine ⟨le_trans hk1 hk2, ?_, ?_, ?_⟩
  · rw [SupportedIn_append]
    exact ⟨SupportedIn_mono (PortR_mono (Or.inl rfl) (Or.inr (Or.inl rfl)) (le_refl _) hk2) g1.supp,
           SupportedIn_mono (PortR_mono (Or.inl rfl) (Or.inr (Or.inl rfl)) hk1 (le_refl _)) g2.supp⟩
  · intro x hl hk
    rw [lawsOf_append] at hl
    have s1 := g1.sound x hl.1 (fun j h1 h2 => by
      have := hk j h1 (by omega); rw [kclAt_append, z2 x j h1 h2, add_zero] at this; exact this)
    have s2 := g2.sound x hl.2 (fun j h1 h2 => by
      have := hk j (by omega) h2; rw [kclAt_append, z1 x j h1 h2, zero_add] at this; exact this)
    simp only [kclAt_append]
    refine ⟨⟨_, _, s1.1, s2.1, rfl⟩, fun hb0 => ?_⟩
    rw [s1.2 hb0, s2.2 hb0]; ring
  · rintro x0 i ⟨i1, i2, h1, h2, rfl⟩
    obtain ⟨x1, e1, l1, k1, c1⟩ := g1.complete x0 i1 h1
    have hv : vd x1 a b = vd x0 a b :=
      vd_congr_of a b (e1 _ (not_inRange_node_lt hak)) (e1 _ (not_inRange_node_lt hbk))
    obtain ⟨x2, e2, l2, k2, c2⟩ := g2.complete x1 i2 (by rw [hv]; exact h2)
    -- x2 agrees with x1 on everything the first part reads
    have agree : ∀ ix, PortR a b k r1.2 ix → x2 ix = x1 ix := by
      intro ix hix
      apply e2
      rcases hix with rfl | rfl | h
      · exact not_inRange_node_lt (by omega)
      · exact not_inRange_node_lt (by omega)
      · cases ix <;> exact fun hr => absurd hr.1 (not_le.mpr h.2)
    refine ⟨x2, ?_, ?_, ?_, ?_⟩
    · intro ix hix
      have h1' : ¬ InRange k r1.2 ix := by
        cases ix <;> exact fun hr => hix ⟨hr.1, lt_of_lt_of_le hr.2 hk2⟩
      have h2' : ¬ InRange r1.2 r2.2 ix := by
        cases ix <;> exact fun hr => hix ⟨le_trans hk1 hr.1, hr.2⟩
      rw [e2 ix h2', e1 ix h1']
    · rw [lawsOf_append]
      exact ⟨(lawsOf_supported_congr .ivp s r1.1 g1.supp agree).mpr l1, l2⟩
    · intro j h1 h2
      rw [kclAt_append]
      by_cases hj : j < r1.2
      · rw [z2 x2 j h1 hj, add_zero, kclAt_supported_congr .ivp s r1.1 g1.supp agree j]; exact k1 j h1 hj
      · rw [z1 x2 j (by omega) h2, zero_add]; exact k2 j (by omega) h2
    · rw [kclAt_append, kclAt_supported_congr .ivp s r1.1 g1.supp agree a, c1, c2]


/-- two sub-netlists in series through the fresh interior node `k` -/
theorem good_series (s : K) (R1 R2 : K → K → Prop) (a b k : Nat) (r1 r2 : List (Cpt K) × Nat)
    (ha0 : a ≠ 0) (hab : a ≠ b) (hak : a < k) (hbk : b < k)
    (g1 : Good s R1 a k (k + 1) r1) (g2 : Good s R2 k b r1.2 r2) :
    Good s (SerRel R1 R2) a b k (r1.1 ++ r2.1, r2.2) := by
  have hk1 := g1.mono
  have hk2 := g2.mono
  have hk0 : k ≠ 0 := by omega
  have z2 : ∀ x j, j ≠ 0 → j ≠ k → j ≠ b → j < r1.2 → kclAt .ivp s r2.1 x j = 0 := by
    intro x j h0 h1 h2 h3
    refine kclAt_supported_zero .ivp s r2.1 g2.supp x j h0 ?_
    rintro (h | h | h)
    · exact h1 (Ix.node.inj h)
    · exact h2 (Ix.node.inj h)
    · exact absurd h.1 (by omega)
  have z1 : ∀ x j, j ≠ 0 → j ≠ a → j ≠ k → ¬ (k + 1 ≤ j ∧ j < r1.2) → kclAt .ivp s r1.1 x j = 0 := by
    intro x j h0 h1 h2 h3
    refine kclAt_supported_zero .ivp s r1.1 g1.supp x j h0 ?_
    rintro (h | h | h)
    · exact h1 (Ix.node.inj h)
    · exact h2 (Ix.node.inj h)
    · exact h3 h
  refine ⟨by omega, ?_, ?_, ?_⟩
  · rw [SupportedIn_append]
    refine ⟨SupportedIn_mono (PortR_mono (Or.inl rfl) (Or.inr (Or.inr ⟨le_refl _, by omega⟩)) (by omega) hk2) g1.supp,
            SupportedIn_mono (PortR_mono (Or.inr (Or.inr ⟨le_refl _, by omega⟩)) (Or.inr (Or.inl rfl)) (by omega) (le_refl _)) g2.supp⟩
  · intro x hl hk
    rw [lawsOf_append] at hl
    have s1 := g1.sound x hl.1 (fun j h1 h2 => by
      have := hk j (by omega) (by omega)
      rw [kclAt_append, z2 x j (by omega) (by omega) (by omega) h2, add_zero] at this; exact this)
    have s2 := g2.sound x hl.2 (fun j h1 h2 => by
      have := hk j (by omega) h2
      rw [kclAt_append, z1 x j (by omega) (by omega) (by omega) (by omega), zero_add] at this; exact this)
    have hmid := hk k (le_refl _) (by omega)
    rw [kclAt_append, s1.2 hk0] at hmid
    have hcur : kclAt .ivp s r2.1 x k = kclAt .ivp s r1.1 x a := by linear_combination hmid
    simp only [kclAt_append]
    rw [z2 x a ha0 (by omega) hab (by omega), add_zero]
    refine ⟨⟨vd x a k, vd x k b, s1.1, by rw [← hcur]; exact s2.1, (vd_add x a k b).symm⟩, fun hb0 => ?_⟩
    rw [z1 x b hb0 (Ne.symm hab) (by omega) (by omega), zero_add, s2.2 hb0, hcur]
  · rintro x0 i ⟨v1, v2, h1, h2, hv⟩
    let x0' : Ix → K := fun ix => if ix = node k then volt x0 a - v1 else x0 ix
    have hx0'k : volt x0' k = volt x0 a - v1 := by rw [volt_nonzero x0' k hk0]; simp [x0']
    have hx0'o : ∀ n, n ≠ k → volt x0' n = volt x0 n := by
      intro n hn
      apply volt_of_nodes_eq
      intro _
      have : (node n : Ix) ≠ node k := fun h => hn (Ix.node.inj h)
      simp [x0', this]
    have hv1 : vd x0' a k = v1 := by simp only [vd, hx0'k, hx0'o a (by omega)]; ring
    obtain ⟨x1, e1, l1, k1, c1⟩ := g1.complete x0' i (by rw [hv1]; exact h1)
    have hx1k : x1 (node k) = x0' (node k) := e1 _ (fun hr => absurd hr.1 (by omega))
    have hx1b : x1 (node b) = x0' (node b) := e1 _ (not_inRange_node_lt (by omega))
    have hv2 : vd x1 k b = v2 := by
      rw [vd_congr_of k b hx1k hx1b]
      simp only [vd, hx0'k, hx0'o b (by omega)]
      have : vd x0 a b = v1 + v2 := hv
      simp only [vd] at this
      linear_combination this
    obtain ⟨x2, e2, l2, k2, c2⟩ := g2.complete x1 i (by rw [hv2]; exact h2)
    have agree : ∀ ix, PortR a k (k + 1) r1.2 ix → x2 ix = x1 ix := by
      intro ix hix
      apply e2
      rcases hix with rfl | rfl | h
      · exact not_inRange_node_lt (by omega)
      · exact not_inRange_node_lt (by omega)
      · cases ix <;> exact fun hr => absurd hr.1 (not_le.mpr h.2)
    have s1 := g1.sound x1 l1 k1
    refine ⟨x2, ?_, ?_, ?_, ?_⟩
    · intro ix hix
      have h1' : ¬ InRange (k + 1) r1.2 ix := by
        cases ix <;> exact fun hr => hix ⟨by have := hr.1; omega, lt_of_lt_of_le hr.2 hk2⟩
      have h2' : ¬ InRange r1.2 r2.2 ix := by
        cases ix <;> exact fun hr => hix ⟨by have := hr.1; omega, hr.2⟩
      have hne : ix ≠ node k := by
        rintro rfl; exact hix ⟨le_refl _, by omega⟩
      rw [e2 ix h2', e1 ix h1']
      simp [x0', hne]
    · rw [lawsOf_append]
      exact ⟨(lawsOf_supported_congr .ivp s r1.1 g1.supp agree).mpr l1, l2⟩
    · intro j h1j h2j
      rw [kclAt_append, kclAt_supported_congr .ivp s r1.1 g1.supp agree j]
      by_cases hjk : j = k
      · subst hjk
        rw [s1.2 hk0, c1, c2]; ring
      · by_cases hj : j < r1.2
        · rw [z2 x2 j (by omega) hjk (by omega) hj, add_zero]; exact k1 j (by omega) hj
        · rw [z1 x1 j (by omega) (by omega) hjk (by omega), zero_add]; exact k2 j (by omega) h2j
    · rw [kclAt_append, kclAt_supported_congr .ivp s r1.1 g1.supp agree a, c1,
        z2 x2 a ha0 (by omega) hab (by omega), add_zero]


/-! ### leaves -/

/-- a component without a branch unknown whose current from `a` to `b` is `cur (vd x a b)` -/
theorem good_passive (s : K) (R : K → K → Prop) (a b k : Nat) (c : Cpt K) (cur : K → K)
    (hab : a ≠ b)
    (hm : ∀ i ∈ mentions c, i = node a ∨ i = node b)
    (hl : ∀ x, laws .ivp s x c = [])
    (ho : ∀ x j, outflow .ivp s x j c = twoTerm a b j (cur (vd x a b)))
    (hR : ∀ v i, R v i ↔ i = cur v) : Good s R a b k ([c], k) := by
  have hk : ∀ x j, kclAt .ivp s [c] x j = twoTerm a b j (cur (vd x a b)) := by
    intro x j; simp [kclAt, lsum, ho]
  refine ⟨le_refl _, ?_, ?_, ?_⟩
  · intro c' hc' i hi
    simp only [List.mem_cons, List.mem_nil_iff, or_false] at hc'; subst hc'
    rcases hm i hi with h | h
    · exact Or.inl h
    · exact Or.inr (Or.inl h)
  · intro x _ _
    rw [hk, hk, twoTerm_at_first a b hab, twoTerm_at_second a b hab]
    exact ⟨(hR _ _).mpr rfl, fun _ => rfl⟩
  · intro x0 i hi
    refine ⟨x0, fun _ _ => rfl, ?_, fun j h1 h2 => absurd h2 (not_lt.mpr h1), ?_⟩
    · intro c' hc' p hp
      simp only [List.mem_cons, List.mem_nil_iff, or_false] at hc'; subst hc'
      rw [hl] at hp; cases hp
    · rw [hk, twoTerm_at_first a b hab]; exact ((hR _ _).mp hi).symm

/-- a component that owns the branch unknown `k` (its current) and one law `vd x a b = f (x (br k))` -/
theorem good_branch (s : K) (R : K → K → Prop) (a b k : Nat) (c : Cpt K) (f : K → K)
    (hab : a ≠ b) (hak : a < k) (hbk : b < k)
    (hm : ∀ i ∈ mentions c, i = node a ∨ i = node b ∨ i = br k)
    (hl : ∀ x, laws .ivp s x c = [(k, vd x a b - f (x (br k)))])
    (ho : ∀ x j, outflow .ivp s x j c = twoTerm a b j (x (br k)))
    (hR : ∀ v i, R v i ↔ v = f i) : Good s R a b k ([c], k + 1) := by
  have hk : ∀ x j, kclAt .ivp s [c] x j = twoTerm a b j (x (br k)) := by
    intro x j; simp [kclAt, lsum, ho]
  refine ⟨Nat.le_succ _, ?_, ?_, ?_⟩
  · intro c' hc' i hi
    simp only [List.mem_cons, List.mem_nil_iff, or_false] at hc'; subst hc'
    rcases hm i hi with h | h | h
    · exact Or.inl h
    · exact Or.inr (Or.inl h)
    · subst h; exact Or.inr (Or.inr ⟨le_refl _, Nat.lt_succ_self _⟩)
  · intro x hlaw _
    rw [hk, hk, twoTerm_at_first a b hab, twoTerm_at_second a b hab]
    have := hlaw c List.mem_cons_self (k, _) (by rw [hl]; exact List.mem_cons_self)
    exact ⟨(hR _ _).mpr (by linear_combination this), fun _ => rfl⟩
  · intro x0 i hi
    let x : Ix → K := fun ix => if ix = br k then i else x0 ix
    have hv : vd x a b = vd x0 a b := vd_congr_of a b (by simp [x]) (by simp [x])
    have hx : x (br k) = i := by simp [x]
    refine ⟨x, ?_, ?_, ?_, ?_⟩
    · intro ix hix
      have : ix ≠ br k := by rintro rfl; exact hix ⟨le_refl _, Nat.lt_succ_self _⟩
      simp [x, this]
    · intro c' hc' p hp
      simp only [List.mem_cons, List.mem_nil_iff, or_false] at hc'; subst hc'
      rw [hl] at hp
      simp only [List.mem_cons, List.mem_nil_iff, or_false] at hp; subst hp
      simp only [hv, hx]
      rw [(hR _ _).mp hi]; ring
    · intro j h1 h2
      have : j = k := by omega
      subst this
      rw [hk, twoTerm_of_ne a b j _ (by omega) (by omega)]
    · rw [hk, twoTerm_at_first a b hab, hx]

theorem good_leaf (s : K) (l : Leaf K) (hs : l.simple = true) (a b k : Nat) (hab : a ≠ b) (hak : a < k) (hbk : b < k) :
    Good s (l.rel s) a b k (l.make s a b k) := by
  cases l with
  | R r =>
    simp only [Leaf.simple, decide_eq_true_eq] at hs
    exact good_passive s _ a b k _ (fun v => v / r) hab (by simp [mentions]) (fun x => rfl) (fun x j => rfl)
      (fun v i => by simp only [Leaf.rel, relR]; constructor <;> (intro h; rw [h]; field_simp))
  | G g =>
    simp only [Leaf.simple, decide_eq_true_eq] at hs
    exact good_passive s _ a b k _ (fun v => v / (1 / g)) hab (by simp [mentions]) (fun x => rfl) (fun x j => rfl)
      (fun v i => by simp only [Leaf.rel]; rw [div_div_eq_mul_div, div_one, mul_comm])
  | L l i0 =>
    exact good_branch s _ a b k _ (fun i => s * l * i - l * icv i0) hab hak hbk (by simp [mentions])
      (fun x => by cases i0 <;> simp [laws, icv, mutualDrop, mutualIC, lsum]) (fun x j => rfl)
      (fun v i => by simp only [Leaf.rel, relL, ic_eq_icv])
  | C c v0 =>
    exact good_passive s _ a b k _ (fun v => s * c * v - c * icv v0) hab (by simp [mentions]) (fun x => rfl)
      (fun x j => by simp only [outflow, capCurrent_ivp]) (fun v i => by simp only [Leaf.rel, relC, ic_eq_icv])
  | Y y =>
    exact good_passive s _ a b k _ (fun v => y * v) hab (by simp [mentions]) (fun x => rfl) (fun x j => rfl)
      (fun v i => by simp only [Leaf.rel])
  | Z z =>
    simp only [Leaf.simple, decide_eq_true_eq] at hs
    exact good_passive s _ a b k _ (fun v => 1 / z * v) hab (by simp [mentions]) (fun x => rfl) (fun x j => rfl)
      (fun v i => by simp only [Leaf.rel]; constructor <;> (intro h; rw [h]; field_simp))
  | V kd e =>
    exact good_branch s _ a b k _ (fun _ => e) hab hak hbk (by simp [mentions]) (fun x => rfl) (fun x j => rfl)
      (fun v i => by simp only [Leaf.rel])
  | I kd j =>
    exact good_passive s _ a b k _ (fun _ => -j) hab (by simp [mentions]) (fun x => rfl) (fun x j => rfl)
      (fun v i => by simp only [Leaf.rel])
  | CPE kk al =>
    exact good_passive s _ a b k _ (fun v => npow s al * kk * v) hab (by simp [mentions]) (fun x => rfl) (fun x j => rfl)
      (fun v i => by simp only [Leaf.rel])
  | Xtal _ _ _ _ => simp [Leaf.simple] at hs
  | FB _ _ _ _ => simp [Leaf.simple] at hs

end Lcapy.OnePort
