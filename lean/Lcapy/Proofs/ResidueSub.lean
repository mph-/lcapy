/-
  C10-G1: the residues computed by `Ratfun._find_residues_sub` (substitution, repeated differentiation with the 1/k!
  factor) ARE the partial-fraction coefficients, for poles of any multiplicity.

  Part 1 (Mathlib polynomials `K[X]`, characteristic zero):
    * `mult_step`          R(p) = 0, D(p) ≠ 0, (X−p)^n ∣ R'D − RD'  ⇒  (X−p)^{n+1} ∣ R          (induction on n)
    * `taylor_fraction`    N ≡ D · Σ_{m<n} c_m (X−p)^m  (mod (X−p)^n),  c_m = (N/D)^{(m)}(p)/m! by the quotient rule
                           (induction on the order n, generalising the fraction)
    * `sum_principal_parts` strictly proper B over Π (X−p)^{n_p}, distinct p: B = Σ_p cof_p · T_p   (coprime factors, degrees)
  Part 2: bridge from the executable coefficient-list model (Model/ResidueSub.lean) to `K[X]`.
-/
import Lcapy.Proofs.LaplaceILT
import Lcapy.Model.ResidueSub
import Mathlib.Algebra.Polynomial.Derivative
import Mathlib.Algebra.Polynomial.Div
import Mathlib.Algebra.Polynomial.RingDivision
import Mathlib.Algebra.CharZero.Defs
import Mathlib.RingTheory.Coprime.Lemmas
import Mathlib.RingTheory.Polynomial.Basic
import Mathlib.Tactic.Ring
import Mathlib.Tactic.FieldSimp
import Mathlib.Tactic.LinearCombination
open Polynomial

namespace Lcapy.Residue
variable {K : Type} [Field K]

/-- quotient rule on (numerator, denominator) pairs -/
noncomputable def qd (g : K[X] × K[X]) : K[X] × K[X] :=
  (derivative g.1 * g.2 - g.1 * derivative g.2, g.2 * g.2)

theorem mult_step [CharZero K] (p : K) (D : K[X]) (hD : D.eval p ≠ 0) :
    ∀ (n : ℕ) (R : K[X]), R.eval p = 0 → (X - C p) ^ n ∣ derivative R * D - R * derivative D →
      (X - C p) ^ (n + 1) ∣ R := by
  intro n
  induction n with
  | zero =>
    intro R hR _
    rw [zero_add, pow_one]
    exact dvd_iff_isRoot.mpr hR
  | succ n ih =>
    intro R hR hdiv
    obtain ⟨U, rfl⟩ := ih R hR (dvd_trans (pow_dvd_pow _ n.le_succ) hdiv)
    -- `(X−p)^{n+1}` divides `R·D'` and the part `(X−p)^{n+1}·U'·D` of `R'·D`; what is left is `(n+1)·(X−p)^n·U·D`
    rw [dvd_sub_left ((dvd_mul_right _ _).mul_right _), derivative_mul, derivative_X_sub_C_pow, add_mul,
      dvd_add_left ((dvd_mul_right _ _).mul_right _), Nat.add_sub_cancel, mul_assoc, mul_assoc, mul_left_comm,
      pow_succ, mul_dvd_mul_iff_left (pow_ne_zero _ (X_sub_C_ne_zero p)), dvd_iff_isRoot, IsRoot.def, eval_mul,
      eval_mul, eval_C, mul_eq_zero, mul_eq_zero] at hdiv
    have hn : ((n + 1 : ℕ) : K) ≠ 0 := Nat.cast_ne_zero.mpr n.succ_ne_zero
    have hUp : U.eval p = 0 := (hdiv.resolve_left hn).resolve_right hD
    rw [pow_succ _ (n + 1)]
    exact mul_dvd_mul_left _ (dvd_iff_isRoot.mpr hUp)

/-- m-th Taylor coefficient at `p` of the fraction `g`, computed as the code does: differentiate `m` times by the
    quotient rule, substitute, divide by `m!` -/
noncomputable def tc (p : K) (g : K[X] × K[X]) (m : ℕ) : K :=
  (qd^[m] g).1.eval p / (qd^[m] g).2.eval p / (m.factorial : K)

noncomputable def taylorPoly (p : K) (g : K[X] × K[X]) (n : ℕ) : K[X] :=
  ∑ m ∈ Finset.range n, C (tc p g m) * (X - C p) ^ m

theorem tc_qd [CharZero K] (p : K) (g : K[X] × K[X]) (m : ℕ) :
    tc p (qd g) m = ((m : K) + 1) * tc p g (m + 1) := by
  rw [tc, tc, Function.iterate_succ_apply, Nat.factorial_succ, Nat.cast_mul, Nat.cast_succ, mul_div_assoc',
    mul_div_mul_left _ _ (Nat.cast_add_one_ne_zero m)]

theorem derivative_taylorPoly [CharZero K] (p : K) (g : K[X] × K[X]) (n : ℕ) :
    derivative (taylorPoly p g (n + 1)) = taylorPoly p (qd g) n := by
  rw [taylorPoly, Finset.sum_range_succ', derivative_add, pow_zero, mul_one, derivative_C, add_zero, derivative_sum]
  refine Finset.sum_congr rfl fun m _ => ?_
  rw [derivative_C_mul, derivative_X_sub_C_pow, Nat.add_sub_cancel, tc_qd, Nat.cast_succ, C_mul, mul_left_comm,
    mul_assoc]

theorem eval_taylorPoly (p : K) (g : K[X] × K[X]) (n : ℕ) (s : K) :
    (taylorPoly p g n).eval s = ∑ i ∈ Finset.range n, tc p g i * (s - p) ^ i := by
  simp only [taylorPoly, eval_finsetSum, eval_mul, eval_C, eval_pow, eval_sub, eval_X]

theorem eval_taylorPoly_self (p : K) (g : K[X] × K[X]) (n : ℕ) :
    (taylorPoly p g (n + 1)).eval p = g.1.eval p / g.2.eval p := by
  rw [eval_taylorPoly, Finset.sum_range_succ', sub_self]
  simp only [pow_succ, mul_zero, Finset.sum_const_zero, zero_add, pow_zero, mul_one, tc, Function.iterate_zero, id,
    Nat.factorial_zero, Nat.cast_one, div_one]

/-- Taylor's theorem for a fraction `N/D` with `D(p) ≠ 0`, algebraic form:
    `N ≡ D · Σ_{m<n} c_m (X−p)^m  (mod (X−p)^n)` with `c_m = (N/D)^{(m)}(p)/m!`. -/
theorem taylor_fraction [CharZero K] (p : K) :
    ∀ (n : ℕ) (g : K[X] × K[X]), g.2.eval p ≠ 0 → (X - C p) ^ n ∣ g.1 - g.2 * taylorPoly p g n := by
  intro n
  induction n with
  | zero =>
    intro g _
    rw [pow_zero]
    exact one_dvd _
  | succ n ih =>
    intro g hD
    have hD1 : (qd g).2.eval p ≠ 0 := by
      rw [qd, eval_mul]
      exact mul_self_ne_zero.mpr hD
    apply mult_step p g.2 hD n
    · rw [eval_sub, eval_mul, eval_taylorPoly_self, mul_div_cancel₀ _ hD, sub_self]
    · convert ih (qd g) hD1 using 1
      rw [← derivative_taylorPoly, qd, derivative_sub, derivative_mul]
      ring


/-! ### all poles together -/

noncomputable def fac (x : K × ℕ) : K[X] := (X - C x.1) ^ x.2
noncomputable def Am (ps : List (K × ℕ)) : K[X] := (ps.map fac).prod
noncomputable def cof [DecidableEq K] (ps : List (K × ℕ)) (p : K) : K[X] := Am (ps.filter (fun x => x.1 ≠ p))

theorem degree_Am (ps : List (K × ℕ)) : (Am ps).degree = ((ps.map Prod.snd).sum : ℕ) := by
  induction ps with
  | nil => simp [Am]
  | cons x ps ih =>
    simp only [Am, List.map_cons, List.prod_cons, List.sum_cons] at ih ⊢
    rw [degree_mul, ih, fac, degree_pow, degree_X_sub_C]
    push_cast
    simp

theorem eval_Am (ps : List (K × ℕ)) (s : K) : (Am ps).eval s = (ps.map (fun x => (s - x.1) ^ x.2)).prod := by
  induction ps with
  | nil => simp [Am]
  | cons x ps ih => simp only [Am, List.map_cons, List.prod_cons, eval_mul] at ih ⊢; rw [ih]; simp [fac]

theorem eval_Am_ne_zero (ps : List (K × ℕ)) (s : K) (hs : ∀ x ∈ ps, s - x.1 ≠ 0) : (Am ps).eval s ≠ 0 := by
  rw [eval_Am]
  apply List.prod_ne_zero
  intro h0
  obtain ⟨x, hx, hx0⟩ := List.mem_map.mp h0
  exact pow_ne_zero _ (hs x hx) hx0

theorem erase_eq_filter {α β : Type} [DecidableEq α] [DecidableEq β] (f : α → β) {l : List α}
    (hnd : (l.map f).Nodup) {x : α} (hx : x ∈ l) : l.erase x = l.filter (fun y => f y ≠ f x) := by
  rw [(hnd.of_map _).erase_eq_filter]
  apply List.filter_congr
  intro y hy
  rw [Bool.eq_iff_iff, bne_iff_ne, decide_eq_true_iff]
  exact ⟨fun h e => h (List.inj_on_of_nodup_map hnd hy hx e), fun h e => h (congrArg f e)⟩

theorem Am_split [DecidableEq K] {ps : List (K × ℕ)} (hnd : (ps.map Prod.fst).Nodup) {x : K × ℕ} (hx : x ∈ ps) :
    Am ps = fac x * cof ps x.1 := by
  rw [cof, ← erase_eq_filter Prod.fst hnd hx, Am, Am, List.prod_map_erase fac hx]

theorem fac_dvd_cof [DecidableEq K] (ps : List (K × ℕ)) (p : K) (x : K × ℕ) (hx : x ∈ ps) (hne : x.1 ≠ p) :
    fac x ∣ cof ps p :=
  List.dvd_prod (List.mem_map_of_mem (List.mem_filter.mpr ⟨hx, decide_eq_true hne⟩))

theorem coprime_fac (x y : K × ℕ) (h : x.1 ≠ y.1) : IsCoprime (fac x) (fac y) :=
  (isCoprime_X_sub_C_of_isUnit_sub (sub_ne_zero.mpr h).isUnit).pow

theorem Am_dvd (ps : List (K × ℕ)) (hnd : (ps.map Prod.fst).Nodup) (E : K[X]) (h : ∀ x ∈ ps, fac x ∣ E) :
    Am ps ∣ E := by
  induction ps with
  | nil => simp [Am]
  | cons x ps ih =>
    simp only [List.map_cons, List.nodup_cons] at hnd
    simp only [Am, List.map_cons, List.prod_cons]
    apply IsCoprime.mul_dvd
    · have : ∀ (l : List (K × ℕ)), (∀ y ∈ l, x.1 ≠ y.1) → IsCoprime (fac x) (l.map fac).prod := by
        intro l
        induction l with
        | nil => intro _; simp [isCoprime_one_right]
        | cons y l ihl =>
          intro hl
          simp only [List.map_cons, List.prod_cons]
          exact IsCoprime.mul_right (coprime_fac x y (hl y (by simp))) (ihl (fun z hz => hl z (by simp [hz])))
      exact this ps (fun y hy e => hnd.1 (List.mem_map.mpr ⟨y, hy, e.symm⟩))
    · exact h x (by simp)
    · exact ih hnd.2 (fun y hy => h y (by simp [hy]))

theorem degree_taylorPoly_lt (p : K) (g : K[X] × K[X]) (n : ℕ) : (taylorPoly p g n).degree < n := by
  rw [← mem_degreeLT]
  refine Submodule.sum_mem _ fun m hm => mem_degreeLT.mpr ?_
  calc (C (tc p g m) * (X - C p) ^ m).degree ≤ 0 + (m : WithBot ℕ) :=
        degree_mul_le_of_le degree_C_le ((degree_pow_le_of_le m (degree_X_sub_C_le p)).trans_eq (mul_one _))
    _ < n := by rw [zero_add]; exact_mod_cast Finset.mem_range.mp hm

/-- the global statement in `K[X]`: a strictly proper `B/Π(X−p)^n` is the sum of the principal parts whose coefficients are
    computed by repeated differentiation -/
theorem sum_principal_parts [DecidableEq K] [CharZero K] (ps : List (K × ℕ)) (hnd : (ps.map Prod.fst).Nodup) (B : K[X])
    (hdeg : B.degree < (Am ps).degree) :
    B = (ps.map (fun x => cof ps x.1 * taylorPoly x.1 (B, cof ps x.1) x.2)).sum := by
  have hcof0 : ∀ x ∈ ps, (cof ps x.1).eval x.1 ≠ 0 := fun x _ =>
    eval_Am_ne_zero _ _ fun y hy => sub_ne_zero.mpr (of_decide_eq_true (List.mem_filter.mp hy).2).symm
  set F : K × ℕ → K[X] := fun x => cof ps x.1 * taylorPoly x.1 (B, cof ps x.1) x.2 with hF
  -- modulo `fac x` the term of `x` is `B` (Taylor) and every other term vanishes, its cofactor containing `fac x`
  have hdiv : Am ps ∣ B - (ps.map F).sum := by
    refine Am_dvd ps hnd _ fun x hx => ?_
    rw [← List.sum_map_erase F hx, ← sub_sub]
    refine dvd_sub (taylor_fraction x.1 x.2 (B, cof ps x.1) (hcof0 x hx)) (List.dvd_sum fun q hq => ?_)
    obtain ⟨y, hy, rfl⟩ := List.mem_map.mp hq
    rw [erase_eq_filter Prod.fst hnd hx] at hy
    exact (fac_dvd_cof ps y.1 x hx (of_decide_eq_true (List.mem_filter.mp hy).2).symm).mul_right _
  -- every term has degree below that of `Am ps`
  rw [degree_Am] at hdeg
  have hterm : ∀ x ∈ ps, F x ∈ degreeLT K (ps.map Prod.snd).sum := by
    intro x hx
    have hc0 : cof ps x.1 ≠ 0 := fun h0 => hcof0 x hx (by rw [h0, eval_zero])
    rw [mem_degreeLT, ← degree_Am, Am_split hnd hx, mul_comm, hF, degree_mul, degree_mul, fac, degree_pow,
      degree_X_sub_C, nsmul_one]
    exact WithBot.add_lt_add_left (degree_ne_bot.mpr hc0) (degree_taylorPoly_lt x.1 (B, cof ps x.1) x.2)
  have hS : (ps.map F).sum ∈ degreeLT K (ps.map Prod.snd).sum :=
    list_sum_mem fun q hq => by
      obtain ⟨x, hx, rfl⟩ := List.mem_map.mp hq
      exact hterm x hx
  have hlt := mem_degreeLT.mp (Submodule.sub_mem _ (mem_degreeLT.mpr hdeg) hS)
  rw [← degree_Am] at hlt
  exact sub_eq_zero.mp (eq_zero_of_dvd_of_degree_lt hdiv hlt)

end Lcapy.Residue

/-! ## Part 2: the coefficient-list model -/
namespace Lcapy.Laplace
open Lcapy.Residue
variable {K : Type} [Field K]

/-- coefficient list (constant term first) ↦ Mathlib polynomial -/
noncomputable def toP : Poly K → K[X]
  | [] => 0
  | a :: p => C a + X * toP p

@[simp] theorem toP_nil : toP ([] : Poly K) = 0 := rfl
@[simp] theorem toP_cons (a : K) (p : Poly K) : toP (a :: p) = C a + X * toP p := rfl

theorem eval_toP (p : Poly K) (x : K) : (toP p).eval x = Poly.eval p x := by
  induction p with
  | nil => simp
  | cons a p ih => simp [ih]

theorem coeff_toP (p : Poly K) (i : ℕ) : (toP p).coeff i = p.getD i 0 := by
  induction p generalizing i with
  | nil => simp
  | cons a p ih =>
    cases i with
    | zero => rw [toP_cons, coeff_add, coeff_C_zero, mul_coeff_zero, coeff_X_zero, zero_mul, add_zero, List.getD_cons_zero]
    | succ i => rw [toP_cons, coeff_add, coeff_C_succ, coeff_X_mul, zero_add, ih, List.getD_cons_succ]

theorem degree_toP_lt (p : Poly K) : (toP p).degree < (p.length : WithBot ℕ) := by
  rw [degree_lt_iff_coeff_zero]
  intro m hm
  rw [coeff_toP, List.getD_eq_getElem?_getD, List.getElem?_eq_none hm, Option.getD_none]

theorem toP_add (p q : Poly K) : toP (Poly.add p q) = toP p + toP q := by
  induction p generalizing q with
  | nil => exact (zero_add _).symm
  | cons a p ih =>
    cases q with
    | nil => exact (add_zero _).symm
    | cons b q => rw [Poly.add, toP_cons, toP_cons, toP_cons, ih, C_add, mul_add, add_add_add_comm]

theorem toP_smul (c : K) (p : Poly K) : toP (Poly.smul c p) = C c * toP p := by
  induction p with
  | nil => exact (mul_zero _).symm
  | cons a p ih =>
    change toP ((c * a) :: Poly.smul c p) = _
    rw [toP_cons, toP_cons, ih, mul_add, C_mul, mul_left_comm]

theorem toP_mul (p q : Poly K) : toP (Poly.mul p q) = toP p * toP q := by
  induction p with
  | nil => exact (zero_mul _).symm
  | cons a p ih => rw [Poly.mul, toP_add, toP_smul, toP_cons, toP_cons, ih, C_0, zero_add, add_mul, mul_assoc]

theorem toP_sub (p q : Poly K) : toP (Poly.sub p q) = toP p - toP q := by
  rw [Poly.sub, toP_add, toP_smul, C_neg, C_1, neg_one_mul, sub_eq_add_neg]

theorem toP_linPow (p : K) (n : Nat) : toP (Poly.linPow p n) = (X - C p) ^ n := by
  induction n with
  | zero => rw [Poly.linPow, toP_cons, toP_nil, mul_zero, add_zero, C_1, pow_zero]
  | succ n ih =>
    rw [Poly.linPow, toP_mul, ih, pow_succ', toP_cons, toP_cons, toP_nil, mul_zero, add_zero, C_1, mul_one, C_neg,
      neg_add_eq_sub]

theorem toP_derivAux (n : Nat) (p : Poly K) :
    toP (Poly.derivAux n p) = C (n : K) * toP p + X * derivative (toP p) := by
  induction p generalizing n with
  | nil => simp [Poly.derivAux]
  | cons a p ih =>
    simp only [Poly.derivAux, toP_cons, ih (n + 1), ofN_eq, derivative_add, derivative_C, derivative_mul,
      derivative_X, Nat.cast_succ, C_mul, C_add, C_1]
    ring

theorem toP_deriv (p : Poly K) : toP (Poly.deriv p) = derivative (toP p) := by
  cases p with
  | nil => simp [Poly.deriv]
  | cons a p => simp [Poly.deriv, toP_derivAux]

/-- the pair of a fraction -/
noncomputable def toPP (g : Poly K × Poly K) : K[X] × K[X] := (toP g.1, toP g.2)

theorem toPP_ratDiff (g : Poly K × Poly K) : toPP (ratDiff g) = qd (toPP g) := by
  simp [toPP, ratDiff, qd, toP_sub, toP_mul, toP_deriv]

theorem toPP_ratDiffN (m : Nat) (g : Poly K × Poly K) : toPP (ratDiffN m g) = qd^[m] (toPP g) := by
  induction m with
  | zero => rfl
  | succ m ih => rw [ratDiffN, toPP_ratDiff, ih, Function.iterate_succ_apply']

/-- the model's `expr^{(m)}(p)/m!` is the Taylor coefficient `tc` of Part 1 -/
theorem tc_model (p : K) (g : Poly K × Poly K) (m : Nat) :
    ratAt (ratDiffN m g) p / Gen.residueDivisor m = tc p (toPP g) m := by
  rw [tc, ← toPP_ratDiffN]
  simp [toPP, eval_toP, ratAt, Gen.residueDivisor, fact_eq]

theorem sumPF_append (R1 R2 : List (K × K × Nat)) (s : K) : sumPF (R1 ++ R2) s = sumPF R1 s + sumPF R2 s := by
  induction R1 with
  | nil => exact (zero_add _).symm
  | cons x R1 ih => simp only [List.cons_append, sumPF, ih, add_assoc]

theorem sumPF_residuesGo (p s : K) (hs : s - p ≠ 0) (n : Nat) (g0 : Poly K × Poly K) :
    ∀ (k m : Nat), m + k ≤ n →
      sumPF (residuesGo p n k m (ratDiffN m g0)) s * (s - p) ^ n
        = ∑ i ∈ Finset.range k, tc p (toPP g0) (m + i) * (s - p) ^ (m + i) := by
  intro k
  induction k with
  | zero => intro m _; simp [residuesGo, sumPF]
  | succ k ih =>
    intro m hm
    have hpow : (s - p) ^ n = (s - p) ^ (n - m) * (s - p) ^ m := by rw [← pow_add, Nat.sub_add_cancel (by omega)]
    rw [residuesGo, sumPF, pw_eq, add_mul, ← ratDiffN, ih (m + 1) (by omega), Finset.sum_range_succ', tc_model,
      add_comm]
    congr 1
    · exact Finset.sum_congr rfl fun i _ => by rw [Nat.add_right_comm m 1 i, Nat.add_assoc]
    · rw [hpow, ← mul_assoc, div_mul_cancel₀ _ (pow_ne_zero _ hs), Nat.add_zero]

/-- all `n` entries of a pole of multiplicity `n`, over the common denominator: the Taylor polynomial at `s` -/
theorem sumPF_residuesGo_all (p s : K) (hs : s - p ≠ 0) (n : Nat) (N D : Poly K) :
    sumPF (residuesGo p n n 0 (N, D)) s * (s - p) ^ n = (taylorPoly p (toP N, toP D) n).eval s := by
  have h := sumPF_residuesGo p s hs n (N, D) n 0 (Nat.zero_add n).le
  simp only [Nat.zero_add, ratDiffN] at h
  exact h.trans (eval_taylorPoly p _ n s).symm

theorem toP_otherFactors [DecidableEq K] (poles : List (K × Nat)) (p : K) : toP (otherFactors poles p) = cof poles p := by
  rw [otherFactors, cof, Am]
  induction poles.filter (fun x => x.1 ≠ p) with
  | nil => simp
  | cons x l ih => simp [toP_mul, toP_linPow, ih, fac]

/-- C10-G1: `_find_residues_sub` computes the partial-fraction coefficients — all poles, any multiplicities. -/
theorem find_residues_sub_sound' [DecidableEq K] [CharZero K] (B : Poly K) (poles : List (K × Nat))
    (hnd : (poles.map Prod.fst).Nodup) (hdeg : B.length ≤ (poles.map Prod.snd).sum)
    (s : K) (hs : ∀ x ∈ poles, s - x.1 ≠ 0) :
    Poly.eval B s / (poles.map (fun x => (s - x.1) ^ x.2)).prod = sumPF (findResiduesSub B poles) s := by
  have hdeg' : (toP B).degree < (Am poles).degree := by
    rw [degree_Am]
    exact lt_of_lt_of_le (degree_toP_lt B) (by exact_mod_cast hdeg)
  have hev := congrArg (eval s) (sum_principal_parts poles hnd (toP B) hdeg')
  rw [eval_toP] at hev
  have hA0 : (Am poles).eval s ≠ 0 := eval_Am_ne_zero poles s hs
  -- each pole's block of entries against its term of the sum
  have hblock : ∀ x ∈ poles, sumPF (residuesAt B poles x.1 x.2) s
      = (cof poles x.1 * taylorPoly x.1 (toP B, cof poles x.1) x.2).eval s / (Am poles).eval s := by
    intro x hx
    rw [eq_div_iff hA0, Am_split hnd hx, eval_mul, eval_mul, fac, eval_pow, eval_sub, eval_X, eval_C, residuesAt,
      ← toP_otherFactors, ← sumPF_residuesGo_all x.1 s (hs x hx)]
    ring
  have hflat : ∀ (l : List (K × Nat)), (∀ x ∈ l, x ∈ poles) →
      sumPF (l.flatMap (fun x => residuesAt B poles x.1 x.2)) s
        = ((l.map (fun x => cof poles x.1 * taylorPoly x.1 (toP B, cof poles x.1) x.2)).sum).eval s / (Am poles).eval s := by
    intro l
    induction l with
    | nil => intro _; simp [sumPF]
    | cons x l ih =>
      intro hl
      rw [List.forall_mem_cons] at hl
      rw [List.flatMap_cons, sumPF_append, List.map_cons, List.sum_cons, eval_add, add_div, hblock x hl.1, ih hl.2]
  rw [← eval_Am, findResiduesSub, hflat poles (fun x hx => hx), ← hev]


/-- one pole, ANY cofactor `D` with `D(p) ≠ 0` (no assumption on the other poles or on properness): the `n` numbers
    computed by repeated differentiation are the principal part of `B/(D·(x−p)^n)` at `p` — what is left over,
    `W/D`, has no pole at `p`. -/
theorem residues_principal_part' [CharZero K] (B D : Poly K) (p : K) (n : Nat) (hD : Poly.eval D p ≠ 0) :
    ∃ W : K[X], ∀ s, s - p ≠ 0 → Poly.eval D s ≠ 0 →
      Poly.eval B s / (Poly.eval D s * (s - p) ^ n) = sumPF (residuesGo p n n 0 (B, D)) s + W.eval s / Poly.eval D s := by
  obtain ⟨W, hW⟩ := taylor_fraction p n (toP B, toP D) (by rwa [eval_toP])
  refine ⟨W, fun s hs hDs => ?_⟩
  have hev := congrArg (eval s) hW
  simp only [eval_sub, eval_mul, eval_toP, eval_pow, eval_X, eval_C] at hev
  rw [← sumPF_residuesGo_all p s hs] at hev
  have hp : (s - p) ^ n ≠ 0 := pow_ne_zero _ hs
  field_simp
  linear_combination hev

end Lcapy.Laplace
