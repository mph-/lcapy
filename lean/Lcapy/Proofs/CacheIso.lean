/- C16: operations on one instance leave every other instance untouched (core Lean only). -/
import Lcapy.Proofs.CacheInv
namespace Lcapy.Cache

variable {cfg : Config}

theorem set_other {α : Type} (l : List α) (i k : Nat) (a : α) (h : k ≠ i) : (l.set i a)[k]? = l[k]? := by
  simp [Ne.symm h]

theorem invalidate_other (w : World) (i k : Nat) (h : k ≠ i) : (invalidate cfg w i).insts[k]? = w.insts[k]? := by
  unfold invalidate
  cases hi : w.insts[i]? with
  | none => rfl
  | some inst => simp [set_other _ _ _ _ h]

theorem actOn_other (w : World) (i k : Nat) (r : Inst → Inst × Bool × Bool) (h : k ≠ i) :
    (actOn cfg w i r).1.insts[k]? = w.insts[k]? := by
  unfold actOn
  cases w.insts[i]? with
  | none => rfl
  | some inst =>
    simp only []
    split
    · rw [invalidate_other _ _ _ h]; exact set_other _ _ _ _ h
    · exact set_other _ _ _ _ h

theorem addRaw_other (w : World) (i k : Nat) (e : Elt) (h : k ≠ i) : (addRaw cfg w i e).1.insts[k]? = w.insts[k]? := by
  rw [addRaw_eq]; exact actOn_other _ _ _ _ h

theorem add_other (w : World) (i k : Nat) (e : Elt) (h : k ≠ i) : (add cfg w i e).1.insts[k]? = w.insts[k]? := by
  rw [add_eq]; exact actOn_other _ _ _ _ h

theorem addLines_other (w : World) (i k : Nat) (es : List Elt) (h : k ≠ i) : (addLines cfg w i es).1.insts[k]? = w.insts[k]? := by
  rw [addLines_eq]; exact actOn_other _ _ _ _ h

theorem remove_other (w : World) (i k : Nat) (nm : String) (h : k ≠ i) : (remove cfg w i nm).1.insts[k]? = w.insts[k]? := by
  rw [remove_eq]; exact actOn_other _ _ _ _ h

theorem addFail_other (w : World) (i k : Nat) (es : List Elt) (e : Elt) (late : Bool) (h : k ≠ i) :
    (addFail cfg w i es e late).1.insts[k]? = w.insts[k]? := by
  rw [addFail_eq]; exact actOn_other _ _ _ _ h

theorem readSlot_other (w : World) (i k : Nat) (d : String) (h : k ≠ i) : (readSlot cfg w i d).1.insts[k]? = w.insts[k]? := by
  rcases readSlot_insts (cfg := cfg) w i d with e | ⟨_, _, _, e⟩
  · rw [e]
  · rw [e, set_other _ _ _ _ h]

theorem readSlots_other (ds : List String) (w : World) (i k : Nat) (h : k ≠ i) :
    (readSlots cfg i w ds).1.insts[k]? = w.insts[k]? := by
  induction ds generalizing w with
  | nil => rfl
  | cons d ds ih => simp only [readSlots]; rw [ih, readSlot_other _ _ _ _ h]

theorem newInst_other (w : World) (k : Nat) (h : k < w.insts.length) : (newInst cfg w).insts[k]? = w.insts[k]? := by
  simp [newInst, List.getElem?_append, h]

theorem addRaw_fold_other (es : List Elt) (w : World) (j k : Nat) (h : k ≠ j) :
    (es.foldl (fun w e => (addRaw cfg w j e).1) w).insts[k]? = w.insts[k]? := by
  induction es generalizing w with
  | nil => rfl
  | cons e es ih => simp only [List.foldl]; rw [ih, addRaw_other _ _ _ _ h]

theorem readSlot_length (w : World) (i : Nat) (d : String) : (readSlot cfg w i d).1.insts.length = w.insts.length := by
  rcases readSlot_insts (cfg := cfg) w i d with e | ⟨_, _, _, e⟩
  · rw [e]
  · rw [e, List.length_set]

theorem readSlots_length (ds : List String) (w : World) (i : Nat) : (readSlots cfg i w ds).1.insts.length = w.insts.length := by
  induction ds generalizing w with
  | nil => rfl
  | cons d ds ih => simp only [readSlots]; rw [ih, readSlot_length]

theorem damage_other (w : World) (i k : Nat) (q : String) (h : k ≠ i) : (damage cfg w i q).insts[k]? = w.insts[k]? := by
  unfold damage
  cases hi : w.insts[i]? with
  | none => rfl
  | some inst => simp [set_other _ _ _ _ h]

theorem query_other (w : World) (i k : Nat) (q : String) (h : k ≠ i) : (query cfg w i q).1.insts[k]? = w.insts[k]? := by
  simp only [query]; rw [damage_other _ _ _ _ h, readSlots_other _ _ _ _ h]

theorem query_length (w : World) (i : Nat) (q : String) : (query cfg w i q).1.insts.length = w.insts.length := by
  simp only [query]; rw [damage_length, readSlots_length]

theorem derive_other (w : World) (i k : Nat) (pre : String) (es : List Elt) (h : k ≠ i) (hk : k < w.insts.length) :
    (derive cfg w i pre es).insts[k]? = w.insts[k]? := by
  unfold derive
  have hlen : (query cfg w i pre).1.insts.length = w.insts.length := query_length _ _ _
  rw [addRaw_fold_other _ _ _ _ (by rw [hlen]; exact Nat.ne_of_lt hk), newInst_other _ _ (by rw [hlen]; exact hk)]
  exact query_other _ _ _ _ h

/-- the source of a derived circuit keeps its elements and node table -/
theorem derive_source (w : World) (i : Nat) (pre : String) (es : List Elt) (hi : i < w.insts.length) :
    ((derive cfg w i pre es).insts[i]?).map (fun x : Inst => (x.elts, x.tab)) = (w.insts[i]?).map (fun x : Inst => (x.elts, x.tab)) := by
  unfold derive
  have hlen : (query cfg w i pre).1.insts.length = w.insts.length := query_length _ _ _
  rw [addRaw_fold_other _ _ _ _ (by rw [hlen]; exact Nat.ne_of_lt hi), newInst_other _ _ (by rw [hlen]; exact hi)]
  exact query_abs _ _ _ _

theorem lookup_mem {α : Type} (l : List (String × α)) (s : String) (k : α) (h : l.lookup s = some k) : (s, k) ∈ l := by
  induction l with
  | nil => simp [List.lookup] at h
  | cons x xs ih =>
    obtain ⟨a, b⟩ := x
    by_cases hs : s = a
    · subst hs; simp [List.lookup] at h; subst h; exact List.mem_cons_self ..
    · have : (s == a) = false := by simpa using hs
      simp [List.lookup, this] at h
      exact List.mem_cons_of_mem _ (ih h)

/-- when `_invalidate` clears every memoised member and no query damages a cached object, every slot may be claimed -/
theorem cfgOK_all (hclr : ∀ p ∈ cfg.memoised, cfg.isCleared p.1 = true) (hdmg : cfg.damages = []) :
    CfgOK cfg (fun _ => true) := by
  refine ⟨?_, fun _ _ _ _ => rfl, by rw [hdmg]; intro p hp; cases hp⟩
  intro s _ hk
  cases hk' : cfg.kindOf s with
  | none => simp [hk'] at hk
  | some k => exact hclr (s, k) (lookup_mem _ _ _ hk')

/-- with the six flags set, admissibility is just: public operation -/
theorem runOK_of_flags (cfg : Config) (hadd : cfg.addInvalidates = true) (hmulti : cfg.addMultiInvalidates = true) (hrem : cfg.removeInvalidates = true)
    (hdet : cfg.overrideDetaches = true) (hrsel : cfg.removeSel = .all) (hosel : cfg.overrideSel = .all) (ops : List Op) (w : World)
    (hpub : ∀ op ∈ ops, op.isPublic) (hok : NoRaise cfg w ops) : RunOK cfg w ops := by
  induction ops generalizing w with
  | nil => trivial
  | cons op ops ih =>
    refine ⟨?_, hok.1, ih _ (fun o ho => hpub o (List.mem_cons_of_mem _ ho)) hok.2⟩
    have hp := hpub op (List.mem_cons_self ..)
    cases op with
    | new => trivial
    | add i e => exact ⟨hadd, .inl ⟨hdet, hosel⟩⟩
    | addRaw i e => exact hp
    | addLines i es => exact ⟨hmulti, .inl ⟨hdet, hosel⟩⟩
    | remove i nm => exact ⟨hrem, hrsel⟩
    | query i q => trivial
    | derive i pre es => exact hp
    | addFail i es e late => exact absurd hok.1 (by rw [step, addFail_raises]; simp)

end Lcapy.Cache
