/- C16: helper lemmas on the node table of the cache model (core Lean only). -/
import Lcapy.Model.Cache
namespace Lcapy.Cache

theorem dropNode_ne (t : NodeTab) (n m : String) (h : m ≠ n) :
    countOf (dropNode t n) m = countOf t m ∧ degOf (dropNode t n) m = degOf t m := by
  induction t with
  | nil => exact ⟨rfl, rfl⟩
  | cons x xs ih =>
    by_cases hx : x.name = n
    · have : ¬ x.name = m := fun h2 => h (h2.symm.trans hx)
      simp [dropNode, hx, countOf, degOf, ih, Ne.symm h]
    · simp [dropNode, hx, countOf, degOf, ih]

theorem dropNode_self (t : NodeTab) (n : String) : countOf (dropNode t n) n = 0 ∧ degOf (dropNode t n) n = 0 := by
  induction t with
  | nil => exact ⟨rfl, rfl⟩
  | cons x xs ih =>
    by_cases hx : x.name = n
    · simp [dropNode, hx, ih]
    · simp [dropNode, hx, countOf, degOf, ih]

theorem attach_ent (t : NodeTab) (n : String) (c : Bool) (m : String) :
    countOf (attach t n c) m = countOf t m + (if m = n ∧ c = true then 1 else 0) ∧
    degOf (attach t n c) m = degOf t m + (if m = n then 1 else 0) := by
  induction t with
  | nil => cases c <;> by_cases h : n = m <;> simp [attach, countOf, degOf, h, eq_comm]
  | cons x xs ih =>
    by_cases hx : x.name = n
    · by_cases hm : n = m
      · subst hm; cases c <;> simp [attach, countOf, degOf, hx]
      · have : ¬ m = n := fun h => hm h.symm
        simp [attach, countOf, degOf, hx, hm, this]
    · by_cases hm : x.name = m
      · have : ¬ m = n := fun h => hx (hm.trans h)
        simp [attach, countOf, degOf, hm, this]
      · simp [attach, countOf, degOf, hx, hm, ih]

theorem attachNodes_ent (ns : List String) (c : Bool) (t : NodeTab) (m : String) :
    countOf (ns.foldl (fun t n => attach t n c) t) m = countOf t m + (if c then occ m ns else 0) ∧
    degOf (ns.foldl (fun t n => attach t n c) t) m = degOf t m + occ m ns := by
  induction ns generalizing t with
  | nil => simp [occ]
  | cons n ns ih =>
    simp only [List.foldl, ih, attach_ent, occ]
    cases c
    all_goals
      by_cases h : n = m
      · subst h; simp <;> omega
      · have h' : ¬ m = n := fun e => h e.symm
        simp [h, h'] <;> omega

theorem attachElt_ent (t : NodeTab) (e : Elt) (m : String) :
    countOf (attachElt t e) m = countOf t m + (if e.counted then occ m e.nodes else 0) ∧
    degOf (attachElt t e) m = degOf t m + occ m e.nodes :=
  attachNodes_ent e.nodes e.counted t m

theorem detach_ent (keep : Bool) (t t' : NodeTab) (n : String) (c : Bool) (h : detach keep t n c = some t') (m : String) :
    countOf t' m = (if m = n ∧ c = true then countOf t m - 1 else countOf t m) ∧
    degOf t' m = (if m = n then degOf t m - 1 else degOf t m) := by
  induction t generalizing t' with
  | nil => simp [detach] at h; subst h; simp [countOf, degOf]
  | cons x xs ih =>
    by_cases hx : x.name = n
    · by_cases hcnt : (if c = true then x.count - 1 else x.count) = 0
      · by_cases hdg : x.deg - 1 = 0
        · simp [detach, hx, hcnt, hdg] at h; subst h
          by_cases hm : m = n
          · subst hm; rw [(dropNode_self _ _).1, (dropNode_self _ _).2]
            cases c <;> simp [countOf, degOf, hx] at hcnt ⊢ <;> omega
          · have hxm : ¬ n = m := fun h2 => hm h2.symm
            rw [(dropNode_ne _ _ _ hm).1, (dropNode_ne _ _ _ hm).2]; simp [countOf, degOf, hx, hxm, hm]
        · cases keep with
          | false => simp [detach, hx, hcnt, hdg] at h
          | true =>
            simp [detach, hx, hcnt, hdg] at h; subst h
            by_cases hm : m = n
            · subst hm; cases c <;> simp [countOf, degOf, hx] at hcnt ⊢ <;> omega
            · have hxm : ¬ n = m := fun h2 => hm h2.symm
              simp [countOf, degOf, hx, hxm, hm]
      · simp [detach, hx, hcnt] at h; subst h
        by_cases hm : m = n
        · subst hm; cases c <;> simp [countOf, degOf, hx]
        · have hxm : ¬ n = m := fun h2 => hm h2.symm
          simp [countOf, degOf, hx, hxm, hm]
    · simp only [detach, hx, if_false] at h
      cases hd : detach keep xs n c with
      | none => simp [hd] at h
      | some t2 =>
        simp [hd] at h; subst h
        have := ih t2 hd
        by_cases hxm : x.name = m
        · have : ¬ m = n := fun h2 => hx (hxm.trans h2)
          simp [countOf, degOf, hxm, this]
        · simp [countOf, degOf, hxm, this]

theorem detachAll_ent (keep : Bool) (ns : List String) (c : Bool) (t t' : NodeTab) (h : detachAll keep t ns c = .inr t') (m : String) :
    countOf t' m = countOf t m - (if c then occ m ns else 0) ∧ degOf t' m = degOf t m - occ m ns := by
  induction ns generalizing t with
  | nil => simp [detachAll] at h; subst h; simp [occ]
  | cons n ns ih =>
    simp only [detachAll] at h
    cases hd : detach keep t n c with
    | none => simp [hd] at h
    | some t2 =>
      simp [hd] at h
      rw [(ih t2 h).1, (ih t2 h).2, (detach_ent keep t t2 n c hd m).1, (detach_ent keep t t2 n c hd m).2]
      cases c
      all_goals
        by_cases h : n = m
        · subst h; simp [occ] <;> omega
        · have h' : ¬ m = n := fun e => h e.symm
          simp [occ, h, h'] <;> omega

/-! ### with the guarded delete nothing raises -/

theorem detach_total (t : NodeTab) (n : String) (c : Bool) : ∃ t', detach true t n c = some t' := by
  induction t with
  | nil => exact ⟨[], rfl⟩
  | cons x xs ih =>
    by_cases hx : x.name = n
    · by_cases hcnt : (if c = true then x.count - 1 else x.count) = 0
      · by_cases hdg : x.deg - 1 = 0
        · exact ⟨dropNode xs n, by simp [detach, hx, hcnt, hdg]⟩
        · exact ⟨⟨n, 0, x.deg - 1⟩ :: xs, by simp [detach, hx, hcnt, hdg]⟩
      · exact ⟨⟨n, if c = true then x.count - 1 else x.count, x.deg - 1⟩ :: xs, by simp [detach, hx, hcnt]⟩
    · obtain ⟨t2, h2⟩ := ih
      exact ⟨x :: t2, by simp [detach, hx, h2]⟩

theorem detachAll_total (ns : List String) (t : NodeTab) (c : Bool) : ∃ t', detachAll true t ns c = .inr t' := by
  induction ns generalizing t with
  | nil => exact ⟨t, rfl⟩
  | cons n ns ih =>
    obtain ⟨t2, h2⟩ := detach_total t n c
    obtain ⟨t3, h3⟩ := ih t2
    exact ⟨t3, by simp [detachAll, h2, h3]⟩

end Lcapy.Cache
