/- C16: heap lemmas for the alias model (core Lean only). -/
import Lcapy.Model.Alias
namespace Lcapy.Alias

theorem get_alloc_old (h : Heap) (a : Assum) (i : Nat) (hi : i < h.objs.length) : (h.alloc a).1.get i = h.get i := by
  simp [Heap.alloc, Heap.get, List.getElem?_append, hi]

theorem get_alloc_new (h : Heap) (a : Assum) : (h.alloc a).1.get (h.alloc a).2 = a := by
  simp [Heap.alloc, Heap.get]

theorem get_set_other (h : Heap) (i j : Nat) (a : Assum) (hij : i ≠ j) : (h.set j a).get i = h.get i := by
  simp [Heap.set, Heap.get, Ne.symm hij]

theorem alloc_length (h : Heap) (a : Assum) : (h.alloc a).1.objs.length = h.objs.length + 1 := by
  simp [Heap.alloc]

theorem set_length (h : Heap) (i : Nat) (a : Assum) : (h.set i a).objs.length = h.objs.length := by
  simp [Heap.set]

end Lcapy.Alias
