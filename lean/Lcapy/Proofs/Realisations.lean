/-
  Helper lemmas for C15 (canonical realisations): finite sums, Horner evaluation, the
  normalisation / padding step, and the row-by-row analysis of the companion matrices.
-/
import Lcapy.Model.Realisations
import Mathlib.Tactic.Ring
import Mathlib.Tactic.FieldSimp
import Mathlib.Tactic.LinearCombination
import Mathlib.Algebra.Field.Basic
namespace Lcapy.StateSpace
variable {K : Type} [Field K]

set_option linter.unusedVariables false

/-! ### finite sums -/

theorem sumTo_congr (n : Nat) (f g : Nat → K) (h : ∀ i, i < n → f i = g i) : sumTo n f = sumTo n g := by
  induction n with
  | zero => rfl
  | succ n ih =>
    simp only [sumTo]
    rw [ih (fun i hi => h i (Nat.lt_succ_of_lt hi)), h n (Nat.lt_succ_self n)]

theorem sumTo_zero (n : Nat) : sumTo n (fun _ => (0 : K)) = 0 := by
  induction n with
  | zero => rfl
  | succ n ih => simp [sumTo, ih]

theorem sumTo_add (n : Nat) (f g : Nat → K) : sumTo n (fun i => f i + g i) = sumTo n f + sumTo n g := by
  induction n with
  | zero => simp [sumTo]
  | succ n ih => simp only [sumTo, ih]; ring

theorem sumTo_sub (n : Nat) (f g : Nat → K) : sumTo n (fun i => f i - g i) = sumTo n f - sumTo n g := by
  induction n with
  | zero => simp [sumTo]
  | succ n ih => simp only [sumTo, ih]; ring

theorem sumTo_mul_right (n : Nat) (f : Nat → K) (c : K) : sumTo n (fun i => f i * c) = sumTo n f * c := by
  induction n with
  | zero => simp [sumTo]
  | succ n ih => simp only [sumTo, ih]; ring

theorem sumTo_mul_left (n : Nat) (f : Nat → K) (c : K) : sumTo n (fun i => c * f i) = c * sumTo n f := by
  induction n with
  | zero => simp [sumTo]
  | succ n ih => simp only [sumTo, ih]; ring

theorem sumTo_neg (n : Nat) (f : Nat → K) : sumTo n (fun i => -f i) = -sumTo n f := by
  simpa only [neg_one_mul] using sumTo_mul_left n f (-1)

/-- Σ_{i<n+1} f i = f 0 + Σ_{i<n} f (i+1) -/
theorem sumTo_shift (n : Nat) (f : Nat → K) : sumTo (n + 1) f = f 0 + sumTo n (fun i => f (i + 1)) := by
  induction n with
  | zero => simp [sumTo]
  | succ n ih =>
    have : sumTo (n + 1 + 1) f = sumTo (n + 1) f + f (n + 1) := rfl
    rw [this, ih]
    simp only [sumTo]; ring

/-- a sum with one non-zero term -/
theorem sumTo_single (n k : Nat) (v : Nat → K) :
    sumTo n (fun j => if j = k then v j else 0) = if k < n then v k else 0 := by
  induction n with
  | zero => simp [sumTo]
  | succ n ih =>
    simp only [sumTo, ih]
    by_cases h1 : k < n
    · have : n ≠ k := by omega
      simp [h1, this, Nat.lt_succ_of_lt h1]
    · by_cases h2 : n = k
      · subst h2; simp
      · have : ¬ k < n + 1 := by omega
        simp [h1, h2, this]

theorem sumTo_ite_mul (N i : Nat) (a : K) (u : Nat → K) (hi : i < N) :
    sumTo N (fun j => (if i = j then a else 0) * u j) = a * u i := by
  rw [sumTo_congr N _ (fun j => if j = i then a * u j else 0) fun j _ => by rw [ite_mul, zero_mul]; simp only [eq_comm],
    sumTo_single, if_pos hi]

/-- the rows of the state equation, for the order written as `N` -/
theorem StateEq.rows {sys : SS K} {s : K} {X : Nat → K} (h : StateEq sys s X) {N : Nat} (hn : sys.n = N) :
    ∀ i, i < N → s * X i - sumTo N (fun j => sys.A i j * X j) = sys.B i := by
  subst hn; exact h

/-! ### Horner evaluation -/

theorem polyEval_nil (s : K) : polyEval ([] : List K) s = 0 := rfl

theorem polyEval_append (l : List K) (c s : K) : polyEval (l ++ [c]) s = polyEval l s * s + c := by
  simp [polyEval, List.foldl_append]

theorem coef_append_left (l : List K) (z : K) (i : Nat) (h : i < l.length) : coef (l ++ [z]) i = coef l i := by
  simp [coef, List.getD_eq_getElem?_getD, List.getElem?_append_left h]

theorem coef_append_last (l : List K) (z : K) : coef (l ++ [z]) l.length = z := by
  simp [coef, List.getD_eq_getElem?_getD]

/-- a(s) = a₀·s^N + Σ_{n<N} a_{N−n}·s^n  for a coefficient list of length N + 1 -/
theorem polyEval_split (s : K) : ∀ (N : Nat) (l : List K), l.length = N + 1 →
    polyEval l s = coef l 0 * pw s N + sumTo N (fun n => coef l (N - n) * pw s n) := by
  intro N
  induction N with
  | zero =>
    intro l hl
    match l, hl with
    | [c], _ => simp [polyEval, coef, pw, sumTo]
  | succ N ih =>
    intro l hl
    have hne : l ≠ [] := by intro h; simp [h] at hl
    obtain ⟨l', z, rfl⟩ : ∃ l' z, l = l' ++ [z] := ⟨l.dropLast, l.getLast hne, (List.dropLast_append_getLast hne).symm⟩
    have hl' : l'.length = N + 1 := by simpa using hl
    rw [polyEval_append, ih l' hl', sumTo_shift]
    have h0 : coef (l' ++ [z]) 0 = coef l' 0 := coef_append_left l' z 0 (by omega)
    have hz : coef (l' ++ [z]) (N + 1 - 0) = z := by
      have := coef_append_last l' z
      rw [hl'] at this
      simpa using this
    rw [h0, hz]
    have hs : sumTo N (fun i => coef (l' ++ [z]) (N + 1 - (i + 1)) * pw s (i + 1)) =
        sumTo N (fun n => coef l' (N - n) * pw s n) * s := by
      rw [← sumTo_mul_right]
      apply sumTo_congr
      intro i hi
      have : N + 1 - (i + 1) = N - i := by omega
      rw [this, coef_append_left l' z (N - i) (by omega)]
      simp only [pw]; ring
    rw [hs]
    simp only [pw]; ring

theorem polyEval_take_succ (l : List K) (s : K) (k : Nat) (h : k < l.length) :
    polyEval (l.take (k + 1)) s = polyEval (l.take k) s * s + coef l k := by
  rw [List.take_add_one, List.getElem?_eq_getElem h]
  simp only [Option.toList_some]
  rw [polyEval_append]
  simp [coef, List.getD_eq_getElem?_getD, List.getElem?_eq_getElem h]

theorem polyEval_eq_take (l : List K) (s : K) (N : Nat) (h : l.length = N + 1) :
    polyEval l s = polyEval (l.take N) s * s + coef l N := by
  rw [← polyEval_take_succ l s N (by omega), List.take_of_length_le (by omega)]

theorem polyEval_take_one (l : List K) (s : K) (h : 0 < l.length) : polyEval (l.take 1) s = coef l 0 := by
  have := polyEval_take_succ l s 0 h
  simpa [polyEval_nil] using this

/-! ### normalisation and padding -/

theorem foldl_normalise (a0 s : K) (l : List K) (acc : K) :
    (normalise a0 l).foldl (fun acc c => acc * s + c) (acc / a0) = (l.foldl (fun acc c => acc * s + c) acc) / a0 := by
  induction l generalizing acc with
  | nil => simp [normalise]
  | cons c t ih =>
    simp only [normalise, List.map_cons, List.foldl_cons] at *
    have : acc / a0 * s + c / a0 = (acc * s + c) / a0 := by ring
    rw [this, ih]

theorem polyEval_normalise (a0 s : K) (l : List K) : polyEval (normalise a0 l) s = polyEval l s / a0 := by
  have := foldl_normalise a0 s l 0
  simpa [polyEval] using this

theorem polyEval_padTo (n : Nat) (l : List K) (s : K) : polyEval (padTo n l) s = polyEval l s := by
  simp only [padTo, polyEval, List.foldl_append]
  congr 1
  induction (n - l.length) with
  | zero => simp
  | succ k ih => simp [List.replicate_succ, ih]

theorem length_normalise (a0 : K) (l : List K) : (normalise a0 l).length = l.length := by simp [normalise]

theorem length_padTo (n : Nat) (l : List K) (h : l.length ≤ n) : (padTo n l).length = n := by
  simp [padTo]; omega

/-! ### controllable canonical form -/

/-- Σ_j A_ccf[i, j]·X_j -/
theorem ccf_Arow (b a : List K) (N : Nat) (ha : a.length = N + 1) (X : Nat → K) (i : Nat) (hi : i < N) :
    sumTo N (fun j => (ccfOf b a).A i j * X j) =
      if i + 1 = N then -sumTo N (fun j => coef a (N - j) * X j) else X (i + 1) := by
  have hNa : a.length - 1 = N := by omega
  simp only [ccfOf, hNa]
  split_ifs with hl
  · rw [← sumTo_neg]; exact sumTo_congr N _ _ fun j _ => neg_mul _ _
  · rw [sumTo_congr N _ (fun j => if j = i + 1 then X j else 0) fun j _ => by split_ifs <;> simp, sumTo_single,
      if_pos (by omega)]

/-- what the rows of  (sI − A_ccf) X = r  say, for a right-hand side that vanishes except in the
    last row: the state is (1, s, …, s^{N−1})·X₀ and a(s)·X₀ = r_{N−1} -/
theorem ccf_rows (b a : List K) (N : Nat) (ha : a.length = N + 1) (hN : 1 ≤ N) (ha0 : coef a 0 = 1)
    (s : K) (X r : Nat → K)
    (hrow : ∀ i, i < N → s * X i - sumTo N (fun j => (ccfOf b a).A i j * X j) = r i)
    (hr : ∀ i, i + 1 < N → r i = 0) :
    (∀ n, n < N → X n = pw s n * X 0) ∧ polyEval a s * X 0 = r (N - 1) := by
  have hpow : ∀ n, n < N → X n = pw s n * X 0 := by
    intro n
    induction n with
    | zero => intro _; simp [pw]
    | succ n ih =>
      intro hn
      have h := hrow n (by omega)
      rw [ccf_Arow b a N ha X n (by omega), if_neg (by omega), hr n hn] at h
      rw [pw, mul_comm (pw s n), mul_assoc, ← ih (by omega)]
      linear_combination (-1 : K) * h
  refine ⟨hpow, ?_⟩
  obtain ⟨m, rfl⟩ : ∃ m, N = m + 1 := ⟨N - 1, by omega⟩
  have h := hrow m (by omega)
  rw [ccf_Arow b a _ ha X m (by omega), if_pos rfl,
    sumTo_congr _ _ (fun j => coef a (m + 1 - j) * pw s j * X 0) (fun j hj => by rw [hpow j hj, mul_assoc]),
    sumTo_mul_right, hpow m (by omega)] at h
  rw [polyEval_split s _ a ha, ha0, pw, Nat.add_sub_cancel, ← h]; ring

/-- the state (1, s, …, s^{N−1})·X₀ solves the rows with right-hand side a(s)·X₀ in the last row -/
theorem ccf_rows_conv (b a : List K) (N : Nat) (ha : a.length = N + 1) (hN : 1 ≤ N) (ha0 : coef a 0 = 1)
    (s X0 : K) (i : Nat) (hi : i < N) :
    s * (pw s i * X0) - sumTo N (fun j => (ccfOf b a).A i j * (pw s j * X0)) =
      if i + 1 = N then polyEval a s * X0 else 0 := by
  rw [ccf_Arow b a N ha _ i hi]
  split_ifs with hl
  · subst hl
    rw [sumTo_congr _ _ (fun j => coef a (i + 1 - j) * pw s j * X0) (fun j _ => (mul_assoc _ _ _).symm),
      sumTo_mul_right, polyEval_split s _ a ha, ha0, pw]; ring
  · rw [pw]; ring

/-- output of the CCF for the state (1, s, …)·X₀ with a(s)·X₀ = 1 -/
theorem ccf_output (b a : List K) (N : Nat) (ha : a.length = N + 1) (hb : b.length = N + 1) (ha0 : coef a 0 = 1)
    (s : K) (X : Nat → K) (hpow : ∀ n, n < N → X n = pw s n * X 0) (hX0 : polyEval a s * X 0 = 1) :
    output (ccfOf b a) X * polyEval a s = polyEval b s := by
  have hNa : a.length - 1 = N := by omega
  have hC : ∀ j, j < N → (ccfOf b a).C j * X j =
      (coef b (N - j) * pw s j) * X 0 - (coef a (N - j) * pw s j) * (coef b 0 * X 0) := by
    intro j hj
    simp only [ccfOf, hNa]
    rw [hpow j hj]; ring
  simp only [output]
  have hn : (ccfOf b a).n = N := by simp [ccfOf, hNa]
  have hD : (ccfOf b a).D = coef b 0 := by simp [ccfOf]
  rw [hn, hD, sumTo_congr N _ _ hC, sumTo_sub, sumTo_mul_right, sumTo_mul_right]
  have ea := polyEval_split s N a ha
  have eb := polyEval_split s N b hb
  rw [ha0] at ea
  rw [eb]
  set Sa := sumTo N (fun i => coef a (N - i) * pw s i)
  set Sb := sumTo N (fun i => coef b (N - i) * pw s i)
  rw [ea] at hX0 ⊢
  linear_combination (Sb - Sa * coef b 0) * hX0

/-! ### observable canonical form -/

/-- Σ_j A_ocf[i, j]·X_j -/
theorem ocf_Arow (b a : List K) (N : Nat) (ha : a.length = N + 1) (hN : 1 ≤ N) (X : Nat → K) (i : Nat) :
    sumTo N (fun j => (ocfOf b a).A i j * X j) =
      -(coef a (i + 1)) * X 0 + (if i + 1 < N then X (i + 1) else 0) := by
  have hA : ∀ j, (ocfOf b a).A i j * X j =
      (if j = 0 then -(coef a (i + 1)) * X j else 0) + (if j = i + 1 then X j else 0) := by
    intro j
    simp only [ocfOf]
    by_cases h0 : j = 0
    · subst h0; simp
    · simp only [h0, if_false]; split_ifs <;> simp
  rw [sumTo_congr N _ _ (fun j _ => hA j), sumTo_add, sumTo_single, sumTo_single, if_pos (by omega)]

theorem ocf_B (b a : List K) (i : Nat) : (ocfOf b a).B i = coef b (i + 1) - coef a (i + 1) * coef b 0 := rfl

/-- what the rows of (sI − A_ocf) X = B_ocf say: with y = X₀ + b₀ the output,
    X_k = H_k·y − G_k (H, G the Horner prefixes of a, b) and a(s)·y = b(s) -/
theorem ocf_rows (b a : List K) (N : Nat) (ha : a.length = N + 1) (hb : b.length = N + 1) (hN : 1 ≤ N)
    (ha0 : coef a 0 = 1) (s : K) (X : Nat → K)
    (hrow : ∀ i, i < N → s * X i - sumTo N (fun j => (ocfOf b a).A i j * X j) = (ocfOf b a).B i) :
    (∀ k, k < N → X k = polyEval (a.take (k + 1)) s * (X 0 + coef b 0) - polyEval (b.take (k + 1)) s) ∧
    polyEval a s * (X 0 + coef b 0) = polyEval b s := by
  have hinv : ∀ k, k < N → X k = polyEval (a.take (k + 1)) s * (X 0 + coef b 0) - polyEval (b.take (k + 1)) s := by
    intro k
    induction k with
    | zero =>
      intro _
      rw [polyEval_take_one a s (by omega), polyEval_take_one b s (by omega), ha0]; ring
    | succ k ih =>
      intro hk
      have h := hrow k (by omega)
      rw [ocf_Arow b a N ha hN X k, if_pos hk, ocf_B] at h
      rw [polyEval_take_succ a s (k + 1) (by omega), polyEval_take_succ b s (k + 1) (by omega)]
      linear_combination (-1 : K) * h + s * ih (by omega)
  refine ⟨hinv, ?_⟩
  obtain ⟨m, rfl⟩ : ∃ m, N = m + 1 := ⟨N - 1, by omega⟩
  have h := hrow m (by omega)
  rw [ocf_Arow b a _ ha hN X m, if_neg (lt_irrefl _), ocf_B] at h
  rw [polyEval_eq_take a s _ ha, polyEval_eq_take b s _ hb]
  linear_combination h - s * hinv m (by omega)

/-- conversely, for ANY y the state X_k = H_k·y − G_k satisfies every row but the last, and the
    last row up to a(s)·y − b(s) -/
theorem ocf_rows_conv (b a : List K) (N : Nat) (ha : a.length = N + 1) (hb : b.length = N + 1) (hN : 1 ≤ N)
    (ha0 : coef a 0 = 1) (s y : K) (i : Nat) (hi : i < N) :
    let X : Nat → K := fun k => polyEval (a.take (k + 1)) s * y - polyEval (b.take (k + 1)) s
    s * X i - sumTo N (fun j => (ocfOf b a).A i j * X j) - (ocfOf b a).B i =
      (if i + 1 = N then polyEval a s * y - polyEval b s else 0) + coef a (i + 1) * (X 0 + coef b 0 - y) := by
  intro X
  rw [ocf_Arow b a N ha hN X i]
  simp only [ocfOf]
  have e1 := polyEval_take_succ a s (i + 1) (by omega)
  have e2 := polyEval_take_succ b s (i + 1) (by omega)
  by_cases hl : i + 1 = N
  · subst hl
    rw [if_neg (lt_irrefl _), if_pos rfl, polyEval_eq_take a s _ ha, polyEval_eq_take b s _ hb]
    simp only [X]; ring
  · have hlt : i + 1 < N := by omega
    rw [if_pos hlt, if_neg hl]
    simp only [X]
    rw [e1, e2]; ring

/-! ### diagonal form -/

theorem dcf_Arow (b a poles residues : List K) (X : Nat → K) (i : Nat) (hi : i < a.length - 1) :
    sumTo (a.length - 1) (fun j => (dcfOf b a poles residues).A i j * X j) = coef poles i * X i :=
  sumTo_ite_mul _ i _ X hi

/-! ### the preprocessing step -/

/-- preconditions of `from_ba_CCF/OCF`: a denominator of degree ≥ 1 with non-zero leading
    coefficient, numerator not longer than the denominator (else the code raises
    'Improper transfer function') -/
def ProperTF (b a : List K) : Prop := 2 ≤ a.length ∧ coef a 0 ≠ 0 ∧ b.length ≤ a.length

theorem prep_spec (b a : List K) (h : ProperTF b a) :
    ∃ b' a' N, prep b a = some (b', a') ∧ 1 ≤ N ∧ a'.length = N + 1 ∧ b'.length = N + 1 ∧ coef a' 0 = 1 ∧
      ∀ s, polyEval a' s = polyEval a s / coef a 0 ∧ polyEval b' s = polyEval b s / coef a 0 := by
  obtain ⟨hlen, ha0, hb⟩ := h
  match a, hlen, ha0, hb with
  | a0 :: t, hlen, ha0, hb =>
    have hc : coef (a0 :: t) 0 = a0 := rfl
    rw [hc] at ha0
    have hl : (a0 :: t).length = t.length - 1 + 1 + 1 := by simp only [List.length_cons] at hlen ⊢; omega
    refine ⟨padTo (a0 :: t).length (normalise a0 b), normalise a0 (a0 :: t), t.length - 1 + 1, ?_, by omega, ?_, ?_, ?_, ?_⟩
    · simp only [prep, gt_iff_lt, if_neg (not_lt.mpr hb)]
    · rw [length_normalise, hl]
    · rw [length_padTo _ _ (by rw [length_normalise]; exact hb), hl]
    · simp [normalise, coef, ha0]
    · intro s
      rw [hc]
      exact ⟨polyEval_normalise _ _ _, by rw [polyEval_padTo, polyEval_normalise]⟩

end Lcapy.StateSpace
