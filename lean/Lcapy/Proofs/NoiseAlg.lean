/-
  Helper lemmas for Props/C03Noise.lean: key sets of the noise dictionary of a Superposition under `addNoise`.
-/
import Lcapy.Model.NoiseAlg
import Mathlib.Tactic.Ring
import Mathlib.Algebra.Field.Basic
namespace Lcapy.C03
open Lcapy.Noise
variable {K : Type} [Field K] [DecidableEq K]
set_option linter.unusedSectionVars false

theorem isZero_amp_false (a b : K) (h : ¬(a = 0 ∧ b = 0)) : NVal.isZero (NVal.amp a b) = false := by
  simp only [NVal.isZero, Bool.and_eq_false_iff, decide_eq_false_iff_not]; tauto

theorem cadd_zero (u : K × K) : cadd u czero = u := by simp [cadd, czero]

theorem lookup_not_mem (d : NDict K) (n : Nat) (h : n ∉ keys d) : lookup d n = czero := by
  induction d with
  | nil => rfl
  | cons p t ih =>
    obtain ⟨m, u⟩ := p
    simp only [keys, List.map_cons, List.mem_cons, not_or] at h
    simp only [lookup, if_neg (Ne.symm h.1)]
    exact ih h.2

theorem keys_addNoise_subset (d : NDict K) (n : Nat) (v : K × K) : ∀ k ∈ keys (addNoise d n v), k ∈ keys d ∨ k = n := by
  induction d with
  | nil =>
    intro k hk
    by_cases hv : v = czero
    · simp [addNoise, hv, keys] at hk
    · simp [addNoise, hv, keys] at hk; exact Or.inr hk
  | cons p t ih =>
    obtain ⟨m, u⟩ := p
    intro k hk
    by_cases hv : v = czero
    · simp only [addNoise, hv, if_true] at hk; exact Or.inl hk
    · simp only [addNoise, hv, if_false] at hk
      by_cases hm : m = n
      · simp only [hm, if_true] at hk
        split_ifs at hk
        · left; simp only [keys, List.map_cons, List.mem_cons]; right; exact hk
        · left; simpa [keys, hm] using hk
      · simp only [hm, if_false, keys, List.map_cons, List.mem_cons] at hk
        rcases hk with rfl | hk
        · left; simp [keys]
        · rcases ih k hk with h | h
          · left; simp only [keys, List.map_cons, List.mem_cons]; right; exact h
          · right; exact h

theorem addNoise_nodup (d : NDict K) (n : Nat) (v : K × K) (hd : (keys d).Nodup) : (keys (addNoise d n v)).Nodup := by
  induction d with
  | nil => by_cases hv : v = czero <;> simp [addNoise, hv, keys]
  | cons p t ih =>
    obtain ⟨m, u⟩ := p
    simp only [keys, List.map_cons, List.nodup_cons] at hd
    by_cases hv : v = czero
    · simp only [addNoise, hv, if_true, keys, List.map_cons, List.nodup_cons]; exact hd
    · simp only [addNoise, hv, if_false]
      by_cases hm : m = n
      · simp only [hm, if_true]
        split_ifs
        · exact hd.2
        · simp only [keys, List.map_cons, List.nodup_cons]; rw [← hm]; exact hd
      · simp only [hm, if_false, keys, List.map_cons, List.nodup_cons]
        refine ⟨fun hmem => ?_, ih hd.2⟩
        rcases keys_addNoise_subset t n v m hmem with h | h
        · exact hd.1 h
        · exact hm h

theorem lookup_superNeg (d : NDict K) (m : Nat) : lookup (superNeg d) m = cneg (lookup d m) := by
  induction d with
  | nil => simp [superNeg, lookup, cneg, czero]
  | cons p t ih =>
    obtain ⟨k, u⟩ := p
    simp only [superNeg, List.map_cons, lookup] at ih ⊢
    split_ifs <;> simp [ih]

theorem superAdd_nodup (d e : NDict K) (hd : (keys d).Nodup) : (keys (superAdd d e)).Nodup := by
  induction e generalizing d with
  | nil => exact hd
  | cons p t ih => exact ih _ (addNoise_nodup d p.1 p.2 hd)

end Lcapy.C03
