/-
  Transform laws of the formal unilateral Laplace transform `L` on `ExpPoly K`, over any field `K`
  and any stand-in `E` for the exponential (laws that involve a delay assume `E` additive).
  Helper lemmas; the property theorems quoting them are in Props/C09.lean and Props/C10.lean.
-/
import Lcapy.Spec.Signal
import Lcapy.Model.ExpPoly
import Mathlib.Algebra.Field.Basic
import Mathlib.Tactic.FieldSimp
import Mathlib.Tactic.Ring
import Mathlib.Tactic.LinearCombination
import Mathlib.Data.Nat.Factorial.Basic
namespace Lcapy.Laplace
variable {K : Type} [Field K]

theorem pw_eq (x : K) (n : Nat) : pw x n = x ^ n := by
  induction n with
  | zero => simp [pw]
  | succ n ih => simp [pw, ih, pow_succ]

theorem ofN_eq (n : Nat) : (ofN n : K) = (n : K) := by
  induction n with
  | zero => simp [ofN]
  | succ n ih => simp [ofN, ih]

theorem fact_eq (n : Nat) : (fact n : K) = (n.factorial : K) := by
  induction n with
  | zero => simp [fact]
  | succ n ih => simp [fact, ih, ofN_eq, Nat.factorial_succ]; ring

/-- `E` behaves like an exponential: additive, `E 0 = 1`. -/
structure IsExp (E : K → K) : Prop where
  add : ∀ x y, E (x + y) = E x * E y
  zero : E 0 = 1

theorem isExp_ne_zero {E : K → K} (hE : IsExp E) (x : K) : E x ≠ 0 := by
  intro h
  have := hE.add x (-x)
  rw [add_neg_cancel, hE.zero, h, zero_mul] at this
  exact one_ne_zero this

/-- the stand-in that forgets every delay -/
theorem isExp_one : IsExp (fun _ : K => (1 : K)) := ⟨fun _ _ => (mul_one 1).symm, rfl⟩

theorem IsExp.delay_add {E : K → K} (hE : IsExp E) (s a b : K) : E (-(s * (a + b))) = E (-(s * a)) * E (-(s * b)) := by
  rw [← hE.add]; congr 1; ring

variable (E : K → K)

@[simp] theorem L_nil (s : K) : L E ([] : ExpPoly K) s = 0 := rfl
@[simp] theorem L_cons (t : Term K) (f : ExpPoly K) (s : K) : L E (t :: f) s = t.L E s + L E f s := rfl

theorem L_append (f g : ExpPoly K) (s : K) : L E (f ++ g) s = L E f s + L E g s := by
  induction f with
  | nil => simp
  | cons t f ih => simp [ih, add_assoc]

@[simp] theorem NonPole_nil (s : K) : NonPole ([] : ExpPoly K) s := fun _ h => nomatch h

@[simp] theorem NonPole_cons_ep (c : K) (k : Nat) (p d : K) (f : ExpPoly K) (s : K) :
    NonPole (.ep c k p d :: f) s ↔ s - p ≠ 0 ∧ NonPole f s := List.forall_mem_cons

@[simp] theorem NonPole_cons_dl (c : K) (n : Nat) (d : K) (f : ExpPoly K) (s : K) :
    NonPole (.dl c n d :: f) s ↔ NonPole f s := List.forall_mem_cons.trans (and_iff_right trivial)

theorem NonPole.cons {t : Term K} {f : ExpPoly K} {s : K} (h : NonPole (t :: f) s) :
    NonPole [t] s ∧ NonPole f s :=
  ⟨List.forall_mem_singleton.2 (List.forall_mem_cons.1 h).1, (List.forall_mem_cons.1 h).2⟩

theorem NonPole.append {f g : ExpPoly K} {s : K} (hf : NonPole f s) (hg : NonPole g s) :
    NonPole (f ++ g) s :=
  List.forall_mem_append.2 ⟨hf, hg⟩

/-- term-wise principle: if `g` sends each term `t` to a signal whose transform at `s'` is `a * L t s`,
    then `flatMap g` sends `f` to a signal with transform `a * L f s`. -/
theorem L_flatMap (g : Term K → ExpPoly K) (a s s' : K) (f : ExpPoly K)
    (h : ∀ t ∈ f, L E (g t) s' = a * t.L E s) :
    L E (f.flatMap g) s' = a * L E f s := by
  induction f with
  | nil => simp
  | cons t f ih =>
    simp only [List.flatMap_cons, L_append, L_cons]
    rw [h t (by simp), ih (fun x hx => h x (by simp [hx]))]; ring

theorem L_map (g : Term K → Term K) (a s s' : K) (f : ExpPoly K)
    (h : ∀ t ∈ f, (g t).L E s' = a * t.L E s) :
    L E (f.map g) s' = a * L E f s := by
  induction f with
  | nil => simp
  | cons t f ih =>
    simp only [List.map_cons, L_cons]
    rw [h t (by simp), ih (fun x hx => h x (by simp [hx]))]; ring

/-! ### conjugate pairs -/

/-- two simple fractions at the conjugate points `x ∓ J w` over their common denominator `w² + x²` -/
theorem conj_fracs (J : K) (hJ : J * J = -1) (x w a b : K) (h1 : x - J * w ≠ 0) (h2 : x + J * w ≠ 0) :
    a / (x - J * w) + b / (x + J * w) = ((a + b) * x + (a - b) * (J * w)) / (w * w + x * x) := by
  rw [show w * w + x * x = (x - J * w) * (x + J * w) by linear_combination (w * w) * hJ, div_add_div _ _ h1 h2]
  congr 1; ring

/-- two exponentials at the conjugate rates `ρ ± J w` over the real denominator `w² + (s−ρ)²` -/
theorem L_conj_pair {J : K} (hJ : J * J = -1) (a b ρ w T s : K) (h1 : s - (ρ + J * w) ≠ 0) (h2 : s - (ρ - J * w) ≠ 0) :
    L E [.ep a 0 (ρ + J * w) T, .ep b 0 (ρ - J * w) T] s
      = E (-(s * T)) * (((a + b) * (s - ρ) + (a - b) * (J * w)) / (w * w + (s - ρ) * (s - ρ))) := by
  rw [← conj_fracs J hJ _ _ _ _ (fun h => h1 (by linear_combination h)) (fun h => h2 (by linear_combination h))]
  simp only [L_cons, L_nil, Term.L, pw_eq, zero_add, pow_one, add_zero]
  rw [show s - (ρ + J * w) = s - ρ - J * w by ring, show s - (ρ - J * w) = s - ρ + J * w by ring]
  ring

/-! ### linearity -/

theorem L_smul (a s : K) (f : ExpPoly K) : L E (smul a f) s = a * L E f s := by
  unfold smul
  apply L_map
  intro t _
  cases t <;> simp [Term.smul, Term.L] <;> ring

/-! ### delay -/

theorem L_delay (hE : IsExp E) (T s : K) (f : ExpPoly K) :
    L E (delay T f) s = E (-(s * T)) * L E f s := by
  unfold delay
  apply L_map
  intro t _
  cases t with
  | ep c k p d =>
    simp only [Term.delay, Term.L]
    rw [show -(s * (d + T)) = -(s * T) + -(s * d) by ring, hE.add]; ring
  | dl c n d =>
    simp only [Term.delay, Term.L]
    rw [show -(s * (d + T)) = -(s * T) + -(s * d) by ring, hE.add]; ring

/-! ### derivative -/

theorem L_term_deriv (s : K) (t : Term K) (h : NonPole [t] s) :
    L E (Term.deriv t) s = s * t.L E s := by
  cases t with
  | ep c k p d =>
    have hp : s - p ≠ 0 := h (.ep c k p d) (by simp)
    obtain ⟨u, rfl⟩ : ∃ u, s = u + p := ⟨s - p, (sub_add_cancel s p).symm⟩
    rw [add_sub_cancel_right] at hp
    cases k with
    | zero =>
      simp only [Term.deriv, L_cons, L_nil, Term.L, pw_eq, zero_add, pow_one, pow_zero, add_zero, mul_one, add_sub_cancel_right]
      linear_combination (-(c * E (-((u + p) * d)))) * mul_inv_cancel₀ hp
    | succ k =>
      simp only [Term.deriv, L_cons, L_nil, Term.L, pw_eq, add_zero, add_sub_cancel_right]
      linear_combination (-(c * E (-((u + p) * d)) * (u ^ (k + 1))⁻¹)) * mul_inv_cancel₀ hp
  | dl c n d => simp only [Term.deriv, L_cons, L_nil, Term.L, pw_eq, add_zero]; ring

theorem L_deriv (s : K) (f : ExpPoly K) (h : NonPole f s) :
    L E (deriv f) s = s * L E f s := by
  unfold deriv
  apply L_flatMap
  intro t ht
  exact L_term_deriv E s t (fun x hx => by simp at hx; subst hx; exact h _ ht)

theorem NonPole_term_deriv {s : K} {t : Term K} (h : NonPole [t] s) : NonPole (Term.deriv t) s := by
  cases t with
  | ep c k p d =>
    have hp : s - p ≠ 0 := h (.ep c k p d) (by simp)
    cases k <;> (intro x hx; simp [Term.deriv] at hx; rcases hx with rfl | rfl <;> simp [hp])
  | dl c n d => intro x hx; simp [Term.deriv] at hx; subst hx; trivial

theorem NonPole_deriv {s : K} {f : ExpPoly K} (h : NonPole f s) : NonPole (deriv f) s := by
  intro x hx
  simp only [deriv, List.mem_flatMap] at hx
  obtain ⟨t, ht, hxt⟩ := hx
  exact NonPole_term_deriv (t := t) (fun y hy => by simp at hy; subst hy; exact h _ ht) x hxt

theorem L_derivN (s : K) (n : Nat) (f : ExpPoly K) (h : NonPole f s) :
    L E (derivN n f) s = s ^ n * L E f s ∧ NonPole (derivN n f) s := by
  induction n with
  | zero => simp [derivN, h]
  | succ n ih =>
    refine ⟨?_, NonPole_deriv ih.2⟩
    simp only [derivN]; rw [L_deriv E s _ ih.2, ih.1]; ring

/-- derivative of a whole-axis signal: `L(Dx)(s) = s·L x(s) − x(0⁻)` -/
theorem L_signal_deriv [DecidableEq K] (hE : IsExp E) (s : K) (x : Signal K) (h : NonPole x.post s) :
    (Signal.deriv x).L E s = s * x.L E s - pre0 x.pre := by
  simp only [Signal.deriv, Signal.L, L_append, L_deriv E s _ h, L_cons, L_nil, Term.L, pw]
  simp [hE.zero]; ring

/-! ### exponential weighting: `L{e^{at} f}(s) = L f (s − a)` -/

theorem L_expDelta (hE : IsExp E) (a c d s : K) (n : Nat) :
    L E (expDelta E a c d n) s = c * (s - a) ^ n * E (-((s - a) * d)) ∧ NonPole (expDelta E a c d n) s := by
  induction n with
  | zero =>
    constructor
    · simp only [expDelta, L_cons, L_nil, Term.L, pw]
      rw [show -((s - a) * d) = a * d + -(s * d) by ring, hE.add]; ring
    · intro x hx; simp [expDelta] at hx; subst hx; trivial
  | succ n ih =>
    constructor
    · simp only [expDelta, L_append, L_deriv E s _ ih.2, L_smul, ih.1]; ring
    · apply NonPole.append (NonPole_deriv ih.2)
      intro x hx
      simp only [smul, List.mem_map] at hx
      obtain ⟨y, hy, rfl⟩ := hx
      have := ih.2 y hy
      cases y <;> simp [Term.smul] at this ⊢ <;> exact this

theorem L_expWeight (hE : IsExp E) (a s : K) (f : ExpPoly K) :
    L E (expWeight E a f) s = L E f (s - a) := by
  have := L_flatMap E (Term.expWeight E a) 1 (s - a) s f (by
    intro t _
    cases t with
    | ep c k p d =>
      simp only [Term.expWeight, L_cons, L_nil, Term.L]
      rw [show -((s - a) * d) = a * d + -(s * d) by ring, hE.add,
        show s - (p + a) = s - a - p by ring]; ring
    | dl c n d =>
      simp only [Term.expWeight, Term.L, (L_expDelta E hE a c d s n).1, pw_eq]; ring)
  simpa [expWeight] using this

/-! ### time scaling: `L{f(at)}(s) = (1/a) L f (s/a)` -/

theorem L_scale (a s : K) (ha : a ≠ 0) (f : ExpPoly K) :
    L E (scale a f) s = 1 / a * L E f (s / a) := by
  unfold scale
  apply L_map
  intro t _
  obtain ⟨q, rfl⟩ : ∃ q, s = a * q := ⟨s / a, (mul_div_cancel₀ s ha).symm⟩
  have hE : ∀ d, E (-(a * q * (d / a))) = E (-(q * d)) := fun d => by congr 2; field_simp
  rw [mul_div_cancel_left₀ q ha]
  cases t with
  | ep c k p d =>
    simp only [Term.scale, Term.L, pw_eq, hE]
    rw [show a * q - p * a = a * (q - p) by ring, mul_pow, pow_succ a k]
    generalize q - p = u
    linear_combination (c * E (-(q * d)) * a⁻¹ * (u ^ (k + 1))⁻¹) * mul_inv_cancel₀ (pow_ne_zero k ha)
  | dl c n d =>
    simp only [Term.scale, Term.L, pw_eq, hE]
    rw [mul_pow, pow_succ a n]
    linear_combination (c * E (-(q * d)) * a⁻¹ * q ^ n) * mul_inv_cancel₀ (pow_ne_zero n ha)

/-! ### multiplication by t -/

/-- formal `−d/ds` of the transform of one term (uses `E' = E`) -/
def Term.negDL (s : K) : Term K → K
  | .ep c k p d => c * d * E (-(s * d)) / (s - p) ^ (k + 1) + c * (k + 1) * E (-(s * d)) / (s - p) ^ (k + 2)
  | .dl c n d => c * d * s ^ n * E (-(s * d)) - c * n * s ^ (n - 1) * E (-(s * d))

def negDL : ExpPoly K → K → K
  | [], _ => 0
  | t :: f, s => Term.negDL E s t + negDL f s

theorem L_tmul (s : K) (f : ExpPoly K) : L E (tmul f) s = negDL E f s := by
  induction f with
  | nil => simp [tmul, negDL]
  | cons t f ih =>
    simp only [tmul, List.flatMap_cons, L_append, negDL] at ih ⊢
    rw [ih]; congr 1
    cases t with
    | ep c k p d =>
      simp only [Term.tmul, L_cons, L_nil, Term.L, Term.negDL, pw_eq, ofN_eq]
      push_cast; ring
    | dl c n d =>
      cases n with
      | zero => simp [Term.tmul, Term.L, Term.negDL, pw_eq]
      | succ n => simp [Term.tmul, Term.L, Term.negDL, pw_eq, ofN_eq]; ring

/-! ### convolution -/

theorem L_pfr (p q s : K) (hpq : p - q ≠ 0) (hp : s - p ≠ 0) (hq : s - q ≠ 0) (a b : Nat) (c : K) :
    ((pfr p q a b c).map (fun (x : K × Nat × K) => x.1 / (s - x.2.2) ^ x.2.1)).sum
      = c / ((s - p) ^ a * (s - q) ^ b) := by
  induction a, b, c using pfr.induct (p := p) (q := q) with
  | case1 b c => simp [pfr]
  | case2 a c => simp [pfr]
  | case3 a b c ih1 ih2 =>
    rw [pfr]; simp only [List.map_append, List.sum_append, ih1, ih2]
    field_simp; ring

theorem pfr_order_pos (p q : K) (a b : Nat) (c : K) (hab : 0 < a + b) :
    ∀ x ∈ pfr p q a b c, 0 < x.2.1 ∧ (x.2.2 = p ∨ x.2.2 = q) := by
  induction a, b, c using pfr.induct (p := p) (q := q) with
  | case1 b c => intro x hx; simp [pfr] at hx; subst hx; simp at hab ⊢; exact hab
  | case2 a c => intro x hx; simp [pfr] at hx; subst hx; simp
  | case3 a b c ih1 ih2 =>
    intro x hx; rw [pfr] at hx
    rcases List.mem_append.mp hx with h | h
    · exact ih1 (by omega) x h
    · exact ih2 (by omega) x h


theorem L_pfr_terms (s D : K) (l : List (K × Nat × K)) (hl : ∀ x ∈ l, 0 < x.2.1) :
    L E (l.map (fun (x : K × Nat × K) => Term.ep x.1 (x.2.1 - 1) x.2.2 D)) s
      = E (-(s * D)) * (l.map (fun (x : K × Nat × K) => x.1 / (s - x.2.2) ^ x.2.1)).sum := by
  induction l with
  | nil => simp
  | cons x l ih =>
    have hx : x.2.1 - 1 + 1 = x.2.1 := Nat.sub_add_cancel (hl x (by simp))
    simp only [List.map_cons, L_cons, List.sum_cons, ih (fun y hy => hl y (by simp [hy])), Term.L, pw_eq, hx]
    ring

theorem L_term_conv [DecidableEq K] (hE : IsExp E) (s : K) (x y : Term K)
    (hx : NonPole [x] s) (hy : NonPole [y] s) :
    L E (Term.conv x y) s = x.L E s * y.L E s := by
  cases x with
  | ep c1 k1 p1 d1 =>
    have h1 : s - p1 ≠ 0 := hx (.ep c1 k1 p1 d1) (by simp)
    cases y with
    | ep c2 k2 p2 d2 =>
      have h2 : s - p2 ≠ 0 := hy (.ep c2 k2 p2 d2) (by simp)
      by_cases hp : p1 = p2
      · subst hp
        simp only [Term.conv, if_true, L_cons, L_nil, Term.L, pw_eq, hE.delay_add]
        generalize s - p1 = u
        ring
      · have hpq : p1 - p2 ≠ 0 := sub_ne_zero.mpr hp
        simp only [Term.conv, if_neg hp]
        have := L_pfr_terms E s (d1 + d2) (pfr p1 p2 (k1 + 1) (k2 + 1) (c1 * c2))
          (fun x hx => (pfr_order_pos p1 p2 _ _ _ (by omega) x hx).1)
        rw [this, L_pfr p1 p2 s hpq h1 h2, hE.delay_add]
        simp only [Term.L, pw_eq]
        generalize s - p1 = u, s - p2 = v
        ring
    | dl c2 n2 d2 =>
      simp only [Term.conv]
      rw [(L_derivN E s n2 [.ep (c1 * c2) k1 p1 (d1 + d2)]
        (fun t ht => by simp at ht; subst ht; exact h1)).1]
      simp only [L_cons, L_nil, Term.L, pw_eq, hE.delay_add]; ring
  | dl c1 n1 d1 =>
    cases y with
    | ep c2 k2 p2 d2 =>
      have h2 : s - p2 ≠ 0 := hy (.ep c2 k2 p2 d2) (by simp)
      simp only [Term.conv]
      rw [(L_derivN E s n1 [.ep (c1 * c2) k2 p2 (d1 + d2)]
        (fun t ht => by simp at ht; subst ht; exact h2)).1]
      simp only [L_cons, L_nil, Term.L, pw_eq, hE.delay_add]; ring
    | dl c2 n2 d2 =>
      simp only [Term.conv, L_cons, L_nil, Term.L, pw_eq, hE.delay_add]; ring

theorem L_conv [DecidableEq K] (hE : IsExp E) (s : K) (f g : ExpPoly K)
    (hf : NonPole f s) (hg : NonPole g s) :
    L E (conv f g) s = L E f s * L E g s := by
  unfold conv
  induction f with
  | nil => simp
  | cons x f ih =>
    simp only [List.flatMap_cons, L_append, L_cons]
    rw [ih (NonPole.cons hf).2]
    have := L_flatMap E (fun y => Term.conv x y) (x.L E s) s s g (by
      intro y hy
      exact L_term_conv E hE s x y (NonPole.cons hf).1 (fun t ht => by simp at ht; subst ht; exact hg _ hy))
    rw [this]; ring

theorem L_integ [DecidableEq K] (hE : IsExp E) (s : K) (hs : s ≠ 0) (f : ExpPoly K) (hf : NonPole f s) :
    L E (integ f) s = L E f s / s := by
  unfold integ
  rw [L_conv E hE s f _ hf (fun t ht => by simp at ht; subst ht; simpa using hs)]
  simp [Term.L, pw_eq, hE.zero]; field_simp

end Lcapy.Laplace
