/-
  Continued-fraction expansion (`Expr.continued_fraction_coeffs`, `as_continued_fraction`):
  Euclid step, termination measure.
-/
import Lcapy.Model.Ratfun
import Lcapy.Proofs.Poly
namespace Lcapy.Ratfun
open Lcapy.Poly
variable {K : Type} [Field K] [DecidableEq K]

theorem cfStep_eq_none_iff (N D : List K) : cfStep N D = none ↔ (trim N).length < (trim D).length := by
  unfold cfStep
  simp only
  split
  · rename_i h; exact iff_of_true rfl h
  · rename_i h; exact iff_of_false (Option.some_ne_none _) h

theorem cfStep_eq_some {N D : List K} {q : K} {k : Nat} {N2 : List K} (h : cfStep N D = some (q, k, N2)) :
    (trim D).length ≤ (trim N).length ∧ q = lc N / lc D ∧ k = (trim N).length - (trim D).length ∧
      N2 = trim (Poly.sub (trim N).dropLast (List.replicate k 0 ++ smul q (trim D).dropLast)) := by
  unfold cfStep at h
  simp only at h
  split at h
  · cases h
  · rename_i hge
    cases h
    exact ⟨Nat.le_of_not_lt hge, rfl, rfl, rfl⟩

theorem cfStep_eval {N D : List K} {q : K} {k : Nat} {N2 : List K} (h : cfStep N D = some (q, k, N2))
    (hD : lc D ≠ 0) (x : K) :
    Poly.eval N x = q * x ^ k * Poly.eval D x + Poly.eval N2 x := by
  obtain ⟨hge, rfl, hk, rfl⟩ := cfStep_eq_some h
  have hN := eval_dropLast (trim N) x
  have hDd := eval_dropLast (trim D) x
  have hpow : x ^ ((trim N).length - 1) = x ^ k * x ^ ((trim D).length - 1) := by
    rw [← pow_add]; congr 1; have := trim_length_pos hD; omega
  rw [eval_trim, hpow, show (trim N).getLastD 0 = lc N from rfl] at hN
  rw [eval_trim, show (trim D).getLastD 0 = lc D from rfl] at hDd
  rw [eval_trim, eval_sub, eval_append, eval_replicate_zero, List.length_replicate, eval_smul]
  linear_combination hN - lc N / lc D * x ^ k * hDd - x ^ k * x ^ ((trim D).length - 1) * div_mul_cancel₀ (lc N) hD

theorem cfStep_length {N D : List K} {q : K} {k : Nat} {N2 : List K} (h : cfStep N D = some (q, k, N2))
    (hD : lc D ≠ 0) : (trim N2).length < (trim N).length ∧ (trim D).length ≤ (trim N).length := by
  obtain ⟨hge, rfl, rfl, rfl⟩ := cfStep_eq_some h
  refine ⟨?_, hge⟩
  have h1 := length_trim_le (Poly.sub (trim N).dropLast
    (List.replicate ((trim N).length - (trim D).length) 0 ++ smul (lc N / lc D) (trim D).dropLast))
  have h2 := length_sub_le (trim N).dropLast
    (List.replicate ((trim N).length - (trim D).length) 0 ++ smul (lc N / lc D) (trim D).dropLast)
  rw [List.length_append, List.length_replicate, length_smul, List.length_dropLast, List.length_dropLast] at h2
  have := trim_length_pos hD
  rw [trim_trim]
  omega

omit [Field K] [DecidableEq K] in
/-- how a run passes on the result of the rest: only `.ok` is extended, an error is handed through -/
theorem cons_ok {c : K × Nat} {r : CFRes K} {cs : List (K × Nat)}
    (h : (match r with | .ok rest => CFRes.ok (c :: rest) | e => e) = .ok cs) : ∃ rest, r = .ok rest ∧ cs = c :: rest := by
  cases r with
  | ok rest => cases h; exact ⟨rest, rfl, rfl⟩
  | negPower => cases h
  | fuelOut => cases h

omit [Field K] [DecidableEq K] in
theorem cons_ne_fuelOut {c : K × Nat} {r : CFRes K} (h : r ≠ .fuelOut) :
    (match r with | .ok rest => CFRes.ok (c :: rest) | e => e) ≠ .fuelOut := by
  cases r with
  | ok rest => exact fun h0 => nomatch h0
  | negPower => exact fun h0 => nomatch h0
  | fuelOut => exact h

/-- **termination**: with fuel at least `|N| + |D|` (numbers of coefficients) the recursion never
    runs out of fuel; it stops with coefficients or at a negative power. -/
theorem cfRun_fuel (fuel : Nat) (N D : List K) (hD : lc D ≠ 0)
    (hf : (trim N).length + (trim D).length ≤ fuel) : cfRun fuel N D ≠ .fuelOut := by
  induction fuel generalizing N D with
  | zero => have := trim_length_pos hD; omega
  | succ fuel ih =>
    rw [cfRun]
    cases hs : cfStep N D with
    | none => simp
    | some v =>
      obtain ⟨q, k, N2⟩ := v
      simp only
      split
      · simp
      · rename_i hz
        have hl := cfStep_length hs hD
        exact cons_ne_fuelOut (ih D N2 (lc_ne_zero_of_not_isZero hz) (by omega))

/-- the continued-fraction expression is defined at `x`: no intermediate denominator vanishes there -/
def cfDefined : Nat → List K → List K → K → Bool
  | 0, _, _, _ => true
  | fuel + 1, N, D, x =>
    decide (Poly.eval D x ≠ 0) &&
    match cfStep N D with
    | none => true
    | some (_, _, N2) => if isZero N2 then true else cfDefined fuel D N2 x

end Lcapy.Ratfun
