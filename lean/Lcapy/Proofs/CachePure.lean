/- C16: memo entries never influence the abstract state; queries are pure; failed operations (core Lean only). -/
import Lcapy.Proofs.CacheIso
namespace Lcapy.Cache

variable {cfg : Config}

theorem stripI_eq {x y : Inst} : stripI x = stripI y ↔ x.elts = y.elts ∧ x.tab = y.tab := by
  cases x; cases y; simp [stripI]

theorem strip_get (w : World) (i : Nat) : (strip w).insts[i]? = (w.insts[i]?).map stripI := by
  simp [strip]

theorem strip_length (w : World) : (strip w).insts.length = w.insts.length := by simp [strip]

theorem strip_eq {w w' : World} : strip w = strip w' ↔ w.insts.map stripI = w'.insts.map stripI := by
  simp [strip]

theorem strip_idem (w : World) : strip (strip w) = strip w := by
  simp [strip, stripI, Function.comp_def]

theorem strip_clock (w : World) (c : Nat) : strip { w with clock := c } = strip w := rfl
theorem strip_lru (w : World) (l : List (Nat × Memo)) : strip { w with lru := l } = strip w := rfl

/-- replacing instance `i` by instances with the same elements and table -/
theorem strip_set_congr {w w' : World} (h : strip w = strip w') (i : Nat) {x y : Inst} (hxy : stripI x = stripI y)
    (l l' : List (Nat × Memo)) (c c' : Nat) :
    strip ⟨w.insts.set i x, l, c⟩ = strip ⟨w'.insts.set i y, l', c'⟩ := by
  rw [strip_eq] at h ⊢
  simp only [List.map_set, h, hxy]

theorem strip_set_self (w : World) (i : Nat) (inst x : Inst) (hi : w.insts[i]? = some inst) (hx : stripI x = stripI inst)
    (l : List (Nat × Memo)) (c : Nat) : strip ⟨w.insts.set i x, l, c⟩ = strip w := by
  rw [strip_eq]
  simp only [List.map_set, hx]
  apply List.ext_getElem?
  intro j
  simp only [List.getElem?_set, List.length_map, List.getElem?_map]
  by_cases hij : i = j
  · subst hij
    by_cases hlt : i < w.insts.length
    · have hge : w.insts[i] = inst := by
        have := List.getElem?_eq_getElem hlt; rw [hi] at this; exact (Option.some.inj this).symm
      simp [hlt, hge]
    · simp [hlt]
  · simp [hij]

theorem abs_of_strip {w w' : World} (h : strip w = strip w') : w.abs = w'.abs := by
  rw [strip_eq] at h
  have : ∀ l : List Inst, l.map (fun x => (x.elts, x.tab)) = (l.map stripI).map (fun x => (x.elts, x.tab)) := by
    intro l; simp [stripI, Function.comp_def]
  simp only [World.abs]
  rw [this w.insts, this w'.insts, h]

theorem strip_of_abs {w w' : World} (h : w.abs = w'.abs) : strip w = strip w' := by
  rw [strip_eq]
  have : ∀ l : List Inst, l.map stripI = (l.map (fun x => (x.elts, x.tab))).map (fun p => (⟨p.1, p.2, []⟩ : Inst)) := by
    intro l; simp [stripI, Function.comp_def]
  rw [this w.insts, this w'.insts]
  simp only [World.abs] at h
  rw [h]

/-! ### memo traffic does not touch the abstract state -/

theorem strip_invalidate (w : World) (i : Nat) : strip (invalidate cfg w i) = strip w := by
  unfold invalidate
  cases hi : w.insts[i]? with
  | none => rfl
  | some inst => exact strip_set_self w i inst _ hi (by simp [stripI]) _ _

theorem strip_readSlot (w : World) (i : Nat) (d : String) : strip (readSlot cfg w i d).1 = strip w := by
  rw [strip_eq]
  rcases readSlot_insts (cfg := cfg) w i d with e | ⟨inst, m, hi, e⟩
  · rw [e]
  · rw [e]; exact strip_eq.1 (strip_set_self w i inst _ hi (by rfl) [] 0)

theorem strip_readSlots (ds : List String) (w : World) (i : Nat) : strip (readSlots cfg i w ds).1 = strip w := by
  induction ds generalizing w with
  | nil => rfl
  | cons d ds ih => simp only [readSlots]; rw [ih, strip_readSlot]

theorem strip_damage (w : World) (i : Nat) (q : String) : strip (damage cfg w i q) = strip w := by
  unfold damage
  cases hi : w.insts[i]? with
  | none => rfl
  | some inst => exact strip_set_self w i inst _ hi (by simp [stripI]) _ _

/-- QUERY PURITY (any configuration, also one whose queries mutate cached objects): a query changes
    neither the elements nor the node table of any instance -/
theorem strip_query (w : World) (i : Nat) (q : String) : strip (query cfg w i q).1 = strip w := by
  simp only [query]; rw [strip_damage, strip_readSlots]

/-! ### every operation acts on the abstract state only -/

theorem strip_newInst {w w' : World} (h : strip w = strip w') : strip (newInst cfg w) = strip (newInst cfg w') := by
  rw [strip_eq] at h ⊢
  simp [newInst, h]

theorem addRawInst_congr {x y : Inst} (h : stripI x = stripI y) (e : Elt) :
    stripI (addRawInst cfg x e).1 = stripI (addRawInst cfg y e).1 ∧ (addRawInst cfg x e).2 = (addRawInst cfg y e).2 := by
  obtain ⟨h1, h2⟩ := stripI_eq.1 h
  unfold addRawInst
  rw [h1, h2]
  cases findElt y.elts e.name with
  | none => simp [stripI_eq]
  | some old =>
    simp only []
    split
    · cases detachAll cfg.keepConnectedNode (attachElt y.tab e) (cfg.overrideSel.pick old.nodes) old.counted with
      | inl t => simp [stripI_eq]
      | inr t => simp [stripI_eq]
    · simp [stripI_eq]

theorem addLinesInst_congr (es : List Elt) {x y : Inst} (h : stripI x = stripI y) :
    stripI (addLinesInst cfg x es).1 = stripI (addLinesInst cfg y es).1 ∧ (addLinesInst cfg x es).2 = (addLinesInst cfg y es).2 := by
  induction es generalizing x y with
  | nil => exact ⟨h, rfl⟩
  | cons e es ih =>
    obtain ⟨h1, h2⟩ := addRawInst_congr (cfg := cfg) h e
    simp only [addLinesInst]
    rw [h2]
    split
    · exact ih h1
    · exact ⟨h1, rfl⟩

/-- two worlds with the same abstract state hold, at every index, instances with the same elements and table -/
theorem get_congr {w w' : World} (h : strip w = strip w') (i : Nat) :
    (w.insts[i]? = none ∧ w'.insts[i]? = none) ∨
    (∃ x y, w.insts[i]? = some x ∧ w'.insts[i]? = some y ∧ stripI x = stripI y) := by
  have : (w.insts[i]?).map stripI = (w'.insts[i]?).map stripI := by rw [← strip_get, ← strip_get, h]
  cases hx : w.insts[i]? with
  | none => rw [hx] at this; cases hy : w'.insts[i]? with
    | none => exact Or.inl ⟨rfl, rfl⟩
    | some y => rw [hy] at this; cases this
  | some x => rw [hx] at this; cases hy : w'.insts[i]? with
    | none => rw [hy] at this; cases this
    | some y => rw [hy] at this; exact Or.inr ⟨x, y, rfl, rfl, Option.some.inj this⟩

theorem actOn_congr {w w' : World} (h : strip w = strip w') (i : Nat) {r : Inst → Inst × Bool × Bool}
    (hr : ∀ {x y : Inst}, stripI x = stripI y → stripI (r x).1 = stripI (r y).1 ∧ (r x).2.1 = (r y).2.1) :
    strip (actOn cfg w i r).1 = strip (actOn cfg w' i r).1 ∧ (actOn cfg w i r).2 = (actOn cfg w' i r).2 := by
  unfold actOn
  rcases get_congr h i with ⟨hx, hy⟩ | ⟨x, y, hx, hy, hxy⟩
  · simp only [hx, hy]; exact ⟨h, trivial⟩
  · have hi : ∀ (b : Bool) (v : World), strip (if b then invalidate cfg v i else v) = strip v := by
      intro b v; split
      · exact strip_invalidate v i
      · rfl
    simp only [hx, hy, hi]
    exact ⟨strip_set_congr h i (hr hxy).1 _ _ _ _, (hr hxy).2⟩

theorem addRaw_congr {w w' : World} (h : strip w = strip w') (i : Nat) (e : Elt) :
    strip (addRaw cfg w i e).1 = strip (addRaw cfg w' i e).1 ∧ (addRaw cfg w i e).2 = (addRaw cfg w' i e).2 := by
  rw [addRaw_eq, addRaw_eq]; exact actOn_congr h i fun hxy => addRawInst_congr hxy e

theorem add_congr {w w' : World} (h : strip w = strip w') (i : Nat) (e : Elt) :
    strip (add cfg w i e).1 = strip (add cfg w' i e).1 ∧ (add cfg w i e).2 = (add cfg w' i e).2 := by
  rw [add_eq, add_eq]; exact actOn_congr h i fun hxy => addRawInst_congr hxy e

theorem addLines_congr {w w' : World} (h : strip w = strip w') (i : Nat) (es : List Elt) :
    strip (addLines cfg w i es).1 = strip (addLines cfg w' i es).1 ∧ (addLines cfg w i es).2 = (addLines cfg w' i es).2 := by
  rw [addLines_eq, addLines_eq]; exact actOn_congr h i fun hxy => addLinesInst_congr es hxy

theorem failInst_congr {x y : Inst} (h : stripI x = stripI y) (e : Elt) (late : Bool) :
    stripI (failInst cfg x e late) = stripI (failInst cfg y e late) := by
  obtain ⟨h1, h2⟩ := stripI_eq.1 h
  unfold failInst
  split
  · simp [stripI_eq, h1, h2]
  · exact h

theorem addFail_congr {w w' : World} (h : strip w = strip w') (i : Nat) (es : List Elt) (e : Elt) (late : Bool) :
    strip (addFail cfg w i es e late).1 = strip (addFail cfg w' i es e late).1 ∧
    (addFail cfg w i es e late).2 = (addFail cfg w' i es e late).2 := by
  rw [addFail_eq, addFail_eq]
  refine actOn_congr h i fun {x y} hxy => ⟨?_, rfl⟩
  obtain ⟨h1, h2⟩ := addLinesInst_congr (cfg := cfg) es hxy
  simp only [h2]
  split
  · exact failInst_congr h1 e late
  · exact h1

theorem remove_congr {w w' : World} (h : strip w = strip w') (i : Nat) (nm : String) :
    strip (remove cfg w i nm).1 = strip (remove cfg w' i nm).1 ∧ (remove cfg w i nm).2 = (remove cfg w' i nm).2 := by
  rw [remove_eq, remove_eq]
  refine actOn_congr h i fun {x y} hxy => ?_
  obtain ⟨he, ht⟩ := stripI_eq.1 hxy
  simp only [he, ht]
  cases findElt y.elts nm with
  | none => exact ⟨hxy, rfl⟩
  | some e =>
    simp only []
    cases detachAll cfg.keepConnectedNode y.tab (cfg.removeSel.pick e.nodes) e.counted <;> simp [stripI_eq]

theorem addRaw_fold_congr (es : List Elt) {w w' : World} (h : strip w = strip w') (j : Nat) :
    strip (es.foldl (fun w e => (addRaw cfg w j e).1) w) = strip (es.foldl (fun w e => (addRaw cfg w j e).1) w') := by
  induction es generalizing w w' with
  | nil => exact h
  | cons e es ih => simp only [List.foldl]; exact ih (addRaw_congr h j e).1

theorem derive_congr {w w' : World} (h : strip w = strip w') (i : Nat) (pre : String) (es : List Elt) :
    strip (derive cfg w i pre es) = strip (derive cfg w' i pre es) := by
  have hq : strip (query cfg w i pre).1 = strip (query cfg w' i pre).1 := by rw [strip_query, strip_query]; exact h
  show strip (es.foldl (fun v e => (addRaw cfg v (query cfg w i pre).1.insts.length e).1) (newInst cfg (query cfg w i pre).1)) =
       strip (es.foldl (fun v e => (addRaw cfg v (query cfg w' i pre).1.insts.length e).1) (newInst cfg (query cfg w' i pre).1))
  rw [show (query cfg w i pre).1.insts.length = (query cfg w' i pre).1.insts.length by
    rw [← strip_length, ← strip_length (query cfg w' i pre).1, hq]]
  exact addRaw_fold_congr es (strip_newInst hq) _

/-- ABSTRACTION: the next abstract state and the exception flag of every operation are functions of the
    abstract state (elements and node tables) alone -- no memo entry, no class-level cache entry and
    no clock value can influence them -/
theorem step_congr {w w' : World} (h : strip w = strip w') (op : Op) :
    strip (step cfg w op).1 = strip (step cfg w' op).1 ∧ (step cfg w op).2 = (step cfg w' op).2 := by
  have hc : strip { w with clock := w.clock + 1 } = strip { w' with clock := w'.clock + 1 } := h
  cases op with
  | new => exact ⟨strip_newInst hc, rfl⟩
  | add i e => exact add_congr hc i e
  | addRaw i e => exact addRaw_congr hc i e
  | addLines i es => exact addLines_congr hc i es
  | remove i nm => exact remove_congr hc i nm
  | query i q => simp only [step]; rw [strip_query, strip_query]; exact ⟨hc, trivial⟩
  | derive i pre es => exact ⟨derive_congr hc i pre es, rfl⟩
  | addFail i es e late => exact addFail_congr hc i es e late

theorem run_congr (ops : List Op) {w w' : World} (h : strip w = strip w') :
    strip (run cfg w ops) = strip (run cfg w' ops) := by
  induction ops generalizing w w' with
  | nil => exact h
  | cons op ops ih => exact ih (step_congr h op).1

theorem noRaise_congr (ops : List Op) {w w' : World} (h : strip w = strip w') :
    NoRaise cfg w ops ↔ NoRaise cfg w' ops := by
  induction ops generalizing w w' with
  | nil => exact Iff.rfl
  | cons op ops ih =>
    simp only [NoRaise]
    rw [(step_congr h op).2, ih (step_congr h op).1]

/-! ### admissibility depends on the abstract state only; queries can be erased from a history -/

theorem eltsOf_congr {w w' : World} (h : strip w = strip w') (i : Nat) : eltsOf w i = eltsOf w' i := by
  unfold eltsOf
  rcases get_congr h i with ⟨hx, hy⟩ | ⟨x, y, hx, hy, hxy⟩
  · rw [hx, hy]
  · rw [hx, hy]; simp [(stripI_eq.1 hxy).1]

theorem admissible_congr {w w' : World} (h : strip w = strip w') (op : Op) :
    op.admissible cfg w ↔ op.admissible cfg w' := by
  cases op <;> simp only [Op.admissible, eltsOf_congr h]

theorem runOK_congr (ops : List Op) {w w' : World} (h : strip w = strip w') :
    RunOK cfg w ops ↔ RunOK cfg w' ops := by
  induction ops generalizing w w' with
  | nil => exact Iff.rfl
  | cons op ops ih =>
    simp only [RunOK]
    rw [admissible_congr h op, (step_congr h op).2, ih (step_congr h op).1]

theorem runOKF_congr (ops : List Op) {w w' : World} (h : strip w = strip w') :
    RunOKF cfg w ops ↔ RunOKF cfg w' ops := by
  induction ops generalizing w w' with
  | nil => exact Iff.rfl
  | cons op ops ih =>
    simp only [RunOKF]
    rw [admissible_congr h op, ih (step_congr h op).1]

theorem run_append (a b : List Op) (w : World) : run cfg w (a ++ b) = run cfg (run cfg w a) b := by
  induction a generalizing w with
  | nil => rfl
  | cons op a ih => simp only [List.cons_append, run]; exact ih _

theorem runOK_append (a b : List Op) (w : World) :
    RunOK cfg w (a ++ b) ↔ RunOK cfg w a ∧ RunOK cfg (run cfg w a) b := by
  induction a generalizing w with
  | nil => simp [RunOK, run]
  | cons op a ih => simp only [List.cons_append, RunOK, run, ih, and_assoc]

theorem step_query_strip (w : World) (i : Nat) (q : String) : strip (step cfg w (.query i q)).1 = strip w := by
  simp only [step]; rw [strip_query]; rfl

/-- a query anywhere in a history can be erased without changing the abstract state reached -/
theorem run_erase_query (pre post : List Op) (w : World) (i : Nat) (q : String) :
    strip (run cfg w (pre ++ .query i q :: post)) = strip (run cfg w (pre ++ post)) := by
  rw [run_append, run_append]
  simp only [run]
  exact run_congr post (step_query_strip _ i q)

theorem runOK_erase_query (pre post : List Op) (w : World) (i : Nat) (q : String) :
    RunOK cfg w (pre ++ .query i q :: post) ↔ RunOK cfg w (pre ++ post) := by
  rw [runOK_append, runOK_append]
  simp only [RunOK, Op.admissible, true_and]
  have h1 : (step cfg (run cfg w pre) (.query i q)).2 = true := rfl
  rw [runOK_congr post (step_query_strip (cfg := cfg) (run cfg w pre) i q)]
  simp [h1]

theorem addRawInst_total (hk : cfg.keepConnectedNode = true) (inst : Inst) (e : Elt) : (addRawInst cfg inst e).2 = true := by
  unfold addRawInst
  cases findElt inst.elts e.name with
  | none => rfl
  | some old =>
    simp only []
    split
    · obtain ⟨t', ht'⟩ := detachAll_total (cfg.overrideSel.pick old.nodes) (attachElt inst.tab e) old.counted
      rw [hk, ht']
    · rfl

theorem addLinesInst_total (hk : cfg.keepConnectedNode = true) (es : List Elt) (inst : Inst) : (addLinesInst cfg inst es).2 = true := by
  induction es generalizing inst with
  | nil => rfl
  | cons e es ih => simp only [addLinesInst, addRawInst_total hk, if_true]; exact ih _

/-- which failing operations are claimed atomic: everything except a multi-line `add` whose first
    lines were fine, and a late failure when the code does not detach the half-built component -/
def Op.atomicOnFailure (cfg : Config) : Op → Prop
  | .addFail _ es _ late => es = [] ∧ (late = true → cfg.failedAddDetaches = true)
  | _ => True

theorem failInst_detached {late : Bool} (hl : late = true → cfg.failedAddDetaches = true) (x : Inst) (e : Elt) :
    failInst cfg x e late = x := by
  unfold failInst
  cases late with
  | false => simp
  | true => simp [hl rfl]

/-- when `Node.remove` cannot raise half way, the only operations that raise are those addressed to a missing
    instance, `remove` of an unknown name and the failing `add`; all but the last change nothing -/
theorem failed_step_unchanged (hk : cfg.keepConnectedNode = true) (w : World) (op : Op)
    (hop : ∀ i es e late, op ≠ .addFail i es e late) (hf : (step cfg w op).2 = false) :
    (step cfg w op).1 = { w with clock := w.clock + 1 } := by
  cases op with
  | new => simp [step] at hf
  | query i q => simp [step] at hf
  | derive i pre es => simp [step] at hf
  | addFail i es e late => exact absurd rfl (hop i es e late)
  | add i e =>
    simp only [step] at hf ⊢
    rw [add_eq] at hf ⊢
    exact actOn_unchanged (fun x h => by simp [addRawInst_total hk] at h) hf
  | addRaw i e =>
    simp only [step] at hf ⊢
    rw [addRaw_eq] at hf ⊢
    exact actOn_unchanged (fun x h => by simp [addRawInst_total hk] at h) hf
  | addLines i es =>
    simp only [step] at hf ⊢
    rw [addLines_eq] at hf ⊢
    exact actOn_unchanged (fun x h => by simp [addLinesInst_total hk] at h) hf
  | remove i nm =>
    simp only [step] at hf ⊢
    rw [remove_eq] at hf ⊢
    refine actOn_unchanged (fun x h => ?_) hf
    cases ho : findElt x.elts nm with
    | none => simp only []
    | some e =>
      obtain ⟨t', ht'⟩ := detachAll_total (cfg.removeSel.pick e.nodes) x.tab e.counted
      simp [ho, hk, ht'] at h

/-- ATOMICITY: when `Node.remove` cannot raise half way, every operation that raises leaves the
    elements and node tables of all instances exactly as they were -/
theorem failed_step_strip (hk : cfg.keepConnectedNode = true) (w : World) (op : Op) (hop : op.atomicOnFailure cfg)
    (hf : (step cfg w op).2 = false) : strip (step cfg w op).1 = strip w := by
  by_cases ha : ∃ i es e late, op = .addFail i es e late
  · obtain ⟨i, es, e, late, rfl⟩ := ha
    obtain ⟨hes, hl⟩ := hop
    subst hes
    simp only [step, addFail]
    cases hi : w.insts[i]? with
    | none => rfl
    | some inst =>
      simp only [addLinesInst, if_true, failInst_detached hl]
      have : strip ({ insts := w.insts.set i inst, lru := w.lru, clock := w.clock + 1 } : World) = strip w :=
        strip_set_self w i inst inst hi rfl _ _
      split
      · rw [strip_invalidate]; exact this
      · exact this
  · rw [failed_step_unchanged hk w op (fun i es e late h => ha ⟨i, es, e, late, h⟩) hf]
    rfl

variable {G : String → Bool}

/-- the invariant survives operations that raise, when the code is exception safe in the sense of the
    admissibility conditions (`_invalidate()` in a `finally`, half-built components detached) -/
theorem inv_step_any (hc : CfgOK cfg G) (hk : cfg.keepConnectedNode = true) {w : World} (h : Inv cfg G w) (op : Op)
    (hadm : op.admissible cfg w) : Inv cfg G (step cfg w op).1 := by
  cases hf : (step cfg w op).2 with
  | true => exact inv_step hc h op hadm hf
  | false =>
    have hclk := inv_clock h (w.clock + 1)
    by_cases ha : ∃ i es e late, op = .addFail i es e late
    · obtain ⟨i, es, e, late, rfl⟩ := ha
      obtain ⟨hinv, hl, hover⟩ := hadm
      simp only [step]
      rw [addFail_eq]
      refine inv_actOn hc hclk i _ fun inst hi => ?_
      obtain ⟨ht, hu⟩ := h.tab i inst hi
      have hr := addLinesInst_total (cfg := cfg) hk es inst
      obtain ⟨ht2, hu2, hm2⟩ := addLinesInst_ok (cfg := cfg) es inst ht hu (eltsOf_some (w := w) hi ▸ hover) hr
      simp only [hr, if_true, failInst_detached hl]
      exact ⟨ht2, hu2, hm2, hinv⟩
    · rw [failed_step_unchanged hk w op (fun i es e late h => ha ⟨i, es, e, late, h⟩) hf]
      exact hclk

theorem inv_runF (hc : CfgOK cfg G) (hk : cfg.keepConnectedNode = true) (ops : List Op) {w : World} (h : Inv cfg G w)
    (hr : RunOKF cfg w ops) : Inv cfg G (run cfg w ops) := by
  induction ops generalizing w with
  | nil => exact h
  | cons op ops ih => exact ih (inv_step_any hc hk h op hr.1) hr.2

end Lcapy.Cache
