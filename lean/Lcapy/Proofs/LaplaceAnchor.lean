/-
  Analytic anchors: the term-wise definition of the formal transform `L` (Spec/Signal.lean) agrees
  with the defining integral  ∫_{0}^{∞} x(t) e^{−st} dt  on the basis signals.
-/
import Lcapy.Spec.Signal
import Lcapy.Proofs.Laplace
import Lcapy.Proofs.LaplaceIntegral
import Mathlib.Analysis.SpecialFunctions.Gamma.Basic
import Mathlib.Analysis.SpecialFunctions.ImproperIntegrals
namespace Lcapy.Laplace
open Real MeasureTheory Set

/-- Laplace integral of `t^k e^{pt}` at real `s > p` (region of convergence). -/
theorem anchor_real (k : ℕ) (p s : ℝ) (h : p < s) :
    ∫ t in Ioi (0:ℝ), t ^ k * exp (p * t) * exp (-(s * t)) = (k.factorial : ℝ) / (s - p) ^ (k + 1) := by
  have hr : 0 < s - p := sub_pos.mpr h
  have key := Real.integral_rpow_mul_exp_neg_mul_Ioi (a := (k:ℝ) + 1) (r := s - p) (by positivity) hr
  have hG : Real.Gamma ((k:ℝ) + 1) = k.factorial := Real.Gamma_nat_eq_factorial k
  rw [hG] at key
  have hint : ∫ t in Ioi (0:ℝ), t ^ k * exp (p * t) * exp (-(s * t))
      = ∫ t in Ioi (0:ℝ), t ^ ((k:ℝ) + 1 - 1) * exp (-((s - p) * t)) := by
    apply setIntegral_congr_fun measurableSet_Ioi
    intro t ht
    have : (t:ℝ) ^ ((k:ℝ) + 1 - 1) = t ^ k := by
      rw [add_sub_cancel_right]; exact Real.rpow_natCast t k
    simp only [this, mul_assoc]
    congr 1
    rw [← Real.exp_add]; congr 1; ring
  rw [hint, key]
  rw [Real.rpow_add_one (by positivity : (1 / (s - p)) ≠ 0), Real.rpow_natCast]
  have hne : (s - p) ≠ 0 := hr.ne'
  field_simp
  rw [pow_succ, ← mul_assoc, ← mul_pow, one_div, inv_mul_cancel₀ hne, one_pow, one_mul]

/-- the same, stated with the formal transform: for the basis signal `t^k/k! e^{pt} u(t)`
    the integral of `x(t) e^{−st}` over `t > 0` is `L x s`. -/
theorem anchor_real_L (c : ℝ) (k : ℕ) (p s : ℝ) (h : p < s) :
    ∫ t in Ioi (0:ℝ), (c * t ^ k / (k.factorial : ℝ) * exp (p * t)) * exp (-(s * t))
      = L Real.exp [Term.ep c k p 0] s := by
  have hk : (k.factorial : ℝ) ≠ 0 := by positivity
  have hne : (s - p) ≠ 0 := (sub_pos.mpr h).ne'
  have : ∀ t : ℝ, (c * t ^ k / (k.factorial : ℝ) * exp (p * t)) * exp (-(s * t))
      = (c / (k.factorial : ℝ)) * (t ^ k * exp (p * t) * exp (-(s * t))) := by
    intro t; field_simp
  simp only [this, integral_const_mul, anchor_real k p s h]
  simp [L, Term.L, pw_eq]; field_simp

/-- complex rate, order 0: `∫_0^∞ e^{pt} e^{−st} dt = 1/(s−p)` for `Re p < Re s`. -/
theorem anchor_complex_k0 (p s : ℂ) (h : p.re < s.re) :
    ∫ t : ℝ in Ioi (0:ℝ), Complex.exp (p * t) * Complex.exp (-(s * t)) = 1 / (s - p) := by
  simpa using anchor_complex 0 p s h

end Lcapy.Laplace
