/-
  C02 helper lemmas.
   (1) the transform of every time-domain residual of Spec/LawsT.lean is the corresponding s-domain (ivp) expression
       of Spec/Laws.lean — this is where `L{Dx} = s·X − x(0⁻)` produces the initial-condition sources C·v0, L·i0, M·i0';
   (2) soundness of the normal form (`normalForm` keeps the transform, the pointwise value and every coefficient);
   (3) the coefficient of δ(t) in a derivative is the value at 0⁺.
-/
import Lcapy.Proofs.Laplace
import Lcapy.Proofs.LaplaceILT
import Lcapy.Model.TimeDomain
import Mathlib.Tactic.Linarith
namespace Lcapy.TD
open Lcapy.MNA Lcapy.Laplace

section transform
variable {K : Type} [Field K] (E : K → K)

/-! ### non-pole bookkeeping -/

theorem NonPole_smul {a s : K} {f : ExpPoly K} (h : NonPole f s) : NonPole (smul a f) s := by
  intro x hx
  simp only [smul, List.mem_map] at hx
  obtain ⟨y, hy, rfl⟩ := hx
  have := h y hy
  cases y <;> simp [Term.smul] at this ⊢ <;> exact this

theorem NonPole_subP {s : K} {f g : ExpPoly K} (hf : NonPole f s) (hg : NonPole g s) : NonPole (subP f g) s :=
  NonPole.append hf (NonPole_smul hg)

theorem NonPole_voltT {x : Ix → Signal K} {s : K} (h : ∀ ix, NonPole (x ix).post s) (k : Nat) :
    NonPole (voltT x k).post s := by
  cases k with
  | zero => exact NonPole_nil s
  | succ k => exact h _

theorem NonPole_vpost {x : Ix → Signal K} {s : K} (h : ∀ ix, NonPole (x ix).post s) (a b : Nat) :
    NonPole (vpost x a b) s := NonPole_subP (NonPole_voltT h a) (NonPole_voltT h b)

/-! ### transforms of the building blocks -/

theorem L_subP (f g : ExpPoly K) (s : K) : L E (subP f g) s = L E f s - L E g s := by
  simp only [subP, L_append, L_smul]; ring

theorem L_twoTermT (n1 n2 k : Nat) (i : ExpPoly K) (s : K) :
    L E (twoTermT n1 n2 k i) s = twoTerm n1 n2 k (L E i s) := by
  simp only [twoTermT, twoTerm, L_subP]
  split_ifs <;> simp

theorem L_voltT (x : Ix → Signal K) (k : Nat) (s : K) :
    L E (voltT x k).post s = volt (transformOf E x s) k := by
  cases k with
  | zero => simp [voltT, volt, Signal.zero]
  | succ k => simp [voltT, volt, transformOf]

theorem L_vpost (x : Ix → Signal K) (a b : Nat) (s : K) :
    L E (vpost x a b) s = vd (transformOf E x s) a b := by
  simp only [vpost, L_subP, L_voltT, vd]

/-- `L{D v}(s) = s·V(s) − v(0⁻)` for a state variable -/
theorem L_stateDeriv (hE : IsExp E) (st s : K) (f : ExpPoly K) (h : NonPole f s) :
    L E (stateDeriv st f) s = s * L E f s - st := by
  simp only [stateDeriv, L_append, L_deriv E s f h, L_cons, L_nil, Term.L, pw]
  simp [hE.zero]; ring

theorem L_flatMap_lsum {α : Type} (g : α → ExpPoly K) (l : List α) (s : K) :
    L E (l.flatMap g) s = lsum (l.map (fun c => L E (g c) s)) := by
  induction l with
  | nil => simp [lsum]
  | cons a l ih => simp [List.flatMap_cons, L_append, ih, lsum]

/-- per-component form of `RestWhereUnspecified` -/
def RestC (x : Ix → Signal K) (c : TCpt K) : Prop :=
  match c.1 with
  | .Cap n1 n2 _ none => vpre0 x n1 n2 = 0
  | .Ind _ _ m _ i0 coup =>
      (i0 = none → pre0 (x (.br m)).pre = 0) ∧ (∀ p ∈ coup, p.2.2 = none → pre0 (x (.br p.1)).pre = 0)
  | _ => True

theorem L_mutualDropT (hE : IsExp E) (x : Ix → Signal K) (s : K) (hx : ∀ ix, NonPole (x ix).post s)
    (coup : List (Nat × K × Option K)) (hr : ∀ p ∈ coup, p.2.2 = none → pre0 (x (.br p.1)).pre = 0) :
    L E (mutualDropT x coup) s = mutualDrop s (transformOf E x s) coup - mutualIC coup := by
  induction coup with
  | nil => simp [mutualDropT, mutualDrop, mutualIC, lsum]
  | cons p coup ih =>
    have ih' := ih (fun q hq => hr q (by simp [hq]))
    simp only [mutualDropT, List.flatMap_cons, L_append] at ih' ⊢
    rw [ih', L_smul, L_stateDeriv E hE _ s _ (hx _)]
    simp only [mutualDrop, mutualIC, List.map_cons, lsum, transformOf]
    obtain ⟨m, M, oi⟩ := p
    cases oi with
    | some i0 => simp [stateOf, icFlux]; ring
    | none =>
      have := hr (m, M, none) (by simp) rfl
      simp only [stateOf] at this ⊢
      simp [this, icFlux]; ring

/-- the transform of the current a component draws from node `k` is the s-domain (ivp) outflow -/
theorem outflow_transform (hE : IsExp E) (x : Ix → Signal K) (s : K) (hx : ∀ ix, NonPole (x ix).post s)
    (k : Nat) (c : TCpt K) (hr : RestC x c) :
    L E (outflowT x k c) s = outflow .ivp s (transformOf E x s) k (atS E s c) := by
  obtain ⟨c, w⟩ := c
  cases c with
  | Cap n1 n2 cc v0 =>
    simp only [outflowT, outflow, atS, L_twoTermT, capCurrentT, L_smul,
      L_stateDeriv E hE _ s _ (NonPole_vpost hx n1 n2), L_vpost, capCurrent]
    congr 1
    cases v0 with
    | some v => simp [stateOf]; ring
    | none =>
      have h0 : vpre0 x n1 n2 = 0 := hr
      simp [stateOf, h0]; ring
  | R n1 n2 r => simp only [outflowT, outflow, atS, L_twoTermT, L_smul, L_vpost]; congr 1; ring
  | Y n1 n2 y => simp only [outflowT, outflow, atS, L_twoTermT, L_smul, L_vpost]
  | I n1 n2 i => simp only [outflowT, outflow, atS, L_twoTermT, L_smul]; congr 1; ring
  | G n1 n2 n3 n4 g => simp only [outflowT, outflow, atS, L_twoTermT, L_smul, L_vpost]; congr 1; ring
  | F n1 n2 mc f => simp only [outflowT, outflow, atS, L_twoTermT, L_smul, transformOf]
  | TF n1 n2 n3 n4 m a =>
    simp only [outflowT, outflow, atS, L_append, L_twoTermT, L_smul, transformOf]; congr 2; ring
  | GY n1 n2 n3 n4 m1 m2 r => simp only [outflowT, outflow, atS, L_append, L_twoTermT, transformOf]
  | Open n1 n2 => simp [outflowT, outflow, atS]
  | TPA n1 n2 n3 n4 m a11 a12 a21 a22 =>
    simp only [outflowT, outflow, atS, L_append, L_twoTermT, L_subP, L_smul, L_vpost, transformOf]
  | TPY n1 n2 n3 n4 y11 y12 y21 y22 =>
    simp only [outflowT, outflow, atS, L_append, L_twoTermT, L_smul, L_vpost, transformOf]
  | _ => simp only [outflowT, outflow, atS, L_twoTermT, transformOf]

/-- the transform of every defining-relation residual is the s-domain (ivp) residual -/
theorem laws_transform (hE : IsExp E) (x : Ix → Signal K) (s : K) (hx : ∀ ix, NonPole (x ix).post s)
    (c : TCpt K) (hr : RestC x c) :
    (lawsT x c).map (fun p => (p.1, L E p.2 s)) = laws .ivp s (transformOf E x s) (atS E s c) := by
  obtain ⟨c, w⟩ := c
  cases c with
  | Ind n1 n2 m l i0 coup =>
    obtain ⟨h1, h2⟩ : (i0 = none → pre0 (x (.br m)).pre = 0) ∧
        (∀ p ∈ coup, p.2.2 = none → pre0 (x (.br p.1)).pre = 0) := hr
    simp only [lawsT, laws, atS, List.map_cons, List.map_nil, L_subP, L_append, L_smul, L_vpost,
      L_stateDeriv E hE _ s _ (hx _), L_mutualDropT E hE x s hx coup h2]
    congr 2
    cases i0 with
    | some i => simp [stateOf, transformOf]; ring
    | none => simp [stateOf, h1 rfl, transformOf]; ring
  | V n1 n2 m v => simp only [lawsT, laws, atS, List.map_cons, List.map_nil, L_subP, L_vpost]
  | E n1 n2 n3 n4 m Ad Ac =>
    simp only [lawsT, laws, atS, List.map_cons, List.map_nil, L_subP, L_append, L_smul, L_vpost, L_voltT]
    congr 2; ring
  | H n1 n2 m mc h =>
    simp only [lawsT, laws, atS, List.map_cons, List.map_nil, L_subP, L_smul, L_vpost, transformOf]
  | TF n1 n2 n3 n4 m a =>
    simp only [lawsT, laws, atS, List.map_cons, List.map_nil, L_subP, L_smul, L_vpost]
  | GY n1 n2 n3 n4 m1 m2 r =>
    simp only [lawsT, laws, atS, List.map_cons, List.map_nil, L_subP, L_append, L_smul, L_vpost, transformOf]
  | AM n1 n2 m => simp only [lawsT, laws, atS, List.map_cons, List.map_nil, L_vpost]
  | TR n1 n2 m a => simp only [lawsT, laws, atS, List.map_cons, List.map_nil, L_subP, L_smul, L_voltT]
  | TPA n1 n2 n3 n4 m a11 a12 a21 a22 =>
    simp only [lawsT, laws, atS, List.map_cons, List.map_nil, L_subP, L_smul, L_vpost, transformOf]
  | HY n1 n2 m n3 n4 mc y isc h =>
    have hd : L E [Term.dl isc 0 0] s = isc := by
      simp [L_cons, Term.L, pw, hE.zero]
    simp only [lawsT, laws, atS, List.map_cons, List.map_nil, L_subP, L_smul, L_vpost, transformOf, hd]
  | SP n1 n2 n3 n4 m c1 c2 c4 =>
    simp only [lawsT, laws, atS, List.map_cons, List.map_nil, L_subP, L_append, L_smul, L_voltT]
    try (congr 2; ring)
  | _ => simp [lawsT, laws, atS]

theorem restC_of_rest {tcs : List (TCpt K)} {x : Ix → Signal K} (h : RestWhereUnspecified tcs x)
    {c : TCpt K} (hc : c ∈ tcs) : RestC x c := by
  have := h c hc
  unfold RestC
  exact this

/-- at a point that is no pole of a signal, the transforms of the time-domain residuals are the ivp residuals of C01 -/
theorem laws_at_iff (hE : IsExp E) (tcs : List (TCpt K)) (x : Ix → Signal K)
    (hrest : RestWhereUnspecified tcs x) (s : K) (hs : ∀ ix, NonPole (x ix).post s) :
    Laws .ivp s (tcs.map (atS E s)) (transformOf E x s) ↔
      (∀ k, k ≠ 0 → L E (kclT x k tcs) s = 0) ∧ (∀ c ∈ tcs, ∀ p ∈ lawsT x c, L E p.2 s = 0) := by
  have hk (k : Nat) : L E (kclT x k tcs) s = lsum ((tcs.map (atS E s)).map (outflow .ivp s (transformOf E x s) k)) := by
    rw [kclT, L_flatMap_lsum, List.map_map]
    exact congrArg lsum (List.map_congr_left fun c hc => outflow_transform E hE x s hs k c (restC_of_rest hrest hc))
  simp only [Laws, hk, List.forall_mem_map]
  refine and_congr_right fun _ => forall₂_congr fun c hc => ?_
  rw [← laws_transform E hE x s hs c (restC_of_rest hrest hc), List.forall_mem_map]

end transform

/-! ### hand-over of the state: explicit initial conditions taken from the pre-history = no initial conditions -/

section handover
variable {K : Type} [Field K]

theorem vpre0_of_startsFrom {X : Ix → K} {x : Ix → Signal K} (h : StartsFrom X x) (a b : Nat) :
    vpre0 x a b = vd X a b := by
  have hv : ∀ k, pre0 (voltT x k).pre = volt X k := by
    intro k
    cases k with
    | zero => simp [voltT, Signal.zero, pre0, volt]
    | succ k => simp [voltT, volt, h _]
  simp [vpre0, vd, hv]

theorem mutualDropT_handover {X : Ix → K} {x : Ix → Signal K} (h : StartsFrom X x) (coup : List (Nat × K × Option K)) :
    mutualDropT x (coup.map (fun p => (p.1, p.2.1, some (X (.br p.1)))))
      = mutualDropT x (coup.map (fun p => (p.1, p.2.1, none))) := by
  induction coup with
  | nil => rfl
  | cons p coup ih =>
    simp only [mutualDropT, List.map_cons, List.flatMap_cons] at ih ⊢
    rw [ih]
    simp [stateOf, h _]

theorem outflowT_handover {X : Ix → K} {x : Ix → Signal K} (h : StartsFrom X x) (k : Nat) (c : Cpt K) (w : Signal K) :
    outflowT x k (initializeFrom X c, w) = outflowT x k (clearIC c, w) := by
  cases c with
  | Cap n1 n2 cc v0 => simp only [initializeFrom, clearIC, outflowT, capCurrentT, stateOf, vpre0_of_startsFrom h]
  | _ => rfl

theorem lawsT_handover {X : Ix → K} {x : Ix → Signal K} (h : StartsFrom X x) (c : Cpt K) (w : Signal K) :
    lawsT x (initializeFrom X c, w) = lawsT x (clearIC c, w) := by
  cases c with
  | Ind n1 n2 m l i0 coup => simp only [initializeFrom, clearIC, lawsT, stateOf, h _, mutualDropT_handover h]
  | _ => rfl

end handover

/-! ### KCL at a node no component touches is the empty statement -/

section nodes
variable {K : Type} [Field K]

theorem twoTermT_nil_of_ne {n1 n2 k : Nat} (i : ExpPoly K) (h1 : n1 ≠ k) (h2 : n2 ≠ k) : twoTermT n1 n2 k i = [] := by
  simp [twoTermT, h1, h2, subP, smul]

theorem outflowT_nil (x : Ix → Signal K) (k : Nat) (hk : k ≠ 0) (c : TCpt K) (h : k ∉ nodesOf c.1) : outflowT x k c = [] := by
  obtain ⟨c, w⟩ := c
  have hk' : k ∉ 0 :: nodesOf c := List.not_mem_cons_of_ne_of_not_mem hk h
  have tt {a b : Nat} (i : ExpPoly K) (ha : a ∈ 0 :: nodesOf c) (hb : b ∈ 0 :: nodesOf c) : twoTermT a b k i = [] :=
    twoTermT_nil_of_ne i (ne_of_mem_of_not_mem ha hk') (ne_of_mem_of_not_mem hb hk')
  have m0 {l : List Nat} : 0 ∈ 0 :: l := .head _
  have m1 {a : Nat} {l : List Nat} : a ∈ 0 :: a :: l := .tail _ (.head _)
  have m2 {a b : Nat} {l : List Nat} : a ∈ 0 :: b :: a :: l := .tail _ (.tail _ (.head _))
  have m3 {a b c : Nat} {l : List Nat} : a ∈ 0 :: b :: c :: a :: l := .tail _ (.tail _ (.tail _ (.head _)))
  have m4 {a b c d : Nat} {l : List Nat} : a ∈ 0 :: b :: c :: d :: a :: l := .tail _ (.tail _ (.tail _ (.tail _ (.head _))))
  cases c with
  | Open => rfl
  | TR => exact tt _ m2 m0
  | SP => exact tt _ m3 m0
  | TF | GY | TPA => exact congrArg₂ (· ++ ·) (tt _ m1 m2) (tt _ m3 m4)
  | TPY => exact congrArg₂ (· ++ ·) (tt _ m3 m4) (tt _ m1 m2)
  | _ => exact tt _ m1 m2

theorem kclT_nil (x : Ix → Signal K) (k : Nat) (hk : k ≠ 0) (tcs : List (TCpt K)) (h : ∀ c ∈ tcs, k ∉ nodesOf c.1) :
    kclT x k tcs = [] := by
  induction tcs with
  | nil => rfl
  | cons c tcs ih =>
    simp only [kclT, List.flatMap_cons] at ih ⊢
    rw [outflowT_nil x k hk c (h c (by simp)), ih (fun d hd => h d (by simp [hd]))]
    rfl

theorem not_mem_nodesOf_of_nodesBelow [DecidableEq K] {n : Nat} {tcs : List (TCpt K)} (h : nodesBelow n tcs = true) {k : Nat} (hk : n ≤ k) :
    ∀ c ∈ tcs, k ∉ nodesOf c.1 := by
  intro c hc hm
  have := (List.all_eq_true.mp h) c hc
  have := (List.all_eq_true.mp this) k hm
  simp at this
  omega

end nodes

/-! ### the normal form -/

section normal
variable {K : Type} [Field K] [DecidableEq K]

theorem sameKey_iff (a b : Term K) : sameKey a b = true ↔ a.withCoef 0 = b.withCoef 0 := by
  cases a <;> cases b <;> simp [sameKey, Term.withCoef, and_assoc]

theorem sameKey_refl (a : Term K) : sameKey a a = true := (sameKey_iff a a).mpr rfl

theorem sameKey_false_iff (a b : Term K) : sameKey a b = false ↔ a.withCoef 0 ≠ b.withCoef 0 := by
  rw [Ne, ← sameKey_iff]; simp

theorem withCoef_of_sameKey {κ t : Term K} (h : sameKey κ t = true) : t = κ.withCoef t.coef := by
  cases κ <;> cases t <;> simp_all [sameKey, Term.withCoef, Term.coef]

theorem withCoef_withCoef (t : Term K) (a b : K) : (t.withCoef a).withCoef b = t.withCoef b := by
  cases t <;> rfl

theorem coefOf_append (κ : Term K) (f g : ExpPoly K) : coefOf κ (f ++ g) = coefOf κ f + coefOf κ g := by
  induction f with
  | nil => simp [coefOf]
  | cons t f ih => simp only [List.cons_append, coefOf, ih]; split_ifs <;> ring

theorem sameKey_smul (κ t : Term K) (a : K) : sameKey κ (Term.smul a t) = sameKey κ t := by
  cases κ <;> cases t <;> simp [sameKey, Term.smul]

theorem coefOf_smul (κ : Term K) (a : K) (f : ExpPoly K) : coefOf κ (smul a f) = a * coefOf κ f := by
  induction f with
  | nil => simp [coefOf, smul]
  | cons t f ih =>
    simp only [smul, List.map_cons, coefOf, sameKey_smul] at ih ⊢
    rw [ih]
    split_ifs
    · cases t <;> simp [Term.smul, Term.coef] <;> ring
    · rfl

theorem coefOf_subP (κ : Term K) (f g : ExpPoly K) : coefOf κ (subP f g) = coefOf κ f - coefOf κ g := by
  simp only [subP, coefOf_append, coefOf_smul]; ring

theorem sameKey_comm (a b : Term K) : sameKey a b = sameKey b a := by
  rw [Bool.eq_iff_iff, sameKey_iff, sameKey_iff, eq_comm]

theorem sameKey_congr_right {a b : Term K} (h : sameKey a b = true) (t : Term K) : sameKey t a = sameKey t b := by
  rw [Bool.eq_iff_iff, sameKey_iff, sameKey_iff, (sameKey_iff a b).mp h]

/-- filtering by a predicate that is constant on key classes keeps or removes each class as a whole -/
theorem coefOf_filter (q : Term K → Bool) (hq : ∀ t u, sameKey t u = true → q t = q u) (κ : Term K) (f : ExpPoly K) :
    coefOf κ (f.filter q) = if q κ then coefOf κ f else 0 := by
  induction f with
  | nil => simp [coefOf]
  | cons u f ih =>
    by_cases hk : sameKey κ u = true
    · have hκu := hq κ u hk
      by_cases hqu : q u = true
      · rw [List.filter_cons_of_pos hqu, coefOf, coefOf, ih, hκu, hqu, if_pos hk]; simp [hk]
      · rw [List.filter_cons_of_neg hqu, ih, hκu]; simp [hqu]
    · by_cases hqu : q u = true
      · rw [List.filter_cons_of_pos hqu, coefOf, coefOf, ih, if_neg hk, if_neg hk]
      · rw [List.filter_cons_of_neg hqu, coefOf, ih, if_neg hk]

/-- filtering out another key class does not change the coefficient -/
theorem coefOf_filter_ne (κ t : Term K) (h : sameKey κ t = false) (f : ExpPoly K) :
    coefOf κ (f.filter (fun u => !sameKey t u)) = coefOf κ f := by
  rw [coefOf_filter _ (fun a b hab => by simp only [sameKey_congr_right hab]) κ f, sameKey_comm, h]; rfl

/-- after filtering out the key class of `t`, its coefficient is zero -/
theorem coefOf_filter_eq (κ t : Term K) (h : sameKey κ t = true) (f : ExpPoly K) :
    coefOf κ (f.filter (fun u => !sameKey t u)) = 0 := by
  rw [coefOf_filter _ (fun a b hab => by simp only [sameKey_congr_right hab]) κ f, sameKey_comm, h]; rfl

theorem coefOf_congr {κ κ' : Term K} (h : sameKey κ κ' = true) (f : ExpPoly K) : coefOf κ f = coefOf κ' f := by
  induction f with
  | nil => rfl
  | cons u f ih =>
    have : sameKey κ u = sameKey κ' u := by
      rw [Bool.eq_iff_iff, sameKey_iff, sameKey_iff, (sameKey_iff κ κ').mp h]
    simp [coefOf, this, ih]

theorem sameKey_withCoef (κ t : Term K) (c : K) : sameKey κ (t.withCoef c) = sameKey κ t := by
  cases κ <;> cases t <;> simp [sameKey, Term.withCoef]

/-- sum of a term functional -/
def tsum (φ : Term K → K) : ExpPoly K → K
  | [] => 0
  | t :: f => φ t + tsum φ f

/-- a functional that is linear in the coefficient splits off the class of any key -/
theorem tsum_split (φ : Term K → K) (hφ : ∀ (t : Term K) (c : K), φ (t.withCoef c) = c * φ (t.withCoef 1)) (κ : Term K) (f : ExpPoly K) :
    tsum φ f = coefOf κ f * φ (κ.withCoef 1) + tsum φ (f.filter (fun u => !sameKey κ u)) := by
  induction f with
  | nil => simp [tsum, coefOf]
  | cons t f ih =>
    by_cases h : sameKey κ t = true
    · have ht := withCoef_of_sameKey h
      simp only [tsum, coefOf, h, if_true, List.filter, Bool.not_true]
      rw [ih]
      conv_lhs => rw [ht, hφ]
      ring
    · simp only [Bool.not_eq_true] at h
      simp only [tsum, coefOf, h, List.filter, Bool.not_false]
      rw [ih]; simp; ring

/-- the normal form keeps the sum of every functional that is linear in the coefficient: the transform, the pointwise
    value and every coefficient are such sums -/
theorem tsum_normalForm (φ : Term K → K) (hφ : ∀ (t : Term K) (c : K), φ (t.withCoef c) = c * φ (t.withCoef 1)) :
    ∀ (fuel : Nat) (f : ExpPoly K), f.length ≤ fuel → tsum φ (normalForm fuel f) = tsum φ f := by
  intro fuel
  induction fuel with
  | zero => intro f hf; cases f with
    | nil => rfl
    | cons t f => simp at hf
  | succ fuel ih =>
    intro f hf
    cases f with
    | nil => rfl
    | cons t f =>
      have hlen : (f.filter (fun u => !sameKey t u)).length ≤ fuel :=
        le_trans (List.length_filter_le _ _) (by simpa using hf)
      have ihf := ih _ hlen
      have hs := tsum_split φ hφ t (t :: f)
      simp only [List.filter, sameKey_refl, Bool.not_true] at hs
      simp only [normalForm]
      split_ifs with hc
      · rw [ihf, hs, hc]; ring
      · rw [tsum, ihf, hs, hφ]

theorem tsum_of_formalZero (φ : Term K → K) (hφ : ∀ (t : Term K) (c : K), φ (t.withCoef c) = c * φ (t.withCoef 1))
    {f : ExpPoly K} (h : FormalZero f) : tsum φ f = 0 := by
  rw [← tsum_normalForm φ hφ f.length f le_rfl, show normalForm f.length f = [] from h]; rfl

theorem coefOf_eq_tsum (κ : Term K) (f : ExpPoly K) : coefOf κ f = tsum (fun t => if sameKey κ t then t.coef else 0) f := by
  induction f with
  | nil => rfl
  | cons t f ih => rw [coefOf, tsum, ← ih]; split_ifs <;> simp

theorem coefOf_withCoef (κ t : Term K) (c : K) :
    (if sameKey κ (t.withCoef c) then (t.withCoef c).coef else 0) = c * (if sameKey κ (t.withCoef 1) then (t.withCoef 1).coef else 0) := by
  simp only [sameKey_withCoef]
  cases t <;> simp [Term.withCoef, Term.coef]

/-- the normal form keeps every coefficient -/
theorem coefOf_normalForm (κ : Term K) (fuel : Nat) (f : ExpPoly K) (h : f.length ≤ fuel) :
    coefOf κ (normalForm fuel f) = coefOf κ f := by
  simp only [coefOf_eq_tsum]
  exact tsum_normalForm _ (coefOf_withCoef κ) fuel f h

theorem coefOf_of_formalZero {f : ExpPoly K} (h : FormalZero f) (κ : Term K) : coefOf κ f = 0 := by
  rw [coefOf_eq_tsum]
  exact tsum_of_formalZero _ (coefOf_withCoef κ) h

variable (E : K → K)

theorem Term_L_withCoef (s : K) (t : Term K) (c : K) : (t.withCoef c).L E s = c * (t.withCoef 1).L E s := by
  cases t <;> simp [Term.withCoef, Term.L] <;> ring

theorem L_eq_tsum (f : ExpPoly K) (s : K) : L E f s = tsum (Term.L E s) f := by
  induction f with
  | nil => rfl
  | cons t f ih => rw [L_cons, tsum, ih]

theorem L_split (κ : Term K) (f : ExpPoly K) (s : K) :
    L E f s = coefOf κ f * (κ.withCoef 1).L E s + L E (f.filter (fun u => !sameKey κ u)) s := by
  simp only [L_eq_tsum]
  exact tsum_split _ (Term_L_withCoef E s) κ f

/-- the normal form has the same transform -/
theorem L_normalForm (s : K) (fuel : Nat) (f : ExpPoly K) (h : f.length ≤ fuel) :
    L E (normalForm fuel f) s = L E f s := by
  simp only [L_eq_tsum]
  exact tsum_normalForm _ (Term_L_withCoef E s) fuel f h

theorem L_of_formalZero {f : ExpPoly K} (h : FormalZero f) (s : K) : L E f s = 0 := by
  rw [L_eq_tsum]
  exact tsum_of_formalZero _ (Term_L_withCoef E s) h

end normal

section pointwise
variable {K : Type} [Field K] [LinearOrder K] (E : K → K)

@[simp] theorem evalAt_nil (t : K) : evalAt E ([] : ExpPoly K) t = 0 := rfl
@[simp] theorem evalAt_cons (x : Term K) (f : ExpPoly K) (t : K) : evalAt E (x :: f) t = x.at E t + evalAt E f t := rfl

theorem evalAt_append (f g : ExpPoly K) (t : K) : evalAt E (f ++ g) t = evalAt E f t + evalAt E g t := by
  induction f with
  | nil => simp
  | cons x f ih => simp [ih, add_assoc]

theorem evalAt_smul (a : K) (f : ExpPoly K) (t : K) : evalAt E (smul a f) t = a * evalAt E f t := by
  induction f with
  | nil => simp [smul]
  | cons x f ih =>
    simp only [smul, List.map_cons, evalAt_cons] at ih ⊢
    rw [ih]
    cases x with
    | ep c k p d => simp only [Term.smul, Term.at]; split_ifs <;> ring
    | dl c n d => simp [Term.smul, Term.at]

theorem evalAt_subP (f g : ExpPoly K) (t : K) : evalAt E (subP f g) t = evalAt E f t - evalAt E g t := by
  simp only [subP, evalAt_append, evalAt_smul]; ring

/-- an impulse contributes nothing to the pointwise value: for t > 0 the derivative of a state variable is the
    derivative of the signal -/
theorem evalAt_stateDeriv (st : K) (f : ExpPoly K) (t : K) : evalAt E (stateDeriv st f) t = evalAt E (deriv f) t := by
  simp [stateDeriv, evalAt_append, Term.at]

theorem Term_at_withCoef (t : K) (x : Term K) (c : K) : (x.withCoef c).at E t = c * (x.withCoef 1).at E t := by
  cases x with
  | ep c' k p d => simp only [Term.withCoef, Term.at]; split_ifs <;> ring
  | dl c' n d => simp [Term.withCoef, Term.at]

theorem evalAt_eq_tsum (f : ExpPoly K) (t : K) : evalAt E f t = tsum (Term.at E t) f := by
  induction f with
  | nil => rfl
  | cons x f ih => rw [evalAt_cons, tsum, ih]

theorem evalAt_normalForm (t : K) (fuel : Nat) (f : ExpPoly K) (h : f.length ≤ fuel) :
    evalAt E (normalForm fuel f) t = evalAt E f t := by
  simp only [evalAt_eq_tsum]
  exact tsum_normalForm _ (Term_at_withCoef E t) fuel f h

theorem evalAt_of_formalZero {f : ExpPoly K} (h : FormalZero f) (t : K) : evalAt E f t = 0 := by
  rw [evalAt_eq_tsum]
  exact tsum_of_formalZero _ (Term_at_withCoef E t) h

/-- for a causal signal (no negative delay) `val0plus` IS the value at 0⁺ (`evalAt` at 0, u(0) = 1): a term delayed by
    d > 0 contributes nothing, an undelayed term of order k > 0 vanishes at 0 -/
theorem evalAt_zero_of_causal (hE0 : E 0 = 1) (f : ExpPoly K) (hc : Causal f) : evalAt E f 0 = val0plus f := by
  induction f with
  | nil => rfl
  | cons x f ih =>
    have ih' := ih (fun t ht => hc t (by simp [ht]))
    have hx : (0 : K) ≤ x.delayOf := hc x (by simp)
    cases x with
    | dl c n d => simp [Term.at, val0plus, ih']
    | ep c k p d =>
      have hd : (0 : K) ≤ d := hx
      cases k with
      | zero =>
        by_cases h0 : d = 0
        · subst h0; simp [Term.at, val0plus, ih', pw, fact, hE0]
        · have : ¬ d ≤ 0 := fun h => h0 (le_antisymm h hd)
          simp [Term.at, val0plus, ih', this, h0]
      | succ k =>
        by_cases h0 : d = 0
        · subst h0; simp [Term.at, val0plus, ih', pw]
        · have : ¬ d ≤ 0 := fun h => h0 (le_antisymm h hd)
          simp [Term.at, val0plus, ih', this]

end pointwise

/-! ### the impulse at the origin of a derivative is the value at 0⁺ -/

section impulse
variable {K : Type} [Field K] [DecidableEq K]

theorem impulse0_deriv (f : ExpPoly K) (h : NoDelta f) : impulse0 (deriv f) = val0plus f := by
  induction f with
  | nil => rfl
  | cons t f ih =>
    have ih' := ih (fun x hx => h x (by simp [hx]))
    simp only [impulse0, deriv, List.flatMap_cons, coefOf_append] at ih' ⊢
    rw [ih']
    cases t with
    | dl c n d => exact absurd (h (.dl c n d) (by simp)) (by simp)
    | ep c k p d =>
      cases k with
      | zero =>
        simp only [Term.deriv, coefOf, sameKey, val0plus]
        by_cases hd : d = 0
        · subst hd; simp [Term.coef]
        · have : ¬ (0 : K) = d := fun e => hd e.symm
          simp [hd, this]
      | succ k => simp [Term.deriv, coefOf, sameKey, val0plus]

theorem impulse0_stateDeriv (st : K) (f : ExpPoly K) (h : NoDelta f) :
    impulse0 (stateDeriv st f) = val0plus f - st := by
  have := impulse0_deriv f h
  simp only [impulse0] at this
  simp only [impulse0, stateDeriv, coefOf_append, this, coefOf, sameKey, Term.coef]
  simp; ring

theorem impulse0_mutualDropT (x : Ix → Signal K) (coup : List (Nat × K × Option K))
    (h : ∀ p ∈ coup, NoDelta (x (.br p.1)).post) :
    impulse0 (mutualDropT x coup) =
      lsum (coup.map (fun p => p.2.1 * (val0plus (x (.br p.1)).post - stateOf p.2.2 (pre0 (x (.br p.1)).pre)))) := by
  induction coup with
  | nil => simp [mutualDropT, impulse0, coefOf, lsum]
  | cons p coup ih =>
    have ih' := ih (fun q hq => h q (by simp [hq]))
    have hp := impulse0_stateDeriv (stateOf p.2.2 (pre0 (x (.br p.1)).pre)) (x (.br p.1)).post (h p (by simp))
    simp only [impulse0, mutualDropT, List.flatMap_cons, coefOf_append, coefOf_smul, List.map_cons, lsum] at ih' hp ⊢
    rw [ih', hp]

/-- the δ(t)-coefficient of a residual `u − (a·D f + g)`, `D f` seen from the state `st` -/
theorem impulse_balance (u f g : ExpPoly K) (a st : K) (hz : FormalZero (subP u (smul a (stateDeriv st f) ++ g)))
    (hf : NoDelta f) (hu : impulse0 u = 0) : a * (val0plus f - st) + impulse0 g = 0 := by
  have h0 := coefOf_of_formalZero hz (.dl 0 0 0)
  rw [coefOf_subP, coefOf_append, coefOf_smul, ← impulse0, ← impulse0, ← impulse0, impulse0_stateDeriv st f hf, hu] at h0
  linear_combination -h0

end impulse

end Lcapy.TD
