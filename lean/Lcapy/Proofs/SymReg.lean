/- C16: lemmas on the symbol registry / context machine (core Lean only). -/
import Lcapy.Model.SymReg
namespace Lcapy.SymReg

theorem lookup_put_self {α : Type} (l : List (String × α)) (n : String) (a : α) : (put l n a).lookup n = some a := by
  induction l with
  | nil => simp [put]
  | cons p ps ih =>
    by_cases h : p.1 = n
    · simp [put, h]
    · have : (n == p.1) = false := by simpa using fun e => h e.symm
      simp [put, h, List.lookup, this, ih]

theorem lookup_put_other {α : Type} (l : List (String × α)) (n m : String) (a : α) (h : m ≠ n) :
    (put l n a).lookup m = l.lookup m := by
  induction l with
  | nil =>
    have : (m == n) = false := by simpa using h
    simp [put, List.lookup, this]
  | cons p ps ih =>
    by_cases hp : p.1 = n
    · have h1 : (m == n) = false := by simpa using h
      have h2 : (m == p.1) = false := by rw [hp]; exact h1
      simp [put, hp, List.lookup, h1]
    · by_cases hm : m = p.1
      · subst hm; simp [put, hp, List.lookup]
      · have h2 : (m == p.1) = false := by simpa using hm
        simp [put, hp, List.lookup, h2, ih]

theorem lookup_drop_self {α : Type} (l : List (String × α)) (n : String) : (drop l n).lookup n = none := by
  induction l with
  | nil => rfl
  | cons p ps ih =>
    by_cases h : p.1 = n
    · simp [drop, List.filter, h] at ih ⊢; exact ih
    · have : (n == p.1) = false := by simpa using fun e => h e.symm
      simp [drop, List.filter, h, List.lookup, this] at ih ⊢; exact ih

theorem lookup_drop_other {α : Type} (l : List (String × α)) (n m : String) (h : m ≠ n) :
    (drop l n).lookup m = l.lookup m := by
  induction l with
  | nil => rfl
  | cons p ps ih =>
    by_cases hp : p.1 = n
    · have h2 : (m == p.1) = false := by rw [hp]; simpa using h
      have h3 : (m == n) = false := by simpa using h
      simp [drop, List.filter, hp, List.lookup, h3] at ih ⊢; exact ih
    · by_cases hm : m = p.1
      · subst hm; simp [drop, List.filter, hp, List.lookup]
      · have h2 : (m == p.1) = false := by simpa using hm
        simp [drop, List.filter, hp, List.lookup, h2] at ih ⊢; exact ih

/-! ### the one-name machine simulates the registry -/

theorem view_declare (s : St) (n m : String) (a : Assum) :
    view (declare s m a) n = effStep cfg (view s n) n (.declare m a) := by
  unfold declare effStep view
  by_cases hm : m = n
  · subst hm
    simp only [if_true]
    split
    · rfl
    · simp [lookup_put_self]
  · have hn : n ≠ m := fun e => hm e.symm
    simp only [hm, if_false]
    split
    · rfl
    · simp [lookup_put_other _ _ _ _ hn]

theorem view_use (s : St) (n m : String) (a : Assum) :
    view (use s m a).1 n = effStep cfg (view s n) n (.use m a) := by
  unfold use effStep view
  by_cases hm : m = n
  · subst hm
    simp only [if_true]
    cases h1 : s.reg.lookup m with
    | some b => simp [h1]
    | none =>
      cases h2 : s.kinds.lookup m with
      | some k => simp [h1, h2]
      | none => simp [lookup_put_self]
  · have hn : n ≠ m := fun e => hm e.symm
    simp only [hm, if_false]
    cases h1 : s.reg.lookup m with
    | some b => rfl
    | none =>
      simp only []
      split
      · rfl
      · simp [lookup_put_other _ _ _ _ hn]

theorem view_delete (s : St) (n m : String) :
    view (delete cfg s m) n = effStep cfg (view s n) n (.delete m) := by
  unfold delete effStep view
  by_cases hm : m = n
  · subst hm
    cases hc : cfg.deleteCleansKinds <;> simp [lookup_drop_self]
  · have hn : n ≠ m := fun e => hm e.symm
    cases hc : cfg.deleteCleansKinds <;> simp [hm, lookup_drop_other _ _ _ hn]

theorem view_enter (s : St) (c : Nat) (n : String) : view (enter s c) n = view s n := rfl
theorem view_leave (s : St) (n : String) : view (leave s) n = view s n := by
  unfold leave; cases s.stack <;> rfl

/-- a `use` of `m` with the default assumption, seen from `n` -/
def effUse (v : Option Assum × Option String) (n m : String) : Option Assum × Option String :=
  if m = n then (match v.1 with
    | some _ => v
    | none => if v.2.isSome then v else (some "positive", some "expr")) else v

theorem effUse_idem (v : Option Assum × Option String) (n m : String) : effUse (effUse v n m) n m = effUse v n m := by
  unfold effUse
  by_cases h : m = n
  · simp only [h, if_true]
    obtain ⟨v1, v2⟩ := v
    cases v1 with
    | some b => rfl
    | none => cases v2 <;> simp
  · simp [h]

theorem view_useAll (s : St) (ns : List String) (n : String) :
    view (useAll s ns) n = ns.foldl (fun v m => effUse v n m) (view s n) := by
  induction ns generalizing s with
  | nil => rfl
  | cons m ms ih =>
    simp only [useAll, List.foldl]
    rw [ih, view_use (cfg := ⟨true, true⟩)]
    rfl

theorem fold_effUse_not_mem (ns : List String) (n : String) (v : Option Assum × Option String) (h : ns.contains n = false) :
    ns.foldl (fun v m => effUse v n m) v = v := by
  induction ns generalizing v with
  | nil => rfl
  | cons m ms ih =>
    simp only [List.contains_cons, Bool.or_eq_false_iff] at h
    have hm : ¬ m = n := by
      intro e; have := h.1; simp [e] at this
    simp only [List.foldl]
    rw [ih _ h.2]
    simp [effUse, hm]

theorem fold_effUse_fixed (ns : List String) (n : String) (v : Option Assum × Option String) (hv : effUse v n n = v) :
    ns.foldl (fun v m => effUse v n m) v = v := by
  induction ns generalizing v with
  | nil => rfl
  | cons m ms ih =>
    simp only [List.foldl]
    by_cases hm : m = n
    · subst hm; rw [hv]; exact ih _ hv
    · have : effUse v n m = v := by simp [effUse, hm]
      rw [this]; exact ih _ hv

theorem fold_effUse_mem (ns : List String) (n : String) (v : Option Assum × Option String) (h : ns.contains n = true) :
    ns.foldl (fun v m => effUse v n m) v = effUse v n n := by
  induction ns generalizing v with
  | nil => simp at h
  | cons m ms ih =>
    simp only [List.foldl]
    by_cases hm : m = n
    · subst hm
      exact fold_effUse_fixed ms m _ (effUse_idem v m m)
    · have h' : ms.contains n = true := by
        simp only [List.contains_cons, Bool.or_eq_true] at h
        rcases h with h | h
        · exfalso; apply hm; have : n = m := by simpa using h
          exact this.symm
        · exact h
      have : effUse v n m = v := by simp [effUse, hm]
      rw [this]; exact ih _ h'

theorem view_step (cfg : Cfg) (s : St) (n : String) (op : Op) :
    view (step cfg s op).1 n = effStep cfg (view s n) n op := by
  cases op with
  | declare m a => exact view_declare s n m a
  | use m a => exact view_use s n m a
  | delete m => exact view_delete s n m
  | enter c => rfl
  | leave => exact view_leave s n
  | add c ns ok =>
    have h1 : view (step cfg s (.add c ns ok)).1 n = view (useAll (enter s c) ns) n := by
      simp only [step]; split
      · exact view_leave _ n
      · rfl
    rw [h1, view_useAll, view_enter]
    simp only [effStep]
    cases hc : ns.contains n with
    | false => simp [fold_effUse_not_mem ns n _ hc]
    | true => rw [fold_effUse_mem ns n _ hc]; simp only [effUse, if_true]; rfl

theorem view_run (cfg : Cfg) (h : List Op) (s : St) (n : String) :
    view (run cfg s h) n = effective cfg (view s n) n h := by
  induction h generalizing s with
  | nil => rfl
  | cons op ops ih => simp only [run, effective]; rw [ih, view_step]

theorem effStep_not_mentions (cfg : Cfg) (v : Option Assum × Option String) (n : String) (op : Op) (h : op.mentions n = false) :
    effStep cfg v n op = v := by
  cases op <;> simp_all [Op.mentions, effStep]

theorem effective_restrict (cfg : Cfg) (h : List Op) (v : Option Assum × Option String) (n : String) :
    effective cfg v n (restrict h n) = effective cfg v n h := by
  induction h generalizing v with
  | nil => rfl
  | cons op ops ih =>
    simp only [restrict, List.filter] at ih ⊢
    cases hm : op.mentions n with
    | true => simp only [effective]; exact ih _
    | false => simp only [effective, effStep_not_mentions cfg v n op hm]; exact ih _

theorem use_answer (s : St) (n : String) (a : Assum) : (use s n a).2 = useAnswer (view s n) a := by
  unfold use useAnswer view
  cases h1 : s.reg.lookup n with
  | some b => simp
  | none => simp only []; split <;> simp

theorem useAll_ctx (s : St) (ns : List String) : (useAll s ns).cur = s.cur ∧ (useAll s ns).stack = s.stack := by
  induction ns generalizing s with
  | nil => exact ⟨rfl, rfl⟩
  | cons m ms ih =>
    simp only [useAll]
    obtain ⟨h1, h2⟩ := ih (use s m "positive").1
    have : (use s m "positive").1.cur = s.cur ∧ (use s m "positive").1.stack = s.stack := by
      unfold use
      cases s.reg.lookup m with
      | some b => exact ⟨rfl, rfl⟩
      | none => simp only []; split <;> exact ⟨rfl, rfl⟩
    exact ⟨h1.trans this.1, h2.trans this.2⟩

end Lcapy.SymReg
