/-
  `Cx K` (Model/Cx.lean) is a commutative ring when `K` is one, and a field when `K` is an ordered field
  (a² + b² = 0 only for a = b = 0), so that every theorem stated for an arbitrary field — `mna_iff_laws`,
  superposition, Thevenin — applies to the phasor domain over any ordered field of "real" numbers.
-/
import Lcapy.Model.Cx
import Mathlib.Algebra.Order.Field.Basic
import Mathlib.Tactic.Ring
import Mathlib.Tactic.FieldSimp
import Mathlib.Tactic.Positivity
import Mathlib.Tactic.Linarith
namespace Lcapy.Cx

@[ext] theorem ext' {K : Type} {z w : Cx K} (h1 : z.re = w.re) (h2 : z.im = w.im) : z = w := by
  cases z; cases w; simp_all

section ring
variable {K : Type} [CommRing K]

@[simp] theorem add_re (z w : Cx K) : (z + w).re = z.re + w.re := rfl
@[simp] theorem add_im (z w : Cx K) : (z + w).im = z.im + w.im := rfl
@[simp] theorem sub_re (z w : Cx K) : (z - w).re = z.re - w.re := rfl
@[simp] theorem sub_im (z w : Cx K) : (z - w).im = z.im - w.im := rfl
@[simp] theorem neg_re (z : Cx K) : (-z).re = -z.re := rfl
@[simp] theorem neg_im (z : Cx K) : (-z).im = -z.im := rfl
@[simp] theorem mul_re (z w : Cx K) : (z * w).re = z.re * w.re - z.im * w.im := rfl
@[simp] theorem mul_im (z w : Cx K) : (z * w).im = z.re * w.im + z.im * w.re := rfl
@[simp] theorem zero_re : (0 : Cx K).re = 0 := rfl
@[simp] theorem zero_im : (0 : Cx K).im = 0 := rfl
@[simp] theorem one_re : (1 : Cx K).re = 1 := rfl
@[simp] theorem one_im : (1 : Cx K).im = 0 := rfl
@[simp] theorem two_re : (2 : Cx K).re = 2 := rfl
@[simp] theorem two_im : (2 : Cx K).im = 0 := rfl
@[simp] theorem ofReal_re (r : K) : (ofReal r).re = r := rfl
@[simp] theorem ofReal_im (r : K) : (ofReal r).im = 0 := rfl
@[simp] theorem jw_re (w : K) : (jw w).re = 0 := rfl
@[simp] theorem jw_im (w : K) : (jw w).im = w := rfl

instance : CommRing (Cx K) where
  add_assoc := by intros; ext <;> simp [add_assoc]
  zero_add := by intros; ext <;> simp
  add_zero := by intros; ext <;> simp
  add_comm := by intros; ext <;> simp [add_comm]
  neg_add_cancel := by intros; ext <;> simp
  sub_eq_add_neg := by intros; ext <;> simp [sub_eq_add_neg]
  mul_assoc := by intros; ext <;> simp <;> ring
  one_mul := by intros; ext <;> simp
  mul_one := by intros; ext <;> simp
  left_distrib := by intros; ext <;> simp <;> ring
  right_distrib := by intros; ext <;> simp <;> ring
  mul_comm := by intros; ext <;> simp <;> ring
  zero_mul := by intros; ext <;> simp
  mul_zero := by intros; ext <;> simp
  nsmul := nsmulRec
  zsmul := zsmulRec
  natCast n := ⟨(n : K), 0⟩
  natCast_zero := by ext <;> simp
  natCast_succ := by intro n; ext <;> simp
  intCast n := ⟨(n : K), 0⟩
  intCast_ofNat := by
    intro n
    show (⟨((Int.ofNat n : ℤ) : K), 0⟩ : Cx K) = ⟨(n : K), 0⟩
    simp
  intCast_negSucc := by
    intro n
    show (⟨((Int.negSucc n : ℤ) : K), 0⟩ : Cx K) = -(⟨((n + 1 : ℕ) : K), 0⟩ : Cx K)
    ext <;> simp [Int.cast_negSucc]

/-- j² = −1 -/
theorem jw_one_sq : (jw (1 : K)) * jw 1 = -1 := by ext <;> simp

theorem jw_eq (w : K) : jw w = jw 1 * ofReal w := by ext <;> simp

theorem ofReal_add (a b : K) : ofReal (a + b) = ofReal a + ofReal b := by ext <;> simp
theorem ofReal_mul (a b : K) : ofReal (a * b) = ofReal a * ofReal b := by ext <;> simp
theorem ofReal_neg (a : K) : ofReal (-a) = -ofReal a := by ext <;> simp
@[simp] theorem ofReal_zero : ofReal (0 : K) = 0 := rfl
@[simp] theorem ofReal_one : ofReal (1 : K) = 1 := rfl
end ring

section field
variable {K : Type} [Field K]

@[simp] theorem div_re (z w : Cx K) : (z / w).re = (z.re * w.re + z.im * w.im) / normSq w := rfl
@[simp] theorem div_im (z w : Cx K) : (z / w).im = (z.im * w.re - z.re * w.im) / normSq w := rfl

theorem x_div_sq (x : K) : x / (x * x) = 1 / x := by
  by_cases h : x = 0
  · subst h; simp
  · field_simp

/-- division by a real number is componentwise (also for 0, by the common totalisation) -/
theorem div_ofReal (z : Cx K) (r : K) : z / ofReal r = ofReal (1 / r) * z := by
  ext <;> simp only [div_re, div_im, mul_re, mul_im, ofReal_re, ofReal_im, normSq, mul_zero, add_zero, sub_zero,
    zero_mul] <;> rw [mul_div_assoc, x_div_sq, mul_comm]

theorem div_two (z : Cx K) : z / 2 = ofReal (1 / 2) * z := div_ofReal z 2
end field

section ordered
variable {K : Type} [Field K] [LinearOrder K] [IsStrictOrderedRing K]

theorem normSq_eq_zero (w : Cx K) : normSq w = 0 ↔ w = 0 := by
  rw [normSq, mul_self_add_mul_self_eq_zero]
  exact ⟨fun h => ext' h.1 h.2, fun h => by rw [h]; exact ⟨rfl, rfl⟩⟩

noncomputable instance : Field (Cx K) where
  inv w := 1 / w
  div_eq_mul_inv := by
    intro z w
    ext <;> simp [normSq] <;> ring
  exists_pair_ne := ⟨0, 1, by intro h; have := congrArg Cx.re h; simp at this⟩
  mul_inv_cancel := by
    intro w hw
    have hn : normSq w ≠ 0 := fun h => hw ((normSq_eq_zero w).mp h)
    have hn' : w.re ^ 2 + w.im ^ 2 ≠ 0 := by simpa [normSq, sq] using hn
    ext
    · simp only [mul_re, div_re, div_im, one_re, one_im, normSq]; field_simp; ring
    · simp only [mul_im, div_re, div_im, one_re, one_im, normSq]; field_simp; ring
  inv_zero := by ext <;> simp [normSq]
  nnqsmul := _
  nnqsmul_def := fun _ _ => rfl
  qsmul := _
  qsmul_def := fun _ _ => rfl
end ordered

section immittance
variable {K : Type} [Field K]
set_option linter.unusedSimpArgs false

/-- 1/(j x) = −j/x  (also at x = 0 under the common totalisation) -/
theorem inv_jx (x : K) : (1 : Cx K) / ⟨0, x⟩ = ⟨0, -(1 / x)⟩ := by
  ext <;> simp [normSq]
  rw [neg_div, x_div_sq]; simp

theorem inv_rx (r : K) : (1 : Cx K) / ⟨r, 0⟩ = ⟨1 / r, 0⟩ := by
  ext <;> simp [normSq]

theorem inv_inv_jx (x : K) : (1 : Cx K) / (1 / ⟨0, x⟩) = ⟨0, x⟩ := by
  rw [inv_jx, inv_jx]
  ext <;> simp

theorem serRLC_at_jw (w r l c : K) :
    (0 : Cx K) + (0 + ofReal r + ⟨0, w * l⟩) + ⟨0, -(1 / (w * c))⟩ = ⟨r, w * l - 1 / (w * c)⟩ := by
  ext
  · simp only [add_re, ofReal_re, zero_add, add_zero]
  · simp only [add_im, ofReal_im, zero_add, sub_eq_add_neg]

theorem jw_mul_ofReal (w c : K) : jw w * ofReal c = ⟨0, w * c⟩ := by ext <;> simp

end immittance

end Lcapy.Cx
