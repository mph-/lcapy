/-
  Bridge from the coefficient-list polynomials of `Lcapy/Model/Poly.lean` to Mathlib's `Polynomial`, used for
  uniqueness of exact long division over an infinite field (`divmod_exact`), which makes the acceptance
  conditions of the synthesis pattern forms (C19, `accepts_iff`) semantic: a form accepts `N/D` iff `N/D` IS of
  its shape.  Not linked into any driver.
-/
import Lcapy.Proofs.PolyFoster
import Lcapy.Proofs.ResidueSub
import Mathlib.Algebra.Polynomial.Roots
namespace Lcapy.Poly
open Polynomial
variable {K : Type} [Field K] [DecidableEq K]
set_option linter.unusedSectionVars false

open Lcapy.Laplace (toP coeff_toP degree_toP_lt)

theorem eval_toP (p : List K) (x : K) : (toP p).eval x = Poly.eval p x := by
  induction p with
  | nil => simp
  | cons a p ih => simp [ih]

theorem le_degree_toP (D : List K) (h : lc D ≠ 0) : (((trim D).length - 1 : Nat) : WithBot Nat) ≤ (toP D).degree := by
  apply le_degree_of_ne_zero
  rw [coeff_toP, ← getD_trim]
  rwa [getD_getLastD _ fun h0 => h ((lc_eq_zero_iff D).2 h0)]

/-- **uniqueness of exact division** over an infinite field: if `A = P·D` pointwise then `divmod A D` has zero
    remainder and its quotient has the coefficients of `P` -/
theorem divmod_exact [Infinite K] (A P D : List K) (hD : lc D ≠ 0)
    (h : ∀ x, Poly.eval A x = Poly.eval P x * Poly.eval D x) :
    isZero (divmod A D).2 = true ∧ ∀ i, (trim (divmod A D).1).getD i 0 = P.getD i 0 := by
  obtain ⟨hs, hl⟩ := divmod_spec' A D hD
  set q := (divmod A D).1 with hq
  set r := (divmod A D).2 with hr
  have hpoly : (toP P - toP q) * toP D = toP r := by
    apply Polynomial.funext
    intro x
    rw [Polynomial.eval_mul, Polynomial.eval_sub, eval_toP, eval_toP, eval_toP, eval_toP]
    have := hs x
    rw [h x] at this
    linear_combination this
  have hdiff : toP P - toP q = 0 := by
    by_contra hne
    have hDne : toP D ≠ 0 := by
      intro h0
      have := le_degree_toP D hD
      rw [h0, degree_zero] at this
      simp at this
    have h1 : (toP D).degree ≤ ((toP P - toP q) * toP D).degree := by
      rw [degree_mul]
      have : (0 : WithBot Nat) ≤ (toP P - toP q).degree := zero_le_degree_iff.mpr hne
      calc (toP D).degree = 0 + (toP D).degree := by simp
        _ ≤ _ := add_le_add_left this _
    rw [hpoly] at h1
    have h2 := degree_toP_lt r
    have h3 := le_degree_toP D hD
    have h4 : ((r.length : Nat) : WithBot Nat) ≤ (((trim D).length - 1 : Nat) : WithBot Nat) := by
      exact_mod_cast Nat.le_sub_one_of_lt hl
    exact absurd (lt_of_le_of_lt (le_trans h3 h1) h2) (not_lt.mpr h4)
  constructor
  · have hr0 : toP r = 0 := by rw [← hpoly, hdiff, zero_mul]
    have : trim r = [] := by
      have := length_trim_le_of r 0 (fun i _ => by rw [← coeff_toP, hr0]; simp)
      exact List.length_eq_zero_iff.1 (by omega)
    simp [isZero, this]
  · intro i
    rw [getD_trim, ← coeff_toP, ← coeff_toP]
    have : toP P = toP q := sub_eq_zero.mp hdiff
    rw [this]
end Lcapy.Poly

namespace Lcapy.Synth
open Lcapy.Poly
variable {K : Type} [Field K] [DecidableEq K]
set_option linter.unusedSectionVars false

/-- `N/D = cm/var + c0 + cp·var` as an identity of polynomials (pointwise): `var·N = (cm + c0·var + cp·var²)·D` -/
def IsShape (N D : List K) (cm c0 cp : K) : Prop :=
  ∀ x, x * Poly.eval N x = (cm + c0 * x + cp * x ^ 2) * Poly.eval D x

/-- **completeness of `collOf`** (infinite field): whenever `N/D` has the shape, `collOf` finds exactly its coefficients -/
theorem collOf_complete [Infinite K] (N D : List K) (cm c0 cp : K) (hD : lc D ≠ 0) (h : IsShape N D cm c0 cp) :
    collOf N D = ⟨nz c0, nz cp, nz cm, false⟩ := by
  have hex := divmod_exact (0 :: N) [cm, c0, cp] D hD (fun x => by
    have := h x
    simp only [eval_cons, eval_nil]
    linear_combination this)
  obtain ⟨hz, hc⟩ := hex
  have hlen : (trim (divmod (0 :: N) D).1).length ≤ 3 := by
    apply length_trim_le_of
    intro i hi
    rw [← getD_trim, hc i]
    simp only [List.getD_eq_getElem?_getD]
    rw [List.getElem?_eq_none (by simpa using hi)]; rfl
  unfold collOf
  simp only [hz, hlen, decide_true, Bool.and_self, if_true]
  rw [hc 0, hc 1, hc 2]
  simp

theorem collOf_other_iff [Infinite K] (N D : List K) (hD : lc D ≠ 0) :
    (collOf N D).other = false ↔ ∃ cm c0 cp, IsShape N D cm c0 cp := by
  constructor
  · intro h; exact ⟨_, _, _, collOf_spec N D hD h⟩
  · rintro ⟨cm, c0, cp, h⟩; rw [collOf_complete N D cm c0 cp hD h]

/-- the guards of the pattern forms, read on the dictionary of `N/D`, say which coefficient of the shape vanishes -/
theorem collOf_cm_none_iff [Infinite K] (N D : List K) (hD : lc D ≠ 0) :
    (collOf N D).other = false ∧ (collOf N D).cm = none ↔ ∃ c0 cp, IsShape N D 0 c0 cp :=
  ⟨fun h => ⟨_, _, by have := collOf_spec N D hD h.1; rwa [h.2] at this⟩,
   fun ⟨c0, cp, h⟩ => by rw [collOf_complete N D 0 c0 cp hD h]; exact ⟨rfl, if_pos rfl⟩⟩

theorem collOf_cp_none_iff [Infinite K] (N D : List K) (hD : lc D ≠ 0) :
    (collOf N D).other = false ∧ (collOf N D).cp = none ↔ ∃ cm c0, IsShape N D cm c0 0 :=
  ⟨fun h => ⟨_, _, by have := collOf_spec N D hD h.1; rwa [h.2] at this⟩,
   fun ⟨cm, c0, h⟩ => by rw [collOf_complete N D cm c0 0 hD h]; exact ⟨rfl, if_pos rfl⟩⟩

theorem collOf_c0_zero_iff [Infinite K] (N D : List K) (hD : lc D ≠ 0) :
    (collOf N D).other = false ∧ (collOf N D).c0.getD 0 = 0 ↔ ∃ cm cp, IsShape N D cm 0 cp :=
  ⟨fun h => ⟨_, _, by have := collOf_spec N D hD h.1; rwa [h.2] at this⟩,
   fun ⟨cm, cp, h⟩ => by rw [collOf_complete N D cm 0 cp hD h]; exact ⟨rfl, nz_getD 0⟩⟩

end Lcapy.Synth
