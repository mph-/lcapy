/-
  Helper lemmas for the TwoPort NETWORK level of C08: affine port relations of models
  with sources, the source-vector conversions, Chain.  Only helper material lives here; the
  property theorems are in Lcapy/Props/C08Net.lean.
  (Imports Props/C08.lean to reuse the 64 conversion-soundness theorems.)
-/
import Lcapy.Props.C08
import Lcapy.Generated.TwoPortNet
namespace Lcapy.TwoPort
open Lcapy Lcapy.Spec Lcapy.Gen Lcapy.C08
variable {K : Type} [Field K]

theorem arel_zero (N : MRep) (m : M2 K) (Z0 : K) (p : Port K) :
    arel N m 0 0 p ↔ rel N.toRep m Z0 p := by
  cases N <;> simp only [arel, rel, lin, lin2, MRep.toRep, add_zero]

/-- the difference of two solutions of the affine system solves the homogeneous one -/
theorem lin2_sub (m : M2 K) (s1 s2 l1 l2 r1 r2 l1' l2' r1' r2' : K) (h0 : lin2 m s1 s2 l1' l2' r1' r2') :
    lin2 m s1 s2 l1 l2 r1 r2 ↔ lin m (l1 - l1') (l2 - l2') (r1 - r1') (r2 - r2') := by
  obtain ⟨h1, h2⟩ := h0
  constructor <;> rintro ⟨e1, e2⟩
  · exact ⟨by linear_combination e1 - h1, by linear_combination e2 - h2⟩
  · exact ⟨by linear_combination e1 + h1, by linear_combination e2 + h2⟩

/-- two affine systems add: matrices, sources and left-hand sides, when the right-hand variables are shared
    (`hc` has the shape of `Conn.par`, `Conn.ser`, `Conn.hyb`, `Conn.invhyb`) -/
theorem lin2_add {m m' : M2 K} {s1 s2 s1' s2' l1 l2 l1' l2' r1 r2 r1' r2' L1 L2 R1 R2 : K}
    (h : lin2 m s1 s2 l1 l2 r1 r2) (h' : lin2 m' s1' s2' l1' l2' r1' r2')
    (hc : r1 = R1 ∧ r1' = R1 ∧ r2 = R2 ∧ r2' = R2 ∧ L1 = l1 + l1' ∧ L2 = l2 + l2') :
    lin2 (M2.add m m') (s1 + s1') (s2 + s2') L1 L2 R1 R2 := by
  obtain ⟨rfl, c2, rfl, c4, rfl, rfl⟩ := hc
  obtain ⟨rfl, rfl⟩ := h
  obtain ⟨e1, e2⟩ := h'
  rw [c2, c4] at e1 e2
  constructor <;> (simp only [M2.add, e1, e2]; ring)

theorem arel_sub (N : MRep) (m : M2 K) (s1 s2 Z0 : K) (p0 p : Port K) (h0 : arel N m s1 s2 p0) :
    arel N m s1 s2 p ↔
      rel N.toRep m Z0 ⟨p.V1 - p0.V1, p.I1 - p0.I1, p.V2 - p0.V2, p.I2 - p0.I2⟩ := by
  cases N <;> simp only [arel, rel, MRep.toRep, neg_sub'] at h0 ⊢ <;> exact lin2_sub _ _ _ _ _ _ _ _ _ _ _ h0

/-- two affine relations with the same homogeneous part and one common point coincide -/
theorem affine_transfer (N P : MRep) {m m' : M2 K} {s1 s2 t1 t2 : K} (Z0 : K)
    (hom : ∀ p, rel N.toRep m Z0 p ↔ rel P.toRep m' Z0 p) (p0 : Port K)
    (h0 : arel N m s1 s2 p0) (h0' : arel P m' t1 t2 p0) (p : Port K) :
    arel N m s1 s2 p ↔ arel P m' t1 t2 p := by
  rw [arel_sub N m s1 s2 Z0 p0 p h0, arel_sub P m' t1 t2 Z0 p0 p h0', hom]

/-- the port with all right-hand variables zero -/
def basePort : MRep → K → K → Port K
  | .A, s1, s2 => ⟨s1, s2, 0, 0⟩
  | .B, s1, s2 => ⟨0, 0, s1, -s2⟩
  | .G, s1, s2 => ⟨0, s1, s2, 0⟩
  | .H, s1, s2 => ⟨s1, 0, 0, s2⟩
  | .Y, s1, s2 => ⟨0, s1, 0, s2⟩
  | .Z, s1, s2 => ⟨s1, 0, s2, 0⟩

theorem arel_basePort (N : MRep) (m : M2 K) (s1 s2 : K) : arel N m s1 s2 (basePort N s1 s2) := by
  cases N <;> simp only [arel, lin2, basePort, mul_zero, add_zero, zero_add, neg_zero, neg_neg, and_self]

theorem toRep_VI (P : MRep) : P.toRep ≠ .S ∧ P.toRep ≠ .T := by
  cases P <;> simp [MRep.toRep]

/-- dispatch to the generated conversion `X_to_P` -/
def conv : MRep → MRep → M2 K → K → M2 K
  | .A, .A => A_to_A | .A, .B => A_to_B | .A, .G => A_to_G | .A, .H => A_to_H | .A, .Y => A_to_Y | .A, .Z => A_to_Z
  | .B, .A => B_to_A | .B, .B => B_to_B | .B, .G => B_to_G | .B, .H => B_to_H | .B, .Y => B_to_Y | .B, .Z => B_to_Z
  | .G, .A => G_to_A | .G, .B => G_to_B | .G, .G => G_to_G | .G, .H => G_to_H | .G, .Y => G_to_Y | .G, .Z => G_to_Z
  | .H, .A => H_to_A | .H, .B => H_to_B | .H, .G => H_to_G | .H, .H => H_to_H | .H, .Y => H_to_Y | .H, .Z => H_to_Z
  | .Y, .A => Y_to_A | .Y, .B => Y_to_B | .Y, .G => Y_to_G | .Y, .H => Y_to_H | .Y, .Y => Y_to_Y | .Y, .Z => Y_to_Z
  | .Z, .A => Z_to_A | .Z, .B => Z_to_B | .Z, .G => Z_to_G | .Z, .H => Z_to_H | .Z, .Y => Z_to_Y | .Z, .Z => Z_to_Z

/-- dispatch to the side condition `ok_X_P` of Props/C08.lean -/
def okc : MRep → MRep → M2 K → K → Prop
  | .A, .A => ok_A_A | .A, .B => ok_A_B | .A, .G => ok_A_G | .A, .H => ok_A_H | .A, .Y => ok_A_Y | .A, .Z => ok_A_Z
  | .B, .A => ok_B_A | .B, .B => ok_B_B | .B, .G => ok_B_G | .B, .H => ok_B_H | .B, .Y => ok_B_Y | .B, .Z => ok_B_Z
  | .G, .A => ok_G_A | .G, .B => ok_G_B | .G, .G => ok_G_G | .G, .H => ok_G_H | .G, .Y => ok_G_Y | .G, .Z => ok_G_Z
  | .H, .A => ok_H_A | .H, .B => ok_H_B | .H, .G => ok_H_G | .H, .H => ok_H_H | .H, .Y => ok_H_Y | .H, .Z => ok_H_Z
  | .Y, .A => ok_Y_A | .Y, .B => ok_Y_B | .Y, .G => ok_Y_G | .Y, .H => ok_Y_H | .Y, .Y => ok_Y_Y | .Y, .Z => ok_Y_Z
  | .Z, .A => ok_Z_A | .Z, .B => ok_Z_B | .Z, .G => ok_Z_G | .Z, .H => ok_Z_H | .Z, .Y => ok_Z_Y | .Z, .Z => ok_Z_Z

/-- dispatch to the generated conversion `X_to_P`, all eight targets: those of `conv` and the wave representations -/
def conv8 (N : MRep) : Rep → M2 K → K → M2 K
  | .A => conv N .A | .B => conv N .B | .G => conv N .G | .H => conv N .H | .Y => conv N .Y | .Z => conv N .Z
  | .S => match N with | .A => A_to_S | .B => B_to_S | .G => G_to_S | .H => H_to_S | .Y => Y_to_S | .Z => Z_to_S
  | .T => match N with | .A => A_to_T | .B => B_to_T | .G => G_to_T | .H => H_to_T | .Y => Y_to_T | .Z => Z_to_T

/-- dispatch to the side condition `ok_X_P` of Props/C08.lean, all eight targets -/
def okc8 : MRep → Rep → M2 K → K → Prop
  | .A, .A => ok_A_A | .A, .B => ok_A_B | .A, .G => ok_A_G | .A, .H => ok_A_H | .A, .S => ok_A_S | .A, .T => ok_A_T | .A, .Y => ok_A_Y | .A, .Z => ok_A_Z
  | .B, .A => ok_B_A | .B, .B => ok_B_B | .B, .G => ok_B_G | .B, .H => ok_B_H | .B, .S => ok_B_S | .B, .T => ok_B_T | .B, .Y => ok_B_Y | .B, .Z => ok_B_Z
  | .G, .A => ok_G_A | .G, .B => ok_G_B | .G, .G => ok_G_G | .G, .H => ok_G_H | .G, .S => ok_G_S | .G, .T => ok_G_T | .G, .Y => ok_G_Y | .G, .Z => ok_G_Z
  | .H, .A => ok_H_A | .H, .B => ok_H_B | .H, .G => ok_H_G | .H, .H => ok_H_H | .H, .S => ok_H_S | .H, .T => ok_H_T | .H, .Y => ok_H_Y | .H, .Z => ok_H_Z
  | .Y, .A => ok_Y_A | .Y, .B => ok_Y_B | .Y, .G => ok_Y_G | .Y, .H => ok_Y_H | .Y, .S => ok_Y_S | .Y, .T => ok_Y_T | .Y, .Y => ok_Y_Y | .Y, .Z => ok_Y_Z
  | .Z, .A => ok_Z_A | .Z, .B => ok_Z_B | .Z, .G => ok_Z_G | .Z, .H => ok_Z_H | .Z, .S => ok_Z_S | .Z, .T => ok_Z_T | .Z, .Y => ok_Z_Y | .Z, .Z => ok_Z_Z

theorem conv8_sound (N : MRep) (P : Rep) : SoundConv N.toRep P (conv8 (K := K) N P) (okc8 N P) :=
  match N, P with
  | .A, .A => A_to_A_sound | .A, .B => A_to_B_sound | .A, .G => A_to_G_sound | .A, .H => A_to_H_sound | .A, .S => A_to_S_sound | .A, .T => A_to_T_sound | .A, .Y => A_to_Y_sound | .A, .Z => A_to_Z_sound
  | .B, .A => B_to_A_sound | .B, .B => B_to_B_sound | .B, .G => B_to_G_sound | .B, .H => B_to_H_sound | .B, .S => B_to_S_sound | .B, .T => B_to_T_sound | .B, .Y => B_to_Y_sound | .B, .Z => B_to_Z_sound
  | .G, .A => G_to_A_sound | .G, .B => G_to_B_sound | .G, .G => G_to_G_sound | .G, .H => G_to_H_sound | .G, .S => G_to_S_sound | .G, .T => G_to_T_sound | .G, .Y => G_to_Y_sound | .G, .Z => G_to_Z_sound
  | .H, .A => H_to_A_sound | .H, .B => H_to_B_sound | .H, .G => H_to_G_sound | .H, .H => H_to_H_sound | .H, .S => H_to_S_sound | .H, .T => H_to_T_sound | .H, .Y => H_to_Y_sound | .H, .Z => H_to_Z_sound
  | .Y, .A => Y_to_A_sound | .Y, .B => Y_to_B_sound | .Y, .G => Y_to_G_sound | .Y, .H => Y_to_H_sound | .Y, .S => Y_to_S_sound | .Y, .T => Y_to_T_sound | .Y, .Y => Y_to_Y_sound | .Y, .Z => Y_to_Z_sound
  | .Z, .A => Z_to_A_sound | .Z, .B => Z_to_B_sound | .Z, .G => Z_to_G_sound | .Z, .H => Z_to_H_sound | .Z, .S => Z_to_S_sound | .Z, .T => Z_to_T_sound | .Z, .Y => Z_to_Y_sound | .Z, .Z => Z_to_Z_sound

theorem conv8_toRep (N P : MRep) : conv8 (K := K) N P.toRep = conv N P := by
  cases P <;> rfl

theorem okc8_toRep (N P : MRep) : okc8 (K := K) N P.toRep = okc N P := by
  cases N <;> cases P <;> rfl

theorem conv_sound (N P : MRep) : SoundConv N.toRep P.toRep (conv (K := K) N P) (okc N P) := by
  rw [← conv8_toRep, ← okc8_toRep]; exact conv8_sound N P.toRep

/-- two sound routes to the same representation give the same matrix -/
theorem conv_via (N Q P : MRep) (m : M2 K) (Z0 : K) (h1 : okc N Q m Z0)
    (h2 : okc Q P (conv N Q m Z0) Z0) (h3 : okc N P m Z0) :
    conv N P m Z0 = conv Q P (conv N Q m Z0) Z0 :=
  rel_inj_VI P.toRep (toRep_VI P) Z0 _ _ (fun p => by
    rw [← conv_sound N P m Z0 p h3, conv_sound N Q m Z0 p h1, conv_sound Q P _ Z0 p h2])

/-- `t.Aparams … t.Zparams` selected by the target representation -/
def tpnParams : Rep → Stage K → K → M2 K
  | .A => TPN_Aparams | .B => TPN_Bparams | .G => TPN_Gparams | .H => TPN_Hparams
  | .S => TPN_Sparams | .T => TPN_Tparams | .Y => TPN_Yparams | .Z => TPN_Zparams

theorem tpnParams_eq (P : Rep) (t : Stage K) (Z0 : K) : tpnParams P t Z0 = conv8 t.rep P t.m Z0 := by
  obtain ⟨N, m, s1, s2⟩ := t
  cases N <;> cases P <;> rfl

/-- the X-model conversion selected by the target class -/
def modelOf : MRep → Stage K → K → Stage K
  | .A => TPN_Amodel | .B => TPN_Bmodel | .G => TPN_Gmodel | .H => TPN_Hmodel | .Y => TPN_Ymodel | .Z => TPN_Zmodel

theorem modelOf_rep (P : MRep) (t : Stage K) (Z0 : K) : (modelOf P t Z0).rep = P := by
  cases P <;> rfl

theorem modelOf_m (P : MRep) (t : Stage K) (Z0 : K) : (modelOf P t Z0).m = conv t.rep P t.m Z0 := by
  rw [← conv8_toRep, ← tpnParams_eq]; cases P <;> rfl

theorem modelOf_rel (P : MRep) (t : Stage K) (Z0 : K) (p : Port K) :
    (modelOf P t Z0).rel p ↔ arel P (conv t.rep P t.m Z0) (modelOf P t Z0).s1 (modelOf P t Z0).s2 p := by
  rw [Stage.rel, modelOf_rep, modelOf_m]

theorem model_same (N : MRep) (m : M2 K) (s1 s2 Z0 : K) : modelOf N ⟨N, m, s1, s2⟩ Z0 = ⟨N, m, s1, s2⟩ := by
  cases N <;> rfl

theorem B_chain_affine (ba bb : M2 K) (va ia vb ib V1 I1 V2 I2 : K) :
    (∃ Vm Im, arel .B ba va ia ⟨V1, I1, Vm, Im⟩ ∧ arel .B bb vb ib ⟨Vm, -Im, V2, I2⟩) ↔
    arel .B (M2.mul bb ba) (vb + (mulVec2 bb va ia).1) (ib + (mulVec2 bb va ia).2) ⟨V1, I1, V2, I2⟩ := by
  simp only [arel, lin2, M2.mul, mulVec2]
  constructor
  · rintro ⟨Vm, Im, ⟨h1, h2⟩, h3, h4⟩
    constructor
    · rw [h3, h1, h2]; ring
    · rw [h4, h1, h2]; ring
  · rintro ⟨h1, h2⟩
    refine ⟨ba.a11 * V1 + ba.a12 * I1 + va, -(ba.a21 * V1 + ba.a22 * I1 + ia), ⟨rfl, by ring⟩, ?_, ?_⟩
    · rw [h1]; ring
    · rw [h2]; ring

theorem cascRel_single (t : Stage K) (V1 I1 V2 I2 : K) :
    cascRel [t] V1 I1 V2 I2 ↔ t.rel ⟨V1, I1, V2, I2⟩ := by
  simp only [cascRel]
  constructor
  · rintro ⟨Vm, Im, h, rfl, h2⟩
    rw [neg_neg] at h2; subst h2; exact h
  · intro h; exact ⟨V2, I2, h, rfl, (neg_neg _).symm⟩

theorem cascRel_append (l1 l2 : List (Stage K)) (V1 I1 V2 I2 : K) :
    cascRel (l1 ++ l2) V1 I1 V2 I2 ↔ ∃ Vm Im, cascRel l1 V1 I1 Vm Im ∧ cascRel l2 Vm (-Im) V2 I2 := by
  induction l1 generalizing V1 I1 with
  | nil =>
    simp only [List.nil_append, cascRel]
    constructor
    · intro h; exact ⟨V1, -I1, ⟨rfl, rfl⟩, by rw [neg_neg]; exact h⟩
    · rintro ⟨Vm, Im, ⟨rfl, rfl⟩, h⟩; rw [neg_neg] at h; exact h
  | cons t rest ih =>
    simp only [List.cons_append, cascRel]
    constructor
    · rintro ⟨Va, Ia, ht, h⟩
      obtain ⟨Vm, Im, h1, h2⟩ := (ih _ _).mp h
      exact ⟨Vm, Im, ⟨Va, Ia, ht, h1⟩, h2⟩
    · rintro ⟨Vm, Im, ⟨Va, Ia, ht, h1⟩, h2⟩
      exact ⟨Va, Ia, ht, (ih _ _).mpr ⟨Vm, Im, h1, h2⟩⟩

theorem M2_one_mul (a : M2 K) : M2.mul ⟨1, 0, 0, 1⟩ a = a := by
  obtain ⟨a, b, c, d⟩ := a; simp only [M2.mul, one_mul, zero_mul, add_zero, zero_add]

theorem M2_mul_one (a : M2 K) : M2.mul a ⟨1, 0, 0, 1⟩ = a := by
  obtain ⟨a, b, c, d⟩ := a; simp only [M2.mul, mul_one, mul_zero, add_zero, zero_add]

theorem ker_of_det_zero (m : M2 K) (h : m.det = 0) :
    ∃ x y : K, (x ≠ 0 ∨ y ≠ 0) ∧ m.a11 * x + m.a12 * y = 0 ∧ m.a21 * x + m.a22 * y = 0 := by
  simp only [M2.det] at h
  by_cases h1 : m.a12 = 0 ∧ m.a11 = 0
  · by_cases h2 : m.a22 = 0 ∧ m.a21 = 0
    · exact ⟨1, 0, Or.inl one_ne_zero, by simp [h1.2], by simp [h2.2]⟩
    · refine ⟨m.a22, -m.a21, ?_, by simp [h1.1, h1.2], by ring⟩
      by_contra hc; rw [not_or, not_not, not_not] at hc; exact h2 ⟨hc.1, by simpa using hc.2⟩
  · refine ⟨-m.a12, m.a11, ?_, by ring, by linear_combination h⟩
    by_contra hc; rw [not_or, not_not, not_not] at hc; exact h1 ⟨by simpa using hc.1, hc.2⟩

/-- the port of `rel X m` whose right-hand variables are `(r1, r2)` -/
def relPort : MRep → M2 K → K → K → Port K
  | .A, m, r1, r2 => ⟨m.a11 * r1 + m.a12 * r2, m.a21 * r1 + m.a22 * r2, r1, -r2⟩
  | .B, m, r1, r2 => ⟨r1, r2, m.a11 * r1 + m.a12 * r2, -(m.a21 * r1 + m.a22 * r2)⟩
  | .G, m, r1, r2 => ⟨r1, m.a11 * r1 + m.a12 * r2, m.a21 * r1 + m.a22 * r2, r2⟩
  | .H, m, r1, r2 => ⟨m.a11 * r1 + m.a12 * r2, r1, r2, m.a21 * r1 + m.a22 * r2⟩
  | .Y, m, r1, r2 => ⟨r1, m.a11 * r1 + m.a12 * r2, r2, m.a21 * r1 + m.a22 * r2⟩
  | .Z, m, r1, r2 => ⟨m.a11 * r1 + m.a12 * r2, r1, m.a21 * r1 + m.a22 * r2, r2⟩

theorem relPort_rel (X : MRep) (m : M2 K) (Z0 r1 r2 : K) : rel X.toRep m Z0 (relPort X m r1 r2) := by
  cases X <;> simp only [relPort, rel, lin, MRep.toRep, neg_neg, and_self]

/-- direct formulas for the five pairs that Lcapy only reaches through an intermediate representation -/
def directConv : MRep → MRep → M2 K → Option (M2 K)
  | .A, .G, m => some ⟨m.a21 / m.a11, m.a12 * m.a21 / m.a11 - m.a22, 1 / m.a11, m.a12 / m.a11⟩
  | .G, .Y, m => some ⟨m.a11 - m.a12 * m.a21 / m.a22, m.a12 / m.a22, -m.a21 / m.a22, 1 / m.a22⟩
  | .G, .Z, m => some ⟨1 / m.a11, -m.a12 / m.a11, m.a21 / m.a11, m.a22 - m.a21 * m.a12 / m.a11⟩
  | .Y, .G, m => some ⟨m.a11 - m.a12 * m.a21 / m.a22, m.a12 / m.a22, -m.a21 / m.a22, 1 / m.a22⟩
  | .Z, .G, m => some ⟨1 / m.a11, -m.a12 / m.a11, m.a21 / m.a11, m.a22 - m.a21 * m.a12 / m.a11⟩
  | _, _, _ => none

theorem directConv_sound (X P : MRep) (m z : M2 K) (Z0 : K) (hz : directConv X P m = some z)
    (h : pivot X P m ≠ 0) (p : Port K) : rel X.toRep m Z0 p ↔ rel P.toRep z Z0 p := by
  obtain ⟨V1, I1, V2, I2⟩ := p
  cases X <;> cases P <;> simp only [directConv, Option.some.injEq, reduceCtorEq] at hz <;> subst hz <;>
    simp only [pivot] at h <;> simp only [rel, MRep.toRep]
  · simp only [lin]; tp_both
  · exact lin_pivot22 m h _ _ _ _
  · exact lin_pivot11 m h _ _ _ _
  · exact lin_pivot22 m h _ _ _ _
  · exact lin_pivot11 m h _ _ _ _

end Lcapy.TwoPort
