/-
  Lemmas for the model of Lcapy's graph placer (`Lcapy/Model/LayoutPlacer.lean`), used by Props/C20Placer.lean: the
  predicates its theorems are stated with (`SatE`, `IsChain`, `Consecutive`), positions are only ever added, the walk of
  `assign_longest`, the gap of the even split, what `pickBest` keeps, forward edges survive `prune` and the dummy gnodes.
-/
import Mathlib.Tactic.Linarith
import Mathlib.Tactic.Ring
import Mathlib.Tactic.FieldSimp
import Mathlib.Algebra.Order.Field.Rat
import Lcapy.Model.LayoutPlacer
namespace Lcapy.Placer
open Lcapy.Layout

/-- an edge holds on positions: both ends placed, `≥ size` when stretchy, `= size` when fixed -/
def SatE (pos : Pos) (e : GE) : Prop :=
  ∃ a b, aget pos e.src = some a ∧ aget pos e.dst = some b ∧ (if e.stretch then e.size ≤ b - a else b - a = e.size)

/-- a walk of forward edges from `v` that stops at its first arrival at `dst` and avoids cut gnodes -/
def IsChain (g : PGraph) (pos : Pos) (src dst : String) : String → List GE → Prop
  | v, [] => v = dst
  | v, e :: q => v ≠ dst ∧ e ∈ g.fedgesOf v ∧ isCut pos src dst e.dst = false ∧ IsChain g pos src dst e.dst q

theorem fedgesOf_mem_names (g : PGraph) (v : String) (e : GE) (h : e ∈ g.fedgesOf v) : v ∈ g.names := by
  unfold PGraph.fedgesOf PGraph.node? at h
  cases hf : g.find? (fun x => x.name == v) with
  | none => simp [hf] at h
  | some x =>
    have h1 := List.mem_of_find?_eq_some hf
    have h2 := List.find?_some hf
    simp only [beq_iff_eq] at h2
    unfold PGraph.names
    exact List.mem_map.2 ⟨x, h1, h2⟩

/-! ### positions are only ever added (`Gnode.pos` cannot be changed) -/

theorem aget_append_some {β : Type} (m : List (String × β)) (k n : String) (v y : β) (h : aget m k = some y) :
    aget (m ++ [(n, v)]) k = some y := by
  unfold aget at h ⊢
  rw [List.find?_append]
  cases hf : List.find? (fun e => e.1 == k) m with
  | none => simp [hf] at h
  | some e => simpa [hf] using h

theorem aget_append_self {β : Type} (m : List (String × β)) (n : String) (v : β) (h : aget m n = none) :
    aget (m ++ [(n, v)]) n = some v := by
  unfold aget at h ⊢
  rw [List.find?_append]
  cases hf : List.find? (fun e => e.1 == n) m with
  | none => simp
  | some e => simp [hf] at h

theorem setPos_ok {pos pos' : Pos} {n : String} {x : Rat} (h : setPos pos n x = .ok pos') :
    aget pos n = none ∧ pos' = pos ++ [(n, x)] := by
  unfold setPos at h
  split at h
  · simp at h
  · rename_i hn
    simp only [Except.ok.injEq] at h
    exact ⟨by simpa using hn, h.symm⟩

theorem setPos_self {pos pos' : Pos} {n : String} {x : Rat} (h : setPos pos n x = .ok pos') : aget pos' n = some x := by
  obtain ⟨h1, rfl⟩ := setPos_ok h
  exact aget_append_self pos n x h1

theorem setPos_mono {pos pos' : Pos} {n : String} {x : Rat} (h : setPos pos n x = .ok pos') (m : String) (y : Rat)
    (hm : aget pos m = some y) : aget pos' m = some y := by
  obtain ⟨_, rfl⟩ := setPos_ok h
  exact aget_append_some pos m n x y hm

/-- consecutive edges of a path share a gnode -/
def Consecutive : List GE → Prop
  | [] => True
  | [_] => True
  | e :: e' :: r => e.dst = e'.src ∧ Consecutive (e' :: r)

theorem go_spec (p : List GE) (hp : p ≠ []) (hc : Consecutive p) (x : Rat) (st st' : St)
    (h : assignLongest.go p x st = .ok st') :
    (∀ m y, aget st.pos m = some y → aget st'.pos m = some y) ∧
    (∃ e0, p.head? = some e0 ∧ aget st'.pos e0.src = some x) ∧
    ∀ e ∈ p, ∃ a, aget st'.pos e.src = some a ∧ aget st'.pos e.dst = some (a + e.size) := by
  induction p generalizing x st with
  | nil => exact absurd rfl hp
  | cons e rest ih =>
    cases rest with
    | nil =>
      simp only [assignLongest.go, bind, Except.bind, pure, Except.pure] at h
      cases h1 : setPos st.pos e.src x with
      | error m => simp [h1] at h
      | ok pos1 =>
        simp only [h1] at h
        cases h2 : remove st.unknown e.src with
        | error m => simp [h2] at h
        | ok u1 =>
          simp only [h2] at h
          cases h3 : setPos pos1 e.dst (x + e.size) with
          | error m => simp [h3] at h
          | ok pos2 =>
            simp only [h3] at h
            cases h4 : remove u1 e.dst with
            | error m => simp [h4] at h
            | ok u2 =>
              simp only [h4, Except.ok.injEq] at h
              subst h
              refine ⟨fun m y hm => setPos_mono h3 m y (setPos_mono h1 m y hm), ⟨e, rfl, ?_⟩, ?_⟩
              · exact setPos_mono h3 _ _ (setPos_self h1)
              · intro e' he'
                simp only [List.mem_singleton] at he'
                subst he'
                exact ⟨x, setPos_mono h3 _ _ (setPos_self h1), setPos_self h3⟩
    | cons e' r =>
      simp only [assignLongest.go, bind, Except.bind] at h
      cases h1 : setPos st.pos e.src x with
      | error m => simp [h1] at h
      | ok pos1 =>
        simp only [h1] at h
        cases h2 : remove st.unknown e.src with
        | error m => simp [h2] at h
        | ok u1 =>
          simp only [h2] at h
          obtain ⟨hd, hc'⟩ := hc
          obtain ⟨hm, ⟨e0, he0, hx0⟩, hall⟩ := ih (by simp) hc' (x + e.size) ⟨pos1, u1⟩ h
          simp only [List.head?_cons, Option.some.injEq] at he0
          subst he0
          refine ⟨fun m y hmy => hm m y (setPos_mono h1 m y hmy), ⟨e, rfl, hm _ _ (setPos_self h1)⟩, ?_⟩
          intro e1 he1
          simp only [List.mem_cons] at he1
          rcases he1 with rfl | he1
          · exact ⟨x, hm _ _ (setPos_self h1), by rw [hd]; exact hx0⟩
          · exact hall e1 (by simpa using he1)

/-! ### the even split of `assign_stretchy1` -/

theorem pathStretches_cons (e : GE) (p : List GE) :
    ((pathStretches (e :: p) : Nat) : Rat) = (if e.stretch then 1 else 0) + (pathStretches p : Rat) := by
  unfold pathStretches
  by_cases h : e.stretch = true
  · simp [List.filter, h]; ring
  · simp [List.filter, h]

/-- how far the walk of the even split ends from the known gnode: `E`, `n` are extent and number of stretchy edges of
    the LONGEST path between the two known gnodes (used for the stretch), `W`, `m` those of the path the positions are
    assigned along -/
theorem evenSplit_gap (fp tp E W : Rat) (n m : Nat) (hn : 0 < n) :
    fp + W + (m : Rat) * ((tp - fp - E) / (n : Rat)) - tp =
      (((m : Rat) - (n : Rat)) * (tp - fp - E) - (n : Rat) * (E - W)) / (n : Rat) := by
  have hn' : (n : Rat) ≠ 0 := by exact_mod_cast hn.ne'
  field_simp
  ring

theorem eq_of_mem_of_length_lt_two {α : Type} : ∀ {l : List α}, l.length < 2 → ∀ {a b : α}, a ∈ l → b ∈ l → a = b
  | [], _, _, _, ha, _ => nomatch ha
  | [_], _, _, _, ha, hb => (List.mem_singleton.1 ha).trans (List.mem_singleton.1 hb).symm
  | _ :: _ :: _, h, _, _, _, _ => absurd h (by simp)

theorem keysOf_mem (edges : List GE) (e : GE) (h : e ∈ edges) : (e.src, e.dst) ∈ keysOf edges := by
  unfold keysOf
  have gen : ∀ (l : List GE) (acc : List (String × String)),
      ((e.src, e.dst) ∈ acc ∨ e ∈ l) →
      (e.src, e.dst) ∈ l.foldl (fun acc e => if acc.contains (e.src, e.dst) then acc else acc ++ [(e.src, e.dst)]) acc := by
    intro l
    induction l with
    | nil => intro acc h; simpa using h
    | cons a l ih =>
      intro acc h
      simp only [List.foldl_cons]
      apply ih
      rcases h with h | h
      · left
        split
        · exact h
        · exact List.mem_append_left _ h
      · simp only [List.mem_cons] at h
        rcases h with rfl | h
        · left
          split
          · rename_i hc; simpa using hc
          · simp
        · exact Or.inr h
  exact gen edges [] (Or.inr h)

theorem foldMax_spec (l : List GE) (b0 : GE) (s0 : Rat) (h0 : 0 ≤ s0) :
    let r := l.foldl (fun (bs : GE × Rat) e => if e.size > bs.2 then (e, e.size) else bs) (b0, s0)
    ((r.1 = b0 ∧ r.2 = s0) ∨ (r.1 ∈ l ∧ r.2 = r.1.size)) ∧ (∀ e ∈ l, e.size ≤ r.2) ∧ s0 ≤ r.2 := by
  induction l generalizing b0 s0 with
  | nil => simp
  | cons a l ih =>
    simp only [List.foldl_cons]
    by_cases ha : a.size > s0
    · simp only [ha, if_true]
      have := ih a a.size (by linarith)
      obtain ⟨h1, h2, h3⟩ := this
      refine ⟨?_, ?_, by linarith⟩
      · rcases h1 with ⟨h1a, h1b⟩ | ⟨h1a, h1b⟩
        · right; exact ⟨by rw [h1a]; simp, by rw [h1a, h1b]⟩
        · right; exact ⟨List.mem_cons_of_mem _ h1a, h1b⟩
      · intro e he
        simp only [List.mem_cons] at he
        rcases he with rfl | he
        · exact h3
        · exact h2 e he
    · simp only [ha, if_false]
      have := ih b0 s0 h0
      obtain ⟨h1, h2, h3⟩ := this
      refine ⟨?_, ?_, h3⟩
      · rcases h1 with h1 | ⟨h1a, h1b⟩
        · left; exact h1
        · right; exact ⟨List.mem_cons_of_mem _ h1a, h1b⟩
      · intro e he
        simp only [List.mem_cons] at he
        rcases he with rfl | he
        · linarith [not_lt.mp ha]
        · exact h2 e he

/-- what `pickBest` keeps of a group of parallel edges -/
theorem pickBest_spec (grp : List GE) (hne : grp ≠ []) (hpos : ∀ e ∈ grp, 0 < e.size) :
    ∃ b, pickBest grp = some b ∧ b ∈ grp ∧
      ((b.stretch = false ∧ grp.find? (fun e => !e.stretch) = some b) ∨
       ((∀ e ∈ grp, e.stretch = true) ∧ ∀ e ∈ grp, e.size ≤ b.size)) := by
  cases grp with
  | nil => exact absurd rfl hne
  | cons e0 rest =>
    unfold pickBest
    cases hf : (e0 :: rest).find? (fun e => !e.stretch) with
    | some f =>
      have hm := List.mem_of_find?_eq_some hf
      have hp := List.find?_some hf
      exact ⟨f, rfl, hm, Or.inl ⟨by simpa using hp, rfl⟩⟩
    | none =>
      simp only
      have hall : ∀ e ∈ e0 :: rest, e.stretch = true := by
        intro e he
        have := List.find?_eq_none.1 hf e he
        simpa using this
      obtain ⟨h1, h2, h3⟩ := foldMax_spec (e0 :: rest) e0 0 (le_refl _)
      refine ⟨_, rfl, ?_, Or.inr ⟨hall, ?_⟩⟩
      · rcases h1 with ⟨h1a, h1b⟩ | ⟨h1a, _⟩
        · rw [h1a]; simp
        · exact h1a
      · rcases h1 with ⟨h1a, h1b⟩ | ⟨h1a, h1b⟩
        · exfalso
          have := h2 e0 (by simp)
          have := hpos e0 (by simp)
          linarith
        · intro e he; rw [← h1b]; exact h2 e he

/-! ### the dummy gnodes are added without touching the existing forward edges -/

/-- `e` is a forward edge of some gnode -/
def HasF (g : PGraph) (e : GE) : Prop := ∃ x ∈ g, e ∈ x.fedges

theorem updNode_hasF (g : PGraph) (n : String) (f : GN → GN) (e : GE) (hf : ∀ x, ∀ e ∈ x.fedges, e ∈ (f x).fedges)
    (h : HasF g e) : HasF (updNode g n f) e := by
  obtain ⟨x, hx, he⟩ := h
  unfold updNode
  by_cases hn : (x.name == n) = true
  · exact ⟨f x, List.mem_map.2 ⟨x, hx, by simp [hn]⟩, hf x e he⟩
  · exact ⟨x, List.mem_map.2 ⟨x, hx, by simp [hn]⟩, he⟩

theorem addEdges_hasF (g : PGraph) (cpt n1 n2 : String) (size : Rat) (st : Bool) (e : GE) (h : HasF g e) :
    HasF (addEdges g cpt n1 n2 size st) e := by
  unfold addEdges
  apply updNode_hasF
  · intro x e he; split <;> exact he
  · apply updNode_hasF
    · intro x e he
      split
      · exact he
      · exact List.mem_append_left _ he
    · exact h

theorem addStartNodes_hasF (g : PGraph) (e : GE) (h : HasF g e) : HasF (addStartNodes g) e := by
  unfold addStartNodes
  split
  · exact h
  · have h1 : HasF (g ++ [⟨"start", [], []⟩, ⟨"end", [], []⟩]) e := by
      obtain ⟨x, hx, he⟩ := h
      exact ⟨x, List.mem_append_left _ hx, he⟩
    have gen : ∀ (names : List String) (g' : PGraph), HasF g' e →
        HasF (names.foldl (fun g n =>
          let g := if (g.redgesOf n).isEmpty && n != "start" then addEdges g "" "start" n 0 true else g
          if (g.fedgesOf n).isEmpty && n != "end" then addEdges g "" n "end" 0 true else g) g') e := by
      intro names
      induction names with
      | nil => intro g' h'; exact h'
      | cons n rest ih =>
        intro g' h'
        simp only [List.foldl_cons]
        apply ih
        have h2 : HasF (if (g'.redgesOf n).isEmpty && n != "start" then addEdges g' "" "start" n 0 true else g') e := by
          split
          · exact addEdges_hasF _ _ _ _ _ _ _ h'
          · exact h'
        revert h2
        generalize (if (g'.redgesOf n).isEmpty && n != "start" then addEdges g' "" "start" n 0 true else g') = G1
        intro h2
        show HasF (if (G1.fedgesOf n).isEmpty && n != "end" then addEdges G1 "" n "end" 0 true else G1) e
        split
        · exact addEdges_hasF _ _ _ _ _ _ _ h2
        · exact h2
    exact gen _ _ h1

theorem prune_hasF (g0 : PGraph) (x : GN) (hx : x ∈ g0) (b : GE) (hb : b ∈ pruneList x.fedges) : HasF (prune g0) b := by
  unfold prune
  exact ⟨_, List.mem_map.2 ⟨x, hx, rfl⟩, hb⟩

end Lcapy.Placer
