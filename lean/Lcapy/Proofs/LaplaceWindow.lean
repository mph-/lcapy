/-
  C09 helper lemmas for time-reversed steps (windows) and for the `clip_step` rewriting of
  `LaplaceTransformer.term`:
    * the signal built by multiplying a sum of base terms with smooth factors is, up to the order of its terms, the
      sum of the signals built from each base term (`foldSmooth_append_perm`), hence `L` is additive over the base;
    * dropping a factor `Heaviside(a t + b)` is sound on the unilateral axis when `a > 0 ∧ b ≥ 0`.
-/
import Lcapy.Proofs.LaplaceEntries
namespace Lcapy.Laplace
open List

section perm
variable {K : Type} [Field K] [LinearOrder K] [IsStrictOrderedRing K] (E : K → K)

theorem L_perm {f g : ExpPoly K} (h : f ~ g) (s : K) : L E f s = L E g s := by
  induction h with
  | nil => rfl
  | cons x _ ih => simp [ih]
  | swap x y l => simp; ring
  | trans _ _ ih1 ih2 => rw [ih1, ih2]

theorem append4_perm {α : Type} (A B C D : List α) : (A ++ B) ++ (C ++ D) ~ (A ++ C) ++ (B ++ D) := by
  simp only [append_assoc]
  apply Perm.append_left A
  rw [← append_assoc, ← append_assoc]
  exact Perm.append_right D perm_append_comm

theorem iter_tmul_append (k : Nat) (f g : ExpPoly K) : iter tmul k (f ++ g) = iter tmul k f ++ iter tmul k g := by
  induction k with
  | zero => rfl
  | succ k ih => simp [iter, ih, tmul, flatMap_append]

theorem iter_tmul_perm (k : Nat) {f g : ExpPoly K} (h : f ~ g) : iter tmul k f ~ iter tmul k g := by
  induction k with
  | zero => exact h
  | succ k ih => simp only [iter, tmul]; exact Perm.flatMap_right _ ih

theorem smul_perm (a : K) {f g : ExpPoly K} (h : f ~ g) : smul a f ~ smul a g := Perm.map _ h
theorem tmul_perm {f g : ExpPoly K} (h : f ~ g) : tmul f ~ tmul g := Perm.flatMap_right _ h
theorem expWeight_perm (a : K) {f g : ExpPoly K} (h : f ~ g) : expWeight E a f ~ expWeight E a g :=
  Perm.flatMap_right _ h
theorem smul_append (a : K) (f g : ExpPoly K) : smul a (f ++ g) = smul a f ++ smul a g := by simp [smul]
theorem tmul_append (f g : ExpPoly K) : tmul (f ++ g) = tmul f ++ tmul g := by simp [tmul, flatMap_append]
theorem expWeight_append (a : K) (f g : ExpPoly K) : expWeight E a (f ++ g) = expWeight E a f ++ expWeight E a g := by
  simp [expWeight, flatMap_append]

theorem applySmooth_perm (J : K) (a : Atom K) {f g : ExpPoly K} (h : f ~ g) :
    applySmooth E J f a ~ applySmooth E J g a := by
  cases a with
  | tpow k => exact iter_tmul_perm k h
  | lin a b => exact Perm.append (smul_perm a (tmul_perm h)) (smul_perm b h)
  | exp a => exact expWeight_perm E a h
  | expb a b => exact smul_perm _ (expWeight_perm E a h)
  | trig c w ph =>
    cases c <;> exact Perm.append (smul_perm _ (expWeight_perm E _ h)) (smul_perm _ (expWeight_perm E _ h))
  | hyp c a =>
    cases c <;> exact Perm.append (smul_perm _ (expWeight_perm E _ h)) (smul_perm _ (expWeight_perm E _ h))
  | step a b => exact h
  | delta n a b => exact h
  | fn f a b => exact h

theorem applySmooth_append (J : K) (a : Atom K) (f g : ExpPoly K) :
    applySmooth E J (f ++ g) a ~ applySmooth E J f a ++ applySmooth E J g a := by
  cases a with
  | tpow k => simp [applySmooth, iter_tmul_append]
  | lin a b => simp only [applySmooth, tmul_append, smul_append]; exact append4_perm _ _ _ _
  | exp a => simp [applySmooth, expWeight_append]
  | expb a b => simp [applySmooth, expWeight_append, smul_append]
  | trig c w ph =>
    cases c <;> (simp only [applySmooth, expWeight_append, smul_append]; exact append4_perm _ _ _ _)
  | hyp c a =>
    cases c <;> (simp only [applySmooth, expWeight_append, smul_append]; exact append4_perm _ _ _ _)
  | step a b => exact Perm.refl _
  | delta n a b => exact Perm.refl _
  | fn f a b => exact Perm.refl _

theorem foldSmooth_perm (J : K) (sm : List (Atom K)) : ∀ {f g : ExpPoly K}, f ~ g →
    sm.foldl (applySmooth E J) f ~ sm.foldl (applySmooth E J) g := by
  induction sm with
  | nil => intro f g h; exact h
  | cons a sm ih => intro f g h; exact ih (applySmooth_perm E J a h)

/-- multiplying a sum of base signals by smooth factors = sum of the products (as multisets of terms) -/
theorem foldSmooth_append_perm (J : K) (sm : List (Atom K)) : ∀ (f g : ExpPoly K),
    sm.foldl (applySmooth E J) (f ++ g) ~ sm.foldl (applySmooth E J) f ++ sm.foldl (applySmooth E J) g := by
  induction sm with
  | nil => intro f g; exact Perm.refl _
  | cons a sm ih =>
    intro f g
    simp only [foldl_cons]
    exact (foldSmooth_perm E J sm (applySmooth_append E J a f g)).trans (ih _ _)

end perm

section clip
variable {K : Type} [Field K] [LinearOrder K] [IsStrictOrderedRing K]

/-- no Dirac delta among the atoms -/
def NoDeltaAtoms (atoms : List (Atom K)) : Prop :=
  atoms.filterMap deltaSel = []

/-- Dropping a factor `Heaviside(a t + b)` does not change the signal on the unilateral axis when `a > 0` and `b ≥ 0`
    (the step has switched on at `t = −b/a ≤ 0`). -/
theorem drop_step_sound (E : K → K) (J c a b : K) (atoms : List (Atom K)) (ha : 0 < a) (hb : 0 ≤ b)
    (hd : NoDeltaAtoms atoms) :
    semSimple E J c (.step a b :: atoms) = semSimple E J c atoms := by
  unfold NoDeltaAtoms at hd
  have hm : (if (0 : K) ≤ -(b / a) then -(b / a) else 0) = 0 := onset_pos a b ha hb
  simp only [semSimple, filterMap_cons, deltaSel, stepSel, offSel, ha.le, if_true, hd, foldl_cons, hm]
  simp [isSmooth]

end clip
end Lcapy.Laplace
