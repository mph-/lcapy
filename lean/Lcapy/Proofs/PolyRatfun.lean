/-
  Value lemmas for the format builders of `Lcapy/Model/Ratfun.lean`, for an arbitrary delay sign `σ`:
  a builder preserves the value as soon as `σ = −1` (or there is no delay).  Props/C11.lean and Props/C11b.lean
  instantiate `σ` with the sign read from the source text.
-/
import Lcapy.Model.Ratfun
import Lcapy.Proofs.Poly
namespace Lcapy.Ratfun
open Lcapy.Poly
variable {K : Type} [Field K] [DecidableEq K]
set_option linter.unusedSectionVars false

/-- the builder re-attaches the delay with the right sign, or there is nothing to re-attach -/
def DelayOK (σ : K) (R : RF K) : Prop := σ = -1 ∨ R.delay = 0

theorem eval_expv_delay {σ : K} {R : RF K} (h : DelayOK σ R) (env : Env K) :
    (RExpr.expv (σ * R.delay)).eval env = env.E (-R.delay * env.x) := by
  rcases h with h | h
  · rw [h, neg_one_mul]; rfl
  · rw [h, mul_zero, neg_zero]; rfl

theorem eval_delayFactor {σ : K} {R : RF K} (h : DelayOK σ R) (env : Env K) (hE0 : env.E 0 = 1) :
    (delayFactor σ R).eval env = env.E (-R.delay * env.x) := by
  unfold delayFactor
  split
  · rename_i hd; rw [hd, neg_zero, zero_mul, hE0]; rfl
  · exact eval_expv_delay h env

theorem eval_undefFactor (R : RF K) (env : Env K) : (undefFactor R).eval env = npow env.u R.nu := rfl

/-- a builder of the shape `(X · delay factor) · undefined factor` has the value of `R` as soon as `X` evaluates
    to `B/A` -/
theorem value_of_core {σ : K} {R : RF K} {env : Env K} (h : DelayOK σ R) (hE0 : env.E 0 = 1) {X : RExpr K}
    (hX : X.eval env = Poly.eval R.B env.x / Poly.eval R.A env.x) :
    (RExpr.mul (.mul X (delayFactor σ R)) (undefFactor R)).eval env = R.value env := by
  rw [RExpr.eval, RExpr.eval, eval_delayFactor h env hE0, eval_undefFactor, hX, RF.value]

theorem canonical_value_gen {σ : K} (fc : Bool) (R : RF K) (env : Env K) (h : DelayOK σ R)
    (hE0 : env.E 0 = 1) (hA : Poly.eval R.A env.x ≠ 0) :
    (canonical σ fc R).eval env = R.value env := by
  have hlc := lc_ne_zero_of_eval hA
  cases fc
  · refine value_of_core h hE0 ?_
    simp only [RExpr.eval, eval_monic, eval_smul]
    field_simp
  · simp only [canonical, RExpr.eval, eval_delayFactor h env hE0, eval_undefFactor, RF.value, eval_monic, if_true]
    by_cases hB : lc R.B = 0
    · simp [hB, eval_of_lc_zero hB]
    · field_simp

theorem eval_expandTerms (A cs : List K) (m : Nat) (env : Env K) :
    (expandTerms A cs m).eval env = env.x ^ m * Poly.eval cs env.x / Poly.eval A env.x := by
  induction cs generalizing m with
  | nil => simp [expandTerms, RExpr.eval]
  | cons c cs ih =>
    simp only [expandTerms, RExpr.eval, ih, npow_eq, eval_cons, pow_succ]
    ring

theorem expandcanonical_value_gen {σ : K} (R : RF K) (env : Env K) (h : DelayOK σ R)
    (hE0 : env.E 0 = 1) :
    (expandcanonical σ R).eval env = R.value env :=
  value_of_core h hE0 (by rw [eval_expandTerms, pow_zero, one_mul])

/-- `as_QMA`: `B = Q·A + M` and `deg M < deg A` -/
theorem asQMA_spec (R : RF K) (hA : lc R.A ≠ 0) :
    (∀ x, Poly.eval R.B x = Poly.eval (asQMA R).1 x * Poly.eval R.A x + Poly.eval (asQMA R).2.1 x) ∧
    (asQMA R).2.1.length < (trim R.A).length ∧ (asQMA R).2.2 = R.A :=
  ⟨(divmod_spec' R.B R.A hA).1, (divmod_spec' R.B R.A hA).2, rfl⟩

theorem ec_ne_zero_of_eval {p : List K} {x : K} (h : Poly.eval p x ≠ 0) : ec p ≠ 0 := by
  induction p with
  | nil => exact absurd rfl h
  | cons a p ih =>
    rw [ec]
    split
    · rename_i ha
      rw [eval_cons, ha, zero_add] at h
      exact ih (right_ne_zero_of_mul h)
    · assumption

theorem eval_rootsExpr (roots : List (K × Nat)) (env : Env K) :
    (rootsExpr roots).eval env = rootsValue roots env.x := by
  induction roots with
  | nil => rfl
  | cons rn rest ih =>
    obtain ⟨r, n⟩ := rn
    show npow (env.x + -r) n * (rootsExpr rest).eval env = _
    rw [ih, rootsValue_cons, sub_eq_add_neg, npow_eq]

theorem eval_invRootsExpr (roots : List (K × Nat)) (env : Env K) :
    (invRootsExpr roots).eval env = 1 / rootsValue roots env.x := by
  induction roots with
  | nil => exact (div_one 1).symm
  | cons rn rest ih =>
    obtain ⟨r, n⟩ := rn
    show 1 / npow (env.x + -r) n * (invRootsExpr rest).eval env = _
    rw [ih, rootsValue_cons, sub_eq_add_neg, npow_eq, one_div_mul_one_div]

theorem zp2tf_value (zeros poles : List (K × Nat)) (g : RExpr K) (env : Env K) :
    (zp2tf zeros poles g).eval env = g.eval env * rootsValue zeros env.x / rootsValue poles env.x := by
  rw [zp2tf, RExpr.eval, RExpr.eval, eval_rootsExpr, eval_invRootsExpr, mul_one_div, mul_div_assoc]

theorem eval_pairExpr (z0 z1 : K) (env : Env K) :
    (pairExpr z0 z1).eval env = (env.x - z0) * (env.x - z1) := by
  simp only [pairExpr, RExpr.eval, npow_eq]; ring

theorem eval_pairsExpr (ps : List ((K × K) × Nat)) (env : Env K) :
    (pairsExpr ps).eval env = rootsValue (pairsRoots ps) env.x := by
  induction ps with
  | nil => rfl
  | cons pn rest ih =>
    obtain ⟨⟨z0, z1⟩, n⟩ := pn
    rw [pairsExpr, RExpr.eval, RExpr.eval, ih, npow_eq, eval_pairExpr, pairsRoots, rootsValue_cons, rootsValue_cons,
      mul_pow, mul_assoc]

theorem rootsValue_append (a b : List (K × Nat)) (x : K) :
    rootsValue (a ++ b) x = rootsValue a x * rootsValue b x := by
  rw [rootsValue, List.map_append, List.prod_append]; rfl

/-! ### partial fractions -/

/-- value of `Σ r/(x − p)^o` -/
def pfValue (terms : List (K × K × Nat)) (x : K) : K :=
  (terms.map (fun t => t.1 / (x - t.2.1) ^ t.2.2)).sum

theorem pfValue_cons (r p : K) (o : Nat) (rest : List (K × K × Nat)) (x : K) :
    pfValue ((r, p, o) :: rest) x = r / (x - p) ^ o + pfValue rest x := by
  rw [pfValue, List.map_cons, List.sum_cons]; rfl

theorem eval_pfTerms (terms : List (K × K × Nat)) (env : Env K) :
    (pfTerms terms).eval env = pfValue terms env.x := by
  induction terms with
  | nil => rfl
  | cons t rest ih =>
    obtain ⟨r, p, o⟩ := t
    show r * (1 / npow (env.x + -p) o) + (pfTerms rest).eval env = _
    rw [ih, pfValue_cons, sub_eq_add_neg, npow_eq, mul_one_div]

/-- the cofactor really is `Π (x − q)^n / (x − p)^o` -/
theorem cofactor_value (poles : List (K × Nat)) (p : K) (o : Nat) (c : List K) (x : K)
    (hc : cofactor poles p o = some c) (hx : rootsValue poles x ≠ 0) :
    Poly.eval c x = rootsValue poles x / (x - p) ^ o := by
  induction poles generalizing c with
  | nil => cases hc
  | cons qn rest ih =>
    obtain ⟨q, n⟩ := qn
    rw [rootsValue_cons] at hx ⊢
    rw [cofactor] at hc
    split at hc
    · rename_i hq; subst hq
      split at hc
      · rename_i hon
        cases hc
        rw [← Nat.sub_add_cancel hon, pow_add] at hx
        rw [eval_mulLinearPow, eval_prodRoots]
        conv_rhs => rw [← Nat.sub_add_cancel hon, pow_add, mul_right_comm,
          mul_div_cancel_right₀ _ (right_ne_zero_of_mul (left_ne_zero_of_mul hx))]
      · cases hc
    · obtain ⟨c', hc', rfl⟩ := Option.map_eq_some_iff.1 hc
      rw [eval_mulLinearPow, ih c' hc' (right_ne_zero_of_mul hx), mul_div_assoc]

theorem pfNumer_value (poles : List (K × Nat)) (terms : List (K × K × Nat)) (s : List K) (x : K)
    (hs : pfNumer poles terms = some s) (hx : rootsValue poles x ≠ 0) :
    Poly.eval s x = rootsValue poles x * pfValue terms x := by
  induction terms generalizing s with
  | nil => cases hs; exact (mul_zero _).symm
  | cons t rest ih =>
    obtain ⟨r, p, o⟩ := t
    rw [pfNumer] at hs
    split at hs
    · rename_i c s' hc hr
      cases hs
      rw [eval_add, eval_smul, cofactor_value poles p o c x hc hx, ih s' hr, pfValue_cons]
      ring
    · cases hs

/-- **pfCheck is sound**: data that pass the check reconstruct `B/A` at every non-pole point. -/
theorem pfCheck_sound (B A Q : List K) (poles : List (K × Nat)) (terms : List (K × K × Nat)) (x : K)
    (h : pfCheck B A Q poles terms = true) (hA : Poly.eval A x ≠ 0) :
    Poly.eval B x / Poly.eval A x = Poly.eval Q x + pfValue terms x := by
  rw [pfCheck, Bool.and_eq_true] at h
  obtain ⟨hr, h2⟩ := h
  have eA := rootsCheck_eval hr x
  split at h2
  · rename_i s hs
    have eB := polyEq_eval h2 x
    rw [eval_add, eval_mul, eval_smul, pfNumer_value poles terms s x hs
      (right_ne_zero_of_mul (eA ▸ hA)), ← mul_assoc, ← eA] at eB
    rw [eB, add_div, mul_div_cancel_right₀ _ hA, mul_div_cancel_left₀ _ hA]
  · cases h2

theorem partfrac_value_gen {σ : K} (R : RF K) (Q : List K) (poles : List (K × Nat))
    (terms : List (K × K × Nat)) (env : Env K) (h : DelayOK σ R)
    (hE0 : env.E 0 = 1) (hA : Poly.eval R.A env.x ≠ 0)
    (hc : pfCheck R.B R.A Q poles terms = true) :
    (partfrac σ R Q terms).eval env = R.value env :=
  value_of_core h hE0 (by
    rw [RExpr.eval, eval_pfTerms, pfCheck_sound R.B R.A Q poles terms env.x hc hA]; rfl)

/-! ### N, D, multiply top and bottom -/

theorem N_over_D (R : RF K) (env : Env K) (hE0 : env.E 0 = 1) :
    (exprN R).eval env / (exprD R).eval env = R.value env := by
  simp only [exprN, exprD, RExpr.eval, eval_delayFactor (Or.inl rfl) env hE0, eval_undefFactor, RF.value]
  ring

/-! ### decomposition into B, A, delay, undefined factor -/

theorem decompose_value (fs : List (Factor K)) (env : Env K) (hE0 : env.E 0 = 1)
    (hE : ∀ a b, env.E (a + b) = env.E a * env.E b) :
    (decompose fs).value env = factorsValue env fs := by
  induction fs with
  | nil => simp [decompose, factorsValue, RF.value, npow, hE0]
  | cons f fs ih =>
    cases f with
    | rat n d =>
      simp only [decompose, factorsValue, Factor.eval, ← ih, RF.value, eval_mul]
      ring
    | expf c =>
      simp only [decompose, factorsValue, Factor.eval, ← ih, RF.value]
      have : -((decompose fs).delay - c) * env.x = c * env.x + -(decompose fs).delay * env.x := by ring
      rw [this, hE]; ring
    | undefF =>
      simp only [decompose, factorsValue, Factor.eval, ← ih, RF.value, npow]
      ring

theorem map_mult_one (poles : List (K × Nat)) (h : ∀ rn ∈ poles, rn.2 = 1) :
    poles.map (fun rn => (rn.1, 1)) = poles := by
  induction poles with
  | nil => rfl
  | cons a rest ih =>
    obtain ⟨r, n⟩ := a
    have h1 : n = 1 := h (r, n) (by simp)
    subst h1
    simp only [List.map_cons]
    rw [ih (fun rn hrn => h rn (List.mem_cons_of_mem _ hrn))]

theorem zp2tfMixed_value {t : Bool} (ht : t = true) (zIsList pIsList : Bool) (zeros poles : List (K × Nat))
    (g : RExpr K) (env : Env K) (hpl : pIsList = true → ∀ rn ∈ poles, rn.2 = 1) :
    ∃ e, zp2tfMixed t zIsList pIsList zeros poles g = some e ∧
      e.eval env = g.eval env * rootsValue zeros env.x / rootsValue poles env.x := by
  subst ht
  cases pIsList
  · exact ⟨_, by simp [zp2tfMixed], zp2tf_value zeros poles g env⟩
  · refine ⟨zp2tf zeros poles g, ?_, zp2tf_value zeros poles g env⟩
    simp [zp2tfMixed, map_mult_one poles (hpl rfl)]

theorem zp2tfMixed_value_same (t : Bool) (isList : Bool) (zeros poles : List (K × Nat))
    (g : RExpr K) (env : Env K) (hpl : isList = true → ∀ rn ∈ poles, rn.2 = 1) :
    ∃ e, zp2tfMixed t isList isList zeros poles g = some e ∧
      e.eval env = g.eval env * rootsValue zeros env.x / rootsValue poles env.x := by
  cases isList
  · exact ⟨_, by simp [zp2tfMixed], zp2tf_value zeros poles g env⟩
  · refine ⟨zp2tf zeros poles g, ?_, zp2tf_value zeros poles g env⟩
    simp [zp2tfMixed, map_mult_one poles (hpl rfl)]

end Lcapy.Ratfun
