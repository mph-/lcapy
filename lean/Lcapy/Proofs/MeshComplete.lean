/-
  Helper lemmas for the completeness of the mesh formulation (C15; theorems in Props/C15Mesh.lean):
  finite sums, the structure of the circuit graph (every component has exactly one edge, a dummy node is
  wired to the node it stands for), evaluation of the mesh equations as loop sums of edge voltages,
  the abstract KVL completeness lemma (cycle-basis certificate ⇒ every edge voltage is a potential
  difference), the KCL-by-telescoping lemma and the per-component relation.
-/
import Lcapy.Model.MeshComplete
import Lcapy.Proofs.Formulations
import Lcapy.Proofs.Realisations
import Mathlib.Tactic.Ring
import Mathlib.Tactic.FieldSimp
import Mathlib.Tactic.LinearCombination
import Mathlib.Algebra.Field.Basic
import Mathlib.Tactic.NormNum
namespace Lcapy.Formulations
open Lcapy.MNA Lcapy.StateSpace Ix
variable {K : Type} [Field K]

set_option linter.unusedSimpArgs false
set_option linter.unnecessarySeqFocus false
set_option linter.unusedSectionVars false

/-! ### finite sums -/


theorem lsum_map_zero {α : Type} (l : List α) (f : α → K) (h : ∀ x ∈ l, f x = 0) : lsum (l.map f) = 0 := by
  rw [lsum_eq_sum]; exact List.sum_eq_zero (List.forall_mem_map.mpr h)

theorem lsum_map_congr {α : Type} (l : List α) (f f' : α → K) (h : ∀ x ∈ l, f x = f' x) :
    lsum (l.map f) = lsum (l.map f') := by
  rw [List.map_congr_left h]

theorem lsum_map_neg {α : Type} (l : List α) (f : α → K) : lsum (l.map (fun x => -f x)) = -lsum (l.map f) := by
  rw [lsum_eq_sum, lsum_eq_sum, List.sum_neg, List.map_map]; rfl

theorem lsum_map_mul_left {α : Type} (l : List α) (f : α → K) (c : K) :
    c * lsum (l.map f) = lsum (l.map (fun x => c * f x)) := by
  induction l with
  | nil => simp [lsum]
  | cons a t ih => simp only [List.map_cons, lsum, ← ih]; ring

theorem lsum_map_mul_right {α : Type} (l : List α) (f : α → K) (c : K) :
    lsum (l.map f) * c = lsum (l.map (fun x => f x * c)) := by
  simpa only [mul_comm] using lsum_map_mul_left l f c

/-- exchange of a finite indexed sum and a list sum -/
theorem sumTo_lsum {α : Type} (N : Nat) (l : List α) (F : α → Nat → K) :
    sumTo N (fun i => lsum (l.map (fun x => F x i))) = lsum (l.map (fun x => sumTo N (F x))) := by
  induction l with
  | nil => simp [lsum, sumTo_zero]
  | cons a t ih =>
    simp only [List.map_cons, lsum]
    rw [sumTo_add, ih]

/-- a combination `Σ c_x·a_x` of vectors `a_x` that are orthogonal to `u` is orthogonal to `u` -/
theorem sumTo_comb_zero {α : Type} (N : Nat) (l : List α) (c : α → K) (a : α → Nat → K) (u : Nat → K)
    (h : ∀ x ∈ l, sumTo N (fun i => a x i * u i) = 0) :
    sumTo N (fun i => lsum (l.map (fun x => c x * a x i)) * u i) = 0 := by
  rw [sumTo_congr N _ (fun i => lsum (l.map fun x => c x * (a x i * u i))) fun i _ => by
    rw [lsum_map_mul_right]; exact lsum_map_congr _ _ _ fun x _ => mul_assoc _ _ _, sumTo_lsum]
  exact lsum_map_zero _ _ fun x hx => by rw [sumTo_mul_left, h x hx, mul_zero]

theorem lsum_map_eq_sumTo {α : Type} (l : List α) (f : α → K) :
    lsum (l.map f) = sumTo l.length (fun i => ((l[i]?).map f).getD 0) := by
  induction l with
  | nil => simp [lsum, sumTo]
  | cons a t ih =>
    simp only [List.map_cons, lsum, List.length_cons]
    rw [sumTo_shift, ih]
    simp

theorem lsum_filterMap {α β : Type} (l : List α) (p : α → Option β) (f : β → K) :
    lsum ((l.filterMap p).map f) = lsum (l.map (fun x => match p x with | some y => f y | none => 0)) := by
  induction l with
  | nil => simp [lsum]
  | cons a t ih =>
    cases h : p a with
    | none => simp [List.filterMap_cons, h, lsum, ih]
    | some y => simp [List.filterMap_cons, h, lsum, ih]

/-- a sum whose only non-zero terms share a key that occurs once: it is the term `find?` finds -/
theorem lsum_find_unique {α β : Type} (ps : List α) (P : α → Bool) (f : α → K) (key : α → β)
    (hnd : (ps.map key).Nodup) (hkey : ∀ x ∈ ps, ∀ y ∈ ps, P x = true → P y = true → key x = key y)
    (h0 : ∀ x ∈ ps, P x = false → f x = 0) :
    lsum (ps.map f) = match ps.find? P with | some x => f x | none => 0 := by
  induction ps with
  | nil => simp [lsum]
  | cons a t ih =>
    simp only [List.map_cons, List.nodup_cons] at hnd
    simp only [List.map_cons, lsum]
    cases hP : P a with
    | true =>
      simp only [List.find?_cons, hP]
      rw [lsum_map_zero t f, add_zero]
      intro y hy
      apply h0 y (by simp [hy])
      by_contra hPy
      simp only [Bool.not_eq_false] at hPy
      have := hkey a (by simp) y (by simp [hy]) hP hPy
      exact hnd.1 (by rw [this]; exact List.mem_map_of_mem hy)
    | false =>
      simp only [List.find?_cons, hP]
      rw [h0 a (by simp) hP, zero_add]
      exact ih hnd.2 (fun x hx y hy => hkey x (by simp [hx]) y (by simp [hy])) (fun x hx => h0 x (by simp [hx]))

/-! ### every component has its edge -/

theorem enum_of_getElem (cs : List (Cpt K)) (i : Nat) (c : Cpt K) (h : cs[i]? = some c) : (i, c) ∈ enum cs := by
  unfold enum
  obtain ⟨hi, hc⟩ := List.getElem?_eq_some_iff.mp h
  refine List.mem_iff_getElem.mpr ⟨i, by simpa using hi, ?_⟩
  simp [hc]

theorem addCpt_mono (st : List (Edge K) × Nat) (ic : Nat × Cpt K) (e : Edge K) (he : e ∈ st.1) :
    e ∈ (addCpt st ic).1 := by
  unfold addCpt
  cases hn : nodes2 ic.2 with
  | none => exact he
  | some n12 =>
    obtain ⟨n1, n2⟩ := n12
    simp only
    split_ifs <;> simp [he]

theorem foldl_addCpt_mono (l : List (Nat × Cpt K)) : ∀ (st : List (Edge K) × Nat) (e : Edge K), e ∈ st.1 →
    e ∈ (l.foldl addCpt st).1 := by
  induction l with
  | nil => intro st e he; simpa using he
  | cons ic rest ih =>
    intro st e he
    simp only [List.foldl_cons]
    exact ih _ e (addCpt_mono st ic e he)

/-- the edge of component `ic` is in the graph, and ends at the second node or at a dummy wired to it -/
def HasCptEdge (g : List (Edge K)) (ic : Nat × Cpt K) (n0 n1 : Nat) : Prop :=
  ∃ e ∈ g, e.cpt = some ic ∧ e.a = .real n0 ∧
    (e.b = .real n1 ∨ ∃ w ∈ g, w.cpt = none ∧ w.a = e.b ∧ w.b = .real n1)

theorem addCpt_has (st : List (Edge K) × Nat) (ic : Nat × Cpt K) (n0 n1 : Nat) (hn : nodes2 ic.2 = some (n0, n1)) :
    HasCptEdge (addCpt st ic).1 ic n0 n1 := by
  unfold addCpt
  rw [hn]
  simp only
  split_ifs
  · exact ⟨⟨.real n0, .dummy st.2 n1, some ic⟩, by simp, rfl, rfl,
      Or.inr ⟨⟨.dummy st.2 n1, .real n1, none⟩, by simp, rfl, rfl, rfl⟩⟩
  · exact ⟨⟨.real n0, .real n1, some ic⟩, by simp, rfl, rfl, Or.inl rfl⟩

theorem foldl_addCpt_has (l : List (Nat × Cpt K)) : ∀ (st : List (Edge K) × Nat) (ic : Nat × Cpt K) (n0 n1 : Nat),
    ic ∈ l → nodes2 ic.2 = some (n0, n1) → HasCptEdge (l.foldl addCpt st).1 ic n0 n1 := by
  induction l with
  | nil => intro st ic n0 n1 h; simp at h
  | cons a rest ih =>
    intro st ic n0 n1 hmem hn
    simp only [List.foldl_cons]
    rcases List.mem_cons.mp hmem with rfl | hmem
    · obtain ⟨e, he, h1, h2, h3⟩ := addCpt_has st ic n0 n1 hn
      refine ⟨e, foldl_addCpt_mono rest _ e he, h1, h2, ?_⟩
      rcases h3 with h3 | ⟨w, hw, h4⟩
      · exact Or.inl h3
      · exact Or.inr ⟨w, foldl_addCpt_mono rest _ w hw, h4⟩
    · exact ih _ ic n0 n1 hmem hn

theorem buildGraph_has (cs : List (Cpt K)) (i : Nat) (c : Cpt K) (n0 n1 : Nat) (hc : cs[i]? = some c)
    (hn : nodes2 c = some (n0, n1)) : HasCptEdge (buildGraph cs) (i, c) n0 n1 :=
  foldl_addCpt_has (enum cs) _ (i, c) n0 n1 (enum_of_getElem cs i c hc) hn

/-! ### a component number occurs on one edge only -/

def cptIdxs (g : List (Edge K)) : List Nat := g.filterMap (fun e => e.cpt.map (·.1))

theorem addCpt_idxs (st : List (Edge K) × Nat) (ic : Nat × Cpt K) :
    cptIdxs (addCpt st ic).1 = cptIdxs st.1 ++ (if (nodes2 ic.2).isSome then [ic.1] else []) := by
  unfold addCpt
  cases hn : nodes2 ic.2 with
  | none => simp
  | some n12 =>
    obtain ⟨n1, n2⟩ := n12
    simp only [Option.isSome_some, if_true]
    split_ifs <;> simp [cptIdxs, List.filterMap_append]

theorem foldl_addCpt_idxs (l : List (Nat × Cpt K)) : ∀ (st : List (Edge K) × Nat),
    cptIdxs (l.foldl addCpt st).1 = cptIdxs st.1 ++ (l.filter (fun ic => (nodes2 ic.2).isSome)).map (·.1) := by
  induction l with
  | nil => intro st; simp
  | cons a rest ih =>
    intro st
    simp only [List.foldl_cons]
    rw [ih, addCpt_idxs]
    cases h : (nodes2 a.2).isSome <;> simp [List.filter_cons, h]

theorem buildGraph_idxs_nodup (cs : List (Cpt K)) : (cptIdxs (buildGraph cs)).Nodup := by
  unfold buildGraph
  rw [foldl_addCpt_idxs]
  simp only [cptIdxs, List.filterMap_nil, List.nil_append]
  have hsub : ((enum cs).filter (fun ic => (nodes2 ic.2).isSome)).map (·.1) |>.Sublist ((enum cs).map (·.1)) :=
    List.Sublist.map _ List.filter_sublist
  apply List.Nodup.sublist hsub
  have : (enum cs).map (·.1) = List.range cs.length := by
    unfold enum
    rw [List.map_fst_zip]
    simp
  rw [this]
  exact List.nodup_range

/-- two pairs whose joining edges hold the same component number are joined by the same edge -/
theorem same_edge_of_same_idx (g : List (Edge K)) (hnd : (cptIdxs g).Nodup) (P P' : Edge K → Bool) (e e' : Edge K)
    (idx : Nat) (c c' : Cpt K) (h1 : g.find? P = some e) (h2 : g.find? P' = some e')
    (hc : e.cpt = some (idx, c)) (hc' : e'.cpt = some (idx, c')) : g.findIdx? P = g.findIdx? P' := by
  induction g with
  | nil => simp at h1
  | cons a t ih =>
    have hmemt : ∀ (Q : Edge K → Bool) (f : Edge K) (cc : Cpt K), t.find? Q = some f → f.cpt = some (idx, cc) →
        idx ∈ cptIdxs t := by
      intro Q f cc hf hfc
      have := List.mem_of_find?_eq_some hf
      simp only [cptIdxs, List.mem_filterMap]
      exact ⟨f, this, by simp [hfc]⟩
    have hnd' : (cptIdxs t).Nodup ∧ (∀ cc, a.cpt = some (idx, cc) → idx ∉ cptIdxs t) := by
      simp only [cptIdxs, List.filterMap_cons] at hnd
      cases ha : a.cpt with
      | none => simp only [ha, Option.map_none] at hnd; exact ⟨hnd, by simp⟩
      | some ic =>
        simp only [ha, Option.map_some, List.nodup_cons] at hnd
        refine ⟨hnd.2, ?_⟩
        intro cc hcc
        simp only [Option.some.injEq] at hcc
        subst hcc
        exact hnd.1
    simp only [List.find?_cons] at h1 h2
    simp only [List.findIdx?_cons]
    cases hP : P a <;> cases hP' : P' a <;> simp only [hP, hP'] at h1 h2 ⊢
    · rw [ih hnd'.1 h1 h2]
    · simp only [Option.some.injEq] at h2
      subst h2
      exact absurd (hmemt P e c h1 hc) (hnd'.2 c' hc')
    · simp only [Option.some.injEq] at h1
      subst h1
      exact absurd (hmemt P' e' c' h2 hc') (hnd'.2 c hc)
    · trivial


/-! ### incidence sums -/

theorem component_lt (cs : List (Cpt K)) (p q : GNode) (i : Nat) (c : Cpt K)
    (h : component (buildGraph cs) p q = some (i, c)) : cs[i]? = some c ∧ i < cs.length := by
  obtain ⟨e, _, hmem, _, hc⟩ := component_some _ p q _ h
  have := buildGraph_ok cs e hmem
  simp only [EdgeOK, hc] at this
  exact ⟨this.1, (List.getElem?_eq_some_iff.mp this.1).1⟩

/-- the rise of one ordered pair: ± the rise of the component on its edge -/
theorem pairSgn_sum (g : List (Edge K)) (N : Nat) (u : Nat → K) (pq : GNode × GNode)
    (hN : ∀ i c, component g pq.1 pq.2 = some (i, c) → i < N) :
    sumTo N (fun i => pairSgn g pq i * u i) =
      match component g pq.1 pq.2 with
      | some (i, c) => (match nodes2 c with | some (n0, _) => if pq.1 = .real n0 then u i else -u i | none => 0)
      | none => 0 := by
  cases hc : component g pq.1 pq.2 with
  | none =>
    simp only [pairSgn, hc, zero_mul]
    exact sumTo_zero N
  | some ic =>
    obtain ⟨i, c⟩ := ic
    have hi := hN i c hc
    simp only [pairSgn, hc]
    rw [sumTo_ite_mul N i _ u hi]
    cases hn : nodes2 c with
    | none => simp
    | some n01 =>
      obtain ⟨n0, n1⟩ := n01
      simp only
      split_ifs <;> ring

/-- the rise along a walk is the sum of the rises of its pairs -/
theorem walkRise_eq (g : List (Edge K)) (N : Nat) (u : Nat → K) (pairs : List (GNode × GNode)) :
    walkRise N g u pairs = lsum (pairs.map (fun pq => sumTo N (fun i => pairSgn g pq i * u i))) := by
  simp only [walkRise, inc]
  rw [← sumTo_lsum]
  apply sumTo_congr
  intro i _
  rw [lsum_map_mul_right]


/-! ### the code's `current` of a component is −(signed sum of the mesh currents through its edge) -/

/-- on a simple cycle, the pair `_add_mesh_currents` finds on the component's edge carries the whole
    incidence of the loop with that component -/
theorem loop_inc_find (cs : List (Cpt K)) (loop : List GNode) (hcyc : isSimpleCycle (buildGraph cs) loop = true)
    (idx : Nat) (c : Cpt K) (n0 n1 : Nat) (hc : cs[idx]? = some c) (hn : nodes2 c = some (n0, n1)) :
    (match (loopPairs loop).find? (fun pq => match component (buildGraph cs) pq.1 pq.2 with
                                            | some (i, _) => i == idx
                                            | none => false) with
      | some pq => (if (pq.1 == GNode.real n0) = true then (-1 : K) else 1)
      | none => 0) = -inc (buildGraph cs) (loopPairs loop) idx := by
  have hnd : ((loopPairs loop).map (fun pq => edgeIdOf (buildGraph cs) pq.1 pq.2)).Nodup := by
    simp only [isSimpleCycle, Bool.and_eq_true, decide_eq_true_eq] at hcyc
    exact hcyc.2
  unfold inc
  generalize hP : (fun pq : GNode × GNode => match component (buildGraph cs) pq.1 pq.2 with
    | some (i, _) => i == idx | none => false) = P
  have hPiff : ∀ pq, P pq = true ↔ ∃ c', component (buildGraph cs) pq.1 pq.2 = some (idx, c') := by
    subst hP; intro pq
    rcases h : component (buildGraph cs) pq.1 pq.2 with _ | ⟨i, c'⟩ <;> simp [h]
  rw [lsum_find_unique (loopPairs loop) P (fun pq => pairSgn (buildGraph cs) pq idx)
    (fun pq => edgeIdOf (buildGraph cs) pq.1 pq.2) hnd]
  · cases hf : (loopPairs loop).find? P with
    | none => simp
    | some pq =>
      obtain ⟨c', hcomp⟩ := (hPiff pq).mp (List.find?_some hf)
      have := (component_lt cs _ _ _ _ hcomp).1
      rw [hc] at this
      cases this
      simp only [pairSgn, hcomp, if_true, hn, beq_iff_eq]
      split_ifs <;> ring
  · intro x hx y hy hPx hPy
    obtain ⟨cx, hcx⟩ := (hPiff x).mp hPx
    obtain ⟨cy, hcy⟩ := (hPiff y).mp hPy
    obtain ⟨ex, hfx, _, _, hex⟩ := component_some _ _ _ _ hcx
    obtain ⟨ey, hfy, _, _, hey⟩ := component_some _ _ _ _ hcy
    exact same_edge_of_same_idx (buildGraph cs) (buildGraph_idxs_nodup cs) _ _ ex ey _ cx cy hfx hfy hex hey
  · intro x hx hPx
    simp only [pairSgn]
    cases hcx : component (buildGraph cs) x.1 x.2 with
    | none => rfl
    | some icx =>
      obtain ⟨ix, cx⟩ := icx
      refine if_neg fun h => ?_
      rw [(hPiff x).mpr ⟨cx, h ▸ hcx⟩] at hPx
      cases hPx

theorem meshCurrent_eq (cs : List (Cpt K)) (loops : List (List GNode)) (im : Nat → K)
    (hcyc : ∀ loop ∈ loops, isSimpleCycle (buildGraph cs) loop = true)
    (idx : Nat) (c : Cpt K) (n0 n1 : Nat) (hc : cs[idx]? = some c) (hn : nodes2 c = some (n0, n1)) :
    meshCurrent true (buildGraph cs) loops idx c im = -branchJ (buildGraph cs) loops im idx := by
  simp only [meshCurrent, hn, if_true, accCoeffs, accEdge, List.map_map, branchJ]
  rw [lsum_filterMap, ← lsum_map_neg]
  apply lsum_map_congr
  rintro ⟨m, loop⟩ hml
  have hl : loop ∈ loops := (List.of_mem_zip hml).2
  have := loop_inc_find cs loop (hcyc loop hl) idx c n0 n1 hc hn
  simp only [Function.comp] at this ⊢
  rw [← neg_mul, ← this]
  cases (loopPairs loop).find? (fun pq => match component (buildGraph cs) pq.1 pq.2 with
                                            | some (i, _) => i == idx
                                            | none => false) with
  | none => simp
  | some pq => simp


/-! ### a mesh equation is the loop sum of the edge rises -/

/-- the contribution of one ordered pair to a mesh equation is the rise of the pair for the edge rises
    `edgeRise` = −(z·J + v0) -/
theorem meshTerm_rise (kind : Kind) (s : K) (cs : List (Cpt K)) (loops : List (List GNode)) (im : Nat → K)
    (hdef : ∀ c ∈ cs, MeshOk kind s c)
    (hcyc : ∀ loop ∈ loops, isSimpleCycle (buildGraph cs) loop = true)
    (pq : GNode × GNode) (t : MeshForm K) (ht : meshTerm true kind s (buildGraph cs) loops pq = some t) :
    t.eval im = sumTo cs.length (fun i => pairSgn (buildGraph cs) pq i *
        edgeRise kind s cs (buildGraph cs) loops im i) := by
  rw [pairSgn_sum _ _ _ _ (fun i c h => (component_lt cs _ _ i c h).2)]
  cases hcomp : component (buildGraph cs) pq.1 pq.2 with
  | none =>
    simp only [meshTerm, hcomp, Option.some.injEq] at ht
    subst ht
    simp [MeshForm.eval, lsum]
  | some ic =>
    obtain ⟨idx, c⟩ := ic
    obtain ⟨hc, hlt⟩ := component_lt cs _ _ _ _ hcomp
    have hmok := hdef c (List.mem_of_getElem? hc)
    obtain ⟨hI, n0, n1, hn, hne⟩ := meshOk_nodes kind s c hmok
    obtain ⟨z, v0, hvol, hzV⟩ := meshOk_volEq kind s c hmok
    have hu : edgeRise kind s cs (buildGraph cs) loops im idx = -(z * branchJ (buildGraph cs) loops im idx + v0) := by
      simp [edgeRise, hc, hvol]
    rw [meshTerm_cpt true kind s _ loops im pq idx c n0 n1 z v0 hcomp hI hn hvol hzV t ht,
      meshCurrent_eq cs loops im hcyc idx c n0 n1 hc hn]
    simp only [hn, hu, if_true, beq_iff_eq]
    split_ifs <;> ring

/-- **a mesh equation is the loop sum of the edge rises** −(z·J + v0) -/
theorem meshEq_rise (kind : Kind) (s : K) (cs : List (Cpt K)) (loops : List (List GNode)) (im : Nat → K)
    (hdef : ∀ c ∈ cs, MeshOk kind s c)
    (hcyc : ∀ loop ∈ loops, isSimpleCycle (buildGraph cs) loop = true)
    (loop : List GNode) (f : MeshForm K) (hf : meshEq true kind s (buildGraph cs) loops loop = some f) :
    f.eval im = walkRise cs.length (buildGraph cs) (edgeRise kind s cs (buildGraph cs) loops im) (loopPairs loop) := by
  rw [walkRise_eq]
  exact meshEq_eval true kind s (buildGraph cs) loops im _ (loopPairs loop)
    (fun ab _ t ht => meshTerm_rise kind s cs loops im hdef hcyc ab t ht) f hf

theorem meshTerm_isSome (kind : Kind) (s : K) (cs : List (Cpt K)) (loops : List (List GNode))
    (hdef : ∀ c ∈ cs, MeshOk kind s c) (pq : GNode × GNode) :
    (meshTerm true kind s (buildGraph cs) loops pq).isSome = true := by
  unfold meshTerm
  cases hcomp : component (buildGraph cs) pq.1 pq.2 with
  | none => rfl
  | some ic =>
    obtain ⟨idx, c⟩ := ic
    obtain ⟨hc, _⟩ := component_lt cs _ _ _ _ hcomp
    have hmok := hdef c (List.mem_of_getElem? hc)
    obtain ⟨hI, n0, n1, hn, _⟩ := meshOk_nodes kind s c hmok
    obtain ⟨z, v0, hvol, _⟩ := meshOk_volEq kind s c hmok
    simp [hn, hvol, hI]

/-- the mesh formulation produces an equation for every loop when it is defined for the netlist -/
theorem meshEq_isSome (kind : Kind) (s : K) (cs : List (Cpt K)) (loops : List (List GNode))
    (hdef : ∀ c ∈ cs, MeshOk kind s c) (loop : List GNode) :
    (meshEq true kind s (buildGraph cs) loops loop).isSome = true := by
  unfold meshEq
  induction loopPairs loop with
  | nil => rfl
  | cons ab rest ih =>
    simp only [List.foldr_cons]
    have h1 := meshTerm_isSome kind s cs loops hdef ab
    obtain ⟨t, ht⟩ := Option.isSome_iff_exists.mp h1
    obtain ⟨r, hr⟩ := Option.isSome_iff_exists.mp ih
    rw [ht, hr]
    rfl


/-! ### KVL completeness: with a cycle-basis certificate, edge voltages whose loop sums vanish are potential differences -/

theorem checkEdges_mem [DecidableEq K] (g : List (Edge K)) (N : Nat) (loops : List (List GNode)) (cert : BasisCert K)
    (es : List (Edge K)) : ∀ (cfs : List (List K)), checkEdges g N loops cert es cfs = true →
    ∀ e ∈ es, ∃ coef, checkEdge g N loops cert e coef = true := by
  induction es with
  | nil => intro cfs _ e he; simp at he
  | cons a t ih =>
    intro cfs h e he
    simp only [checkEdges, Bool.and_eq_true] at h
    rcases List.mem_cons.mp he with rfl | he
    · exact ⟨_, h.1⟩
    · exact ih _ h.2 e he

theorem checkEdge_spec [DecidableEq K] (g : List (Edge K)) (N : Nat) (loops : List (List GNode)) (cert : BasisCert K)
    (e : Edge K) (coef : List K) (h : checkEdge g N loops cert e coef = true) (idx : Nat) (hidx : idx < N) :
    inc g (openPairs (cert.path e.a)) idx + edgeUnit e idx - inc g (openPairs (cert.path e.b)) idx
      = loopComb g loops coef idx := by
  simp only [checkEdge, List.all_eq_true, List.mem_range, decide_eq_true_eq] at h
  exact h idx hidx

/-- **KVL completeness** (any graph, any numbering bound `N`, any assignment `u` of a potential rise to every
    component): if the certificate check passes and the rises sum to zero around every loop handed in, then for
    EVERY edge a → b of the graph  φ(a) + u(edge) − φ(b) = 0  with φ the rise along the certificate's walk:
    the edge voltages are differences of one potential, i.e. KVL holds around every closed walk. -/
theorem kvl_complete [DecidableEq K] (g : List (Edge K)) (N : Nat) (loops : List (List GNode)) (cert : BasisCert K)
    (u : Nat → K) (hcheck : checkBasisG g N loops cert = true)
    (hloops : ∀ loop ∈ loops, walkRise N g u (loopPairs loop) = 0) (e : Edge K) (he : e ∈ g) :
    walkRise N g u (openPairs (cert.path e.a)) + sumTo N (fun idx => edgeUnit e idx * u idx)
      - walkRise N g u (openPairs (cert.path e.b)) = 0 := by
  obtain ⟨coef, hcoef⟩ := checkEdges_mem g N loops cert g cert.coefs hcheck e he
  have hspec := checkEdge_spec g N loops cert e coef hcoef
  simp only [walkRise]
  rw [← sumTo_add, ← sumTo_sub]
  rw [sumTo_congr N _ (fun idx => loopComb g loops coef idx * u idx) fun idx hidx => by rw [← hspec idx hidx]; ring]
  exact sumTo_comb_zero N _ _ _ u fun cl hcl => hloops cl.2 (List.of_mem_zip hcl).2

theorem edgeUnit_sum (e : Edge K) (N : Nat) (u : Nat → K) (i : Nat) (c : Cpt K) (hc : e.cpt = some (i, c)) (hi : i < N) :
    sumTo N (fun idx => edgeUnit e idx * u idx) = u i := by
  simp only [edgeUnit, hc]
  rw [sumTo_ite_mul N i 1 u hi, one_mul]

theorem edgeUnit_sum_wire (e : Edge K) (N : Nat) (u : Nat → K) (hc : e.cpt = none) :
    sumTo N (fun idx => edgeUnit e idx * u idx) = 0 := by
  simp only [edgeUnit, hc, zero_mul]
  exact sumTo_zero N


/-! ### KCL by telescoping: loop currents leave every node as they enter it -/

/-- indicator of circuit node `k` (a dummy is wired to the node it stands for) -/
def nodeInd (k : Nat) : GNode → K
  | .real n => if n = k then 1 else 0
  | .dummy _ n => if n = k then 1 else 0

/-- indicator(second node) − indicator(first node) of component number `idx` -/
def cptW (cs : List (Cpt K)) (k idx : Nat) : K :=
  match cs[idx]? with
  | some c =>
    match nodes2 c with
    | some (n0, n1) => (if n1 = k then 1 else 0) - (if n0 = k then 1 else 0)
    | none => 0
  | none => 0

theorem pair_w (cs : List (Cpt K)) (k : Nat) (pq : GNode × GNode) (hadj : hasEdge (buildGraph cs) pq.1 pq.2 = true) :
    sumTo cs.length (fun i => pairSgn (buildGraph cs) pq i * cptW cs k i) = nodeInd k pq.2 - nodeInd k pq.1 := by
  rw [pairSgn_sum _ _ _ _ (fun i c h => (component_lt cs _ _ i c h).2),
    pair_rise cs _ (buildGraph_ok cs) (nodeInd k) (fun _ _ => rfl) pq.1 pq.2 hadj]
  cases hcomp : component (buildGraph cs) pq.1 pq.2 with
  | none => rfl
  | some ic =>
    obtain ⟨i, c⟩ := ic
    cases hn : nodes2 c with
    | none => simp only [hn]
    | some n01 => simp [cptW, (component_lt cs _ _ i c hcomp).1, hn, nodeInd]

/-- around a simple cycle of the graph the node indicator rises sum to zero -/
theorem loop_w (cs : List (Cpt K)) (k : Nat)
    (loop : List GNode) (hcyc : isSimpleCycle (buildGraph cs) loop = true) :
    walkRise cs.length (buildGraph cs) (cptW cs k) (loopPairs loop) = 0 := by
  rw [walkRise_eq]
  rw [lsum_map_congr _ _ (fun pq => nodeInd k pq.2 - nodeInd k pq.1)
    (fun pq hpq => pair_w cs k pq (adjacent_of_cycle _ loop hcyc pq hpq)), loopPairs_telescope]

/-- **KCL by telescoping**: the branch currents that mesh currents on simple cycles induce, weighted with the
    node indicator differences, sum to zero -- every loop current that enters node `k` leaves it -/
theorem kcl_telescope (cs : List (Cpt K))
    (loops : List (List GNode)) (hcyc : ∀ loop ∈ loops, isSimpleCycle (buildGraph cs) loop = true)
    (im : Nat → K) (k : Nat) :
    sumTo cs.length (fun idx => branchJ (buildGraph cs) loops im idx * cptW cs k idx) = 0 := by
  rw [sumTo_congr _ _ (fun idx => lsum (((List.range loops.length).zip loops).map fun ml =>
      im ml.1 * inc (buildGraph cs) (loopPairs ml.2) idx) * cptW cs k idx) fun idx _ => by
    rw [branchJ]; exact congrArg (· * _) (lsum_map_congr _ _ _ fun _ _ => mul_comm _ _)]
  exact sumTo_comb_zero _ _ _ _ _ fun ml hml => loop_w cs k ml.2 (hcyc ml.2 (List.of_mem_zip hml).2)

/-! ### the component relation in impedance form gives the spec's laws -/

/-- a component whose voltage is `z·J + v0` (`voltage_equation`) and whose branch current, if it has one, is `J`:
    its current out of node `k` is that of a two-terminal element carrying `J`, its defining relation holds,
    and `J` is its current by the spec -/
theorem cpt_laws (kind : Kind) (s : K) (x : Ix → K) (c : Cpt K) (J : K) (n0 n1 : Nat) (z v0 : K)
    (hok : MeshOk kind s c) (hn : nodes2 c = some (n0, n1)) (hvol : volEq kind s c = some (z, v0))
    (hvd : vd x n0 n1 = z * J + v0) (hbr : ∀ m ∈ owned c, x (br m) = J) :
    (∀ k, outflow kind s x k c = twoTerm n0 n1 k J) ∧ (∀ p ∈ laws kind s x c, p.2 = 0) ∧
      (isV c = false → through kind s x c = J) := by
  cases c with
  | R a b r =>
    cases hn; cases hvol
    have : vd x n0 n1 / z = J := by rw [hvd, add_zero, mul_div_cancel_left₀ _ hok.2]
    exact ⟨fun k => by rw [outflow, this], nofun, fun _ => this⟩
  | Y a b y =>
    cases hn; cases hvol
    have : y * vd x n0 n1 = J := by rw [hvd, add_zero, one_div, mul_inv_cancel_left₀ hok.2]
    exact ⟨fun k => by rw [outflow, this], nofun, fun _ => this⟩
  | Cap a b cc iv =>
    cases hn
    obtain ⟨_, hsc, hk⟩ := hok
    have hs : s ≠ 0 := left_ne_zero_of_mul hsc
    have hcc : cc ≠ 0 := right_ne_zero_of_mul hsc
    have : capCurrent kind s cc iv (vd x n0 n1) = J := by
      rw [hvd]
      rcases hk with rfl | rfl
      · cases hvol; simp [capCurrent]; field_simp
      · cases iv <;> cases hvol <;> simp [capCurrent] <;> field_simp <;> ring
    exact ⟨fun k => by rw [outflow, this], nofun, fun _ => this⟩
  | Ind a b m l i0 coup =>
    cases hn
    obtain ⟨_, rfl, hk⟩ := hok
    have hJ : x (br m) = J := hbr m (List.mem_singleton_self m)
    refine ⟨fun k => by rw [outflow, hJ], ?_, fun _ => hJ⟩
    intro p hp
    cases kind with
    | time => exact absurd rfl hk
    | dc => cases hvol; cases List.mem_singleton.mp hp; simpa using hvd
    | lap => cases hvol; cases List.mem_singleton.mp hp; simp [mutualDrop, lsum, hvd, hJ]
    | ivp =>
      cases i0 <;> cases hvol <;> cases List.mem_singleton.mp hp <;>
        simp [mutualDrop, mutualIC, lsum, hvd, hJ]
  | V a b m v =>
    cases hn; cases hvol
    refine ⟨fun k => by rw [outflow, hbr m (List.mem_singleton_self m)], ?_, nofun⟩
    intro p hp
    cases List.mem_singleton.mp hp
    simpa [sub_eq_zero] using hvd
  | _ => exact hok.elim

/-- with no branch current claimed twice, the owner of branch `m` is the component that lists it -/
theorem ownerIdx_eq (cs : List (Cpt K)) (hwf : (cs.flatMap owned).Nodup) (idx : Nat) (c : Cpt K)
    (hc : cs[idx]? = some c) (m : Nat) (hm : m ∈ owned c) : ownerIdx cs m = some idx := by
  induction cs generalizing idx with
  | nil => simp at hc
  | cons a t ih =>
    simp only [List.flatMap_cons, List.nodup_append] at hwf
    obtain ⟨_, hnt, hdisj⟩ := hwf
    simp only [ownerIdx, List.findIdx?_cons]
    cases idx with
    | zero =>
      simp only [List.getElem?_cons_zero, Option.some.injEq] at hc
      subst hc
      simp [hm]
    | succ j =>
      simp only [List.getElem?_cons_succ] at hc
      have hmt : m ∈ t.flatMap owned := List.mem_flatMap.mpr ⟨c, List.mem_of_getElem? hc, hm⟩
      have hna : (owned a).contains m = false := by
        by_contra h
        simp only [Bool.not_eq_false, List.contains_iff_mem] at h
        exact hdisj m h m hmt rfl
      simp only [hna, Bool.false_eq_true, if_false]
      have := ih hnt j hc
      simp only [ownerIdx] at this
      rw [this]; rfl


/-! ### the solution determined by the mesh currents -/

/-- mesh currents that satisfy every mesh equation: the edge rises −(z·J + v0) sum to zero around every loop -/
theorem loops_vanish (kind : Kind) (s : K) (cs : List (Cpt K)) (loops : List (List GNode)) (im : Nat → K)
    (hdef : ∀ c ∈ cs, MeshOk kind s c)
    (hcyc : ∀ loop ∈ loops, isSimpleCycle (buildGraph cs) loop = true)
    (heqs : ∀ loop ∈ loops, ∀ f, meshEq true kind s (buildGraph cs) loops loop = some f → f.eval im = 0) :
    ∀ loop ∈ loops, walkRise cs.length (buildGraph cs) (edgeRise kind s cs (buildGraph cs) loops im)
      (loopPairs loop) = 0 := by
  intro loop hl
  obtain ⟨f, hf⟩ := Option.isSome_iff_exists.mp (meshEq_isSome kind s cs loops hdef loop)
  rw [← meshEq_rise kind s cs loops im hdef hcyc loop f hf]
  exact heqs loop hl f hf

theorem volt_meshSolution (kind : Kind) (s : K) (cs : List (Cpt K)) (loops : List (List GNode)) (im : Nat → K)
    (cert : BasisCert K) (k : Nat) :
    volt (meshSolution kind s cs loops im cert) k =
      potential kind s cs loops im cert (.real k) - potential kind s cs loops im cert (.real 0) := by
  cases k with
  | zero => simp [volt]
  | succ k => simp [volt, meshSolution]

/-- the voltage across every component, in the solution the mesh currents determine, is `z·J + v0` -/
theorem meshSolution_vd [DecidableEq K] (kind : Kind) (s : K) (cs : List (Cpt K)) (loops : List (List GNode))
    (im : Nat → K) (cert : BasisCert K) (hdef : ∀ c ∈ cs, MeshOk kind s c)
    (hbasis : checkBasis cs loops cert = true)
    (hloops : ∀ loop ∈ loops, walkRise cs.length (buildGraph cs) (edgeRise kind s cs (buildGraph cs) loops im)
      (loopPairs loop) = 0)
    (idx : Nat) (c : Cpt K) (hc : cs[idx]? = some c) :
    ∃ n0 n1 z v0, nodes2 c = some (n0, n1) ∧ volEq kind s c = some (z, v0) ∧
      vd (meshSolution kind s cs loops im cert) n0 n1 = z * branchJ (buildGraph cs) loops im idx + v0 := by
  have hmok := hdef c (List.mem_of_getElem? hc)
  obtain ⟨_, n0, n1, hn, _⟩ := meshOk_nodes kind s c hmok
  obtain ⟨z, v0, hvol, _⟩ := meshOk_volEq kind s c hmok
  refine ⟨n0, n1, z, v0, hn, hvol, ?_⟩
  have hlt : idx < cs.length := (List.getElem?_eq_some_iff.mp hc).1
  have hu : edgeRise kind s cs (buildGraph cs) loops im idx = -(z * branchJ (buildGraph cs) loops im idx + v0) := by
    simp [edgeRise, hc, hvol]
  have hkvl := kvl_complete (buildGraph cs) cs.length loops cert (edgeRise kind s cs (buildGraph cs) loops im)
    hbasis hloops
  obtain ⟨e, he, hecpt, hea, heb⟩ := buildGraph_has cs idx c n0 n1 hc hn
  have h1 := hkvl e he
  rw [edgeUnit_sum e _ _ idx c hecpt hlt, hu, hea] at h1
  simp only [vd, volt_meshSolution, potential]
  rcases heb with heb | ⟨w, hw, hwc, hwa, hwb⟩
  · rw [heb] at h1
    linear_combination h1
  · have h2 := hkvl w hw
    rw [edgeUnit_sum_wire w _ _ hwc, hwa, hwb] at h2
    linear_combination h1 + h2

/-- **the mesh solution obeys the circuit laws, component by component** -/
theorem meshSolution_cpt [DecidableEq K] (kind : Kind) (s : K) (cs : List (Cpt K)) (loops : List (List GNode))
    (im : Nat → K) (cert : BasisCert K) (hdef : ∀ c ∈ cs, MeshOk kind s c)
    (hwf : (cs.flatMap owned).Nodup)
    (hbasis : checkBasis cs loops cert = true)
    (hloops : ∀ loop ∈ loops, walkRise cs.length (buildGraph cs) (edgeRise kind s cs (buildGraph cs) loops im)
      (loopPairs loop) = 0)
    (idx : Nat) (c : Cpt K) (hc : cs[idx]? = some c) :
    (∀ k, outflow kind s (meshSolution kind s cs loops im cert) k c =
        -(branchJ (buildGraph cs) loops im idx * cptW cs k idx)) ∧
    (∀ p ∈ laws kind s (meshSolution kind s cs loops im cert) c, p.2 = 0) ∧
    (isV c = false → through kind s (meshSolution kind s cs loops im cert) c = branchJ (buildGraph cs) loops im idx) := by
  obtain ⟨n0, n1, z, v0, hn, hvol, hvd⟩ := meshSolution_vd kind s cs loops im cert hdef hbasis hloops idx c hc
  have hbr : ∀ m ∈ owned c, meshSolution kind s cs loops im cert (br m) = branchJ (buildGraph cs) loops im idx := by
    intro m hm
    simp [meshSolution, ownerIdx_eq cs hwf idx c hc m hm]
  obtain ⟨h1, h2, h3⟩ := cpt_laws kind s _ c _ n0 n1 z v0 (hdef c (List.mem_of_getElem? hc)) hn hvol hvd hbr
  refine ⟨fun k => ?_, h2, h3⟩
  rw [h1 k]
  simp only [twoTerm, cptW, hc, hn]
  split_ifs <;> ring

/-- **KCL** for the mesh solution at every node -/
theorem meshSolution_kcl [DecidableEq K] (kind : Kind) (s : K) (cs : List (Cpt K)) (loops : List (List GNode))
    (im : Nat → K) (cert : BasisCert K) (hdef : ∀ c ∈ cs, MeshOk kind s c)
    (hwf : (cs.flatMap owned).Nodup)
    (hcyc : ∀ loop ∈ loops, isSimpleCycle (buildGraph cs) loop = true)
    (hbasis : checkBasis cs loops cert = true)
    (hloops : ∀ loop ∈ loops, walkRise cs.length (buildGraph cs) (edgeRise kind s cs (buildGraph cs) loops im)
      (loopPairs loop) = 0) (k : Nat) :
    lsum (cs.map (outflow kind s (meshSolution kind s cs loops im cert) k)) = 0 := by
  rw [lsum_map_eq_sumTo]
  have h1 : ∀ i, i < cs.length →
      ((cs[i]?).map (outflow kind s (meshSolution kind s cs loops im cert) k)).getD 0 = -(branchJ (buildGraph cs) loops im i * cptW cs k i) := by
    intro i hi
    have hc : cs[i]? = some cs[i] := List.getElem?_eq_getElem hi
    rw [hc]
    simp only [Option.map_some, Option.getD_some]
    exact (meshSolution_cpt kind s cs loops im cert hdef hwf hbasis hloops i _ hc).1 k
  rw [sumTo_congr _ _ _ h1]
  have := kcl_telescope cs loops hcyc im k
  have h2 : sumTo cs.length (fun i => -(branchJ (buildGraph cs) loops im i * cptW cs k i))
      = (-1) * sumTo cs.length (fun i => branchJ (buildGraph cs) loops im i * cptW cs k i) := by
    rw [← sumTo_mul_left]; apply sumTo_congr; intro i _; ring
  rw [h2, this, mul_zero]


/-! ### concrete circuits for the non-vacuity examples of Props/C15Mesh.lean -/

/-- certificate for `exCkt` (V1 1 0 6; R1 1 2 3; R2 2 0 5) with the loop 0-1-2: walks 0, 0-1, 0-1-2; the edges of
    V1 and R1 lie on the walks (coefficient 0), R2 closes the loop (coefficient 1) -/
def exCert : BasisCert ℚ :=
  ⟨[(.real 0, [.real 0]), (.real 1, [.real 0, .real 1]), (.real 2, [.real 0, .real 1, .real 2])], [[0], [0], [1]]⟩

theorem exCert_ok : checkBasis exCkt [exLoop] exCert = true := by decide +kernel

theorem exMeshEq : ∀ loop ∈ [exLoop], ∀ f, meshEq true .dc (0 : ℚ) (buildGraph exCkt) [exLoop] loop = some f →
    f.eval (fun _ => 3/4) = 0 := by
  intro loop hl f hf
  simp only [List.mem_singleton] at hl
  subst hl
  have : (meshEq true .dc (0 : ℚ) (buildGraph exCkt) [exLoop] exLoop).map (MeshForm.eval (fun _ => 3/4)) = some 0 := by
    decide +kernel
  rw [hf] at this
  simpa using this

/-- a circuit with a parallel component (dummy node `*0` in front of R3, wired to node 0):
    V1 1 0 6; R1 1 2 3; R2 2 0 5; R3 2 0 7; meshes 0-1-2 and 0-2-*0 with currents 72/71 and 30/71 -/
def parCkt : List (Cpt ℚ) := [.V 1 0 0 6, .R 1 2 3, .R 2 0 5, .R 2 0 7]
def parLoops : List (List GNode) := [[.real 0, .real 1, .real 2], [.real 0, .real 2, .dummy 0 0]]
def parCert : BasisCert ℚ :=
  ⟨[(.real 0, [.real 0]), (.real 1, [.real 0, .real 1]), (.real 2, [.real 0, .real 1, .real 2]),
    (.dummy 0 0, [.real 0, .real 1, .real 2, .dummy 0 0])],
   [[0, 0], [0, 0], [1, 0], [0, 0], [1, 1]]⟩
def parIm : Nat → ℚ := fun m => if m = 0 then 72/71 else 30/71

theorem parLoops_cycles : ∀ loop ∈ parLoops, isSimpleCycle (buildGraph parCkt) loop = true := by decide
theorem parCert_ok : checkBasis parCkt parLoops parCert = true := by decide +kernel
theorem parMeshEq : ∀ loop ∈ parLoops, ∀ f, meshEq true .dc (0 : ℚ) (buildGraph parCkt) parLoops loop = some f →
    f.eval parIm = 0 := by
  have h : ∀ loop ∈ parLoops,
      (meshEq true .dc (0 : ℚ) (buildGraph parCkt) parLoops loop).map (MeshForm.eval parIm) = some 0 := by
    decide +kernel
  intro loop hl f hf
  have := h loop hl
  rw [hf] at this
  simpa using this

end Lcapy.Formulations
