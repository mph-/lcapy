/-
  Helper lemmas for C01: assembly of stamps and the per-component row identities.
-/
import Lcapy.Model.MNA
import Mathlib.Tactic.Ring
import Mathlib.Tactic.FieldSimp
import Mathlib.Algebra.Field.Basic
namespace Lcapy.MNA
open Ix
variable {K : Type} [Field K]

@[simp] theorem ground_node (x : Ix → K) (n : Nat) : ground x (node n) = volt x n := by
  cases n <;> rfl

@[simp] theorem ground_br (x : Ix → K) (m : Nat) : ground x (br m) = x (br m) := rfl

theorem lsum_eq_sum (l : List K) : lsum l = l.sum := by
  induction l with
  | nil => rfl
  | cons h t ih => simp [lsum, ih]

theorem lsum_append (a b : List K) : lsum (a ++ b) = lsum a + lsum b := by
  simp [lsum_eq_sum]

theorem lhsSum_append (r : Ix) (x : Ix → K) (a b : List (Ix × Ix × K)) :
    lhsSum r x (a ++ b) = lhsSum r x a + lhsSum r x b := by
  induction a with
  | nil => simp [lhsSum]
  | cons h t ih => obtain ⟨r', c, v⟩ := h; simp [lhsSum, ih]; ring

theorem rhsSum_append (r : Ix) (a b : List (Ix × K)) :
    rhsSum r (a ++ b) = rhsSum r a + rhsSum r b := by
  induction a with
  | nil => simp [rhsSum]
  | cons h t ih => obtain ⟨r', v⟩ := h; simp [rhsSum, ih]; ring

theorem residual_append (a b : Stamp K) (x : Ix → K) (r : Ix) :
    residual (a.append b) x r = residual a x r + residual b x r := by
  simp [residual, Stamp.append, lhsSum_append, rhsSum_append]; ring

theorem residual_foldr_append {α : Type} (f : α → Stamp K) (cs : List α) (x : Ix → K) (r : Ix) :
    residual (cs.foldr (fun c acc => (f c).append acc) {}) x r = lsum (cs.map (fun c => residual (f c) x r)) := by
  induction cs with
  | nil => simp [residual, lhsSum, rhsSum, lsum]
  | cons c t ih => simp only [List.foldr_cons, List.map_cons, lsum]; rw [residual_append, ih]

theorem residual_stampAll_cons (kind : Kind) (s : K) (c : Cpt K) (t : List (Cpt K)) (x : Ix → K) (r : Ix) :
    residual (stampAll kind s (c :: t)) x r = residual (stamp kind s c) x r + residual (stampAll kind s t) x r :=
  residual_append _ _ x r

theorem residual_stampAll (kind : Kind) (s : K) (cs : List (Cpt K)) (x : Ix → K) (r : Ix) :
    residual (stampAll kind s cs) x r = lsum (cs.map (fun c => residual (stamp kind s c) x r)) :=
  residual_foldr_append (stamp kind s) cs x r

/-- Indicator of a decidable proposition in the carrier.  Stamp rows and the terms of `outflow` are sums of
    indicator multiples, so `ring` compares them without splitting on which node names coincide. -/
def indic (p : Prop) [Decidable p] : K := if p then 1 else 0

theorem ite_eq_indic (p : Prop) [Decidable p] (v : K) : (if p then v else 0) = indic p * v := by
  unfold indic; split_ifs <;> simp

theorem indic_node (a k : Nat) : (indic (node a = node k) : K) = indic (a = k) := by simp [indic]
theorem indic_br (a k : Nat) : (indic (br a = br k) : K) = indic (a = k) := by simp [indic]
theorem indic_node_br (a k : Nat) : (indic (node a = br k) : K) = 0 := by simp [indic]
theorem indic_br_node (a k : Nat) : (indic (br a = node k) : K) = 0 := by simp [indic]

theorem twoTerm_indic (n1 n2 k : Nat) (i : K) : twoTerm n1 n2 k i = (indic (n1 = k) - indic (n2 = k)) * i := by
  simp only [twoTerm, ite_eq_indic]; ring

/-- coupling entries live on the inductor's own branch row -/
theorem lhsSum_coup_node (k : Nat) (y : Ix → K) (m : Nat) (s : K) (coup : List (Nat × K × Option K)) :
    lhsSum (node k) y (coup.map (fun p => (br m, br p.1, -(s * p.2.1)))) = 0 := by
  induction coup with
  | nil => rfl
  | cons h t ih => simp [lhsSum, ih]

theorem rhsSum_coupIC_node (k : Nat) (m : Nat) (coup : List (Nat × K × Option K)) :
    rhsSum (node k) (coup.map (fun p => (br m, -(icFlux p.2.1 p.2.2)))) = 0 := by
  induction coup with
  | nil => rfl
  | cons h t ih => simp [rhsSum, ih]

theorem rhsSum_coupIC_br (m' m : Nat) (coup : List (Nat × K × Option K)) :
    rhsSum (br m') (coup.map (fun p => (br m, -(icFlux p.2.1 p.2.2)))) = indic (m = m') * -(mutualIC coup) := by
  induction coup with
  | nil => simp [rhsSum, mutualIC, lsum]
  | cons h t ih => simp only [List.map_cons, rhsSum, ih, mutualIC, lsum, ite_eq_indic, indic_br]; ring

theorem lhsSum_coup_br (m' : Nat) (x : Ix → K) (m : Nat) (s : K) (coup : List (Nat × K × Option K)) :
    lhsSum (br m') (ground x) (coup.map (fun p => (br m, br p.1, -(s * p.2.1)))) =
      indic (m = m') * -(mutualDrop s x coup) := by
  induction coup with
  | nil => simp [lhsSum, mutualDrop, lsum]
  | cons h t ih => simp only [List.map_cons, lhsSum, ih, mutualDrop, lsum, ite_eq_indic, indic_br, ground_br]; ring

theorem stamp_node_row (kind : Kind) (s : K) (c : Cpt K) (x : Ix → K) (k : Nat) (hk : k ≠ 0) :
    residual (stamp kind s c) x (node k) = outflow kind s x k c := by
  have h0 : (indic (0 = k) : K) = 0 := if_neg (Ne.symm hk)
  cases c with
  | Ind n1 n2 m l i0 coup =>
    cases kind <;> cases i0 <;>
      simp only [residual, stamp, lhsSum, rhsSum, rhsSum_coupIC_node, outflow, twoTerm_indic,
        branchPattern, lhsSum_coup_node, indZ, ite_eq_indic, indic_node, indic_br_node,
        List.cons_append, List.nil_append, ground_node, ground_br] <;> ring
  | Cap n1 n2 c v0 =>
    cases kind <;> cases v0 <;>
      simp only [residual, stamp, lhsSum, rhsSum, outflow, twoTerm_indic, admPattern, capY, capCurrent, vd,
        ite_eq_indic, indic_node, ground_node] <;> ring
  | _ =>
    simp only [residual, stamp, lhsSum, rhsSum, outflow, twoTerm_indic, branchPattern, admPattern, vd,
      ite_eq_indic, indic_node, indic_br_node, List.cons_append, List.nil_append, ground_node, ground_br, h0]
    ring

/-- sum of the law expressions a component attaches to branch row `m` -/
def lawsAt (kind : Kind) (s : K) (x : Ix → K) (c : Cpt K) (m : Nat) : K :=
  lsum (((laws kind s x c).filter (fun p => p.1 = m)).map (fun p => p.2))

theorem lawsSum_cons (m m' : Nat) (e : K) (t : List (Nat × K)) :
    lsum ((((m', e) :: t).filter (fun p => p.1 = m)).map (fun p => p.2)) =
      indic (m' = m) * e + lsum ((t.filter (fun p => p.1 = m)).map (fun p => p.2)) := by
  unfold indic; by_cases h : m' = m <;> simp [h, lsum]

theorem stamp_branch_row (kind : Kind) (s : K) (c : Cpt K) (x : Ix → K) (m : Nat) :
    residual (stamp kind s c) x (br m) = lawsAt kind s x c m := by
  cases c with
  | Ind n1 n2 m' l i0 coup =>
    cases kind <;> cases i0 <;>
      simp only [lawsAt, laws, residual, stamp, lhsSum, rhsSum, rhsSum_coupIC_br, branchPattern,
        lhsSum_coup_br, indZ, vd, lawsSum_cons, List.filter_nil, List.map_nil, lsum, ite_eq_indic,
        indic_br, indic_node_br, List.cons_append, List.nil_append, ground_node, ground_br] <;> ring
  | Cap n1 n2 c v0 =>
    cases kind <;> cases v0 <;>
      simp only [lawsAt, laws, residual, stamp, lhsSum, rhsSum, admPattern, List.filter_nil, List.map_nil, lsum,
        ite_eq_indic, indic_node_br] <;> ring
  | _ =>
    simp only [lawsAt, laws, residual, stamp, lhsSum, rhsSum, branchPattern, admPattern, vd, lawsSum_cons,
      List.filter_nil, List.map_nil, lsum, ite_eq_indic, indic_br, indic_node_br, List.cons_append, List.nil_append,
      ground_node, ground_br]
    ring

theorem laws_fst (kind : Kind) (s : K) (x : Ix → K) (c : Cpt K) :
    (laws kind s x c).map Prod.fst = owned c := by
  cases c with
  | Ind => cases kind <;> rfl
  | _ => rfl

/-- filtered sums over a list of (branch, expression) pairs with distinct branches vanish for
    every branch iff every expression vanishes -/
theorem filtered_sums_zero_iff (L : List (Nat × K)) (hnd : (L.map Prod.fst).Nodup) :
    (∀ m, lsum ((L.filter (fun p => p.1 = m)).map (fun p => p.2)) = 0) ↔ ∀ p ∈ L, p.2 = 0 := by
  induction L with
  | nil => simp [lsum]
  | cons p t ih =>
    obtain ⟨m', e⟩ := p
    obtain ⟨hp, hnd'⟩ := List.nodup_cons.mp hnd
    -- no other entry sits on the branch of the head
    have hfilt : lsum ((t.filter (fun q => q.1 = m')).map (fun q => q.2)) = 0 := by
      rw [List.filter_eq_nil_iff.mpr fun q hq hq1 => hp (List.mem_map.mpr ⟨q, hq, of_decide_eq_true hq1⟩)]; rfl
    simp only [lawsSum_cons, List.forall_mem_cons, ← ih hnd']
    constructor
    · intro h
      have h1 : e = 0 := by simpa [indic, hfilt] using h m'
      exact ⟨h1, fun m => by simpa [h1] using h m⟩
    · rintro ⟨h1, h2⟩ m
      simp [h1, h2 m]
theorem lawsAt_sum (kind : Kind) (s : K) (x : Ix → K) (cs : List (Cpt K)) (m : Nat) :
    lsum (cs.map (fun c => lawsAt kind s x c m)) =
      lsum (((cs.flatMap (laws kind s x)).filter (fun p => p.1 = m)).map (fun p => p.2)) := by
  induction cs with
  | nil => simp [lsum]
  | cons c t ih =>
    simp only [List.map_cons, lsum, List.flatMap_cons, List.filter_append, List.map_append, lsum_append, ← ih]
    rfl

theorem lhsSum_sub (r : Ix) (x y : Ix → K) (l : List (Ix × Ix × K)) :
    lhsSum r (fun i => x i - y i) l = lhsSum r x l - lhsSum r y l := by
  induction l with
  | nil => simp [lhsSum]
  | cons h t ih => obtain ⟨r', c, v⟩ := h; simp only [lhsSum, ih, ite_eq_indic]; ring

end Lcapy.MNA
