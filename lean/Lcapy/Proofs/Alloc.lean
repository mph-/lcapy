/-
  Helper lemmas for Props/C01Glue.lean: the allocation loop of `MNA.__init__` (Model/Alloc.lean) allocates every
  needed branch current, and allocates nothing twice.
-/
import Lcapy.Model.Alloc
import Mathlib.Data.List.Nodup
import Mathlib.Data.List.Basic
namespace Lcapy.Netlist

theorem step1_mono (c : PLine) (acc : List String) : ∀ a ∈ acc, a ∈ step1 c acc := by
  intro a ha; unfold step1; split_ifs <;> simp [ha]

theorem step2_mono (c : PLine) (acc : List String) : ∀ a ∈ acc, a ∈ step2 c acc := by
  intro a ha; unfold step2; split_ifs <;> simp [ha]

theorem step3_mono (c : PLine) (acc : List String) : ∀ a ∈ acc, a ∈ step3 c acc := by
  intro a ha; unfold step3; split <;> [split_ifs; skip] <;> simp [ha]

theorem step1_has (c : PLine) (acc : List String) (h : c.needsBranch = true) : c.name ∈ step1 c acc := by
  unfold step1
  split_ifs with h1
  · simp
  · simpa [h] using h1

theorem step2_has (c : PLine) (acc : List String) (h : c.needsExtra = true) : c.name ++ "X" ∈ step2 c acc := by
  simp [step2, h]

theorem step3_has (c : PLine) (acc : List String) (cn : String) (h : c.ctrl = some cn) : cn ∈ step3 c acc := by
  simp only [step3, h]
  split_ifs with h1
  · simpa using h1
  · simp

theorem foldl_mono (cs : List PLine) : ∀ acc, ∀ a ∈ acc, a ∈ cs.foldl allocStep acc := by
  induction cs with
  | nil => intro acc a ha; exact ha
  | cons c t ih => intro acc a ha; exact ih _ a (step3_mono c _ a (step2_mono c _ a (step1_mono c acc a ha)))

theorem alloc_complete_aux (cs : List PLine) : ∀ acc, ∀ c ∈ cs,
    (c.needsBranch = true → c.name ∈ cs.foldl allocStep acc) ∧
    (c.needsExtra = true → c.name ++ "X" ∈ cs.foldl allocStep acc) ∧
    (∀ cn, c.ctrl = some cn → cn ∈ cs.foldl allocStep acc) := by
  induction cs with
  | nil => intro acc c hc; cases hc
  | cons d t ih =>
    intro acc c hc
    rcases List.mem_cons.mp hc with rfl | hc'
    · simp only [List.foldl_cons]
      exact ⟨fun h => foldl_mono t _ _ (step3_mono c _ _ (step2_mono c _ _ (step1_has c acc h))),
        fun h => foldl_mono t _ _ (step3_mono c _ _ (step2_has c _ h)), fun cn h => foldl_mono t _ _ (step3_has c _ cn h)⟩
    · exact ih _ c hc'

/-- the invariant: no duplicates, and every allocated name is a component name or the `X` name of an already
    processed component that needs an extra branch -/
def Inv (all pre : List PLine) (acc : List String) : Prop :=
  acc.Nodup ∧ ∀ a ∈ acc, (∃ d ∈ all, d.name = a) ∨ (∃ d ∈ pre, d.needsExtra = true ∧ a = d.name ++ "X")

theorem Inv.append {all pre : List PLine} {acc : List String} (h : Inv all pre acc) (a : String) (hn : a ∉ acc)
    (ha : (∃ d ∈ all, d.name = a) ∨ (∃ d ∈ pre, d.needsExtra = true ∧ a = d.name ++ "X")) :
    Inv all pre (acc ++ [a]) :=
  ⟨List.Nodup.append h.1 (List.nodup_singleton _) (by simpa using hn), fun b hb => by
    rcases List.mem_append.mp hb with hb | hb
    · exact h.2 b hb
    · rw [List.mem_singleton.mp hb]; exact ha⟩

theorem Inv.widen {all pre : List PLine} {acc : List String} (h : Inv all pre acc) (c : PLine) :
    Inv all (pre ++ [c]) acc :=
  ⟨h.1, fun a ha => (h.2 a ha).imp_right fun ⟨d, hd, hx⟩ => ⟨d, List.mem_append_left _ hd, hx⟩⟩

theorem allocStep_inv (all pre suf : List PLine) (c : PLine) (hall : all = pre ++ c :: suf)
    (H1 : (all.map (·.name)).Nodup)
    (H2 : ∀ c ∈ all, c.needsExtra = true → ∀ d ∈ all, d.name ≠ c.name ++ "X")
    (H3 : ∀ c ∈ all, ∀ cn, c.ctrl = some cn → ∃ d ∈ all, d.name = cn)
    (acc : List String) (hinv : Inv all pre acc) : Inv all (pre ++ [c]) (allocStep acc c) := by
  have hc : c ∈ all := by rw [hall]; simp
  have hcpre : ∀ d ∈ pre, d.name ≠ c.name := by
    intro d hd heq
    rw [hall, List.map_append, List.map_cons] at H1
    have := (List.nodup_append.mp H1).2.2 (d.name) (List.mem_map.mpr ⟨d, hd, rfl⟩) c.name (by simp)
    exact this heq
  have s1 : Inv all pre (step1 c acc) := by
    unfold step1
    split_ifs with h
    · simp only [Bool.and_eq_true, Bool.not_eq_true', List.contains_eq_mem, decide_eq_false_iff_not] at h
      exact hinv.append _ h.2 (Or.inl ⟨c, hc, rfl⟩)
    · exact hinv
  have s2 : Inv all (pre ++ [c]) (step2 c (step1 c acc)) := by
    unfold step2
    split_ifs with h
    · refine (s1.widen c).append _ (fun hmem => ?_) (Or.inr ⟨c, by simp, h, rfl⟩)
      rcases s1.2 _ hmem with ⟨d, hd, hdn⟩ | ⟨d, hd, _, hdn⟩
      · exact H2 c hc h d hd hdn
      · -- `d.name ++ "X" = c.name ++ "X"` for an earlier line `d`: names are distinct
        have := congrArg String.toList hdn
        simp only [String.toList_append] at this
        exact hcpre d hd (String.ext (List.append_cancel_right this).symm)
    · exact s1.widen c
  unfold allocStep step3
  cases hct : c.ctrl with
  | none => exact s2
  | some cn =>
    simp only
    split_ifs with h
    · exact s2
    · exact s2.append _ (by simpa using h) (Or.inl (H3 c hc cn hct))

theorem alloc_nodup_aux (all : List PLine)
    (H1 : (all.map (·.name)).Nodup)
    (H2 : ∀ c ∈ all, c.needsExtra = true → ∀ d ∈ all, d.name ≠ c.name ++ "X")
    (H3 : ∀ c ∈ all, ∀ cn, c.ctrl = some cn → ∃ d ∈ all, d.name = cn) :
    ∀ (suf pre : List PLine) (acc : List String), all = pre ++ suf → Inv all pre acc →
      (suf.foldl allocStep acc).Nodup := by
  intro suf
  induction suf with
  | nil => intro pre acc _ hinv; exact hinv.1
  | cons c t ih =>
    intro pre acc hall hinv
    simp only [List.foldl_cons]
    apply ih (pre ++ [c]) (allocStep acc c) (by simp [hall])
    exact allocStep_inv all pre t c hall H1 H2 H3 acc hinv

theorem alloc_nodup (cs : List PLine)
    (H1 : (cs.map (·.name)).Nodup)
    (H2 : ∀ c ∈ cs, c.needsExtra = true → ∀ d ∈ cs, d.name ≠ c.name ++ "X")
    (H3 : ∀ c ∈ cs, ∀ cn, c.ctrl = some cn → ∃ d ∈ cs, d.name = cn) : (alloc cs).Nodup :=
  alloc_nodup_aux cs H1 H2 H3 cs [] [] rfl ⟨List.nodup_nil, fun _ h => by cases h⟩

end Lcapy.Netlist
