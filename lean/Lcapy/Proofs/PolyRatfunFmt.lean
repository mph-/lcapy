/-
  Lemmas for `Lcapy/Model/RatfunFmt.lean` (C11): coefficient lists, degrees, top-and-bottom scaling, the reciprocal
  variable, the simplify loops, root dictionaries.
  Where a lemma mentions a parameter of the model it is stated for the DECODED value (a literal); Props/C11b.lean
  instantiates it with the constant generated from the source text.
-/
import Lcapy.Model.RatfunFmt
import Lcapy.Proofs.PolyRatfun
import Lcapy.Proofs.PolySynth
namespace Lcapy.RatfunFmt
open Lcapy.Poly Lcapy.Ratfun
variable {K : Type} [Field K] [DecidableEq K]
set_option linter.unusedSectionVars false

/-! ### coefficient lists -/

theorem foldl_high (cs : List K) (a x : K) :
    cs.foldl (fun acc c => acc * x + c) a = a * x ^ cs.length + evalHigh cs x := by
  induction cs generalizing a with
  | nil => simp [evalHigh]
  | cons c cs ih =>
    simp only [List.foldl_cons, evalHigh, List.length_cons]
    rw [ih, ih (0 * x + c)]
    ring

theorem evalHigh_cons (c : K) (cs : List K) (x : K) :
    evalHigh (c :: cs) x = c * x ^ cs.length + evalHigh cs x := by
  simp only [evalHigh, List.foldl_cons]
  rw [foldl_high]; simp [evalHigh]

theorem evalHigh_append_single (cs : List K) (c x : K) : evalHigh (cs ++ [c]) x = evalHigh cs x * x + c := by
  simp [evalHigh, List.foldl_append]

theorem evalHigh_reverse (p : List K) (x : K) : evalHigh p.reverse x = Poly.eval p x := by
  induction p with
  | nil => simp [evalHigh]
  | cons a p ih => rw [List.reverse_cons, evalHigh_append_single, ih, eval_cons]; ring

/-- **coeffs**: the coefficient list `all_coeffs()` re-assembles to the polynomial. -/
theorem evalHigh_allCoeffs (p : List K) (x : K) : evalHigh (allCoeffs p) x = Poly.eval p x := by
  unfold allCoeffs
  cases h : trim p with
  | nil =>
    have := eval_trim p x
    rw [h] at this
    simp [evalHigh, ← this]
  | cons b q => simp only []; rw [evalHigh_reverse, ← h, eval_trim]

theorem foldl_map_div (cs : List K) (a d x : K) :
    (cs.map (fun c => c / d)).foldl (fun acc c => acc * x + c) (a / d) =
      cs.foldl (fun acc c => acc * x + c) a / d := by
  induction cs generalizing a with
  | nil => simp
  | cons c cs ih =>
    simp only [List.map_cons, List.foldl_cons]
    rw [← ih]; congr 1; ring

theorem evalHigh_map_div (cs : List K) (d x : K) :
    evalHigh (cs.map (fun c => c / d)) x = evalHigh cs x / d := by
  have := foldl_map_div cs 0 d x
  simpa [evalHigh] using this

theorem allCoeffs_of_lc_ne_zero {p : List K} (h : lc p ≠ 0) : allCoeffs p = (trim p).reverse := by
  unfold allCoeffs
  cases ht : trim p with
  | nil => exact absurd ((lc_eq_zero_iff p).2 ht) h
  | cons b q => rfl

theorem head_allCoeffs {p : List K} (h : lc p ≠ 0) : (allCoeffs p).head? = some (lc p) := by
  rw [allCoeffs_of_lc_ne_zero h, List.head?_reverse]
  cases hl : (trim p).getLast? with
  | none => exact absurd ((lc_eq_zero_iff p).2 (List.getLast?_eq_none_iff.1 hl)) h
  | some b => rw [lc, List.getLastD_eq_getLast?, hl]; rfl

/-- the coefficient at Python index 0 of `all_coeffs()` is the leading coefficient -/
theorem pyIndex_zero_allCoeffs {p : List K} (h : lc p ≠ 0) : pyIndex (allCoeffs p) 0 = lc p := by
  show (allCoeffs p).getD 0 0 = lc p
  rw [List.getD_eq_getElem?_getD, ← List.head?_eq_getElem?, head_allCoeffs h]; rfl

theorem normCoeffs_head {p : List K} (h : lc p ≠ 0) : (normCoeffs 0 p).head? = some 1 := by
  rw [normCoeffs, List.head?_map, head_allCoeffs h, pyIndex_zero_allCoeffs h, Option.map_some, div_self h]

/-! ### top and bottom -/

theorem eval_expandOver (f : RExpr K) (cs : List K) (m : Nat) (env : Env K) :
    (expandOver f cs m).eval env = env.x ^ m * Poly.eval cs env.x / f.eval env := by
  induction cs generalizing m with
  | nil => simp [expandOver, RExpr.eval]
  | cons c cs ih =>
    simp only [expandOver, RExpr.eval, ih, npow_eq, eval_cons, pow_succ]
    ring

/-! ### `Ratfun.coeffs`, `Expr.ba` -/

/-- `ba` with `a = D.coeffs()`, `b = N.coeffs()`, `a0 = a[0]` -/
theorem ba_value (R : RF K) (hA : lc R.A ≠ 0) :
    ∃ b a, ba "D" "N" 0 R = some (b, a) ∧
      (∀ x, evalHigh b x / evalHigh a x = Poly.eval R.B x / Poly.eval R.A x) ∧ a.head? = some 1 := by
  have h0 := pyIndex_zero_allCoeffs hA
  by_cases h1 : pyIndex (allCoeffs R.A) 0 = 1
  · refine ⟨allCoeffs R.B, allCoeffs R.A, ?_, fun x => ?_, ?_⟩
    · show (if pyIndex (allCoeffs R.A) 0 = 1 then _ else _) = _
      rw [if_pos h1]
    · rw [evalHigh_allCoeffs, evalHigh_allCoeffs]
    · rw [head_allCoeffs hA, ← h0, h1]
  · refine ⟨(allCoeffs R.B).map (fun x => x / pyIndex (allCoeffs R.A) 0),
      (allCoeffs R.A).map (fun x => x / pyIndex (allCoeffs R.A) 0), ?_, fun x => ?_, ?_⟩
    · show (if pyIndex (allCoeffs R.A) 0 = 1 then _ else _) = _
      rw [if_neg h1]
    · rw [evalHigh_map_div, evalHigh_map_div, evalHigh_allCoeffs, evalHigh_allCoeffs, h0]
      field_simp
    · exact normCoeffs_head hA

/-! ### degrees -/

theorem trim_of_sdegree_negInf {p : List K} (h : sdegree p = .negInf) : trim p = [] := by
  unfold sdegree at h
  split at h
  · assumption
  · cases h

theorem sdegree_eq_degree {p : List K} (h : lc p ≠ 0) : sdegree p = .fin (degree p) := by
  have hne : trim p ≠ [] := fun h0 => h ((lc_eq_zero_iff p).2 h0)
  unfold sdegree degree
  cases hq : trim p with
  | nil => exact absurd hq hne
  | cons b q => rfl

/-! ### `canonical` with its unit-factor branches -/

theorem eval_of_polyIsConst_one {p : List K} (h : polyIsConst p 1 = true) (x : K) : Poly.eval p x = 1 := by
  have ht : trim p = [1] := by
    simpa [polyIsConst, intK] using h
  rw [← eval_trim, ht]; simp

theorem canonicalBr_fc_value {σ : K} (R : RF K) (env : Env K) (h : DelayOK σ R) (hE0 : env.E 0 = 1)
    (hA : Poly.eval R.A env.x ≠ 0) :
    (canonicalBr σ true [1, 1, -99] "top" R).eval env = R.value env := by
  have hlc := lc_ne_zero_of_eval hA
  have hkey : lc R.B / lc R.A * (Poly.eval R.B env.x / lc R.B / (Poly.eval R.A env.x / lc R.A)) =
      Poly.eval R.B env.x / Poly.eval R.A env.x := by
    by_cases hB : lc R.B = 0
    · simp [hB, eval_of_lc_zero hB]
    · field_simp
  obtain ⟨core, hcd⟩ : ∃ core : RExpr K, core = (if polyIsConst (monic R.A) 1 then RExpr.poly (monic R.B)
        else RExpr.mul (.poly (monic R.B)) (.inv (.poly (monic R.A)))) := ⟨_, rfl⟩
  have hcore : core.eval env = Poly.eval R.B env.x / lc R.B / (Poly.eval R.A env.x / lc R.A) := by
    rw [hcd]
    split
    · rename_i hD
      have := eval_of_polyIsConst_one hD env.x
      rw [eval_monic] at this
      simp only [RExpr.eval, eval_monic, this]; simp
    · simp only [RExpr.eval, eval_monic]; ring
  have hu : canonicalBr σ true [1, 1, -99] "top" R =
      .mul (if (decide (R.delay = 0) && eqConst (lc R.B / lc R.A) 1) = true then core
            else .mul (.mul (.const (lc R.B / lc R.A)) (delayFactor σ R)) core) (undefFactor R) := by
    rw [hcd]; rfl
  rw [hu]
  simp only [RExpr.eval, eval_undefFactor, RF.value]
  by_cases hk : (decide (R.delay = 0) && eqConst (lc R.B / lc R.A) 1) = true
  · rw [if_pos hk, hcore, ← hkey]
    have hk' : R.delay = 0 ∧ lc R.B / lc R.A = 1 := by simpa [eqConst, intK] using hk
    rw [hk'.1, hk'.2, one_mul, neg_zero, zero_mul, hE0, mul_one]
  · rw [if_neg hk, ← hkey]
    simp only [RExpr.eval, hcore, eval_delayFactor h env hE0]
    ring

theorem canonicalBr_value {σ : K} (R : RF K) (env : Env K) (h : DelayOK σ R) (hE0 : env.E 0 = 1)
    (hA : Poly.eval R.A env.x ≠ 0) :
    (canonicalBr σ false [-99, 1, 1] "top" R).eval env = R.value env := by
  have hlc := lc_ne_zero_of_eval hA
  obtain ⟨core, hcd⟩ : ∃ core : RExpr K, core = (if polyIsConst (monic R.A) 1 then RExpr.poly (smul (1 / lc R.A) R.B)
        else if polyIsConst (smul (1 / lc R.A) R.B) 1 then RExpr.inv (.poly (monic R.A))
        else RExpr.mul (.poly (smul (1 / lc R.A) R.B)) (.inv (.poly (monic R.A)))) := ⟨_, rfl⟩
  have hcore : core.eval env = Poly.eval R.B env.x / Poly.eval R.A env.x := by
    rw [hcd]
    split
    · rename_i hD
      have := eval_of_polyIsConst_one hD env.x
      rw [eval_monic] at this
      have hAe : Poly.eval R.A env.x = lc R.A := by field_simp at this; exact this
      simp only [RExpr.eval, eval_smul, hAe]; field_simp
    · split
      · rename_i hN
        have := eval_of_polyIsConst_one hN env.x
        rw [eval_smul] at this
        have hBe : Poly.eval R.B env.x = lc R.A := by field_simp at this; exact this
        simp only [RExpr.eval, eval_monic, hBe]; field_simp
      · simp only [RExpr.eval, eval_monic, eval_smul]; field_simp
  have hu : canonicalBr σ false [-99, 1, 1] "top" R = .mul (.mul core (delayFactor σ R)) (undefFactor R) := by
    rw [hcd]; rfl
  rw [hu]
  exact value_of_core h hE0 hcore

/-! ### the simplify loops -/

theorem eval_foldl_mul (l : List (RExpr K)) (f0 : RExpr K) (env : Env K) :
    (l.foldl RExpr.mul f0).eval env = f0.eval env * (l.map (fun e => e.eval env)).prod := by
  induction l generalizing f0 with
  | nil => simp
  | cons a l ih => simp only [List.foldl_cons, ih, RExpr.eval, List.map_cons, List.prod_cons]; ring

theorem eval_foldl_add (l : List (RExpr K)) (f0 : RExpr K) (env : Env K) :
    (l.foldl RExpr.add f0).eval env = f0.eval env + (l.map (fun e => e.eval env)).sum := by
  induction l generalizing f0 with
  | nil => simp
  | cons a l ih => simp only [List.foldl_cons, ih, RExpr.eval, List.map_cons, List.sum_cons]; ring

theorem map_simp_eval (simp : RExpr K → RExpr K) (env : Env K) (hs : ∀ e, (simp e).eval env = e.eval env)
    (l : List (RExpr K)) : (l.map simp).map (fun e => e.eval env) = l.map (fun e => e.eval env) := by
  induction l with
  | nil => rfl
  | cons a l ih => simp only [List.map_cons, hs a, ih]

theorem rfFactors_value (R : RF K) (env : Env K) (hE0 : env.E 0 = 1) :
    ((rfFactors R).map (fun e => e.eval env)).prod = R.value env := by
  simp only [rfFactors, List.map_cons, List.map_nil, List.prod_cons, List.prod_nil, RExpr.eval,
    eval_delayFactor (Or.inl rfl) env hE0, eval_undefFactor, RF.value]
  ring

theorem rfTerms_value (R : RF K) (cs : List K) (m : Nat) (env : Env K) (hE0 : env.E 0 = 1) :
    ((rfTerms R cs m).map (fun e => e.eval env)).sum =
      env.x ^ m * Poly.eval cs env.x / Poly.eval R.A env.x * env.E (-R.delay * env.x) * npow env.u R.nu := by
  induction cs generalizing m with
  | nil => simp [rfTerms]
  | cons c cs ih =>
    simp only [rfTerms, List.map_cons, List.sum_cons, ih, RExpr.eval, eval_delayFactor (Or.inl rfl) env hE0,
      eval_undefFactor, npow_eq, eval_cons, pow_succ]
    ring

/-! ### `recippartfrac` -/

theorem recipRF_value (R : RF K) (env : Env K) (hd : R.delay = 0) (hx : env.x ≠ 0)
    (hA : Poly.eval R.A env.x ≠ 0) :
    Poly.eval (recipRF R).A (1 / env.x) ≠ 0 ∧
      (recipRF R).value ⟨1 / env.x, env.E, env.u⟩ = R.value env := by
  have hxy : env.x * (1 / env.x) = 1 := mul_one_div_cancel hx
  have eB := Synth.eval_revPad R.B _ env.x (1 / env.x) hxy (le_max_left _ R.A.length)
  have eA := Synth.eval_revPad R.A _ env.x (1 / env.x) hxy (le_max_right R.B.length _)
  rw [← eA] at hA
  refine ⟨left_ne_zero_of_mul hA, ?_⟩
  rw [RF.value, RF.value, ← eB, ← eA, mul_div_mul_right _ _ (right_ne_zero_of_mul hA)]
  simp only [recipRF, hd, neg_zero, zero_mul]

/-! ### root dictionaries -/

theorem rootsValue_addRoot (r : K) (n : Nat) (l : List (K × Nat)) (x : K) :
    rootsValue (addRoot r n l) x = (x - r) ^ n * rootsValue l x := by
  induction l with
  | nil => simp [addRoot, rootsValue]
  | cons qm rest ih =>
    obtain ⟨q, m⟩ := qm
    simp only [addRoot]
    by_cases hq : q = r
    · subst hq; simp only [if_true, rootsValue, List.map_cons, List.prod_cons, pow_add]; ring
    · simp only [hq, if_false]
      simp only [rootsValue, List.map_cons, List.prod_cons] at ih ⊢
      rw [ih]; ring

theorem mult_addRoot (r : K) (n : Nat) (l : List (K × Nat)) :
    ((addRoot r n l).map (fun rn => rn.2)).sum = n + (l.map (fun rn => rn.2)).sum := by
  induction l with
  | nil => simp [addRoot]
  | cons qm rest ih =>
    obtain ⟨q, m⟩ := qm
    simp only [addRoot]
    by_cases hq : q = r
    · simp only [hq, if_true, List.map_cons, List.sum_cons]; omega
    · simp only [hq, if_false, List.map_cons, List.sum_cons, ih]; omega

theorem keys_addRoot (r : K) (n : Nat) (l : List (K × Nat)) :
    (addRoot r n l).map (fun rn => rn.1) =
      if r ∈ l.map (fun rn => rn.1) then l.map (fun rn => rn.1) else l.map (fun rn => rn.1) ++ [r] := by
  induction l with
  | nil => simp [addRoot]
  | cons qm rest ih =>
    obtain ⟨q, m⟩ := qm
    simp only [addRoot]
    by_cases hq : q = r
    · subst hq; simp
    · have hq' : r ≠ q := fun h => hq h.symm
      simp only [hq, if_false, List.map_cons, ih, List.mem_cons, hq', false_or]
      split <;> simp

theorem nodup_addRoot (r : K) (n : Nat) (l : List (K × Nat)) (h : (l.map (fun rn => rn.1)).Nodup) :
    ((addRoot r n l).map (fun rn => rn.1)).Nodup := by
  rw [keys_addRoot]
  split
  · exact h
  · rename_i hr
    rw [List.nodup_append]
    refine ⟨h, by simp, ?_⟩
    intro a ha b hb
    simp only [List.mem_singleton] at hb
    subst hb
    intro hab; subst hab; exact hr ha

theorem foldl_addRoot (l acc : List (K × Nat)) (x : K) :
    rootsValue (l.foldl (fun acc rn => addRoot rn.1 rn.2 acc) acc) x = rootsValue l x * rootsValue acc x ∧
    ((l.foldl (fun acc rn => addRoot rn.1 rn.2 acc) acc).map (fun rn => rn.2)).sum =
      (l.map (fun rn => rn.2)).sum + (acc.map (fun rn => rn.2)).sum ∧
    ((acc.map (fun rn => rn.1)).Nodup →
      ((l.foldl (fun acc rn => addRoot rn.1 rn.2 acc) acc).map (fun rn => rn.1)).Nodup) := by
  induction l generalizing acc with
  | nil => simp [rootsValue]
  | cons rn rest ih =>
    obtain ⟨r, n⟩ := rn
    obtain ⟨h1, h2, h3⟩ := ih (addRoot r n acc)
    simp only [List.foldl_cons]
    refine ⟨?_, ?_, fun hn => h3 (nodup_addRoot r n acc hn)⟩
    · rw [h1, rootsValue_addRoot]; simp only [rootsValue, List.map_cons, List.prod_cons]; ring
    · rw [h2, mult_addRoot]; simp only [List.map_cons, List.sum_cons]; omega

/-! ### strictly proper functions have no polynomial part -/

theorem trim_length_of_lt {B A : List K} (h : Deg.lt (sdegree B) (sdegree A) = true) :
    (trim B).length < (trim A).length := by
  unfold sdegree at h
  cases hb : trim B with
  | nil =>
    cases ha : trim A with
    | nil => rw [hb, ha] at h; simp [Deg.lt] at h
    | cons c q => simp
  | cons b p =>
    cases ha : trim A with
    | nil => rw [hb, ha] at h; simp [Deg.lt] at h
    | cons c q =>
      rw [hb, ha] at h
      simp only [Deg.lt, List.length_cons, Nat.add_sub_cancel, decide_eq_true_eq] at h
      simp only [List.length_cons]; omega

end Lcapy.RatfunFmt
