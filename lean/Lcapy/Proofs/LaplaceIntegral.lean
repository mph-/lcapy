/-
  C09 analytic anchor for the whole exponential-polynomial class (complex rates, all orders, delays):
  the formal unilateral transform `L` (Spec/Signal.lean) of a delta-free formal signal equals the defining
  integral  ∫_{0}^{∞} x(t) e^{−st} dt  at every point of the half-plane right of all poles.

    integral_pow_mul_cexp :  ∫_0^∞ t^k e^{at} dt = k!/(−a)^{k+1}           (Re a < 0; induction on k by parts)
    anchor_complex        :  ∫_0^∞ t^k e^{pt} e^{−st} dt = k!/(s−p)^{k+1}   (Re p < Re s)
    lt_term_is_integral   :  one delayed term  c (t−d)^k/k! e^{p(t−d)} u(t−d),  d ≥ 0
    lt_is_integral        :  finite sums (linearity of the integral; integrability of every term)

  sin/cos/sinh/cosh and damped sinusoids are sums of complex exponentials, so they are inside this class
  (`anchor_damped_sin`, `anchor_damped_cos`).
-/
import Lcapy.Spec.Signal
import Lcapy.Proofs.Laplace
import Mathlib.Analysis.SpecialFunctions.Gaussian.GaussianIntegral
import Mathlib.Analysis.SpecialFunctions.ImproperIntegrals
import Mathlib.MeasureTheory.Integral.IntegralEqImproper
import Mathlib.MeasureTheory.Group.Integral
import Mathlib.MeasureTheory.Measure.Lebesgue.Integral
namespace Lcapy.Laplace
open MeasureTheory Set Filter Topology

theorem norm_pow_mul_cexp (k : ℕ) (a : ℂ) (t : ℝ) (ht : 0 ≤ t) :
    ‖(t : ℂ) ^ k * Complex.exp (a * t)‖ = t ^ k * Real.exp (a.re * t) := by
  rw [norm_mul, norm_pow, Complex.norm_real, Real.norm_of_nonneg ht, Complex.norm_exp]
  simp

theorem integrable_pow_mul_cexp (k : ℕ) (a : ℂ) (ha : a.re < 0) :
    IntegrableOn (fun t : ℝ => (t : ℂ) ^ k * Complex.exp (a * t)) (Ioi 0) := by
  have hreal : IntegrableOn (fun t : ℝ => t ^ k * Real.exp (a.re * t)) (Ioi 0) := by
    have h := integrableOn_rpow_mul_exp_neg_mul_rpow (s := (k : ℝ)) (p := 1) (b := -a.re)
      (by have : (0:ℝ) ≤ k := Nat.cast_nonneg k; linarith) one_pos (by linarith)
    refine h.congr_fun (fun t _ => ?_) measurableSet_Ioi
    simp [Real.rpow_natCast]
  have hmeas : AEStronglyMeasurable (fun t : ℝ => (t : ℂ) ^ k * Complex.exp (a * t)) (volume.restrict (Ioi 0)) := by
    apply Continuous.aestronglyMeasurable
    fun_prop
  refine Integrable.mono' hreal hmeas ?_
  filter_upwards [ae_restrict_mem measurableSet_Ioi] with t ht
  rw [norm_pow_mul_cexp k a t (le_of_lt ht)]

theorem tendsto_pow_mul_cexp (k : ℕ) (a : ℂ) (ha : a.re < 0) :
    Tendsto (fun t : ℝ => (t : ℂ) ^ k * Complex.exp (a * t)) atTop (𝓝 0) := by
  rw [tendsto_zero_iff_norm_tendsto_zero]
  have h := tendsto_rpow_mul_exp_neg_mul_atTop_nhds_zero (k : ℝ) (-a.re) (by linarith)
  refine h.congr' ?_
  filter_upwards [eventually_ge_atTop (0 : ℝ)] with t ht
  rw [norm_pow_mul_cexp k a t ht]
  simp [Real.rpow_natCast]

/-- `∫_0^∞ t^k e^{at} dt = k!/(−a)^{k+1}` for `Re a < 0` (induction on `k`, integration by parts) -/
theorem integral_pow_mul_cexp (k : ℕ) (a : ℂ) (ha : a.re < 0) :
    ∫ t : ℝ in Ioi (0:ℝ), (t : ℂ) ^ k * Complex.exp (a * t) = (k.factorial : ℂ) / (-a) ^ (k + 1) := by
  have ha0 : a ≠ 0 := by
    intro h; rw [h] at ha; simp at ha
  induction k with
  | zero =>
    have key := integral_exp_mul_complex_Ioi ha 0
    simp only [pow_zero, one_mul, Nat.factorial_zero, Nat.cast_one, zero_add, pow_one]
    rw [key]; simp; field_simp
  | succ k ih =>
    -- F(t) = t^{k+1} e^{at}/a,  F' = (k+1) t^k e^{at}/a + t^{k+1} e^{at}
    have hderiv : ∀ x ∈ Ici (0:ℝ), HasDerivAt (fun t : ℝ => (t : ℂ) ^ (k + 1) * Complex.exp (a * t) / a)
        (((k + 1 : ℕ) : ℂ) / a * ((x : ℂ) ^ k * Complex.exp (a * x)) + (x : ℂ) ^ (k + 1) * Complex.exp (a * x)) x := by
      intro x _
      have h1 : HasDerivAt (fun t : ℝ => (t : ℂ)) 1 x := Complex.ofRealCLM.hasDerivAt
      have h2 : HasDerivAt (fun t : ℝ => (t : ℂ) ^ (k + 1)) (((k + 1 : ℕ) : ℂ) * (x : ℂ) ^ k * 1) x := by
        have := h1.fun_pow (k + 1)
        simpa using this
      have h3 : HasDerivAt (fun t : ℝ => Complex.exp (a * t)) (Complex.exp (a * x) * (a * 1)) x :=
        (h1.const_mul a).cexp
      have h4 : HasDerivAt (fun t : ℝ => (t : ℂ) ^ (k + 1) * Complex.exp (a * t) / a) _ x := (h2.fun_mul h3).div_const a
      refine h4.congr_deriv ?_
      field_simp
    have hint : IntegrableOn (fun x : ℝ => ((k + 1 : ℕ) : ℂ) / a * ((x : ℂ) ^ k * Complex.exp (a * x))
        + (x : ℂ) ^ (k + 1) * Complex.exp (a * x)) (Ioi 0) :=
      ((integrable_pow_mul_cexp k a ha).const_mul _).add (integrable_pow_mul_cexp (k + 1) a ha)
    have hlim : Tendsto (fun t : ℝ => (t : ℂ) ^ (k + 1) * Complex.exp (a * t) / a) atTop (𝓝 0) := by
      simpa using (tendsto_pow_mul_cexp (k + 1) a ha).div_const a
    have key := integral_Ioi_of_hasDerivAt_of_tendsto' hderiv hint hlim
    rw [integral_add ((integrable_pow_mul_cexp k a ha).const_mul _) (integrable_pow_mul_cexp (k + 1) a ha),
      integral_const_mul, ih] at key
    simp only [Complex.ofReal_zero, ne_eq, Nat.add_eq_zero_iff, one_ne_zero, and_false, not_false_eq_true, zero_pow,
      zero_mul, zero_div, sub_self] at key
    have : ∫ t : ℝ in Ioi (0:ℝ), (t : ℂ) ^ (k + 1) * Complex.exp (a * t)
        = -(((k + 1 : ℕ) : ℂ) / a * ((k.factorial : ℂ) / (-a) ^ (k + 1))) := by
      linear_combination key
    have hb : (-a) ^ (k + 1) ≠ 0 := pow_ne_zero _ (neg_ne_zero.mpr ha0)
    rw [this, Nat.factorial_succ, pow_succ (-a) (k + 1)]
    push_cast
    field_simp


/-- complex rate, every order: `∫_0^∞ t^k e^{pt} e^{−st} dt = k!/(s−p)^{k+1}` on `Re p < Re s` -/
theorem anchor_complex (k : ℕ) (p s : ℂ) (h : p.re < s.re) :
    ∫ t : ℝ in Ioi (0:ℝ), (t : ℂ) ^ k * Complex.exp (p * t) * Complex.exp (-(s * t))
      = (k.factorial : ℂ) / (s - p) ^ (k + 1) := by
  have ha : (p - s).re < 0 := by simp; linarith
  have key := integral_pow_mul_cexp k (p - s) ha
  have : ∀ t : ℝ, (t : ℂ) ^ k * Complex.exp (p * t) * Complex.exp (-(s * t)) = (t : ℂ) ^ k * Complex.exp ((p - s) * t) := by
    intro t; rw [mul_assoc, ← Complex.exp_add]; congr 2; ring
  simp only [this, key, neg_sub]

/-! ### change of variables `t = u + d` on `(d, ∞)` -/

theorem shift_Ioi (φ : ℝ → ℂ) (d : ℝ) : ∫ t in Ioi d, φ t = ∫ u in Ioi (0:ℝ), φ (u + d) := by
  have h := (measurePreserving_add_right (volume : Measure ℝ) d).setIntegral_preimage_emb
    (measurableEmbedding_addRight d) φ (Ioi d)
  have hp : (fun x : ℝ => x + d) ⁻¹' Ioi d = Ioi 0 := by
    ext x; simp
  rw [hp] at h
  exact h.symm

theorem shift_integrableOn_Ioi (φ : ℝ → ℂ) (d : ℝ) (h : IntegrableOn (fun u => φ (u + d)) (Ioi 0)) :
    IntegrableOn φ (Ioi d) := by
  have hp : (fun x : ℝ => x + d) ⁻¹' Ioi d = Ioi 0 := by
    ext x; simp
  have := (measurePreserving_add_right (volume : Measure ℝ) d).integrableOn_comp_preimage
    (measurableEmbedding_addRight d) (f := φ) (s := Ioi d)
  rw [hp] at this
  exact this.mp h

/-! ### formal signals over ℂ as functions of real time -/

/-- value at real time `t` of the regular part of a term (the delay is the real number `d.re`); same reading as
    `Term.at` of Spec/Signal.lean -/
noncomputable def Term.timeFn : Term ℂ → ℝ → ℂ
  | .ep c k p d, t =>
      if d.re ≤ t then c * ((t - d.re : ℝ) : ℂ) ^ k / (k.factorial : ℂ) * Complex.exp (p * ((t - d.re : ℝ) : ℂ)) else 0
  | .dl _ _ _, _ => 0

noncomputable def timeFn (f : ExpPoly ℂ) (t : ℝ) : ℂ := (f.map (fun x => x.timeFn t)).sum

theorem timeFn_nil (t : ℝ) : timeFn [] t = 0 := by simp [timeFn]
theorem timeFn_cons (x : Term ℂ) (f : ExpPoly ℂ) (t : ℝ) : timeFn (x :: f) t = x.timeFn t + timeFn f t := by simp [timeFn]
theorem timeFn_append (f g : ExpPoly ℂ) (t : ℝ) : timeFn (f ++ g) t = timeFn f t + timeFn g t := by
  simp [timeFn]

/-- all delays are non-negative reals -/
def RealDelays (f : ExpPoly ℂ) : Prop := ∀ x ∈ f, x.delayOf.im = 0 ∧ 0 ≤ x.delayOf.re

/-- `s` lies in the half-plane of convergence: to the right of every pole -/
def InROC (f : ExpPoly ℂ) (s : ℂ) : Prop :=
  ∀ x ∈ f, match x with
    | .ep _ _ p _ => p.re < s.re
    | .dl _ _ _ => True

/-- the integrand after the substitution `t = u + D` -/
theorem shifted_integrand (c : ℂ) (k : ℕ) (p s : ℂ) (D u : ℝ) :
    c * (((u + D) - D : ℝ) : ℂ) ^ k / (k.factorial : ℂ) * Complex.exp (p * (((u + D) - D : ℝ) : ℂ))
        * Complex.exp (-(s * ((u + D : ℝ) : ℂ)))
      = (c / (k.factorial : ℂ) * Complex.exp (-(s * D))) * ((u : ℂ) ^ k * Complex.exp ((p - s) * u)) := by
  have h1 : ((u + D) - D : ℝ) = u := by ring
  rw [h1]
  have h2 : Complex.exp (p * (u : ℂ)) * Complex.exp (-(s * ((u + D : ℝ) : ℂ)))
      = Complex.exp (-(s * D)) * Complex.exp ((p - s) * u) := by
    rw [← Complex.exp_add, ← Complex.exp_add]; congr 1; push_cast; ring
  calc c * (u : ℂ) ^ k / (k.factorial : ℂ) * Complex.exp (p * (u : ℂ)) * Complex.exp (-(s * ((u + D : ℝ) : ℂ)))
      = c * (u : ℂ) ^ k / (k.factorial : ℂ) * (Complex.exp (p * (u : ℂ)) * Complex.exp (-(s * ((u + D : ℝ) : ℂ)))) := by ring
    _ = _ := by rw [h2]; ring

/-- One delayed term: `x(t) e^{−st}` is integrable on `(0, ∞)` and its integral is the formal transform. -/
theorem lt_term_is_integral (c : ℂ) (k : ℕ) (p d s : ℂ) (hd : d.im = 0) (hd0 : 0 ≤ d.re) (h : p.re < s.re) :
    IntegrableOn (fun t : ℝ => (Term.ep c k p d).timeFn t * Complex.exp (-(s * t))) (Ioi 0) ∧
    ∫ t : ℝ in Ioi (0:ℝ), (Term.ep c k p d).timeFn t * Complex.exp (-(s * t)) = (Term.ep c k p d).L Complex.exp s := by
  obtain ⟨D, hD⟩ : ∃ D : ℝ, D = d.re := ⟨_, rfl⟩
  have hdD : d = (D : ℂ) := by apply Complex.ext <;> simp [hD, hd]
  have hD0 : 0 ≤ D := hD ▸ hd0
  have ha : (p - s).re < 0 := by simp; linarith
  have hne : s - p ≠ 0 := by
    intro h0; have := congrArg Complex.re h0; simp at this; linarith
  have hk : (k.factorial : ℂ) ≠ 0 := by exact_mod_cast k.factorial_ne_zero
  -- the integrand is `φ` switched on at `D`
  let φ : ℝ → ℂ := fun t => c * ((t - D : ℝ) : ℂ) ^ k / (k.factorial : ℂ) * Complex.exp (p * ((t - D : ℝ) : ℂ))
    * Complex.exp (-(s * (t : ℂ)))
  have hfun : (fun t : ℝ => (Term.ep c k p d).timeFn t * Complex.exp (-(s * t))) = (Ici D).indicator φ := by
    funext t
    simp only [Term.timeFn, ← hD, Set.indicator_apply, mem_Ici, φ]
    split_ifs <;> simp
  have hshift : ∀ u : ℝ, φ (u + D) = (c / (k.factorial : ℂ) * Complex.exp (-(s * D))) * ((u : ℂ) ^ k * Complex.exp ((p - s) * u)) :=
    fun u => shifted_integrand c k p s D u
  have hintφ : IntegrableOn φ (Ioi D) := by
    apply shift_integrableOn_Ioi
    simp only [hshift]
    exact (integrable_pow_mul_cexp k (p - s) ha).const_mul _
  have hset : (Ici D ∩ Ioi (0:ℝ) : Set ℝ) =ᵐ[volume] Ioi D := by
    have := (Ioi_ae_eq_Ici (a := D) (μ := volume)).symm.inter (ae_eq_refl (Ioi (0:ℝ)))
    rwa [inter_eq_left.mpr (Ioi_subset_Ioi hD0)] at this
  constructor
  · rw [hfun, integrableOn_indicator_iff measurableSet_Ici]
    exact hintφ.congr_set_ae hset
  · rw [hfun, setIntegral_indicator measurableSet_Ici, inter_comm, setIntegral_congr_set hset, shift_Ioi]
    simp only [hshift]
    rw [integral_const_mul, integral_pow_mul_cexp k (p - s) ha]
    simp only [Term.L, pw_eq, neg_sub, hdD]
    field_simp

/-- **The transform is the defining integral** on the exponential-polynomial class: for every delta-free formal
    signal with non-negative real delays (finite sum of `c (t−d)^k/k! e^{p(t−d)} u(t−d)`, `c`, `p` complex: polynomials,
    real and complex exponentials, sin/cos/sinh/cosh, damped sinusoids, their delayed versions) and every `s` to the right
    of all poles, `x(t) e^{−st}` is integrable on `(0, ∞)` and `∫_0^∞ x(t) e^{−st} dt = L x (s)`. -/
theorem lt_is_integral (f : ExpPoly ℂ) (s : ℂ) (hnd : NoDelta f) (hd : RealDelays f) (hs : InROC f s) :
    IntegrableOn (fun t : ℝ => timeFn f t * Complex.exp (-(s * t))) (Ioi 0) ∧
    ∫ t : ℝ in Ioi (0:ℝ), timeFn f t * Complex.exp (-(s * t)) = L Complex.exp f s := by
  induction f with
  | nil => simp [timeFn]
  | cons x f ih =>
    have hnd' : NoDelta f := fun t ht => hnd t (List.mem_cons_of_mem _ ht)
    have hd' : RealDelays f := fun t ht => hd t (List.mem_cons_of_mem _ ht)
    have hs' : InROC f s := fun t ht => hs t (List.mem_cons_of_mem _ ht)
    obtain ⟨ihI, ihE⟩ := ih hnd' hd' hs'
    have hsplit : (fun t : ℝ => timeFn (x :: f) t * Complex.exp (-(s * t)))
        = fun t : ℝ => x.timeFn t * Complex.exp (-(s * t)) + timeFn f t * Complex.exp (-(s * t)) := by
      funext t; simp [timeFn, add_mul]
    cases x with
    | dl c n d => exact absurd (hnd _ List.mem_cons_self) (by simp)
    | ep c k p d =>
      have hx := hd _ List.mem_cons_self
      have hp := hs _ List.mem_cons_self
      simp only [Term.delayOf] at hx
      obtain ⟨tI, tE⟩ := lt_term_is_integral c k p d s hx.1 hx.2 hp
      rw [hsplit]
      refine ⟨tI.add ihI, ?_⟩
      rw [integral_add tI ihI, tE, ihE, L_cons]

-- non-vacuity: a damped complex exponential of order 1 plus a delayed decaying exponential, `s = 0` is in the ROC
example : NoDelta [Term.ep 2 1 (-3 + 4 * Complex.I) 0, Term.ep 1 0 (-1) 1] := by
  intro t ht; simp at ht; rcases ht with rfl | rfl <;> trivial
example : RealDelays [Term.ep 2 1 (-3 + 4 * Complex.I) 0, Term.ep 1 0 (-1) 1] := by
  intro t ht; simp at ht; rcases ht with rfl | rfl <;> simp [Term.delayOf]
example : InROC [Term.ep 2 1 (-3 + 4 * Complex.I) 0, Term.ep 1 0 (-1) 1] 0 := by
  intro t ht; simp at ht; rcases ht with rfl | rfl <;> simp

/-! ### sin / cos with damping: inside the class as conjugate complex exponentials -/

/-- two conjugate complex exponentials `(a e^{jωt} + b e^{−jωt}) e^{−αt}`: the integral is the transform of the formal pair -/
theorem anchor_conj_pair (a b : ℂ) (al w : ℝ) (s : ℂ) (h : -al < s.re) :
    ∫ t : ℝ in Ioi (0:ℝ), (Complex.exp (-al * t) * (a * Complex.exp (w * t * Complex.I) + b * Complex.exp (-(w * t) * Complex.I)))
        * Complex.exp (-(s * t))
      = ((a + b) * (s + al) + (a - b) * (Complex.I * w)) / (w * w + (s + al) * (s + al)) := by
  have hre : (-(al : ℂ) + Complex.I * w).re < s.re ∧ (-(al : ℂ) - Complex.I * w).re < s.re := by simpa using h
  have key := (lt_is_integral [Term.ep a 0 (-al + Complex.I * w) 0, Term.ep b 0 (-al - Complex.I * w) 0] s
    (fun _ hx => by simp at hx; rcases hx with rfl | rfl <;> trivial)
    (fun _ hx => by simp at hx; rcases hx with rfl | rfl <;> simp [Term.delayOf])
    (fun _ hx => by simp at hx; rcases hx with rfl | rfl; exacts [hre.1, hre.2])).2
  have h1 : s - (-(al : ℂ) + Complex.I * w) ≠ 0 := fun h0 => by have := congrArg Complex.re h0; simp at this; linarith
  have h2 : s - (-(al : ℂ) - Complex.I * w) ≠ 0 := fun h0 => by have := congrArg Complex.re h0; simp at this; linarith
  rw [L_conj_pair Complex.exp Complex.I_mul_I a b (-al) w 0 s h1 h2, mul_zero, neg_zero, Complex.exp_zero, one_mul,
    sub_neg_eq_add] at key
  rw [← key]
  refine setIntegral_congr_fun measurableSet_Ioi fun t ht => ?_
  have e1 : Complex.exp ((-(al : ℂ) + Complex.I * w) * t) = Complex.exp (-al * t) * Complex.exp (w * t * Complex.I) := by
    rw [← Complex.exp_add]; congr 1; ring
  have e2 : Complex.exp ((-(al : ℂ) - Complex.I * w) * t) = Complex.exp (-al * t) * Complex.exp (-(w * t) * Complex.I) := by
    rw [← Complex.exp_add]; congr 1; ring
  simp only [timeFn, Term.timeFn, Complex.zero_re, le_of_lt (mem_Ioi.mp ht), if_true, List.map_cons, List.map_nil, List.sum_cons,
    List.sum_nil, pow_zero, Nat.factorial_zero, Nat.cast_one, sub_zero, mul_one, div_one, add_zero, e1, e2]
  ring

/-- the table entry of the damped sine is the defining integral:  `∫_0^∞ e^{−αt} sin(ωt) e^{−st} dt = ω/((s+α)² + ω²)` -/
theorem anchor_damped_sin (al w : ℝ) (s : ℂ) (h : -al < s.re) :
    ∫ t : ℝ in Ioi (0:ℝ), ((Real.exp (-al * t) * Real.sin (w * t) : ℝ) : ℂ) * Complex.exp (-(s * t))
      = w / ((s + al) ^ 2 + w ^ 2) := by
  have e (t : ℝ) : ((Real.exp (-al * t) * Real.sin (w * t) : ℝ) : ℂ)
      = Complex.exp (-al * t) * (1 / (2 * Complex.I) * Complex.exp (w * t * Complex.I)
          + -(1 / (2 * Complex.I)) * Complex.exp (-(w * t) * Complex.I)) := by
    push_cast; rw [Complex.sin]; field_simp; ring_nf; rw [Complex.I_sq]; ring
  simp only [e, anchor_conj_pair _ _ al w s h]
  rw [show (w : ℂ) * w + (s + al) * (s + al) = (s + al) ^ 2 + (w : ℂ) ^ 2 by ring]
  congr 1
  field_simp
  ring

theorem anchor_damped_cos (al w : ℝ) (s : ℂ) (h : -al < s.re) :
    ∫ t : ℝ in Ioi (0:ℝ), ((Real.exp (-al * t) * Real.cos (w * t) : ℝ) : ℂ) * Complex.exp (-(s * t))
      = (s + al) / ((s + al) ^ 2 + w ^ 2) := by
  have e (t : ℝ) : ((Real.exp (-al * t) * Real.cos (w * t) : ℝ) : ℂ)
      = Complex.exp (-al * t) * (1 / 2 * Complex.exp (w * t * Complex.I) + 1 / 2 * Complex.exp (-(w * t) * Complex.I)) := by
    push_cast; rw [Complex.cos]; ring
  simp only [e, anchor_conj_pair _ _ al w s h]
  rw [show (w : ℂ) * w + (s + al) * (s + al) = (s + al) ^ 2 + (w : ℂ) ^ 2 by ring]
  congr 1
  ring

end Lcapy.Laplace
