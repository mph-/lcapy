/-
  Helper lemmas: linearity of the MNA system in the unknowns and in the independent
  quantities (used by C03 superposition, C04 Thevenin/Norton, C14 phasors).
-/
import Lcapy.Proofs.MNA
import Lcapy.Model.Sources
namespace Lcapy.MNA
open Ix
variable {K : Type} [Field K]

theorem ground_add (x y : Ix → K) : ground (fun i => x i + y i) = fun i => ground x i + ground y i := by
  funext i
  cases i with
  | node k => cases k <;> simp [ground]
  | br m => simp [ground]

theorem ground_smul (a : K) (x : Ix → K) : ground (fun i => a * x i) = fun i => a * ground x i := by
  funext i
  cases i with
  | node k => cases k <;> simp [ground]
  | br m => simp [ground]

theorem lhsSum_add (r : Ix) (x y : Ix → K) (l : List (Ix × Ix × K)) :
    lhsSum r (fun i => x i + y i) l = lhsSum r x l + lhsSum r y l := by
  induction l with
  | nil => simp [lhsSum]
  | cons h t ih => obtain ⟨r', c, v⟩ := h; simp only [lhsSum, ih, ite_eq_indic]; ring

theorem lhsSum_smul (r : Ix) (a : K) (x : Ix → K) (l : List (Ix × Ix × K)) :
    lhsSum r (fun i => a * x i) l = a * lhsSum r x l := by
  induction l with
  | nil => simp [lhsSum]
  | cons h t ih => obtain ⟨r', c, v⟩ := h; simp only [lhsSum, ih, ite_eq_indic]; ring

theorem icFlux_scale (a M : K) (o : Option K) : icFlux M (o.map (fun v => a * v)) = a * icFlux M o := by
  cases o <;> simp [icFlux]; ring

theorem rhsSum_icRhs_scale (r : Ix) (a : K) (m : Nat) (coup : List (Nat × K × Option K)) :
    rhsSum r ((coupMap (fun v => a * v) coup).map (fun p => (br m, -(icFlux p.2.1 p.2.2)))) =
      a * rhsSum r (coup.map (fun p => (br m, -(icFlux p.2.1 p.2.2)))) := by
  induction coup with
  | nil => simp [coupMap, rhsSum]
  | cons h t ih =>
    simp only [coupMap, List.map_cons, rhsSum] at ih ⊢
    rw [ih, icFlux_scale, ite_eq_indic, ite_eq_indic]
    ring

theorem coupMap_lhs (f : K → K) (s : K) (m : Nat) (coup : List (Nat × K × Option K)) :
    (coupMap f coup).map (fun p => (br m, br p.1, -(s * p.2.1))) =
      coup.map (fun p => (br m, br p.1, -(s * p.2.1))) := by
  simp [coupMap, List.map_map, Function.comp]

theorem icFlux_optAdd (M : K) (o o' : Option K) (h : o'.map (fun _ => (0 : K)) = o.map (fun _ => (0 : K))) :
    icFlux M (optAdd o o') = icFlux M o + icFlux M o' := by
  cases o <;> cases o' <;> cases h
  · exact (add_zero _).symm
  · exact mul_add ..

theorem rhsSum_icRhs_add (r : Ix) (m : Nat) (c c' : List (Nat × K × Option K))
    (h : coupMap (fun _ => (0 : K)) c' = coupMap (fun _ => (0 : K)) c) :
    rhsSum r ((coupAdd c c').map (fun p => (br m, -(icFlux p.2.1 p.2.2)))) =
      rhsSum r (c.map (fun p => (br m, -(icFlux p.2.1 p.2.2)))) +
      rhsSum r (c'.map (fun p => (br m, -(icFlux p.2.1 p.2.2)))) := by
  induction c generalizing c' with
  | nil =>
    cases c' with
    | nil => simp [coupAdd, rhsSum]
    | cons _ _ => simp [coupMap] at h
  | cons p t ih =>
    cases c' with
    | nil => simp [coupMap] at h
    | cons q t' =>
      simp only [coupMap, List.map_cons, List.cons.injEq, Prod.mk.injEq] at h
      obtain ⟨⟨h1, h2, h3⟩, h4⟩ := h
      have := ih t' (by simpa [coupMap] using h4)
      simp only [coupAdd, List.zipWith_cons_cons, List.map_cons, rhsSum] at this ⊢
      rw [this, icFlux_optAdd _ _ _ h3, h2]
      simp only [ite_eq_indic]
      ring

theorem coupAdd_lhs (s : K) (m : Nat) (c c' : List (Nat × K × Option K))
    (h : coupMap (fun _ => (0 : K)) c' = coupMap (fun _ => (0 : K)) c) :
    (coupAdd c c').map (fun p => (br m, br p.1, -(s * p.2.1))) =
      c.map (fun p => (br m, br p.1, -(s * p.2.1))) := by
  induction c generalizing c' with
  | nil => simp [coupAdd]
  | cons p t ih =>
    cases c' with
    | nil => simp [coupMap] at h
    | cons q t' =>
      simp only [coupMap, List.map_cons, List.cons.injEq, Prod.mk.injEq] at h
      obtain ⟨_, h4⟩ := h
      have := ih t' (by simpa [coupMap] using h4)
      simp only [coupAdd, List.zipWith_cons_cons, List.map_cons] at this ⊢
      rw [this]

omit [Field K] in
theorem coupMap_comp (f g : K → K) (coup : List (Nat × K × Option K)) :
    coupMap g (coupMap f coup) = coupMap (g ∘ f) coup := by
  simp [coupMap, List.map_map, Function.comp_def, Option.map_map]

omit [Field K] in
theorem mapSrc_comp (f g : K → K) (c : Cpt K) : (c.mapSrc f).mapSrc g = c.mapSrc (g ∘ f) := by
  cases c <;> simp [Cpt.mapSrc, coupMap_comp, Option.map_map]

omit [Field K] in
theorem coupMap_id (coup : List (Nat × K × Option K)) : coupMap (fun v => v) coup = coup := by
  simp [coupMap]

omit [Field K] in
theorem mapSrc_id (c : Cpt K) : c.mapSrc (fun v => v) = c := by
  cases c <;> simp [Cpt.mapSrc, coupMap_id]

theorem optAdd_map (f g : K → K) (o : Option K) : optAdd (o.map f) (o.map g) = o.map fun v => f v + g v := by
  cases o <;> rfl

theorem coupAdd_coupMap (f g : K → K) (coup : List (Nat × K × Option K)) :
    coupAdd (coupMap f coup) (coupMap g coup) = coupMap (fun v => f v + g v) coup := by
  induction coup with
  | nil => rfl
  | cons p t ih =>
    simp only [coupMap, List.map_cons, coupAdd, List.zipWith_cons_cons] at ih ⊢
    rw [ih, optAdd_map]

theorem addSrc_mapSrc (f g : K → K) (c : Cpt K) :
    (c.mapSrc f).addSrc (c.mapSrc g) = c.mapSrc fun v => f v + g v := by
  cases c <;> simp only [Cpt.mapSrc, Cpt.addSrc, optAdd_map, coupAdd_coupMap]

theorem killAll_scale (a : K) (cs : List (Cpt K)) : (killAll cs).map (Cpt.mapSrc (fun v => a * v)) = killAll cs := by
  simp [killAll, List.map_map, Function.comp_def, mapSrc_comp]

theorem stamp_lhs_mapSrc (kind : Kind) (s : K) (f : K → K) (c : Cpt K) :
    (stamp kind s (c.mapSrc f)).lhs = (stamp kind s c).lhs := by
  cases c <;> simp [Cpt.mapSrc, stamp, coupMap_lhs]

theorem stamp_rhs_scale (kind : Kind) (s a : K) (c : Cpt K) (r : Ix) :
    rhsSum r (stamp kind s (c.mapSrc (fun v => a * v))).rhs = a * rhsSum r (stamp kind s c).rhs := by
  cases c with
  | Cap n1 n2 c v0 =>
    cases kind <;> cases v0 <;> simp only [Cpt.mapSrc, Option.map, stamp, rhsSum, ite_eq_indic] <;> ring
  | Ind n1 n2 m l i0 coup =>
    cases kind <;> cases i0 <;>
      simp only [Cpt.mapSrc, Option.map, stamp, rhsSum, rhsSum_append, rhsSum_icRhs_scale, ite_eq_indic,
        List.nil_append] <;> ring
  | _ => simp only [Cpt.mapSrc, stamp, rhsSum, ite_eq_indic]; ring

theorem rhsSum_killed (kind : Kind) (s : K) (c : Cpt K) (r : Ix) :
    rhsSum r (stamp kind s (c.mapSrc fun _ => 0)).rhs = 0 := by
  simpa only [zero_mul] using stamp_rhs_scale kind s 0 c r

theorem residual_scale_cpt (kind : Kind) (s a : K) (c : Cpt K) (x : Ix → K) (r : Ix) :
    residual (stamp kind s (c.mapSrc (fun v => a * v))) (fun i => a * x i) r =
      a * residual (stamp kind s c) x r := by
  simp only [residual, stamp_lhs_mapSrc, stamp_rhs_scale, ground_smul, lhsSum_smul]; ring

theorem lsum_smul (a : K) (l : List K) : lsum (l.map (fun v => a * v)) = a * lsum l := by
  induction l with
  | nil => simp [lsum]
  | cons h t ih => simp [lsum, ih]; ring

theorem residual_scale (kind : Kind) (s a : K) (cs : List (Cpt K)) (x : Ix → K) (r : Ix) :
    residual (stampAll kind s (cs.map (Cpt.mapSrc (fun v => a * v)))) (fun i => a * x i) r =
      a * residual (stampAll kind s cs) x r := by
  rw [residual_stampAll, residual_stampAll, ← lsum_smul, List.map_map, List.map_map]
  congr 1
  apply List.map_congr_left
  intro c _
  simp only [Function.comp]
  exact residual_scale_cpt kind s a c x r

/-- two components have the same shape: they differ at most in the VALUES of their independent
    quantities (source values, initial-condition values) -/
def SameShape (c c' : Cpt K) : Prop := c'.mapSrc (fun _ => 0) = c.mapSrc (fun _ => 0)

theorem killAll_killAll (cs : List (Cpt K)) : killAll (killAll cs) = killAll cs := by
  simp [killAll, List.map_map, Function.comp_def, mapSrc_comp]

theorem sameShape_killAll (l : List (Cpt K)) : List.Forall₂ SameShape l (killAll l) := by
  induction l with
  | nil => exact List.Forall₂.nil
  | cons c t ih => exact List.Forall₂.cons (by unfold SameShape; rw [mapSrc_comp]; rfl) ih

theorem zip_killAll (cs : List (Cpt K)) : List.zipWith Cpt.addSrc cs (killAll cs) = cs := by
  induction cs with
  | nil => rfl
  | cons c t ih =>
    simp only [killAll, List.map_cons, List.zipWith_cons_cons] at ih ⊢
    rw [ih]
    simpa [mapSrc_id] using congrArg (· :: t) (addSrc_mapSrc (fun v => v) (fun _ => 0) c)

/-- superposition at the level of one component: components of one shape have the same left-hand side, and the
    right-hand side is additive in the independent quantities -/
theorem residual_add_cpt (kind : Kind) (s : K) (c c' : Cpt K) (h : SameShape c c')
    (x y : Ix → K) (r : Ix) :
    residual (stamp kind s (c.addSrc c')) (fun i => x i + y i) r =
      residual (stamp kind s c) x r + residual (stamp kind s c') y r := by
  unfold SameShape at h
  have hl : (stamp kind s c').lhs = (stamp kind s c).lhs := by
    rw [← stamp_lhs_mapSrc kind s (fun _ => 0) c', h, stamp_lhs_mapSrc]
  suffices hA : (stamp kind s (c.addSrc c')).lhs = (stamp kind s c).lhs ∧
      rhsSum r (stamp kind s (c.addSrc c')).rhs =
        rhsSum r (stamp kind s c).rhs + rhsSum r (stamp kind s c').rhs by
    simp only [residual, ground_add, lhsSum_add, hA.1, hA.2, hl]; ring
  cases c <;> cases c' <;> (try cases h)
  case Cap.Cap n1 n2 c v0 n1' n2' c' v0' =>
    injection h with h1 h2 h3 h4
    subst h1 h2 h3
    refine ⟨rfl, ?_⟩
    cases kind <;> cases v0 <;> cases v0' <;> cases h4 <;>
      simp only [Cpt.addSrc, optAdd, stamp, rhsSum, ite_eq_indic] <;> ring
  case Ind.Ind n1 n2 m l i0 coup n1' n2' m' l' i0' coup' =>
    injection h with h1 h2 h3 h4 h5 h6
    subst h1 h2 h3 h4
    constructor
    · simp only [stamp, Cpt.addSrc, coupAdd_lhs s _ coup coup' h6]
    · cases kind <;> cases i0 <;> cases i0' <;> cases h5 <;>
        simp only [Cpt.addSrc, optAdd, stamp, rhsSum, rhsSum_append, rhsSum_icRhs_add _ _ _ _ h6, ite_eq_indic,
          List.nil_append] <;> ring
  case V.V => exact ⟨rfl, by simp only [Cpt.addSrc, stamp, rhsSum, ite_eq_indic]; ring⟩
  case I.I => exact ⟨rfl, by simp only [Cpt.addSrc, stamp, rhsSum, ite_eq_indic]; ring⟩
  case HY.HY => exact ⟨rfl, by simp only [Cpt.addSrc, stamp, rhsSum, ite_eq_indic]; ring⟩
  all_goals exact ⟨rfl, (add_zero _).symm⟩
end Lcapy.MNA
