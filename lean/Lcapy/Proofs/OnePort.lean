/-
  Helper lemmas for C07 (one-port part): leaves, series/parallel composition of lines.
-/
import Lcapy.Model.OnePort
import Lcapy.Spec.OnePortExec
import Mathlib.Tactic.FieldSimp
import Mathlib.Tactic.Ring
import Mathlib.Tactic.LinearCombination
import Mathlib.Algebra.Field.Basic
namespace Lcapy.OnePort
variable {K : Type}

/-! ### relations on (v, i) up to extensional equality; series and parallel composition -/

/-- two relations admit the same pairs -/
def REq (R1 R2 : K → K → Prop) : Prop := ∀ v i, R1 v i ↔ R2 v i

theorem REq.refl (R : K → K → Prop) : REq R R := fun _ _ => Iff.rfl
theorem REq.symm {R1 R2 : K → K → Prop} (h : REq R1 R2) : REq R2 R1 := fun v i => (h v i).symm
theorem REq.trans {R1 R2 R3 : K → K → Prop} (h1 : REq R1 R2) (h2 : REq R2 R3) : REq R1 R3 :=
  fun v i => (h1 v i).trans (h2 v i)

variable [Field K]

theorem SerRel_congr {A A' B B' : K → K → Prop} (ha : REq A A') (hb : REq B B') : REq (SerRel A B) (SerRel A' B') := by
  intro v i
  simp only [SerRel, ha _ _, hb _ _]

theorem SerRel_assoc (A B C : K → K → Prop) : REq (SerRel A (SerRel B C)) (SerRel (SerRel A B) C) := by
  intro v i
  simp only [SerRel]
  constructor
  · rintro ⟨v1, v2, h1, ⟨v3, v4, h3, h4, rfl⟩, rfl⟩
    exact ⟨v1 + v3, v4, ⟨v1, v3, h1, h3, rfl⟩, h4, by ring⟩
  · rintro ⟨v1, v2, ⟨v3, v4, h3, h4, rfl⟩, h2, rfl⟩
    exact ⟨v3, v4 + v2, h3, ⟨v4, v2, h4, h2, rfl⟩, by ring⟩

theorem SerRel_comm (A B : K → K → Prop) : REq (SerRel A B) (SerRel B A) := by
  intro v i
  simp only [SerRel]
  constructor <;> (rintro ⟨v1, v2, h1, h2, rfl⟩; exact ⟨v2, v1, h2, h1, by ring⟩)

theorem SerRel_zero_right (A : K → K → Prop) : REq (SerRel A (fun v _ => v = 0)) A := by
  intro v i
  simp only [SerRel]
  constructor
  · rintro ⟨v1, v2, h1, rfl, rfl⟩; rwa [add_zero]
  · intro h; exact ⟨v, 0, h, rfl, (add_zero v).symm⟩

/- `ParRel A B v i` is `SerRel` of the relations with voltage and current exchanged, at `(i, v)`: the parallel facts
   are the series facts read that way. -/

theorem ParRel_congr {A A' B B' : K → K → Prop} (ha : REq A A') (hb : REq B B') : REq (ParRel A B) (ParRel A' B') :=
  fun v i => SerRel_congr (fun i v => ha v i) (fun i v => hb v i) i v

theorem ParRel_assoc (A B C : K → K → Prop) : REq (ParRel A (ParRel B C)) (ParRel (ParRel A B) C) :=
  fun v i => SerRel_assoc (fun i v => A v i) (fun i v => B v i) (fun i v => C v i) i v

theorem ParRel_comm (A B : K → K → Prop) : REq (ParRel A B) (ParRel B A) :=
  fun v i => SerRel_comm (fun i v => A v i) (fun i v => B v i) i v

theorem ParRel_zero_right (A : K → K → Prop) : REq (ParRel A (fun _ i => i = 0)) A :=
  fun v i => SerRel_zero_right (fun i v => A v i) i v

/-! ### lines in the (v, i) plane -/

/-- `R` is the Thévenin line v = E + Z i -/
def IsThev (R : K → K → Prop) (E Z : K) : Prop := ∀ v i, R v i ↔ v = E + Z * i
/-- `R` is the Norton line i = Y v − J -/
def IsNort (R : K → K → Prop) (J Y : K) : Prop := ∀ v i, R v i ↔ i = Y * v - J

/-- in series the open-circuit voltages and the impedances add -/
theorem IsThev.ser {A B : K → K → Prop} {e1 z1 e2 z2 : K} (ha : IsThev A e1 z1) (hb : IsThev B e2 z2) :
    IsThev (SerRel A B) (e1 + e2) (z1 + z2) := by
  intro v i
  simp only [SerRel, ha _ _, hb _ _]
  constructor
  · rintro ⟨_, _, rfl, rfl, rfl⟩; ring
  · intro h; exact ⟨_, _, rfl, rfl, by rw [h]; ring⟩

/-- in parallel the short-circuit currents and the admittances add -/
theorem IsNort.par {A B : K → K → Prop} {j1 y1 j2 y2 : K} (ha : IsNort A j1 y1) (hb : IsNort B j2 y2) :
    IsNort (ParRel A B) (j1 + j2) (y1 + y2) := by
  intro v i
  simp only [ParRel, ha _ _, hb _ _]
  constructor
  · rintro ⟨_, _, rfl, rfl, rfl⟩; ring
  · intro h; exact ⟨_, _, rfl, rfl, by rw [h]; ring⟩

/-- a Thévenin line with Z ≠ 0 is the Norton line with Y = 1/Z, Isc = Voc·Y -/
theorem IsThev.toNort {R : K → K → Prop} {E Z : K} (h : IsThev R E Z) (hz : Z ≠ 0) : IsNort R (E * (1 / Z)) (1 / Z) := by
  intro v i
  rw [h]
  constructor <;> (rintro rfl; field_simp; ring)

/-- a Norton line with Y ≠ 0 is the Thévenin line with Z = 1/Y, Voc = Isc·Z -/
theorem IsNort.toThev {R : K → K → Prop} {J Y : K} (h : IsNort R J Y) (hy : Y ≠ 0) : IsThev R (J * (1 / Y)) (1 / Y) := by
  intro v i
  rw [h]
  constructor <;> (rintro rfl; field_simp; ring)

theorem IsThev.congr {A B : K → K → Prop} {e z e' z' : K} (ha : IsThev A e z) (hb : IsThev B e' z')
    (he : e = e') (hz : z = z') (v i : K) : A v i ↔ B v i := by
  subst he hz; exact (ha v i).trans (hb v i).symm

theorem IsNort.congr {A B : K → K → Prop} {j y j' y' : K} (ha : IsNort A j y) (hb : IsNort B j' y')
    (hj : j = j') (hy : y = y') (v i : K) : A v i ↔ B v i := by
  subst hj hy; exact (ha v i).trans (hb v i).symm

theorem relR_thev (r : K) : IsThev (relR r) 0 r := fun v i => by rw [zero_add]; rfl

theorem relL_thev (s l : K) (i0 : Option K) : IsThev (relL s l i0) (-(l * ic i0)) (s * l) := fun v i => by
  rw [relL, neg_add_eq_sub]

theorem relC_nort (s c : K) (v0 : Option K) : IsNort (relC s c v0) (c * ic v0) (s * c) := fun _ _ => Iff.rfl

theorem adm_nort (y : K) : IsNort (fun v i => i = y * v) 0 y := fun v i => by rw [sub_zero]

theorem relV_thev (e : K) : IsThev (fun v _ => v = e) e 0 := fun v i => by rw [zero_mul, add_zero]
theorem relI_nort (j : K) : IsNort (fun _ i => i = -j) j 0 := fun v i => by rw [zero_mul, zero_sub]

/-! ### Thévenin / Norton form of every leaf -/

theorem xtal_thev (s c0 r1 l1 c1 : K) (h1 : s * c1 ≠ 0)
    (hz : serRLC s r1 l1 c1 ≠ 0) (hy : 0 + 1 / serRLC s r1 l1 c1 + 1 / (1 / (s * c0)) ≠ 0) :
    IsThev ((Leaf.Xtal c0 r1 l1 c1).rel s) 0 ((Leaf.Xtal c0 r1 l1 c1).imp s) := by
  have arm := ((relR_thev r1).ser (relL_thev s l1 none)).ser ((relC_nort s c1 none).toThev h1)
  have ez : r1 + s * l1 + 1 / (s * c1) = serRLC s r1 l1 c1 := by simp only [serRLC, zero_add]
  rw [ez] at arm
  have all := ((arm.toNort hz).par (relC_nort s c0 none)).toThev (by simpa only [zero_add, one_div_one_div] using hy)
  simpa only [ic, mul_zero, neg_zero, zero_mul, zero_add, add_zero, Leaf.rel, Leaf.imp, one_div_one_div] using all

theorem fb_thev (s rs rp cp lp : K) (hr : rp ≠ 0) (hl : s * lp ≠ 0) (hy : parRLC s rp lp cp ≠ 0) :
    IsThev ((Leaf.FB rs rp cp lp).rel s) 0 ((Leaf.FB rs rp cp lp).imp s) := by
  have tank := (((relR_thev rp).toNort hr).par ((relL_thev s lp none).toNort hl)).par (relC_nort s cp none)
  have ey : 1 / rp + 1 / (s * lp) + s * cp = parRLC s rp lp cp := by simp only [parRLC, zero_add, one_div_one_div]
  rw [ey] at tank
  have := (relR_thev rs).ser (tank.toThev hy)
  simpa only [ic, mul_zero, neg_zero, zero_mul, zero_add, add_zero, Leaf.rel, Leaf.imp] using this

/-- the shortcut of `ParSer.Voc/Isc`: without a source the sum is 0 anyway -/
theorem shortcut {b : Bool} {x y : K} (h : b = true ∨ x = 0) : (if b = true then x * y else 0) = x * y := by
  cases b
  · rw [h.resolve_left Bool.false_ne_true, zero_mul]; rfl
  · rfl

variable [DecidableEq K]

theorem leaf_thev (s : K) (l : Leaf K) (h : l.tOK s = true) : IsThev (l.rel s) (l.voc s) (l.imp s) := by
  cases l with
  | R r => exact relR_thev r
  | G g => have := (adm_nort g).toThev (of_decide_eq_true h); rwa [zero_mul] at this
  | L l i0 => have := relL_thev s l i0; rwa [mul_comm, ← neg_mul] at this
  | C c v0 =>
    have h : s * c ≠ 0 := of_decide_eq_true h
    have := (relC_nort s c v0).toThev h
    rwa [show c * ic v0 * (1 / (s * c)) = ic v0 / s by field_simp [right_ne_zero_of_mul h]] at this
  | Y y => have := (adm_nort y).toThev (of_decide_eq_true h); rwa [zero_mul] at this
  | Z z => exact relR_thev z
  | V k e => intro v i; simp only [Leaf.rel, Leaf.voc, Leaf.imp, zero_mul, add_zero]
  | I k j => cases h
  | CPE k a => have := (adm_nort (npow s a * k)).toThev (of_decide_eq_true h); rwa [zero_mul] at this
  | Xtal c0 r1 l1 c1 =>
    simp only [Leaf.tOK, Bool.and_eq_true, decide_eq_true_eq] at h
    exact xtal_thev s c0 r1 l1 c1 h.1.1.1 h.1.2 h.2
  | FB rs rp cp lp =>
    simp only [Leaf.tOK, Bool.and_eq_true, decide_eq_true_eq] at h
    exact fb_thev s rs rp cp lp h.1.1.1 h.1.1.2 h.2

theorem leaf_nort (s : K) (l : Leaf K) (h : l.nOK s = true) : IsNort (l.rel s) (l.isc s) (l.adm s) := by
  have gen : ∀ l : Leaf K, l.tOK s = true → l.imp s ≠ 0 → l.adm s = 1 / l.imp s →
      l.isc s = l.voc s * l.adm s → IsNort (l.rel s) (l.isc s) (l.adm s) := by
    intro l ht hz ha hi
    rw [hi, ha]
    exact (leaf_thev s l ht).toNort hz
  cases l with
  | R r =>
    simp only [Leaf.nOK, decide_eq_true_eq] at h
    exact gen _ rfl h rfl rfl
  | G g =>
    simp only [Leaf.nOK, decide_eq_true_eq] at h
    exact gen _ (by simp [Leaf.tOK, h]) (by simp [Leaf.imp, h]) rfl rfl
  | L l i0 =>
    simp only [Leaf.nOK, decide_eq_true_eq] at h
    exact gen _ rfl h rfl rfl
  | C c v0 =>
    simp only [Leaf.nOK, Bool.and_eq_true, decide_eq_true_eq] at h
    exact gen _ (by simp [Leaf.tOK, h.1]) (by simp only [Leaf.imp]; exact one_div_ne_zero h.1) rfl rfl
  | Y y => rw [show (Leaf.Y y).isc s = 0 from zero_mul _]; exact adm_nort y
  | Z z =>
    simp only [Leaf.nOK, decide_eq_true_eq] at h
    exact gen _ rfl h rfl rfl
  | V k e => simp [Leaf.nOK] at h
  | I k j => intro v i; simp only [Leaf.rel, Leaf.adm, Leaf.isc, zero_mul, zero_sub]
  | CPE k a =>
    simp only [Leaf.nOK, decide_eq_true_eq] at h
    exact gen _ (by simp [Leaf.tOK, h]) (by simp only [Leaf.imp]; exact one_div_ne_zero h) rfl rfl
  | Xtal c0 r1 l1 c1 =>
    simp only [Leaf.nOK, Bool.and_eq_true, decide_eq_true_eq] at h
    exact gen _ h.1 h.2 rfl rfl
  | FB rs rp cp lp =>
    simp only [Leaf.nOK, Bool.and_eq_true, decide_eq_true_eq] at h
    exact gen _ h.1 h.2 rfl rfl

end Lcapy.OnePort
