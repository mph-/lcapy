/-
  Helper lemmas for Props/C03Lap.lean: the Laplace form of a decomposition (Model/Reassemble.lean) is additive
  in the terms, step by step of the accumulation loop.
-/
import Lcapy.Model.Reassemble
import Lcapy.Proofs.Laplace
import Lcapy.Props.C03
namespace Lcapy.C03
open Lcapy.Decompose Lcapy.Laplace
variable {K : Type} [Field K]
set_option linter.unusedSectionVars false

section
variable [DecidableEq K]

theorem phasorLap_add (a a' b b' w s : K) :
    phasorLap (a' + a) (-(b' + b)) w s = phasorLap a' (-b') w s + phasorLap a (-b) w s := by
  simp only [phasorLap]; ring

theorem step_lap (XL : Nat → K) (s : K) (d : Decomp K) (t : Decompose.Term K) :
    decompLap XL s (step d t) = decompLap XL s d + termLap XL s t := by
  cases t with
  | dc c => simp [step, decompLap, termLap]; ring
  | ac w a b =>
    simp [step, decompLap, termLap, acInsert_sum (fun w a b => phasorLap a (-b) w s) fun _ _ _ _ _ => phasorLap_add ..]; ring
  | tr i c => simp [step, decompLap, termLap, sumK_append, sumK]; ring

theorem L_sumK_flatMap {α : Type} (E : K → K) (s : K) (g : α → ExpPoly K) (l : List α) :
    L E (l.flatMap g) s = sumK (l.map (fun a => L E (g a) s)) := by
  induction l with
  | nil => simp [sumK]
  | cons a t ih => simp [List.flatMap_cons, L_append, sumK, ih]

/-- transform of the time-domain form of a decomposition, part by part -/
theorem L_sigDecomp (E : K → K) (j : K) (X : Nat → ExpPoly K) (s : K) (d : Decomp K) :
    L E (sigDecomp j X d) s =
      L E (dcSig d.dc) s + sumK (d.ac.map (fun p => L E (phasorSig j p.2.1 (-p.2.2) p.1) s)) +
        sumK (d.tr.map (fun p => p.2 * L E (X p.1) s)) := by
  simp only [sigDecomp, L_append, L_sumK_flatMap, L_smul]

theorem L_dcSig_add (E : K → K) (s a b : K) : L E (dcSig (a + b)) s = L E (dcSig a) s + L E (dcSig b) s := by
  simp [dcSig, Term.L]; ring

theorem L_phasorSig_add (E : K → K) (j a a' b b' w s : K) :
    L E (phasorSig j (a' + a) (-(b' + b)) w) s = L E (phasorSig j a' (-b') w) s + L E (phasorSig j a (-b) w) s := by
  simp [phasorSig, Term.L]; ring

theorem step_L (E : K → K) (j : K) (X : Nat → ExpPoly K) (s : K) (d : Decomp K) (t : Decompose.Term K) :
    L E (sigDecomp j X (step d t)) s = L E (sigDecomp j X d) s + L E (sigTerm j X t) s := by
  rw [L_sigDecomp, L_sigDecomp]
  cases t with
  | dc c => simp only [step, sigTerm, L_dcSig_add]; ring
  | ac w a b =>
    simp only [step, sigTerm, acInsert_sum (fun w a b => L E (phasorSig j a (-b) w) s) fun _ _ _ _ _ => L_phasorSig_add ..]; ring
  | tr i c => simp only [step, sigTerm, List.map_append, sumK_append, List.map_cons, List.map_nil, sumK, L_smul]; ring

end
end Lcapy.C03
