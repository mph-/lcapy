/-
  C10 — hyperbolic forms: soundness of the series oracle, closed form of the partial sums of `tline_end`.
-/
import Lcapy.Proofs.LaplaceDS
import Lcapy.Model.TLine
namespace Lcapy.Laplace
variable {K : Type} [Field K]

theorem eval_monomial (c w : K) (k : Nat) : Poly.eval (monomial c k) w = c * w ^ k := by
  induction k with
  | zero => simp [monomial]
  | succ k ih => simp [monomial, ih]; ring

theorem eval_seriesPoly (terms : List (K × Nat)) (w : K) :
    Poly.eval (seriesPoly terms) w = (terms.map (fun x => x.1 * w ^ x.2)).sum := by
  induction terms with
  | nil => simp [seriesPoly]
  | cons x r ih => obtain ⟨c, k⟩ := x; simp [seriesPoly, Poly.eval_add, eval_monomial, ih]

/-- a list whose coefficients of order ≤ K vanish is `w^{K+1}` times the rest -/
theorem lowZero_eval [DecidableEq K] (w : K) : ∀ (k : Nat) (p : Poly K), lowZero k p = true →
    Poly.eval p w = w ^ (k + 1) * Poly.eval (p.drop (k + 1)) w := by
  intro k
  induction k with
  | zero =>
    intro p h
    cases p with
    | nil => simp
    | cons a p => simp [lowZero] at h; simp [h]
  | succ k ih =>
    intro p h
    cases p with
    | nil => simp
    | cons a p =>
      simp only [lowZero, Bool.and_eq_true, decide_eq_true_eq] at h
      simp only [Poly.eval_cons, h.1, zero_add, List.drop_succ_cons, ih p h.2]; ring

/-- partial sums of a geometric echo series: `(1 − g w²) Σ_{i<N} g^i w^{2i+1} = w (1 − (g w²)^N)` -/
theorem geom_echo (g w : K) (N : Nat) :
    (1 - g * w ^ 2) * ((List.range N).map (fun i => g ^ i * w ^ (2 * i + 1))).sum = w * (1 - (g * w ^ 2) ^ N) := by
  induction N with
  | zero => simp
  | succ N ih =>
    rw [List.range_succ, List.map_append, List.sum_append, mul_add, ih]
    simp only [List.map_cons, List.map_nil, List.sum_cons, List.sum_nil, add_zero]
    ring

end Lcapy.Laplace
