/-
  C09 helper lemmas for the branches of `LaplaceTransformer.term` on undefined functions: the n-fold derivative of a
  whole-axis signal and the code's initial-condition sum (`deriv_undef_formula`), non-poles of a scaled and delayed signal.
-/
import Lcapy.Proofs.Laplace
import Lcapy.Model.Laplace
import Mathlib.Algebra.Order.Field.Basic
import Mathlib.Tactic.Linarith
import Mathlib.Tactic.LinearCombination
namespace Lcapy.Laplace
variable {K : Type} [Field K] [LinearOrder K] [IsStrictOrderedRing K]

/-! ### derivatives of an undefined function, with initial conditions -/

theorem NonPole_signalDerivN (s : K) (x : Signal K) (h : NonPole x.post s) (n : Nat) :
    NonPole (signalDerivN n x).post s := by
  induction n with
  | zero => exact h
  | succ n ih =>
    simp only [signalDerivN, Signal.deriv]
    apply NonPole.append (NonPole_deriv ih)
    intro t ht; simp at ht; subst ht; trivial

theorem L_signalDerivN_succ (E : K → K) (hE : IsExp E) (s : K) (x : Signal K) (h : NonPole x.post s) (n : Nat) :
    (signalDerivN (n + 1) x).L E s = s * (signalDerivN n x).L E s - pre0 (signalDerivN n x).pre := by
  simp only [signalDerivN]
  exact L_signal_deriv E hE s _ (NonPole_signalDerivN s x h n)

theorem foldl_ic_scale (s : K) (ic : Nat → K) (n : Nat) (b : K) (k : Nat) (hk : k ≤ n) :
    (List.range k).foldl (fun acc m => acc - pw s (n + 1 - m - 1) * ic m) (s * b)
      = s * (List.range k).foldl (fun acc m => acc - pw s (n - m - 1) * ic m) b := by
  induction k with
  | zero => simp
  | succ k ih =>
    rw [List.range_succ, List.foldl_append, List.foldl_append, ih (by omega)]
    simp only [List.foldl_cons, List.foldl_nil, pw_eq]
    rw [show n + 1 - k - 1 = (n - k - 1) + 1 by omega, pow_succ]; ring

theorem deriv_undef_formula (env : Env K) (hE : IsExp env.E) (hx : NonPole env.xsig.post env.s) (hz : env.zic = false)
    (n : Nat) : derivUndefFormula env n = (signalDerivN n env.xsig).L env.E env.s := by
  induction n with
  | zero => simp [derivUndefFormula, hz, signalDerivN, Signal.L, Xof, pw]
  | succ n ih =>
    rw [L_signalDerivN_succ env.E hE env.s env.xsig hx n, ← ih]
    simp only [derivUndefFormula, hz, Bool.false_eq_true, if_false]
    rw [List.range_succ, List.foldl_append]
    simp only [List.foldl_cons, List.foldl_nil]
    have := foldl_ic_scale env.s (icOf env) n (Xof env env.s * pw env.s n) n (le_refl n)
    rw [show Xof env env.s * pw env.s (n + 1) = env.s * (Xof env env.s * pw env.s n) by simp [pw]; ring, this]
    simp [pw, icOf]

/-! ### a scaled and delayed signal -/

theorem NonPole_delay_scale {f : ExpPoly K} {s a : K} (T : K) (ha : a ≠ 0) (h : NonPole f (s / a)) :
    NonPole (delay T (scale a f)) s := by
  intro x hx
  simp only [delay, scale, List.map_map, List.mem_map, Function.comp] at hx
  obtain ⟨y, hy, rfl⟩ := hx
  cases y with
  | ep c k p d =>
    have := h _ hy
    simp only [Term.scale, Term.delay] at this ⊢
    intro h0; apply this; field_simp; linear_combination h0
  | dl c n d => trivial

end Lcapy.Laplace
