/-
  Helper lemmas for C15 `ss_time_domain`: the time-domain laws of a circuit (Spec/LawsTD.lean: i = C dv/dt,
  v = L di/dt, KCL, instantaneous relations) over functions of time with an arbitrary derivative operator are, instant
  by instant, the resistive laws of StateSpaceMaker's substituted circuit plus the integrator laws.
-/
import Lcapy.Proofs.StateSpaceMaker
import Lcapy.Spec.LawsTD
namespace Lcapy.SSMaker
open Lcapy.MNA Lcapy.TDS Ix
variable {K : Type} [Field K] {T : Type}

set_option linter.unusedSimpArgs false

/-- functions of time with pointwise operations and ANY operator `D` in the role of d/dt -/
def fnOps (D : (T → K) → (T → K)) : SigOps K (T → K) where
  zero := fun _ => 0
  add u v := fun t => u t + v t
  sub u v := fun t => u t - v t
  neg u := fun t => -u t
  smul r u := fun t => r * u t
  D := D

/-- the netlist with the waveform `uw p` attached to the component at position `p` (read for V and I only) -/
def withWaveFrom (uw : Nat → T → K) : Nat → List (Cpt K) → List (SCpt K (T → K))
  | _, [] => []
  | p, c :: t => (c, uw p) :: withWaveFrom uw (p + 1) t

/-- value at the instant `t` of the state variable / source of the component at position `p` -/
def stateVal (z : Ix → T → K) (uw : Nat → T → K) (t : T) (p : Nat) : Cpt K → K
  | .Cap n1 n2 _ _ => vd (fun i => z i t) n1 n2
  | .Ind _ _ m _ _ _ => z (br m) t
  | .V _ _ _ _ => uw p t
  | .I _ _ _ => uw p t
  | _ => 0

/-- time derivative at `t` of the state variable of the component: d v_C/dt, d i_L/dt -/
def stateDeriv (D : (T → K) → (T → K)) (z : Ix → T → K) (t : T) : Cpt K → K
  | .Cap n1 n2 _ _ => D (vdS (fnOps D) z n1 n2) t
  | .Ind _ _ m _ _ _ => D (z (br m)) t
  | _ => 0

/-- branch indices a component mentions -/
def brRefs : Cpt K → List Nat
  | .Ind _ _ m _ _ _ => [m]
  | .V _ _ m _ => [m]
  | .E _ _ _ _ m _ _ => [m]
  | .F _ _ mc _ => [mc]
  | .H _ _ m mc _ => [m, mc]
  | .TF _ _ _ _ m _ => [m]
  | .GY _ _ _ _ m1 m2 _ => [m1, m2]
  | .AM _ _ m => [m]
  | .TR _ _ m _ => [m]
  | .TPA _ _ _ _ m _ _ _ _ => [m]
  | .HY _ _ m _ _ mc _ _ _ => [m, mc]
  | .SP _ _ _ _ m _ _ _ => [m]
  | _ => []

/-- the component is one the time-domain reading covers: inductors uncoupled, every branch index below `base` -/
def TimeOk (base : Nat) (c : Cpt K) : Prop :=
  (∀ m ∈ brRefs c, m < base) ∧ (match c with | .Ind _ _ _ _ _ coup => coup = [] | _ => True)

/-- the instantaneous solution `zx` of the substituted circuit that belongs to the signals `z`: same node voltages,
    same branch currents below `base`, and the current C·dv/dt on the fresh branch of every capacitor -/
def ExtendsAt (base : Nat) (D : (T → K) → (T → K)) (z : Ix → T → K) (t : T) (p0 : Nat) (cs : List (Cpt K))
    (zx : Ix → K) : Prop :=
  (∀ k, zx (node k) = z (node k) t) ∧ (∀ m, m < base → zx (br m) = z (br m) t) ∧
  (∀ pc ∈ enumFrom p0 cs, match pc.2 with
    | .Cap n1 n2 cv _ => zx (br (base + pc.1)) = cv * D (vdS (fnOps D) z n1 n2) t
    | _ => True)

@[simp] theorem fnOps_zero (D : (T → K) → (T → K)) (t : T) : (fnOps (K := K) D).zero t = 0 := rfl
@[simp] theorem fnOps_add (D : (T → K) → (T → K)) (u v : T → K) (t : T) : (fnOps D).add u v t = u t + v t := rfl
@[simp] theorem fnOps_sub (D : (T → K) → (T → K)) (u v : T → K) (t : T) : (fnOps D).sub u v t = u t - v t := rfl
@[simp] theorem fnOps_neg (D : (T → K) → (T → K)) (u : T → K) (t : T) : (fnOps D).neg u t = -u t := rfl
@[simp] theorem fnOps_smul (D : (T → K) → (T → K)) (r : K) (u : T → K) (t : T) : (fnOps D).smul r u t = r * u t := rfl
@[simp] theorem fnOps_D (D : (T → K) → (T → K)) (u : T → K) : (fnOps D).D u = D u := rfl

theorem voltS_at (D : (T → K) → (T → K)) (z : Ix → T → K) (n : Nat) (t : T) :
    voltS (fnOps D) z n t = volt (fun i => z i t) n := by
  cases n <;> simp [voltS, volt, fnOps]

theorem vdS_at (D : (T → K) → (T → K)) (z : Ix → T → K) (a b : Nat) (t : T) :
    vdS (fnOps D) z a b t = vd (fun i => z i t) a b := by
  show voltS (fnOps D) z a t - voltS (fnOps D) z b t = vd _ a b
  rw [voltS_at, voltS_at]; rfl

theorem volt_ext (z : Ix → T → K) (t : T) (zx : Ix → K) (h : ∀ k, zx (node k) = z (node k) t) (n : Nat) :
    volt zx n = volt (fun i => z i t) n := by
  cases n <;> simp [volt, h]

theorem vd_ext (z : Ix → T → K) (t : T) (zx : Ix → K) (h : ∀ k, zx (node k) = z (node k) t) (a b : Nat) :
    vd zx a b = vd (fun i => z i t) a b := by
  simp [vd, volt_ext z t zx h]

theorem twoTermS_at (D : (T → K) → (T → K)) (n1 n2 k : Nat) (i : T → K) (t : T) :
    twoTermS (fnOps D) n1 n2 k i t = twoTerm n1 n2 k (i t) := by
  simp only [twoTermS, twoTerm, fnOps]
  split_ifs <;> rfl

theorem sumS_at (D : (T → K) → (T → K)) (l : List (T → K)) (t : T) :
    sumS (fnOps D) l t = lsum (l.map (fun f => f t)) := by
  induction l with
  | nil => rfl
  | cons h tl ih => simp only [sumS, List.map_cons, lsum, fnOps] at *; rw [← ih]

/-- one component: its time-domain outflow at the instant `t` is the outflow of its substitute -/
theorem outflow_at (base : Nat) (D : (T → K) → (T → K)) (z : Ix → T → K) (uw : Nat → T → K) (t : T) (zx : Ix → K)
    (w : Nat → K) (p k : Nat) (c : Cpt K)
    (hn : ∀ k, zx (node k) = z (node k) t) (hb : ∀ m, m < base → zx (br m) = z (br m) t)
    (hc : match c with
      | .Cap n1 n2 cv _ => zx (br (base + p)) = cv * D (vdS (fnOps D) z n1 n2) t
      | _ => True)
    (hok : TimeOk base c) (hw : w p = stateVal z uw t p c) :
    outflowS (fnOps D) z k (c, uw p) t = outflow .time 0 zx k (substC base w p c) := by
  have hvd := vd_ext z t zx hn
  obtain ⟨hbr, hcoup⟩ := hok
  cases c <;> simp only [outflowS, substC, outflow, twoTermS_at, stateVal] at hc hw ⊢ <;>
    simp only [brRefs, List.mem_cons, List.mem_singleton, List.not_mem_nil, or_false, forall_eq_or_imp, forall_eq] at hbr
  all_goals try simp only [fnOps_zero, fnOps_add, fnOps_sub, fnOps_neg, fnOps_smul, fnOps_D, twoTermS_at, vdS_at, hvd]
  case Cap => rw [hc]
  case Ind => rw [hw]; simp
  case I => rw [hw]
  case R => congr 1; ring
  -- the other components read branch currents below `base`, where `zx` agrees with `z`
  case GY => rw [hb _ hbr.1, hb _ hbr.2]
  case H | HY => rw [hb _ hbr.1]
  case V | E | F | TF | AM | TR | TPA | SP => rw [hb _ hbr]

/-- the inductor's law v = L di/dt at the instant `t` -/
def IndLaw (D : (T → K) → (T → K)) (z : Ix → T → K) (t : T) : Cpt K → Prop
  | .Ind n1 n2 m l _ _ => l * D (z (br m)) t = vd (fun i => z i t) n1 n2
  | _ => True

/-- one component: its time-domain relations at the instant `t` are the relations of its substitute, plus
    v = L di/dt for an inductor (a capacitor's substitute adds only the definition of its state) -/
theorem laws_at (base : Nat) (D : (T → K) → (T → K)) (z : Ix → T → K) (uw : Nat → T → K) (t : T) (zx : Ix → K)
    (w : Nat → K) (p : Nat) (c : Cpt K)
    (hn : ∀ k, zx (node k) = z (node k) t) (hb : ∀ m, m < base → zx (br m) = z (br m) t)
    (hok : TimeOk base c) (hw : w p = stateVal z uw t p c) :
    (∀ q ∈ lawsS (fnOps D) z (c, uw p), q.2 t = 0) ↔
      ((∀ q ∈ laws .time 0 zx (substC base w p c), q.2 = 0) ∧ IndLaw D z t c) := by
  have hvd := vd_ext z t zx hn
  have hvo := volt_ext z t zx hn
  obtain ⟨hbr, hcoup⟩ := hok
  cases c <;> simp only [lawsS, substC, laws, stateVal, IndLaw] at hcoup hw ⊢ <;>
    simp only [brRefs, List.mem_cons, List.mem_singleton, List.not_mem_nil, or_false, forall_eq_or_imp, forall_eq] at hbr
  all_goals try simp only [List.mem_cons, List.mem_singleton, List.not_mem_nil, or_false, forall_eq_or_imp, forall_eq,
    fnOps_zero, fnOps_add, fnOps_sub, fnOps_neg, fnOps_smul, fnOps_D, vdS_at, voltS_at, hvd, hvo, and_true, true_and,
    IsEmpty.forall_iff, implies_true]
  case Cap => rw [hw]; simp
  case Ind =>
    subst hcoup
    simp only [mutualDropS, List.map_nil, sumS, fnOps_zero, add_zero]
    constructor <;> intro h <;> linear_combination (-1 : K) * h
  case V => rw [hw]
  case E => constructor <;> intro h <;> linear_combination h
  case H => rw [hb _ hbr.2]
  case GY => rw [hb _ hbr.1, hb _ hbr.2]
  case TPA => rw [hb _ hbr]
  case HY => rw [hb _ hbr.2, sub_zero]

/-! ### the whole netlist at one instant -/

theorem extendsAt_tail (base : Nat) (D : (T → K) → (T → K)) (z : Ix → T → K) (t : T) (p0 : Nat) (c : Cpt K)
    (cs : List (Cpt K)) (zx : Ix → K) (h : ExtendsAt base D z t p0 (c :: cs) zx) : ExtendsAt base D z t (p0 + 1) cs zx :=
  ⟨h.1, h.2.1, fun pc hpc => h.2.2 pc (by simp [enumFrom, hpc])⟩

theorem kcl_at (base : Nat) (D : (T → K) → (T → K)) (z : Ix → T → K) (uw : Nat → T → K) (t : T) (zx : Ix → K)
    (w : Nat → K) (k : Nat) (cs : List (Cpt K)) (p0 : Nat)
    (hext : ExtendsAt base D z t p0 cs zx)
    (hok : ∀ c ∈ cs, TimeOk base c) (hw : ∀ pc ∈ enumFrom p0 cs, w pc.1 = stateVal z uw t pc.1 pc.2) :
    sumS (fnOps D) ((withWaveFrom uw p0 cs).map (outflowS (fnOps D) z k)) t =
      lsum ((substFrom base w p0 cs).map (outflow .time 0 zx k)) := by
  induction cs generalizing p0 with
  | nil => rfl
  | cons c tl ih =>
    simp only [withWaveFrom, substFrom, List.map_cons, sumS, lsum, fnOps_add]
    rw [ih (p0 + 1) (extendsAt_tail base D z t p0 c tl zx hext) (fun c' hc' => hok c' (by simp [hc']))
      (fun pc hpc => hw pc (by simp [enumFrom, hpc]))]
    congr 1
    apply outflow_at base D z uw t zx w p0 k c hext.1 hext.2.1
    · have := hext.2.2 (p0, c) (by simp [enumFrom])
      cases c <;> exact this
    · exact hok c (by simp)
    · exact hw (p0, c) (by simp [enumFrom])

theorem laws_list_at (base : Nat) (D : (T → K) → (T → K)) (z : Ix → T → K) (uw : Nat → T → K) (t : T) (zx : Ix → K)
    (w : Nat → K) (cs : List (Cpt K)) (p0 : Nat)
    (hext : ExtendsAt base D z t p0 cs zx)
    (hok : ∀ c ∈ cs, TimeOk base c) (hw : ∀ pc ∈ enumFrom p0 cs, w pc.1 = stateVal z uw t pc.1 pc.2) :
    (∀ sc ∈ withWaveFrom uw p0 cs, ∀ q ∈ lawsS (fnOps D) z sc, q.2 t = 0) ↔
      ((∀ c' ∈ substFrom base w p0 cs, ∀ q ∈ laws .time 0 zx c', q.2 = 0) ∧
       (∀ pc ∈ enumFrom p0 cs, IndLaw D z t pc.2)) := by
  induction cs generalizing p0 with
  | nil => simp [withWaveFrom, substFrom, enumFrom]
  | cons c tl ih =>
    have ih' := ih (p0 + 1) (extendsAt_tail base D z t p0 c tl zx hext) (fun c' hc' => hok c' (by simp [hc']))
      (fun pc hpc => hw pc (by simp [enumFrom, hpc]))
    have h1 := laws_at base D z uw t zx w p0 c hext.1 hext.2.1 (hok c (by simp)) (hw (p0, c) (by simp [enumFrom]))
    simp only [withWaveFrom, substFrom, enumFrom, List.forall_mem_cons]
    rw [ih', h1]
    exact and_and_and_comm

/-! ### the values that belong to given signals -/

def lookupFrom : Nat → List (Cpt K) → Nat → Option (Cpt K)
  | _, [], _ => none
  | p0, c :: t, q => if q = p0 then some c else lookupFrom (p0 + 1) t q

/-- state variables and source values (by netlist position) at the instant `t` -/
def wAt (cs : List (Cpt K)) (z : Ix → T → K) (uw : Nat → T → K) (t : T) : Nat → K :=
  fun p => match lookupFrom 0 cs p with
    | some c => stateVal z uw t p c
    | none => 0

/-- their time derivatives -/
def dvAt (D : (T → K) → (T → K)) (cs : List (Cpt K)) (z : Ix → T → K) (t : T) : Nat → K :=
  fun p => match lookupFrom 0 cs p with
    | some c => stateDeriv D z t c
    | none => 0

/-- the instantaneous solution of the substituted circuit: the signals at `t`, and C·dv/dt on a capacitor's branch -/
def zxAt (base : Nat) (D : (T → K) → (T → K)) (cs : List (Cpt K)) (z : Ix → T → K) (t : T) : Ix → K
  | node k => z (node k) t
  | br m =>
    if m < base then z (br m) t
    else match lookupFrom 0 cs (m - base) with
      | some (.Cap n1 n2 cv _) => cv * D (vdS (fnOps D) z n1 n2) t
      | _ => z (br m) t

theorem lookupFrom_enum (cs : List (Cpt K)) (p0 q : Nat) (c : Cpt K) (h : (q, c) ∈ enumFrom p0 cs) :
    lookupFrom p0 cs q = some c := by
  induction cs generalizing p0 with
  | nil => simp [enumFrom] at h
  | cons a t ih =>
    simp only [enumFrom, List.mem_cons, Prod.mk.injEq] at h
    simp only [lookupFrom]
    rcases h with ⟨rfl, rfl⟩ | h
    · simp
    · have := enumFrom_ge t _ _ _ h
      rw [if_neg (by omega)]
      exact ih _ h

theorem wAt_spec (cs : List (Cpt K)) (z : Ix → T → K) (uw : Nat → T → K) (t : T) :
    ∀ pc ∈ enumFrom 0 cs, wAt cs z uw t pc.1 = stateVal z uw t pc.1 pc.2 := by
  rintro ⟨q, c⟩ h
  simp only [wAt, lookupFrom_enum cs 0 q c h]

theorem dvAt_spec (D : (T → K) → (T → K)) (cs : List (Cpt K)) (z : Ix → T → K) (t : T) :
    ∀ pc ∈ enumFrom 0 cs, dvAt D cs z t pc.1 = stateDeriv D z t pc.2 := by
  rintro ⟨q, c⟩ h
  simp only [dvAt, lookupFrom_enum cs 0 q c h]

theorem zxAt_extends (base : Nat) (D : (T → K) → (T → K)) (cs : List (Cpt K)) (z : Ix → T → K) (t : T) :
    ExtendsAt base D z t 0 cs (zxAt base D cs z t) := by
  refine ⟨fun k => rfl, fun m hm => by simp [zxAt, hm], ?_⟩
  rintro ⟨q, c⟩ h
  cases c <;> try trivial
  simp only [zxAt]
  rw [if_neg (by omega), Nat.add_sub_cancel_left, lookupFrom_enum cs 0 q _ h]

end Lcapy.SSMaker
