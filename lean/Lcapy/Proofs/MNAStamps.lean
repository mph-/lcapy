/-
  Helper definitions and lemmas for Props/C01Stamps.lean (the static tie between the `_stamp` methods
  as written in lcapy/mnacpts.py -- Generated/Stamps.lean -- and the hand model Model/MNA.lean).
-/
import Lcapy.Proofs.MNA
import Lcapy.Generated.Stamps
namespace Lcapy.MNA
open Ix
variable {K : Type} [Field K]

/-- two stamps that give every row the same residual for every assignment of the unknowns
    (they assemble to the same linear system) -/
def SameRes (a b : Stamp K) : Prop := ∀ x r, residual a x r = residual b x r

theorem SameRes.refl (a : Stamp K) : SameRes a a := fun _ _ => rfl

theorem SameRes.append {a a' b b' : Stamp K} (h1 : SameRes a a') (h2 : SameRes b b') :
    SameRes (a.append b) (a'.append b') := by
  intro x r; rw [residual_append, residual_append, h1 x r, h2 x r]

/-- what ONE side of a `K L1 L2 k` line contributes to the branch row `m` of one of its inductors:
    `D[m, m'] += −s·M` (not at dc) and, in an initial-value problem, `Es[m] += −M·i0'` -/
def halfK (kind : Kind) (s : K) (m : Nat) (p : Nat × K × Option K) : Stamp K :=
  { lhs := match kind with
           | .dc => []
           | .time => []
           | _ => [(br m, br p.1, -(s * p.2.1))],
    rhs := match kind with
           | .ivp => [(br m, -(icFlux p.2.1 p.2.2))]
           | _ => [] }

def halfKs (kind : Kind) (s : K) (m : Nat) (coup : List (Nat × K × Option K)) : Stamp K :=
  coup.foldr (fun p acc => (halfK kind s m p).append acc) {}

theorem halfKs_lhs (kind : Kind) (s : K) (m : Nat) (coup : List (Nat × K × Option K)) :
    (halfKs kind s m coup).lhs =
      match kind with
      | .dc => []
      | .time => []
      | _ => coup.map (fun p => (br m, br p.1, -(s * p.2.1))) := by
  induction coup with
  | nil => cases kind <;> simp [halfKs]
  | cons p t ih =>
    simp only [halfKs, List.foldr_cons, Stamp.append] at ih ⊢
    rw [ih]; cases kind <;> simp [halfK]

theorem halfKs_rhs (kind : Kind) (s : K) (m : Nat) (coup : List (Nat × K × Option K)) :
    (halfKs kind s m coup).rhs =
      match kind with
      | .ivp => coup.map (fun p => (br m, -(icFlux p.2.1 p.2.2)))
      | _ => [] := by
  induction coup with
  | nil => cases kind <;> simp [halfKs]
  | cons p t ih =>
    simp only [halfKs, List.foldr_cons, Stamp.append] at ih ⊢
    rw [ih]; cases kind <;> simp [halfK]

/-- the hand model folds the `K` lines into the inductors: an inductor's stamp is its own (uncoupled)
    stamp plus one `halfK` per coupling -/
theorem ind_split (kind : Kind) (s : K) (n1 n2 m : Nat) (l : K) (i0 : Option K)
    (coup : List (Nat × K × Option K)) :
    SameRes (stamp kind s (.Ind n1 n2 m l i0 coup))
      ((stamp kind s (.Ind n1 n2 m l i0 [])).append (halfKs kind s m coup)) := by
  intro x r
  rw [residual_append]
  cases kind <;> cases i0 <;>
    simp [residual, stamp, halfKs_lhs, halfKs_rhs, lhsSum_append, rhsSum_append, lhsSum, rhsSum] <;> ring

/-- choose the stamp read from the source when its class was parsed, the hand model's otherwise -/
def pick (b : Bool) (g h : Stamp K) : Stamp K := if b then g else h

theorem pick_sameRes {b : Bool} {g h : Stamp K} (H : b = true → SameRes g h) : SameRes (pick b g h) h := by
  cases b
  · simp only [pick]; exact SameRes.refl h
  · simp only [pick]; exact H rfl

end Lcapy.MNA
