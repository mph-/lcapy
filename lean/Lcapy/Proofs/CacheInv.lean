/- C16: the invariant of the cache model is preserved by every admissible step (core Lean only). -/
import Lcapy.Spec.Cache
import Lcapy.Proofs.CacheElts
namespace Lcapy.Cache

variable {cfg : Config} {G : String → Bool}

theorem inv_empty : Inv cfg G World.empty := by
  refine ⟨?_, ?_, ?_⟩ <;> simp [World.empty]

theorem inv_build (E : List Elt) (hu : uniqueNames E) : Inv cfg G (build E) := by
  refine ⟨?_, ?_, ?_⟩
  · intro i inst hi
    cases i with
    | zero => simp [build] at hi; subst hi; exact ⟨buildTab_ent E, hu⟩
    | succ j => simp [build] at hi
  · intro i inst hi m hm
    cases i with
    | zero => simp [build] at hi; subst hi; simp at hm
    | succ j => simp [build] at hi
  · simp [build]

theorem inv_clock {w : World} (h : Inv cfg G w) (c : Nat) : Inv cfg G { w with clock := c } :=
  ⟨h.tab, h.memo, h.lru⟩

theorem inv_lru_sub {w : World} (h : Inv cfg G w) (l : List (Nat × Memo)) (hl : ∀ p ∈ l, p ∈ w.lru) :
    Inv cfg G { w with lru := l } :=
  ⟨h.tab, h.memo, fun p hp => h.lru p (hl p hp)⟩

theorem getElem?_set_cases {α : Type} {l : List α} {i j : Nat} {x y : α} (h : (l.set i x)[j]? = some y) :
    (i = j ∧ y = x) ∨ l[j]? = some y := by
  rw [List.getElem?_set] at h
  split at h
  · next e =>
    split at h
    · exact .inl ⟨e, (Option.some.inj h).symm⟩
    · cases h
  · exact .inr h

/-- replacing instance `i` -/
theorem inv_setInst {w : World} (h : Inv cfg G w) (i : Nat) (inst' : Inst)
    (htab : TabOK inst' ∧ uniqueNames inst'.elts)
    (hmemo : ∀ m ∈ inst'.memo, (cfg.kindOf m.slot).isSome = true ∧ GoodMemo G inst'.elts m)
    (hlru : ∀ p ∈ w.lru, p.1 = i → GoodMemo G inst'.elts p.2) :
    Inv cfg G { w with insts := w.insts.set i inst' } := by
  refine ⟨?_, ?_, ?_⟩
  · intro j instj hj
    rcases getElem?_set_cases hj with ⟨_, rfl⟩ | hj
    · exact htab
    · exact h.tab j instj hj
  · intro j instj hj
    rcases getElem?_set_cases hj with ⟨_, rfl⟩ | hj
    · exact hmemo
    · exact h.memo j instj hj
  · intro p hp
    obtain ⟨h1, h2, h3⟩ := h.lru p hp
    refine ⟨h1, by simpa using h2, fun instj hj => ?_⟩
    rcases getElem?_set_cases hj with ⟨hij, rfl⟩ | hj
    · exact hlru p hp hij.symm
    · exact h3 instj hj

/-- rewriting the class-level entries in place, keeping instance index, slot and goodness -/
theorem inv_lru_map {w : World} (h : Inv cfg G w) (g : Nat × Memo → Nat × Memo)
    (hg : ∀ p, (g p).1 = p.1 ∧ (g p).2.slot = p.2.slot ∧ ∀ E, GoodMemo G E p.2 → GoodMemo G E (g p).2) :
    Inv cfg G { w with lru := w.lru.map g } := by
  refine ⟨h.tab, h.memo, fun p hp => ?_⟩
  obtain ⟨p0, hp0, rfl⟩ := List.mem_map.1 hp
  obtain ⟨h1, h2, h3⟩ := h.lru p0 hp0
  obtain ⟨g1, g2, g3⟩ := hg p0
  exact ⟨g2 ▸ h1, g1 ▸ h2, fun inst hi => g3 _ (h3 inst (g1 ▸ hi))⟩

theorem mem_clearLru {l : List (Nat × Memo)} {p : Nat × Memo} (h : p ∈ clearLru cfg l) : p ∈ l ∧ cfg.isCleared p.2.slot = false := by
  simp [clearLru, List.mem_filter] at h; exact h

/-- the shape every successful public mutation ends in: the instance gets new elements and a new
    table, its memo slots and the class-level slots went through `_invalidate` -/
theorem inv_mutated (hc : CfgOK cfg G) {w : World} (h : Inv cfg G w) (i : Nat) (inst : Inst)
    (hi : w.insts[i]? = some inst) (E' : List Elt) (t' : NodeTab) (c : Nat)
    (htab : TabOK ⟨E', t', clearMemos cfg inst.memo⟩) (hu : uniqueNames E') :
    Inv cfg G { insts := w.insts.set i ⟨E', t', clearMemos cfg inst.memo⟩, lru := clearLru cfg w.lru, clock := c } := by
  have h1 : Inv cfg G { w with lru := clearLru cfg w.lru } := inv_lru_sub h _ (fun p hp => (mem_clearLru hp).1)
  have h2 := inv_setInst h1 i ⟨E', t', clearMemos cfg inst.memo⟩ ⟨htab, hu⟩ ?_ ?_
  · exact inv_clock h2 c
  · intro m hm
    obtain ⟨hm1, hm2⟩ : m ∈ inst.memo ∧ cfg.isCleared m.slot = false := by
      simpa [clearMemos, List.mem_filter] using hm
    obtain ⟨hk, _⟩ := h.memo i inst hi m hm1
    refine ⟨hk, fun hG => ?_⟩
    have := hc.cleared m.slot hG hk
    simp [this] at hm2
  · intro p hp _ hG
    obtain ⟨hp1, hp2⟩ := mem_clearLru hp
    obtain ⟨hk, _, _⟩ := h.lru p hp1
    have := hc.cleared p.2.slot hG hk
    simp [this] at hp2

theorem newInst_get {w : World} {j : Nat} {x : Inst} (hj : (newInst cfg w).insts[j]? = some x) :
    w.insts[j]? = some x ∨ x = ⟨[], [], []⟩ := by
  simp only [newInst, List.getElem?_append] at hj
  split at hj
  · exact .inl hj
  · exact .inr (List.mem_singleton.1 (List.mem_of_getElem? hj))

theorem inv_newInst {w : World} (h : Inv cfg G w) : Inv cfg G (newInst cfg w) := by
  have hl : ∀ p ∈ (if cfg.initInvalidates then clearLru cfg w.lru else w.lru), p ∈ w.lru := by
    intro p hp; split at hp
    · exact (mem_clearLru hp).1
    · exact hp
  refine ⟨?_, ?_, ?_⟩
  · intro j instj hj
    rcases newInst_get hj with hj | rfl
    · exact h.tab j instj hj
    · exact ⟨fun n => by simp [countOf, degOf, incCount, incDeg], trivial⟩
  · intro j instj hj
    rcases newInst_get hj with hj | rfl
    · exact h.memo j instj hj
    · intro m hm; cases hm
  · intro p hp
    obtain ⟨h1, h2, h3⟩ := h.lru p (hl p hp)
    refine ⟨h1, by simp [newInst]; omega, ?_⟩
    intro instj hj
    simp only [newInst, List.getElem?_append, h2, if_true] at hj
    exact h3 instj hj

/-- table and dictionary after `_add` of a new name -/
theorem tabOK_add_new (inst : Inst) (e : Elt) (ms : List Memo) (ht : TabOK inst) (hn : findElt inst.elts e.name = none) :
    TabOK ⟨upsert inst.elts e, attachElt inst.tab e, ms⟩ := by
  intro n
  obtain ⟨h1, h2⟩ := ht n
  obtain ⟨a1, a2⟩ := attachElt_ent inst.tab e n
  obtain ⟨u1, u2⟩ := upsert_new_inc _ _ n hn
  exact ⟨by rw [a1, u1, h1]; rfl, by rw [a2, u2, h2]; rfl⟩

/-- table and dictionary after `_add` over an existing name when the old component is detached -/
theorem tabOK_add_override (inst : Inst) (e old : Elt) (t2 : NodeTab) (ms : List Memo) (ht : TabOK inst)
    (ho : findElt inst.elts e.name = some old)
    (keep : Bool) (hd : detachAll keep (attachElt inst.tab e) old.nodes old.counted = .inr t2) :
    TabOK ⟨upsert inst.elts e, t2, ms⟩ := by
  intro n
  obtain ⟨h1, h2⟩ := ht n
  obtain ⟨c1, d1⟩ := detachAll_ent _ _ _ _ _ hd n
  obtain ⟨c2, d2⟩ := upsert_old_inc _ _ _ n ho
  rw [(attachElt_ent _ _ _).1] at c1
  rw [(attachElt_ent _ _ _).2] at d1
  simp only [contribC, contribD] at c2 d2
  show countOf t2 n = incCount (upsert inst.elts e) n ∧ degOf t2 n = incDeg (upsert inst.elts e) n
  exact ⟨by rw [c1, h1]; omega, by rw [d1, h2]; omega⟩

theorem tabOK_remove (inst : Inst) (nm : String) (e : Elt) (t2 : NodeTab) (ms : List Memo) (ht : TabOK inst)
    (hu : uniqueNames inst.elts) (ho : findElt inst.elts nm = some e)
    (keep : Bool) (hd : detachAll keep inst.tab e.nodes e.counted = .inr t2) :
    TabOK ⟨eraseName inst.elts nm, t2, ms⟩ := by
  intro n
  obtain ⟨h1, h2⟩ := ht n
  obtain ⟨c1, d1⟩ := detachAll_ent _ _ _ _ _ hd n
  obtain ⟨c2, d2⟩ := eraseName_inc _ _ _ n ho hu
  simp only [contribC, contribD] at c2 d2
  show countOf t2 n = incCount (eraseName inst.elts nm) n ∧ degOf t2 n = incDeg (eraseName inst.elts nm) n
  exact ⟨by rw [c1, h1]; omega, by rw [d1, h2]; omega⟩

theorem invalidate_set (w : World) (i : Nat) (inst' : Inst) (hlt : i < w.insts.length) :
    invalidate cfg { w with insts := w.insts.set i inst' } i =
      { insts := w.insts.set i { inst' with memo := clearMemos cfg inst'.memo }, lru := clearLru cfg w.lru, clock := w.clock } := by
  simp [invalidate, hlt, List.set_set]

/-- the common shape of the mutating operations on instance `i`: `r inst` gives the new instance, the completion flag
    and whether `_invalidate()` runs -/
def actOn (cfg : Config) (w : World) (i : Nat) (r : Inst → Inst × Bool × Bool) : World × Bool :=
  match w.insts[i]? with
  | none => (w, false)
  | some inst =>
    (if (r inst).2.2 then invalidate cfg { w with insts := w.insts.set i (r inst).1 } i
      else { w with insts := w.insts.set i (r inst).1 }, (r inst).2.1)

theorem addRaw_eq (w : World) (i : Nat) (e : Elt) :
    addRaw cfg w i e = actOn cfg w i fun x => ((addRawInst cfg x e).1, (addRawInst cfg x e).2, false) := by
  unfold addRaw actOn; cases w.insts[i]? <;> rfl

theorem add_eq (w : World) (i : Nat) (e : Elt) :
    add cfg w i e = actOn cfg w i fun x =>
      ((addRawInst cfg x e).1, (addRawInst cfg x e).2, (addRawInst cfg x e).2 && cfg.addInvalidates) := by
  unfold add addRaw actOn
  cases w.insts[i]? with
  | none => rfl
  | some x => simp only []; split <;> rfl

theorem addLines_eq (w : World) (i : Nat) (es : List Elt) :
    addLines cfg w i es = actOn cfg w i fun x =>
      ((addLinesInst cfg x es).1, (addLinesInst cfg x es).2, (addLinesInst cfg x es).2 && cfg.addMultiInvalidates) := by
  unfold addLines actOn
  cases w.insts[i]? with
  | none => rfl
  | some x => simp only []; split <;> rfl

theorem addFail_eq (w : World) (i : Nat) (es : List Elt) (e : Elt) (late : Bool) :
    addFail cfg w i es e late = actOn cfg w i fun x =>
      (if (addLinesInst cfg x es).2 then failInst cfg (addLinesInst cfg x es).1 e late else (addLinesInst cfg x es).1,
        false, cfg.addInvalidatesOnError) := by
  unfold addFail actOn; cases w.insts[i]? <;> rfl

theorem set_inst_self {w : World} {i : Nat} {inst : Inst} (hi : w.insts[i]? = some inst) : w.insts.set i inst = w.insts := by
  rw [← (List.getElem?_eq_some_iff.mp hi).2]; exact List.set_getElem_self _

theorem remove_eq (w : World) (i : Nat) (nm : String) :
    remove cfg w i nm = actOn cfg w i fun x =>
      match findElt x.elts nm with
      | none => (x, false, false)
      | some e =>
        match detachAll cfg.keepConnectedNode x.tab (cfg.removeSel.pick e.nodes) e.counted with
        | .inr t => ({ x with elts := eraseName x.elts nm, tab := t }, true, cfg.removeInvalidates)
        | .inl t => ({ x with tab := t }, false, cfg.removeInvalidates) := by
  unfold remove actOn
  cases hi : w.insts[i]? with
  | none => rfl
  | some inst =>
    have hlt : i < w.insts.length := (List.getElem?_eq_some_iff.mp hi).1
    simp only []
    cases ho : findElt inst.elts nm with
    | none => simp [set_inst_self hi]
    | some e =>
      simp only []
      cases hr : cfg.removeInvalidates
      · simp only [Bool.false_eq_true, if_false, hi]
        cases detachAll cfg.keepConnectedNode inst.tab (cfg.removeSel.pick e.nodes) e.counted <;> simp
      · simp only [if_true, invalidate, hi, List.getElem?_set, hlt]
        cases detachAll cfg.keepConnectedNode inst.tab (cfg.removeSel.pick e.nodes) e.counted <;>
          simp [List.set_set]
/-- an operation of that shape which raises without having built a new instance changes nothing -/
theorem actOn_unchanged {w : World} {i : Nat} {r : Inst → Inst × Bool × Bool}
    (hr : ∀ x, (r x).2.1 = false → r x = (x, false, false)) (hf : (actOn cfg w i r).2 = false) :
    (actOn cfg w i r).1 = w := by
  unfold actOn at hf ⊢
  cases hi : w.insts[i]? with
  | none => rfl
  | some inst =>
    rw [hi] at hf
    simp [hr inst hf, set_inst_self hi]

theorem actOn_flag {w : World} {i : Nat} {inst : Inst} (hi : w.insts[i]? = some inst) (r : Inst → Inst × Bool × Bool) :
    (actOn cfg w i r).2 = (r inst).2.1 := by
  unfold actOn; rw [hi]

theorem eltsOf_some {w : World} {i : Nat} {inst : Inst} (hi : w.insts[i]? = some inst) : eltsOf w i = inst.elts := by
  simp [eltsOf, hi]

/-- an operation of that shape which keeps table and dictionary consistent, leaves the memo slots to `_invalidate()`
    and does call it keeps the invariant -/
theorem inv_actOn (hc : CfgOK cfg G) {w : World} (h : Inv cfg G w) (i : Nat) (r : Inst → Inst × Bool × Bool)
    (hr : ∀ inst, w.insts[i]? = some inst →
      TabOK (r inst).1 ∧ uniqueNames (r inst).1.elts ∧ (r inst).1.memo = inst.memo ∧ (r inst).2.2 = true) :
    Inv cfg G (actOn cfg w i r).1 := by
  unfold actOn
  cases hi : w.insts[i]? with
  | none => exact h
  | some inst =>
    obtain ⟨ht, hu, hm, hinv⟩ := hr inst hi
    simp only [hinv, if_true]
    rw [invalidate_set w i _ (List.getElem?_eq_some_iff.mp hi).1, hm]
    exact inv_mutated hc h i inst hi _ _ _ ht hu

/-- one `_add` that completes keeps table and dictionary consistent and does not touch the memo slots -/
theorem addRawInst_ok (inst : Inst) (e : Elt) (ht : TabOK inst) (hu : uniqueNames inst.elts)
    (hadm : (cfg.overrideDetaches = true ∧ cfg.overrideSel = .all) ∨ findElt inst.elts e.name = none)
    (hok : (addRawInst cfg inst e).2 = true) :
    TabOK (addRawInst cfg inst e).1 ∧ uniqueNames (addRawInst cfg inst e).1.elts ∧
    (addRawInst cfg inst e).1.memo = inst.memo ∧ (addRawInst cfg inst e).1.elts = upsert inst.elts e := by
  unfold addRawInst at hok ⊢
  cases ho : findElt inst.elts e.name with
  | none =>
    simp only []
    exact ⟨tabOK_add_new inst e _ ht ho, uniqueNames_upsert _ _ hu, trivial, trivial⟩
  | some old =>
    have hdet : cfg.overrideDetaches = true ∧ cfg.overrideSel = .all := by
      rcases hadm with h1 | h1
      · exact h1
      · rw [ho] at h1; cases h1
    simp only [ho, hdet.1, hdet.2, DetachSel.pick, if_true] at hok ⊢
    cases hd : detachAll cfg.keepConnectedNode (attachElt inst.tab e) old.nodes old.counted with
    | inl t2 => simp [hd] at hok
    | inr t2 =>
      simp only []
      exact ⟨tabOK_add_override inst e old t2 _ ht ho _ hd, uniqueNames_upsert _ _ hu, trivial, trivial⟩

theorem inv_add (hc : CfgOK cfg G) {w : World} (h : Inv cfg G w) (i : Nat) (e : Elt)
    (hadm : (Op.add i e).admissible cfg w) (hok : (add cfg w i e).2 = true) :
    Inv cfg G (add cfg w i e).1 := by
  rw [add_eq] at hok ⊢
  refine inv_actOn hc h i _ fun inst hi => ?_
  obtain ⟨ht, hu⟩ := h.tab i inst hi
  rw [actOn_flag hi] at hok
  obtain ⟨ht2, hu2, hm2, _⟩ := addRawInst_ok (cfg := cfg) inst e ht hu (eltsOf_some hi ▸ hadm.2) hok
  exact ⟨ht2, hu2, hm2, by simp [show (addRawInst cfg inst e).2 = true from hok, hadm.1]⟩

theorem addLinesInst_ok (es : List Elt) (inst : Inst) (ht : TabOK inst) (hu : uniqueNames inst.elts)
    (hadm : (cfg.overrideDetaches = true ∧ cfg.overrideSel = .all) ∨ (uniqueNames es ∧ ∀ e ∈ es, findElt inst.elts e.name = none))
    (hok : (addLinesInst cfg inst es).2 = true) :
    TabOK (addLinesInst cfg inst es).1 ∧ uniqueNames (addLinesInst cfg inst es).1.elts ∧
    (addLinesInst cfg inst es).1.memo = inst.memo := by
  induction es generalizing inst with
  | nil => exact ⟨ht, hu, rfl⟩
  | cons e es ih =>
    simp only [addLinesInst] at hok ⊢
    cases h1 : (addRawInst cfg inst e).2 with
    | false => simp [h1] at hok
    | true =>
      simp only [h1, if_true] at hok ⊢
      have hadm1 : (cfg.overrideDetaches = true ∧ cfg.overrideSel = .all) ∨ findElt inst.elts e.name = none := by
        rcases hadm with h | h
        · exact Or.inl h
        · exact Or.inr (h.2 e (List.mem_cons_self ..))
      obtain ⟨ht1, hu1, hm1, he1⟩ := addRawInst_ok (cfg := cfg) inst e ht hu hadm1 h1
      have hadm2 : (cfg.overrideDetaches = true ∧ cfg.overrideSel = .all) ∨ (uniqueNames es ∧ ∀ x ∈ es, findElt (addRawInst cfg inst e).1.elts x.name = none) := by
        rcases hadm with h | h
        · exact Or.inl h
        · refine Or.inr ⟨h.1.2, ?_⟩
          intro x hx
          rw [he1]
          exact findElt_upsert_none (h.2 x (List.mem_cons_of_mem _ hx)) (fun h2 => h.1.1 x hx h2.symm)
      obtain ⟨ht2, hu2, hm2⟩ := ih _ ht1 hu1 hadm2 hok
      exact ⟨ht2, hu2, hm2.trans hm1⟩

theorem inv_addLines (hc : CfgOK cfg G) {w : World} (h : Inv cfg G w) (i : Nat) (es : List Elt)
    (hadm : (Op.addLines i es).admissible cfg w) (hok : (addLines cfg w i es).2 = true) :
    Inv cfg G (addLines cfg w i es).1 := by
  rw [addLines_eq] at hok ⊢
  refine inv_actOn hc h i _ fun inst hi => ?_
  obtain ⟨ht, hu⟩ := h.tab i inst hi
  rw [actOn_flag hi] at hok
  obtain ⟨ht2, hu2, hm2⟩ := addLinesInst_ok (cfg := cfg) es inst ht hu (eltsOf_some hi ▸ hadm.2) hok
  exact ⟨ht2, hu2, hm2, by simp [show (addLinesInst cfg inst es).2 = true from hok, hadm.1]⟩

theorem inv_remove (hc : CfgOK cfg G) {w : World} (h : Inv cfg G w) (i : Nat) (nm : String)
    (hadm : (Op.remove i nm).admissible cfg w) (hok : (remove cfg w i nm).2 = true) :
    Inv cfg G (remove cfg w i nm).1 := by
  rw [remove_eq] at hok ⊢
  refine inv_actOn hc h i _ fun inst hi => ?_
  obtain ⟨ht, hu⟩ := h.tab i inst hi
  rw [actOn_flag hi] at hok
  simp only [hadm.2, DetachSel.pick] at hok ⊢
  cases ho : findElt inst.elts nm with
  | none => simp [ho] at hok
  | some e =>
    cases hd : detachAll cfg.keepConnectedNode inst.tab e.nodes e.counted with
    | inl t => simp [ho, hd] at hok
    | inr t =>
      simp only [hd]
      exact ⟨tabOK_remove inst nm e t _ ht hu ho _ hd, uniqueNames_eraseName _ _ hu, trivial, hadm.1⟩

theorem liveMemo_good {w : World} (h : Inv cfg G w) (i : Nat) (inst : Inst) (hi : w.insts[i]? = some inst)
    (d : String) (m : Memo) (hm : liveMemo cfg w i inst d = some m) :
    m.slot = d ∧ GoodMemo G inst.elts m := by
  unfold liveMemo at hm
  cases hk : cfg.kindOf d with
  | none => simp [hk] at hm
  | some k =>
    cases k with
    | lru =>
      simp only [hk, Option.map_eq_some_iff] at hm
      obtain ⟨p, hp, rfl⟩ := hm
      have hp1 := List.mem_of_find?_eq_some hp
      have hp2 := List.find?_some hp
      simp at hp2
      obtain ⟨_, _, h3⟩ := h.lru p hp1
      exact ⟨hp2.2, h3 inst (hp2.1 ▸ hi)⟩
    | _ =>
      simp only [hk] at hm
      exact ⟨by simpa using List.find?_some hm, (h.memo i inst hi m (List.mem_of_find?_eq_some hm)).2⟩

/-- the entry computed for a slot of `G` in a world satisfying the invariant is clean -/
theorem computed_clean (hc : CfgOK cfg G) {w : World} (h : Inv cfg G w) (i : Nat) (inst : Inst)
    (hi : w.insts[i]? = some inst) (d : String) (hG : G d = true) :
    ((cfg.depsOf d).all (fun x => match liveMemo cfg w i inst x with
        | some m => memoGood inst.elts m
        | none => true)) = true := by
  rw [List.all_eq_true]
  intro x hx
  have hGx := hc.closed d hG x hx
  cases hl : liveMemo cfg w i inst x with
  | none => rfl
  | some m =>
    obtain ⟨hs, hg⟩ := liveMemo_good h i inst hi x m hl
    obtain ⟨h1, h2⟩ := hg (hs ▸ hGx)
    simp [memoGood, h1, h2]

/-- replacing an instance by one with the same elements and table is not seen at any index -/
theorem set_abs {l : List Inst} {i : Nat} {inst x : Inst} (hi : l[i]? = some inst) (he : x.elts = inst.elts)
    (ht : x.tab = inst.tab) (j : Nat) :
    ((l.set i x)[j]?).map (fun x : Inst => (x.elts, x.tab)) = (l[j]?).map (fun x : Inst => (x.elts, x.tab)) := by
  rw [List.getElem?_set]
  split
  · next h => subst h; rw [hi]; simp [(List.getElem?_eq_some_iff.mp hi).1, he, ht]
  · rfl

/-- `readSlot` leaves the instances alone or pushes one memo entry onto instance `i` -/
theorem readSlot_insts (w : World) (i : Nat) (d : String) :
    (readSlot cfg w i d).1.insts = w.insts ∨
    ∃ inst m, w.insts[i]? = some inst ∧
      (readSlot cfg w i d).1.insts = w.insts.set i { inst with memo := m :: inst.memo } := by
  unfold readSlot
  split
  · exact .inl rfl
  · next inst hi =>
    split
    · exact .inl rfl
    · next k _ =>
      split
      · exact .inl rfl
      · cases k
        · exact .inl rfl
        · exact .inr ⟨inst, _, hi, rfl⟩
        · exact .inr ⟨inst, _, hi, rfl⟩

theorem readSlot_abs (w : World) (i : Nat) (d : String) (j : Nat) :
    ((readSlot cfg w i d).1.insts[j]?).map (fun x : Inst => (x.elts, x.tab)) =
      (w.insts[j]?).map (fun x : Inst => (x.elts, x.tab)) := by
  rcases readSlot_insts (cfg := cfg) w i d with h | ⟨inst, m, hi, h⟩
  · rw [h]
  · rw [h]; exact set_abs hi (by rfl) (by rfl) j

theorem readSlots_abs (ds : List String) (w : World) (i : Nat) (j : Nat) :
    ((readSlots cfg i w ds).1.insts[j]?).map (fun x : Inst => (x.elts, x.tab)) =
      (w.insts[j]?).map (fun x : Inst => (x.elts, x.tab)) := by
  induction ds generalizing w with
  | nil => rfl
  | cons d ds ih => simp only [readSlots]; rw [ih, readSlot_abs]

/-- `readSlot` keeps the invariant and for a memoised slot of `G` hands out an entry computed from the
    current elements -/
theorem readSlot_spec (hc : CfgOK cfg G) {w : World} (h : Inv cfg G w) (i : Nat) (d : String) :
    Inv cfg G (readSlot cfg w i d).1 ∧
    (∀ inst, w.insts[i]? = some inst →
      ((cfg.kindOf d).isSome = false → (readSlot cfg w i d).2 = none) ∧
      ((cfg.kindOf d).isSome = true → G d = true →
        ∃ m, (readSlot cfg w i d).2 = some m ∧ m.ver = inst.elts ∧ m.clean = true)) := by
  unfold readSlot
  cases hi : w.insts[i]? with
  | none => simp [h]
  | some inst =>
    have hlt : i < w.insts.length := (List.getElem?_eq_some_iff.mp hi).1
    cases hk : cfg.kindOf d with
    | none => simp [h]
    | some k =>
      cases hl : liveMemo cfg w i inst d with
      | some m =>
        obtain ⟨hs, hg⟩ := liveMemo_good h i inst hi d m hl
        simp only [hl]
        refine ⟨h, ?_⟩
        intro inst' hi'
        cases hi'
        exact ⟨by simp, fun _ hG => ⟨m, rfl, hg (hs ▸ hG)⟩⟩
      | none =>
        simp only [hl]
        have hclean := fun hG => computed_clean hc h i inst hi d hG
        have hsub : ∀ p ∈ (if cfg.spawns.contains d && cfg.initInvalidates then clearLru cfg w.lru else w.lru), p ∈ w.lru := by
          intro p hp; split at hp
          · exact (mem_clearLru hp).1
          · exact hp
        have hgood : GoodMemo G inst.elts ⟨d, inst.elts, w.clock, (cfg.depsOf d).all (fun x => match liveMemo cfg w i inst x with
              | some m => memoGood inst.elts m
              | none => true)⟩ := fun hG => ⟨rfl, hclean hG⟩
        split
        · refine ⟨⟨h.tab, h.memo, ?_⟩, fun inst' hi' => by cases hi'; exact ⟨by simp, fun _ hG => ⟨_, rfl, rfl, hclean hG⟩⟩⟩
          intro p hp
          rcases List.mem_cons.1 hp with rfl | hp
          · exact ⟨by simp [hk], hlt, fun inst' hi' => by rw [hi] at hi'; cases hi'; exact hgood⟩
          · exact h.lru p (hsub p (List.mem_filter.1 hp).1)
        · refine ⟨?_, fun inst' hi' => by cases hi'; exact ⟨by simp, fun _ hG => ⟨_, rfl, rfl, hclean hG⟩⟩⟩
          refine inv_setInst (inv_lru_sub h _ hsub) i _ (h.tab i inst hi) ?_ ?_
          · intro m hm
            rcases List.mem_cons.1 hm with rfl | hm
            · exact ⟨by simp [hk], hgood⟩
            · exact h.memo i inst hi m hm
          · intro p hp hpi
            exact (h.lru p (hsub p hp)).2.2 inst (hpi ▸ hi)

/-- canonical provenance: every memoised slot was computed from `E` and is clean -/
def canonProv (cfg : Config) (E : Ver) (ds : List String) : Prov :=
  ds.map (fun d => (d, if (cfg.kindOf d).isSome then some (E, true) else none))

theorem readSlots_spec (hc : CfgOK cfg G) (ds : List String) {w : World} (h : Inv cfg G w) (i : Nat) :
    Inv cfg G (readSlots cfg i w ds).1 ∧
    (∀ inst, w.insts[i]? = some inst → (∀ d ∈ ds, G d = true) →
      (readSlots cfg i w ds).2 = canonProv cfg inst.elts ds) := by
  induction ds generalizing w with
  | nil => simp [readSlots, h, canonProv]
  | cons d ds ih =>
    obtain ⟨h1, hval1⟩ := readSlot_spec hc h i d
    obtain ⟨h2, hval2⟩ := ih h1
    simp only [readSlots]
    refine ⟨h2, ?_⟩
    intro inst hi hG
    have hs := readSlot_abs (cfg := cfg) w i d i
    rw [hi] at hs
    cases hi1 : (readSlot cfg w i d).1.insts[i]? with
    | none => simp [hi1] at hs
    | some inst1 =>
      simp [hi1] at hs
      have hv2 := hval2 inst1 hi1 (fun x hx => hG x (List.mem_cons_of_mem _ hx))
      rw [hv2, hs.1]
      obtain ⟨hn, hsome⟩ := hval1 inst hi
      simp only [canonProv, List.map_cons]
      congr 1
      cases hk : (cfg.kindOf d).isSome with
      | false => simp [hn hk]
      | true =>
        obtain ⟨m, hm, hv, hcl⟩ := hsome hk (hG d (List.mem_cons_self ..))
        simp [hm, hv, hcl]


theorem dirty_slot (ds : List String) (m : Memo) : (dirty ds m).slot = m.slot := by
  unfold dirty; split <;> rfl

theorem dirty_good {ds : List String} (hd : ∀ d ∈ ds, G d = false) {E : Ver} {m : Memo} (hg : GoodMemo G E m) :
    GoodMemo G E (dirty ds m) := by
  intro hG
  rw [dirty_slot] at hG
  unfold dirty
  split
  · rename_i hc
    have : m.slot ∈ ds := by simpa using hc
    rw [hd _ this] at hG; cases hG
  · exact hg hG

theorem damage_length (w : World) (i : Nat) (q : String) : (damage cfg w i q).insts.length = w.insts.length := by
  unfold damage
  cases hi : w.insts[i]? with
  | none => rfl
  | some inst => simp

theorem damage_abs (w : World) (i : Nat) (q : String) (j : Nat) :
    ((damage cfg w i q).insts[j]?).map (fun x : Inst => (x.elts, x.tab)) = (w.insts[j]?).map (fun x : Inst => (x.elts, x.tab)) := by
  unfold damage
  cases hi : w.insts[i]? with
  | none => rfl
  | some inst => exact set_abs hi (by rfl) (by rfl) j

theorem query_abs (w : World) (i : Nat) (q : String) (j : Nat) :
    ((query cfg w i q).1.insts[j]?).map (fun x : Inst => (x.elts, x.tab)) = (w.insts[j]?).map (fun x : Inst => (x.elts, x.tab)) := by
  simp only [query]; rw [damage_abs, readSlots_abs]

theorem inv_damage (hc : CfgOK cfg G) {w : World} (h : Inv cfg G w) (i : Nat) (q : String) :
    Inv cfg G (damage cfg w i q) := by
  unfold damage
  cases hi : w.insts[i]? with
  | none => exact h
  | some inst =>
    have hnd : ∀ d ∈ cfg.damagedBy q, G d = false := by
      intro d hd
      simp only [Config.damagedBy, List.mem_map, List.mem_filter] at hd
      obtain ⟨p, ⟨hp, _⟩, rfl⟩ := hd
      exact hc.nodamage p hp
    have h1 := inv_setInst h i ⟨inst.elts, inst.tab, inst.memo.map (dirty (cfg.damagedBy q))⟩ (h.tab i inst hi)
      (fun m hm => by
        obtain ⟨m0, hm0, rfl⟩ := List.mem_map.1 hm
        obtain ⟨hk, hg⟩ := h.memo i inst hi m0 hm0
        exact ⟨by rw [dirty_slot]; exact hk, dirty_good hnd hg⟩)
      (fun p hp hpi => (h.lru p hp).2.2 inst (hpi ▸ hi))
    refine inv_lru_map h1 _ fun p => ?_
    split
    · exact ⟨rfl, dirty_slot _ _, fun _ hg => dirty_good hnd hg⟩
    · exact ⟨rfl, rfl, fun _ hg => hg⟩

/-- `query` = `readSlots` followed by the damage: invariant and provenance -/
theorem query_spec (hc : CfgOK cfg G) {w : World} (h : Inv cfg G w) (i : Nat) (q : String) :
    Inv cfg G (query cfg w i q).1 ∧
    (∀ inst, w.insts[i]? = some inst → (∀ d ∈ cfg.readsOf q, G d = true) →
      (query cfg w i q).2 = canonProv cfg inst.elts (cfg.readsOf q)) := by
  obtain ⟨h1, h4⟩ := readSlots_spec hc (cfg.readsOf q) h i
  exact ⟨inv_damage hc h1 i q, h4⟩

/-- `_add` on an instance that holds no memo entry at all (a netlist under construction) -/
theorem inv_addRaw_fresh {w : World} (h : Inv cfg G w) (j : Nat) (inst : Inst) (hj : w.insts[j]? = some inst)
    (hm : inst.memo = []) (hl : ∀ p ∈ w.lru, p.1 ≠ j) (e : Elt) (hn : findElt inst.elts e.name = none) :
    Inv cfg G (addRaw cfg w j e).1 ∧ (addRaw cfg w j e).1.lru = w.lru ∧
    (addRaw cfg w j e).1.insts = w.insts.set j ⟨upsert inst.elts e, attachElt inst.tab e, []⟩ := by
  obtain ⟨ht, hu⟩ := h.tab j inst hj
  simp only [addRaw, hj, addRawInst, hn]
  refine ⟨?_, trivial, by simp [hm]⟩
  refine inv_setInst h j _ ⟨tabOK_add_new inst e _ ht hn, uniqueNames_upsert _ _ hu⟩ ?_ ?_
  · simp [hm]
  · intro p hp hpj; exact absurd hpj (hl p hp)

theorem inv_addRaw_fold (es : List Elt) {w : World} (h : Inv cfg G w) (j : Nat) (inst : Inst)
    (hj : w.insts[j]? = some inst) (hm : inst.memo = []) (hl : ∀ p ∈ w.lru, p.1 ≠ j)
    (hu : uniqueNames es) (hnew : ∀ x ∈ es, findElt inst.elts x.name = none) :
    Inv cfg G (es.foldl (fun w e => (addRaw cfg w j e).1) w) ∧
    (∀ k : Nat, k ≠ j → (es.foldl (fun w e => (addRaw cfg w j e).1) w).insts[k]? = w.insts[k]?) ∧
    (es.foldl (fun w e => (addRaw cfg w j e).1) w).lru = w.lru ∧
    (es.foldl (fun w e => (addRaw cfg w j e).1) w).insts.length = w.insts.length := by
  induction es generalizing w inst with
  | nil => simp [h]
  | cons e es ih =>
    have hlt : j < w.insts.length := (List.getElem?_eq_some_iff.mp hj).1
    obtain ⟨h1, hl1, hi1⟩ := inv_addRaw_fresh h j inst hj hm hl e (hnew e (List.mem_cons_self ..))
    have hj1 : (addRaw cfg w j e).1.insts[j]? = some ⟨upsert inst.elts e, attachElt inst.tab e, []⟩ := by
      rw [hi1]; simp [hlt]
    have hnew1 : ∀ x ∈ es, findElt (upsert inst.elts e) x.name = none := fun x hx =>
      findElt_upsert_none (hnew x (List.mem_cons_of_mem _ hx)) (fun h2 => hu.1 x hx h2.symm)
    obtain ⟨h2, hk2, hl2, hlen2⟩ := ih h1 _ hj1 rfl (by rw [hl1]; exact hl) hu.2 hnew1
    simp only [List.foldl]
    refine ⟨h2, ?_, by rw [hl2, hl1], by rw [hlen2, hi1]; simp⟩
    intro k hk
    rw [hk2 k hk, hi1]
    simp [Ne.symm hk]

theorem inv_derive (hc : CfgOK cfg G) {w : World} (h : Inv cfg G w) (i : Nat) (pre : String) (es : List Elt)
    (hu : uniqueNames es) : Inv cfg G (derive cfg w i pre es) := by
  unfold derive
  have h1 := (query_spec hc h i pre).1
  have h2 := inv_newInst (cfg := cfg) h1
  have hj : (newInst cfg (query cfg w i pre).1).insts[(query cfg w i pre).1.insts.length]? = some ⟨[], [], []⟩ := by
    simp [newInst]
  have hl : ∀ p ∈ (newInst cfg (query cfg w i pre).1).lru, p.1 ≠ (query cfg w i pre).1.insts.length := by
    intro p hp
    have hp' : p ∈ (query cfg w i pre).1.lru := by
      simp only [newInst] at hp; split at hp
      · exact (mem_clearLru hp).1
      · exact hp
    have := (h1.lru p hp').2.1
    exact Nat.ne_of_lt this
  exact (inv_addRaw_fold es h2 _ _ hj rfl hl hu (fun x _ => by simp [findElt])).1

/-- a failing `add` always reports the exception -/
theorem addFail_raises (w : World) (i : Nat) (es : List Elt) (e : Elt) (late : Bool) :
    (addFail cfg w i es e late).2 = false := by
  unfold addFail
  split <;> rfl

theorem inv_step (hc : CfgOK cfg G) {w : World} (h : Inv cfg G w) (op : Op)
    (hadm : op.admissible cfg w) (hok : (step cfg w op).2 = true) : Inv cfg G (step cfg w op).1 := by
  have hclk := inv_clock h (w.clock + 1)
  cases op with
  | new => exact inv_newInst hclk
  | add i e => exact inv_add hc hclk i e hadm hok
  | addRaw i e => exact absurd hadm (by simp [Op.admissible])
  | addLines i es => exact inv_addLines hc hclk i es hadm hok
  | remove i nm => exact inv_remove hc hclk i nm hadm hok
  | query i q => exact (query_spec hc hclk i q).1
  | derive i pre es => exact inv_derive hc hclk i pre es hadm
  | addFail i es e late => rw [step, addFail_raises] at hok; cases hok

theorem inv_run (hc : CfgOK cfg G) (ops : List Op) {w : World} (h : Inv cfg G w) (hr : RunOK cfg w ops) :
    Inv cfg G (run cfg w ops) := by
  induction ops generalizing w with
  | nil => exact h
  | cons op ops ih => exact ih (inv_step hc h op hr.1 hr.2.1) hr.2.2

end Lcapy.Cache
