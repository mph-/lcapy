/-
  Helper lemmas for property C17 (time-stepping simulator, Model/SimStep.lean): unpacking of the acceptance checks
  of `simStep`, "a component that does not touch node k draws no current from it" for `cptNodes`, sums restricted
  to a filter, and the two facts every accepted step yields per reactive component (companion relations, KCL
  contribution of a companion pair).
-/
import Lcapy.Model.SimStep
import Lcapy.Props.C01
import Lcapy.Proofs.StateSpaceMaker
import Mathlib.Tactic.Ring
import Mathlib.Tactic.LinearCombination
import Mathlib.Algebra.Field.Basic
namespace Lcapy.Sim
open Lcapy.MNA Ix Lcapy.Gen.Sim
variable {K : Type} [Field K]

/-- the inductor laws are the capacitor laws with voltage and current exchanged -/
theorem lawDefect_ind (meth : Method) (val h v0 i0 v1 i1 : K) :
    lawDefect meth true val h v0 i0 v1 i1 = lawDefect meth false val h i0 v0 i1 v1 := by
  cases meth <;> rfl

/-- a component draws no current from a non-ground node that is none of its node arguments -/
theorem outflow_eq_zero_of_not_cptNode (kind : Kind) (s : K) (x : Ix → K) (k : Nat) (hk : k ≠ 0) (c : Cpt K)
    (h : ∀ n ∈ cptNodes c, n ≠ k) : outflow kind s x k c = 0 := by
  have hk' : ¬ (0 = k) := fun e => hk e.symm
  cases c <;> simp only [cptNodes, List.mem_cons, List.mem_nil_iff, or_false, forall_eq_or_imp, forall_eq] at h <;>
    simp [outflow, twoTerm, h, hk']

omit [Field K] in
theorem touches_eq_false_iff (d : Nat) (c : Cpt K) : touches d c = false ↔ ∀ n ∈ cptNodes c, n ≠ d := by
  simp only [touches, List.contains_eq_mem, decide_eq_false_iff_not]
  constructor
  · intro h n hn e; exact h (e ▸ hn)
  · intro h hd; exact h d hd rfl

omit [Field K] in
theorem touches_eq_false_iff' (d : Nat) (c : Cpt K) : touches d c = false ↔ d ∉ cptNodes c := by
  simp [touches]

/-- a sum over a list only sees the elements on which the summand can be non-zero -/
theorem lsum_map_filter {α : Type} (p : α → Bool) (f : α → K) (L : List α)
    (h : ∀ c ∈ L, p c = false → f c = 0) : lsum (L.map f) = lsum ((L.filter p).map f) := by
  induction L with
  | nil => rfl
  | cons a t ih =>
    have iht := ih (fun c hc => h c (List.mem_cons_of_mem _ hc))
    cases hp : p a with
    | true => simp only [List.map_cons, lsum, List.filter_cons, hp, if_true, iht]
    | false =>
      have := h a (List.mem_cons_self) hp
      simp [hp, lsum, this, iht]

theorem lsum_outflow_filter_touches (x : Ix → K) (d : Nat) (hd : d ≠ 0) (L : List (Cpt K)) :
    lsum (L.map (outflow .time 0 x d)) = lsum ((L.filter (touches d)).map (outflow .time 0 x d)) := by
  apply lsum_map_filter
  intro c _ hc
  exact outflow_eq_zero_of_not_cptNode _ _ _ _ hd c ((touches_eq_false_iff d c).mp hc)

/-! ### unpacking the checks -/

theorem dummyOK_spec [DecidableEq K] {meth : Method} {L : List (Cpt K)} {dt : K} {r : React K} {s : K × K}
    (h : dummyOK meth L dt r s = true) :
    r.d ≠ 0 ∧ r.d ≠ r.n1 ∧ r.d ≠ r.n2 ∧ L.filter (touches r.d) = companion meth r dt s := by
  simpa [dummyOK, and_assoc] using h

theorem dummiesOK_get [DecidableEq K] (meth : Method) (L : List (Cpt K)) (dt : K) :
    ∀ (rs : List (React K)) (st : List (K × K)), dummiesOK meth L dt rs st = true →
      ∀ j (hj : j < rs.length) (hs : j < st.length), dummyOK meth L dt rs[j] st[j] = true
  | [], _, _, j, hj, _ => absurd hj (Nat.not_lt_zero _)
  | _ :: _, [], _, j, _, hs => absurd hs (Nat.not_lt_zero _)
  | r :: rs, s :: ss, h, j, hj, hs => by
    simp only [dummiesOK, Bool.and_eq_true] at h
    cases j with
    | zero => exact h.1
    | succ j => exact dummiesOK_get meth L dt rs ss h.2 j (Nat.lt_of_succ_lt_succ hj) (Nat.lt_of_succ_lt_succ hs)

theorem dummiesOK_length [DecidableEq K] (meth : Method) (L : List (Cpt K)) (dt : K) :
    ∀ (rs : List (React K)) (st : List (K × K)), dummiesOK meth L dt rs st = true → st.length = rs.length
  | [], [], _ => rfl
  | [], _ :: _, h => by simp [dummiesOK] at h
  | _ :: _, [], h => by simp [dummiesOK] at h
  | r :: rs, s :: ss, h => by
    simp only [dummiesOK, Bool.and_eq_true] at h
    simp [dummiesOK_length meth L dt rs ss h.2]

theorem simStep_some [DecidableEq K] {solver : List (Cpt K) → Ix → K} {meth : Method} {others : List (Cpt K)}
    {rs : List (React K)} {dt : K} {st : List (K × K)} {x : Ix → K}
    (h : simStep solver meth others rs dt st = some x) :
    x = solver (others ++ companions meth rs dt st) ∧
    dummiesOK meth (others ++ companions meth rs dt st) dt rs st = true ∧
    wfB (others ++ companions meth rs dt st) = true ∧
    SSMaker.checkSolves (others ++ companions meth rs dt st) x = true := by
  unfold simStep at h
  simp only at h
  split_ifs at h with hc
  simp only [Option.some.injEq] at h
  subst h
  simp only [Bool.and_eq_true] at hc
  exact ⟨rfl, hc.1.1, hc.1.2, hc.2⟩

theorem simStep_laws [DecidableEq K] {solver : List (Cpt K) → Ix → K} {meth : Method} {others : List (Cpt K)}
    {rs : List (React K)} {dt : K} {st : List (K × K)} {x : Ix → K}
    (h : simStep solver meth others rs dt st = some x) :
    Laws .time 0 (others ++ companions meth rs dt st) x := by
  obtain ⟨_, _, hwf, hchk⟩ := simStep_some h
  have hwf' : Lcapy.C01.WF (others ++ companions meth rs dt st) := by
    unfold wfB at hwf
    unfold Lcapy.C01.WF
    exact of_decide_eq_true hwf
  exact (Lcapy.C01.mna_iff_laws .time 0 _ x hwf').mp (SSMaker.checkSolves_sound _ _ hchk)

/-! ### what the laws of the companion netlist say about one reactive component -/

/-- KCL at a fresh dummy node and the law of the companion source -/
theorem companion_of_laws [DecidableEq K] {meth : Method} {L : List (Cpt K)} {dt : K} {r : React K} {s : K × K}
    {x : Ix → K} (hd : dummyOK meth L dt r s = true) (hl : Laws .time 0 L x) :
    x (br r.m) = geq meth r dt s.1 s.2 * vd x r.n1 r.d ∧ vd x r.d r.n2 = veq meth r dt s.1 s.2 := by
  obtain ⟨h0, h1, h2, hf⟩ := dummyOK_spec hd
  constructor
  · have kcl := hl.1 r.d h0
    rw [lsum_outflow_filter_touches x r.d h0, hf] at kcl
    have h1' : ¬ (r.n1 = r.d) := fun e => h1 e.symm
    have h2' : ¬ (r.n2 = r.d) := fun e => h2 e.symm
    simp only [companion, List.map_cons, List.map_nil, lsum, outflow, twoTerm, if_true, if_neg h1', if_neg h2']
      at kcl
    linear_combination kcl
  · have hm : Cpt.V r.d r.n2 r.m (veq meth r dt s.1 s.2) ∈ L := by
      have : Cpt.V r.d r.n2 r.m (veq meth r dt s.1 s.2) ∈ L.filter (touches r.d) := by
        rw [hf]; simp [companion]
      exact List.mem_of_mem_filter this
    have := hl.2 _ hm (r.m, vd x r.d r.n2 - veq meth r dt s.1 s.2) (by simp [laws])
    exact sub_eq_zero.mp this

/-- the current a companion pair draws from a node other than its dummy node is the current of the component -/
theorem outflow_companion (meth : Method) (r : React K) (dt : K) (s : K × K) (x : Ix → K) (k : Nat)
    (hdk : r.d ≠ k) (hi : x (br r.m) = geq meth r dt s.1 s.2 * vd x r.n1 r.d) :
    lsum ((companion meth r dt s).map (outflow .time 0 x k)) = twoTerm r.n1 r.n2 k (x (br r.m)) := by
  simp only [companion, List.map_cons, List.map_nil, lsum, outflow, twoTerm, if_neg hdk, ← hi]
  ring

theorem lsum_companions (meth : Method) (dt : K) (x : Ix → K) (k : Nat) :
    ∀ (rs : List (React K)) (st : List (K × K)), st.length = rs.length → (∀ r ∈ rs, r.d ≠ k) →
      (∀ j (hj : j < rs.length) (hs : j < st.length),
        x (br rs[j].m) = geq meth rs[j] dt st[j].1 st[j].2 * vd x rs[j].n1 rs[j].d) →
      lsum ((companions meth rs dt st).map (outflow .time 0 x k)) =
        lsum (rs.map (fun r => twoTerm r.n1 r.n2 k (x (br r.m))))
  | [], _, _, _, _ => by simp [companions, lsum]
  | _ :: _, [], hl, _, _ => by simp at hl
  | r :: rs, s :: ss, hl, hd, hi => by
    have ih := lsum_companions meth dt x k rs ss (by simpa using hl)
      (fun r' hr' => hd r' (List.mem_cons_of_mem _ hr'))
      (fun j hj hs => hi (j + 1) (Nat.succ_lt_succ hj) (Nat.succ_lt_succ hs))
    have h0 := hi 0 (Nat.succ_pos _) (Nat.succ_pos _)
    simp only [List.getElem_cons_zero] at h0
    simp only [companions, List.map_append, lsum_append, List.map_cons, lsum, ih]
    rw [outflow_companion meth r dt s x k (hd r List.mem_cons_self) h0]

end Lcapy.Sim

