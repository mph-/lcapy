/-
  Helper lemmas for the N-source form of superposition (C03 `each_source_alone`):
  the residual splits into a homogeneous part (depends on the shape of the netlist only, additive in
  the unknowns) and the source part (right-hand side), and a netlist whose independent quantities are
  all zero has no source part.
-/
import Lcapy.Proofs.Linear
namespace Lcapy.MNA
open Ix
variable {K : Type} [Field K]

/-- the component with every independent quantity (source value, initial condition) set to zero -/
def Cpt.zeroSrc (c : Cpt K) : Cpt K := c.mapSrc (fun _ => 0)

/-- every netlist in which exactly ONE component keeps its independent quantities and all the others
    are zeroed (`kill_except`), in the order of the components.  For a component without independent
    quantities the entry is the fully killed netlist, whose response is zero when it is well posed. -/
def alone : List (Cpt K) → List (List (Cpt K))
  | [] => []
  | c :: t => (c :: killAll t) :: (alone t).map (fun a => c.zeroSrc :: a)

/-- pointwise sum of a list of assignments -/
def sumX : List (Ix → K) → (Ix → K)
  | [] => fun _ => 0
  | x :: t => fun i => x i + sumX t i

theorem alone_length (cs : List (Cpt K)) : (alone cs).length = cs.length := by
  induction cs with
  | nil => rfl
  | cons c t ih => simp [alone, ih]

/-- homogeneous part of one component's residual: A·x restricted to the component -/
def homog (kind : Kind) (s : K) (c : Cpt K) (x : Ix → K) (r : Ix) : K :=
  lhsSum r (ground x) (stamp kind s c).lhs

theorem residual_eq_homog (kind : Kind) (s : K) (c : Cpt K) (x : Ix → K) (r : Ix) :
    residual (stamp kind s c) x r = homog kind s c x r - rhsSum r (stamp kind s c).rhs := rfl

theorem residual_zeroSrc (kind : Kind) (s : K) (c : Cpt K) (x : Ix → K) (r : Ix) :
    residual (stamp kind s c.zeroSrc) x r = homog kind s c x r := by
  rw [residual_eq_homog, Cpt.zeroSrc, rhsSum_killed, sub_zero]
  simp [homog, Cpt.zeroSrc, stamp_lhs_mapSrc]

theorem homog_add (kind : Kind) (s : K) (c : Cpt K) (x y : Ix → K) (r : Ix) :
    homog kind s c (fun i => x i + y i) r = homog kind s c x r + homog kind s c y r := by
  simp [homog, ground_add, lhsSum_add]

theorem homog_zero (kind : Kind) (s : K) (c : Cpt K) (r : Ix) :
    homog kind s c (fun _ => 0) r = 0 := by
  have h := lhsSum_smul r (0 : K) (ground (fun _ => (0 : K))) (stamp kind s c).lhs
  have hg : ground (fun _ : Ix => (0 : K)) = fun _ => 0 := by
    funext i; cases i with
    | node k => cases k <;> simp [ground]
    | br m => simp [ground]
  simp only [homog, hg] at h ⊢
  simpa using h

/-- homogeneous part of a whole netlist -/
def homogAll (kind : Kind) (s : K) (cs : List (Cpt K)) (x : Ix → K) (r : Ix) : K :=
  lsum (cs.map (fun c => homog kind s c x r))

theorem homogAll_add (kind : Kind) (s : K) (cs : List (Cpt K)) (x y : Ix → K) (r : Ix) :
    homogAll kind s cs (fun i => x i + y i) r = homogAll kind s cs x r + homogAll kind s cs y r := by
  induction cs with
  | nil => simp [homogAll, lsum]
  | cons c t ih =>
    simp only [homogAll, List.map_cons, lsum] at ih ⊢
    rw [ih, homog_add]; ring

theorem homogAll_zero (kind : Kind) (s : K) (cs : List (Cpt K)) (r : Ix) :
    homogAll kind s cs (fun _ => 0) r = 0 := by
  induction cs with
  | nil => simp [homogAll, lsum]
  | cons c t ih =>
    simp only [homogAll, List.map_cons, lsum] at ih ⊢
    rw [ih, homog_zero]; ring

theorem residual_killAll (kind : Kind) (s : K) (cs : List (Cpt K)) (x : Ix → K) (r : Ix) :
    residual (stampAll kind s (killAll cs)) x r = homogAll kind s cs x r := by
  rw [residual_stampAll]
  simp only [killAll, homogAll, List.map_map]
  congr 1
  apply List.map_congr_left
  intro c _
  exact residual_zeroSrc kind s c x r

/-- adding any y to the unknowns adds exactly the homogeneous part of y to the residual -/
theorem residual_shift (kind : Kind) (s : K) (cs : List (Cpt K)) (x y : Ix → K) (r : Ix) :
    residual (stampAll kind s cs) (fun i => x i + y i) r =
      residual (stampAll kind s cs) x r + homogAll kind s cs y r := by
  simp only [residual_stampAll, homogAll]
  induction cs with
  | nil => simp [lsum]
  | cons c t ih =>
    simp only [List.map_cons, lsum]
    rw [ih, residual_eq_homog, residual_eq_homog, homog_add]; ring

/-- sum over the `alone` family of the residuals at the corresponding assignments -/
def sumRes (kind : Kind) (s : K) (r : Ix) : List (List (Cpt K)) → List (Ix → K) → K
  | a :: as, x :: xs => residual (stampAll kind s a) x r + sumRes kind s r as xs
  | _, _ => 0

theorem sumRes_cons_map (kind : Kind) (s : K) (r : Ix) (c : Cpt K) (as : List (List (Cpt K)))
    (xs : List (Ix → K)) (hl : as.length = xs.length) :
    sumRes kind s r (as.map (fun a => c.zeroSrc :: a)) xs =
      homog kind s c (sumX xs) r + sumRes kind s r as xs := by
  induction as generalizing xs with
  | nil =>
    cases xs with
    | nil => simp [sumRes, sumX, homog_zero]
    | cons x t => simp at hl
  | cons a as ih =>
    cases xs with
    | nil => simp at hl
    | cons x t =>
      simp only [List.length_cons, Nat.add_right_cancel_iff] at hl
      simp only [List.map_cons, sumRes, sumX]
      rw [ih t hl, homog_add]
      rw [residual_stampAll_cons, residual_zeroSrc]; ring

/-- the residuals of the single-source netlists at their own assignments add up to the
    residual of the full netlist at the sum of the assignments.  Any netlist, any number of sources. -/
theorem sumRes_alone (kind : Kind) (s : K) (r : Ix) (cs : List (Cpt K)) (xs : List (Ix → K))
    (hl : xs.length = cs.length) :
    sumRes kind s r (alone cs) xs = residual (stampAll kind s cs) (sumX xs) r := by
  induction cs generalizing xs with
  | nil =>
    cases xs with
    | nil => simp [alone, sumRes, sumX, residual_stampAll, lsum]
    | cons x t => simp at hl
  | cons c t ih =>
    cases xs with
    | nil => simp at hl
    | cons x xs' =>
      simp only [List.length_cons, Nat.add_right_cancel_iff] at hl
      simp only [alone, sumRes, sumX]
      rw [sumRes_cons_map kind s r c (alone t) xs' (by rw [alone_length, hl]), ih xs' hl]
      rw [residual_stampAll_cons kind s c (killAll t), residual_killAll, residual_stampAll_cons kind s c t,
        residual_eq_homog, residual_eq_homog, homog_add]
      have h3 := residual_shift kind s t (sumX xs') x r
      rw [show (fun i => sumX xs' i + x i) = fun i => x i + sumX xs' i from funext fun i => add_comm _ _] at h3
      rw [h3]; ring

end Lcapy.MNA
