/-
  Helper lemmas for C15 `ss_from_circuit`: the substituted netlist of StateSpaceMaker is linear in the values of the
  state variables / sources, so every unit solution scales and adds (Proofs/Linear.lean); soundness of the row check.
-/
import Lcapy.Model.StateSpaceMaker
import Lcapy.Model.Sources
import Lcapy.Proofs.Linear
import Lcapy.Proofs.MNA
import Mathlib.Tactic.Ring
import Mathlib.Tactic.LinearCombination
import Mathlib.Algebra.Field.Basic
namespace Lcapy.SSMaker
open Lcapy.MNA Ix
variable {K : Type} [Field K]

set_option linter.unusedSectionVars false

/-! ### one component -/

theorem substC_add (base : Nat) (w1 w2 : Nat → K) (p : Nat) (c : Cpt K) :
    substC base (fun q => w1 q + w2 q) p c = (substC base w1 p c).addSrc (substC base w2 p c) := by
  cases c <;> simp [substC, Cpt.addSrc] <;> ring

theorem substC_sameShape (base : Nat) (w1 w2 : Nat → K) (p : Nat) (c : Cpt K) :
    SameShape (substC base w1 p c) (substC base w2 p c) := by
  cases c <;> simp [SameShape, substC, Cpt.mapSrc]

theorem substC_smul (base : Nat) (a : K) (w : Nat → K) (p : Nat) (c : Cpt K) :
    substC base (fun q => a * w q) p c = (substC base w p c).mapSrc (fun v => a * v) := by
  cases c <;> simp [substC, Cpt.mapSrc]

/-! ### the whole netlist -/

theorem residual_subst_add (base : Nat) (w1 w2 : Nat → K) (z1 z2 : Ix → K) (r : Ix) (cs : List (Cpt K)) (p : Nat) :
    residual (stampAll .time 0 (substFrom base (fun q => w1 q + w2 q) p cs)) (fun i => z1 i + z2 i) r =
      residual (stampAll .time 0 (substFrom base w1 p cs)) z1 r + residual (stampAll .time 0 (substFrom base w2 p cs)) z2 r := by
  induction cs generalizing p with
  | nil => simp [substFrom, stampAll, residual, lhsSum, rhsSum]
  | cons c t ih =>
    simp only [substFrom]
    rw [residual_stampAll, residual_stampAll, residual_stampAll]
    simp only [List.map_cons, lsum]
    rw [← residual_stampAll, ← residual_stampAll, ← residual_stampAll, ih (p + 1), substC_add,
      residual_add_cpt .time 0 _ _ (substC_sameShape base w1 w2 p c)]
    ring

theorem residual_subst_smul (base : Nat) (a : K) (w : Nat → K) (z : Ix → K) (r : Ix) (cs : List (Cpt K)) (p : Nat) :
    residual (stampAll .time 0 (substFrom base (fun q => a * w q) p cs)) (fun i => a * z i) r =
      a * residual (stampAll .time 0 (substFrom base w p cs)) z r := by
  induction cs generalizing p with
  | nil => simp [substFrom, stampAll, residual, lhsSum, rhsSum]
  | cons c t ih =>
    simp only [substFrom]
    rw [residual_stampAll, residual_stampAll]
    simp only [List.map_cons, lsum]
    rw [← residual_stampAll, ← residual_stampAll, ih (p + 1), substC_smul, residual_scale_cpt]
    ring

theorem solves_add (base : Nat) (w1 w2 : Nat → K) (z1 z2 : Ix → K) (cs : List (Cpt K))
    (h1 : Solves .time 0 (subst base w1 cs) z1) (h2 : Solves .time 0 (subst base w2 cs) z2) :
    Solves .time 0 (subst base (fun q => w1 q + w2 q) cs) (fun i => z1 i + z2 i) := by
  intro r hr
  simp only [subst] at *
  rw [residual_subst_add, h1 r hr, h2 r hr, add_zero]

theorem solves_smul (base : Nat) (a : K) (w : Nat → K) (z : Ix → K) (cs : List (Cpt K))
    (h : Solves .time 0 (subst base w cs) z) :
    Solves .time 0 (subst base (fun q => a * w q) cs) (fun i => a * z i) := by
  intro r hr
  simp only [subst] at *
  rw [residual_subst_smul, h r hr, mul_zero]

/-- `subst` reads the values only at the positions of reactive components and independent sources -/
theorem substFrom_congr (base : Nat) (w w' : Nat → K) (cs : List (Cpt K)) (p : Nat)
    (h : ∀ q, q ∈ posFrom .ind p cs ∨ q ∈ posFrom .cap p cs ∨ q ∈ posFrom .vsrc p cs ∨ q ∈ posFrom .isrc p cs → w q = w' q) :
    substFrom base w p cs = substFrom base w' p cs := by
  induction cs generalizing p with
  | nil => rfl
  | cons c t ih =>
    simp only [substFrom]
    congr 1
    · cases c <;> simp [substC] <;> (try (apply h; simp [posFrom, role]))
    · apply ih
      intro q hq
      apply h
      simp only [posFrom]
      rcases hq with hq | hq | hq | hq
      · left; split_ifs <;> simp [hq]
      · right; left; split_ifs <;> simp [hq]
      · right; right; left; split_ifs <;> simp [hq]
      · right; right; right; split_ifs <;> simp [hq]

/-! ### linear combinations of unit solutions -/

/-- Σ_{q ∈ L} w q · ind q -/
def wsum (L : List Nat) (w : Nat → K) : Nat → K := fun p => lsum (L.map (fun q => w q * ind q p))

/-- Σ_{q ∈ L} w q · zs q -/
def zsum (L : List Nat) (w : Nat → K) (zs : Nat → Ix → K) : Ix → K := fun i => lsum (L.map (fun q => w q * zs q i))

theorem solves_zero (base : Nat) (cs : List (Cpt K)) :
    Solves .time 0 (subst base (fun _ => 0) cs) (fun _ => 0) := by
  intro r hr
  have h := residual_subst_smul base (0 : K) (fun _ => 0) (fun _ => 0) r cs 0
  simp only [zero_mul] at h
  exact h

theorem solves_zsum (base : Nat) (cs : List (Cpt K)) (zs : Nat → Ix → K) (w : Nat → K) (L : List Nat)
    (h : ∀ q ∈ L, Solves .time 0 (subst base (ind q) cs) (zs q)) :
    Solves .time 0 (subst base (wsum L w) cs) (zsum L w zs) := by
  induction L with
  | nil => exact solves_zero base cs
  | cons q t ih =>
    have h1 := solves_smul base (w q) (ind q) (zs q) cs (h q (by simp))
    have h2 := ih (fun q' hq' => h q' (by simp [hq']))
    exact solves_add base _ _ _ _ cs h1 h2

theorem lsum_ind_notin (l : List Nat) (w : Nat → K) (p : Nat) (h : p ∉ l) :
    lsum (l.map (fun q => w q * ind q p)) = 0 := by
  induction l with
  | nil => simp [lsum]
  | cons a l ih =>
    simp only [List.mem_cons, not_or] at h
    simp only [List.map_cons, lsum, ih h.2, add_zero]
    simp [ind, h.1]

theorem wsum_mem (L : List Nat) (hnd : L.Nodup) (w : Nat → K) (p : Nat) (hp : p ∈ L) : wsum L w p = w p := by
  induction L with
  | nil => simp at hp
  | cons q t ih =>
    simp only [List.nodup_cons] at hnd
    show w q * ind q p + lsum (t.map (fun q => w q * ind q p)) = w p
    rcases List.mem_cons.mp hp with rfl | hpt
    · rw [lsum_ind_notin t w p hnd.1]
      simp [ind]
    · have hne : p ≠ q := fun h => hnd.1 (h ▸ hpt)
      have := ih hnd.2 hpt
      simp only [wsum] at this
      rw [this]
      simp [ind, hne]

/-! ### positions -/

theorem posFrom_ge (r : Role) (cs : List (Cpt K)) (p q : Nat) (hq : q ∈ posFrom r p cs) : p ≤ q := by
  induction cs generalizing p with
  | nil => simp [posFrom] at hq
  | cons c t ih =>
    simp only [posFrom] at hq
    split_ifs at hq
    · rcases List.mem_cons.mp hq with rfl | h
      · exact le_refl _
      · exact Nat.le_of_succ_le (ih (p + 1) h)
    · exact Nat.le_of_succ_le (ih (p + 1) hq)

theorem posFrom_nodup (r : Role) (cs : List (Cpt K)) (p : Nat) : (posFrom r p cs).Nodup := by
  induction cs generalizing p with
  | nil => simp [posFrom]
  | cons c t ih =>
    simp only [posFrom]
    split_ifs
    · refine List.nodup_cons.mpr ⟨fun h => ?_, ih (p + 1)⟩
      have := posFrom_ge r t (p + 1) p h
      omega
    · exact ih (p + 1)

theorem posFrom_role (r : Role) (cs : List (Cpt K)) (p q : Nat) (hq : q ∈ posFrom r p cs) :
    ∃ c, (q, c) ∈ enumFrom p cs ∧ role c = r := by
  induction cs generalizing p with
  | nil => simp [posFrom] at hq
  | cons c t ih =>
    simp only [posFrom] at hq
    simp only [enumFrom]
    split_ifs at hq with hr
    · rcases List.mem_cons.mp hq with rfl | h
      · exact ⟨c, by simp, hr⟩
      · obtain ⟨c', hc', hr'⟩ := ih (p + 1) h
        exact ⟨c', by simp [hc'], hr'⟩
    · obtain ⟨c', hc', hr'⟩ := ih (p + 1) hq
      exact ⟨c', by simp [hc'], hr'⟩

theorem mem_of_mem_enumFrom (cs : List (Cpt K)) (p q : Nat) (c : Cpt K) (h : (q, c) ∈ enumFrom p cs) : c ∈ cs := by
  induction cs generalizing p with
  | nil => simp [enumFrom] at h
  | cons a t ih =>
    simp only [enumFrom, List.mem_cons, Prod.mk.injEq] at h
    rcases h with ⟨_, rfl⟩ | h
    · exact List.mem_cons_self
    · exact List.mem_cons_of_mem _ (ih _ h)

theorem enumFrom_ge (cs : List (Cpt K)) (p0 q : Nat) (c : Cpt K) (h : (q, c) ∈ enumFrom p0 cs) : p0 ≤ q := by
  induction cs generalizing p0 with
  | nil => simp [enumFrom] at h
  | cons a t ih =>
    simp only [enumFrom, List.mem_cons, Prod.mk.injEq] at h
    rcases h with ⟨rfl, _⟩ | h
    · exact le_refl _
    · exact Nat.le_of_succ_le (ih _ h)

theorem enumFrom_fun (cs : List (Cpt K)) (p q : Nat) (c c' : Cpt K) (h : (q, c) ∈ enumFrom p cs)
    (h' : (q, c') ∈ enumFrom p cs) : c = c' := by
  induction cs generalizing p with
  | nil => simp [enumFrom] at h
  | cons a t ih =>
    simp only [enumFrom, List.mem_cons, Prod.mk.injEq] at h h'
    rcases h with ⟨rfl, rfl⟩ | h <;> rcases h' with ⟨h1, rfl⟩ | h'
    · rfl
    · have := enumFrom_ge t _ _ _ h'; omega
    · have := enumFrom_ge t _ _ _ h; omega
    · exact ih (p + 1) h h'

theorem srcPos_nodup (cs : List (Cpt K)) : (srcPos cs).Nodup := by
  have hdis : ∀ (r r' : Role), r ≠ r' → ∀ q, q ∈ posFrom r 0 cs → q ∈ posFrom r' 0 cs → False := by
    intro r r' hne q h h'
    obtain ⟨c, hc, hr⟩ := posFrom_role r cs 0 q h
    obtain ⟨c', hc', hr'⟩ := posFrom_role r' cs 0 q h'
    have := enumFrom_fun cs 0 q c c' hc hc'
    subst this
    exact hne (hr.symm.trans hr')
  simp only [srcPos, statePos, inputPos]
  rw [List.nodup_append, List.nodup_append, List.nodup_append]
  refine ⟨⟨posFrom_nodup _ _ _, posFrom_nodup _ _ _, ?_⟩, ⟨posFrom_nodup _ _ _, posFrom_nodup _ _ _, ?_⟩, ?_⟩
  · intro a ha b hb hab; subst hab; exact hdis .ind .cap (by decide) a ha hb
  · intro a ha b hb hab; subst hab; exact hdis .vsrc .isrc (by decide) a ha hb
  · intro a ha b hb hab
    subst hab
    rcases List.mem_append.mp ha with ha | ha <;> rcases List.mem_append.mp hb with hb | hb
    · exact hdis .ind .vsrc (by decide) a ha hb
    · exact hdis .ind .isrc (by decide) a ha hb
    · exact hdis .cap .vsrc (by decide) a ha hb
    · exact hdis .cap .isrc (by decide) a ha hb

/-- the substituted netlist for any values is the one for their restriction to the source positions -/
theorem subst_wsum (base : Nat) (cs : List (Cpt K)) (w : Nat → K) :
    subst base (wsum (srcPos cs) w) cs = subst base w cs := by
  apply substFrom_congr
  intro q hq
  apply wsum_mem _ (srcPos_nodup cs)
  simp only [srcPos, statePos, inputPos, List.mem_append]
  tauto

/-! ### quantities read off the solution -/

/-- `F z w` is linear in (solution, values) jointly -/
structure LinFun (F : (Ix → K) → (Nat → K) → K) : Prop where
  add : ∀ z1 z2 w1 w2, F (fun i => z1 i + z2 i) (fun q => w1 q + w2 q) = F z1 w1 + F z2 w2
  smul : ∀ a z w, F (fun i => a * z i) (fun q => a * w q) = a * F z w

/-- `F` reads the solution only at indices in `U` -/
def ReadsIn (U : Ix → Prop) (F : (Ix → K) → (Nat → K) → K) : Prop :=
  ∀ z z' w, (∀ i, U i → z i = z' i) → F z w = F z' w

theorem linfun_sum (F : (Ix → K) → (Nat → K) → K) (hF : LinFun F) (L : List Nat) (w : Nat → K) (zs : Nat → Ix → K) :
    F (zsum L w zs) (wsum L w) = lsum (L.map (fun q => w q * F (zs q) (ind q))) := by
  induction L with
  | nil =>
    have h := hF.smul 0 (fun _ => 0) (fun _ => 0)
    simp only [zero_mul] at h
    show F (fun _ => 0) (fun _ => 0) = 0
    exact h
  | cons q t ih =>
    show F (fun i => w q * zs q i + zsum t w zs i) (fun p => w q * ind q p + wsum t w p) = _
    rw [hF.add, hF.smul, ih]
    simp [lsum]

theorem volt_add (z1 z2 : Ix → K) (k : Nat) : volt (fun i => z1 i + z2 i) k = volt z1 k + volt z2 k := by
  cases k <;> simp [volt]

theorem volt_smul (a : K) (z : Ix → K) (k : Nat) : volt (fun i => a * z i) k = a * volt z k := by
  cases k <;> simp [volt]

theorem volt_congr (z z' : Ix → K) (k : Nat) (h : k ≠ 0 → z (node k) = z' (node k)) : volt z k = volt z' k := by
  cases k with
  | zero => rfl
  | succ n => simpa [volt] using h (by omega)

theorem linfun_outV (k : Nat) : LinFun (K := K) (outV k) :=
  ⟨fun z1 z2 _ _ => volt_add z1 z2 k, fun a z _ => volt_smul a z k⟩

theorem vd_add (z1 z2 : Ix → K) (a b : Nat) : vd (fun i => z1 i + z2 i) a b = vd z1 a b + vd z2 a b := by
  simp only [vd, volt_add]; ring

theorem vd_smul (c : K) (z : Ix → K) (a b : Nat) : vd (fun i => c * z i) a b = c * vd z a b := by
  simp only [vd, volt_smul]; ring

theorem linfun_dotx (base p : Nat) (c : Cpt K) : LinFun (dotx base p c) := by
  constructor
  · intro z1 z2 w1 w2
    cases c <;> simp only [dotx, vd_add, add_div, add_zero]
  · intro a z w
    cases c <;> simp only [dotx, vd_smul, mul_div_assoc, mul_zero]

theorem linfun_outI (base p : Nat) (c : Cpt K) : LinFun (outI base p c) := by
  constructor
  · intro z1 z2 w1 w2
    cases c <;> simp only [outI, vd_add, add_div, add_zero, mul_add, neg_add]
  · intro a z w
    cases c <;> simp only [outI, vd_smul, mul_div_assoc, mul_zero, mul_left_comm, mul_neg]

/-- the indices the quantities of component `c` at position `p` read -/
def readsC (base p : Nat) : Cpt K → List Ix
  | .R n1 n2 _ => [node n1, node n2]
  | .Y n1 n2 _ => [node n1, node n2]
  | .Cap _ _ _ _ => [br (base + p)]
  | .Ind n1 n2 _ _ _ _ => [node n1, node n2]
  | .V _ _ m _ => [br m]
  | .E _ _ _ _ m _ _ => [br m]
  | .H _ _ m _ _ => [br m]
  | .TF _ _ _ _ m _ => [br m]
  | .AM _ _ m => [br m]
  | _ => []

theorem reads_dotx (base p : Nat) (c : Cpt K) : ReadsIn (fun i => i ∈ readsC base p c) (dotx base p c) := by
  intro z z' w h
  cases c <;> simp only [dotx]
  case Cap n1 n2 cv v0 => rw [h _ (by simp [readsC])]
  case Ind n1 n2 m l i0 coup =>
    simp only [vd]
    rw [volt_congr z z' n1 (fun _ => h _ (by simp [readsC])), volt_congr z z' n2 (fun _ => h _ (by simp [readsC]))]

theorem reads_outI (base p : Nat) (c : Cpt K) : ReadsIn (fun i => i ∈ readsC base p c) (outI base p c) := by
  intro z z' w h
  cases c <;> simp only [outI]
  case R n1 n2 r =>
    simp only [vd]
    rw [volt_congr z z' n1 (fun _ => h _ (by simp [readsC])), volt_congr z z' n2 (fun _ => h _ (by simp [readsC]))]
  case Y n1 n2 r =>
    simp only [vd]
    rw [volt_congr z z' n1 (fun _ => h _ (by simp [readsC])), volt_congr z z' n2 (fun _ => h _ (by simp [readsC]))]
  all_goals (rw [h _ (by simp [readsC])])

theorem reads_outV (k : Nat) : ReadsIn (K := K) (fun i => i = node k) (outV k) := by
  intro z z' w h
  exact volt_congr z z' k (fun _ => h _ rfl)

theorem mem_posFrom (r : Role) (cs : List (Cpt K)) (p q : Nat) (c : Cpt K) (h : (q, c) ∈ enumFrom p cs)
    (hr : role c = r) : q ∈ posFrom r p cs := by
  induction cs generalizing p with
  | nil => simp [enumFrom] at h
  | cons a t ih =>
    simp only [enumFrom, List.mem_cons, Prod.mk.injEq] at h
    simp only [posFrom]
    rcases h with ⟨rfl, rfl⟩ | h
    · simp [hr]
    · split_ifs
      · exact List.mem_cons_of_mem _ (ih (p + 1) h)
      · exact ih (p + 1) h

/-- the outputs read the values only at the component's own position, where the restriction agrees -/
theorem outI_wsum (base : Nat) (cs : List (Cpt K)) (w : Nat → K) (z : Ix → K) (p : Nat) (c : Cpt K)
    (h : (p, c) ∈ enumFrom 0 cs) : outI base p c z (wsum (srcPos cs) w) = outI base p c z w := by
  cases c <;> simp only [outI]
  case Ind n1 n2 m l i0 coup =>
    apply wsum_mem _ (srcPos_nodup cs)
    simp only [srcPos, statePos, List.mem_append]
    exact Or.inl (Or.inl (mem_posFrom .ind cs 0 p _ h rfl))
  case I n1 n2 i =>
    congr 1
    apply wsum_mem _ (srcPos_nodup cs)
    simp only [srcPos, inputPos, List.mem_append]
    exact Or.inr (Or.inr (mem_posFrom .isrc cs 0 p _ h rfl))

/-! ### the row check -/

theorem lhsSum_notin (r : Ix) (x : Ix → K) (l : List (Ix × Ix × K)) (h : ∀ e ∈ l, e.1 ≠ r) : lhsSum r x l = 0 := by
  induction l with
  | nil => rfl
  | cons e t ih =>
    obtain ⟨r', c, v⟩ := e
    have h1 : r' ≠ r := h (r', c, v) (by simp)
    simp only [lhsSum, h1, if_false, zero_add]
    exact ih (fun e he => h e (by simp [he]))

theorem rhsSum_notin (r : Ix) (l : List (Ix × K)) (h : ∀ e ∈ l, e.1 ≠ r) : rhsSum r l = 0 := by
  induction l with
  | nil => rfl
  | cons e t ih =>
    obtain ⟨r', v⟩ := e
    have h1 : r' ≠ r := h (r', v) (by simp)
    simp only [rhsSum, h1, if_false, zero_add]
    exact ih (fun e he => h e (by simp [he]))

theorem checkSolves_sound [DecidableEq K] (cs : List (Cpt K)) (z : Ix → K) (h : checkSolves cs z = true) :
    Solves .time 0 cs z := by
  intro r hr
  by_cases hmem : r ∈ rowsOf (stampAll .time 0 cs)
  · simp only [checkSolves, List.all_eq_true] at h
    have := h r hmem
    simpa [hr] using this
  · simp only [rowsOf, List.mem_append, List.mem_map, not_or, not_exists, not_and] at hmem
    simp only [residual]
    rw [lhsSum_notin, rhsSum_notin, sub_zero]
    · intro e he h'; exact hmem.2 e he h'
    · intro e he h'; exact hmem.1 e he h'

theorem ssModel_solves [DecidableEq K] (solver : List (Cpt K) → Ix → K) (cs : List (Cpt K)) (M : SSM K)
    (h : ssModel solver cs = some M) :
    ∀ q ∈ srcPos cs, Solves .time 0 (subst M.base (ind q) cs) (M.zs q) := by
  simp only [ssModel] at h
  split_ifs at h with hall
  simp only [Option.some.injEq] at h
  subst h
  intro q hq
  exact checkSolves_sound _ _ (List.all_eq_true.mp hall q hq)

/-- existence: the linear combination of the unit solutions solves the substituted circuit for any values -/
theorem ss_solution [DecidableEq K] (solver : List (Cpt K) → Ix → K) (cs : List (Cpt K)) (M : SSM K)
    (h : ssModel solver cs = some M) (w : Nat → K) :
    Solves .time 0 (subst M.base w cs) (zsum (srcPos cs) w M.zs) := by
  have := solves_zsum M.base cs M.zs w (srcPos cs) (ssModel_solves solver cs M h)
  rwa [subst_wsum] at this

/-- what any linear quantity is at that solution: the state-space value -/
theorem ssValue_eq (F : (Ix → K) → (Nat → K) → K) (hF : LinFun F) (M : SSM K) (cs : List (Cpt K)) (w : Nat → K) :
    F (zsum (srcPos cs) w M.zs) (wsum (srcPos cs) w) = ssValue F M cs w := by
  rw [linfun_sum F hF]
  simp only [ssValue, srcPos, List.map_append, lsum_append, entry]
  congr 1 <;> (apply congrArg; apply List.map_congr_left; intro q _; ring)

/-! ### the matrix does not depend on the values -/

theorem stamp_lhs_substC (base : Nat) (w w' : Nat → K) (p : Nat) (c : Cpt K) :
    (stamp .time 0 (substC base w p c)).lhs = (stamp .time 0 (substC base w' p c)).lhs := by
  cases c <;> simp [substC, stamp]

theorem owned_substC (base : Nat) (w w' : Nat → K) (p : Nat) (c : Cpt K) :
    owned (substC base w p c) = owned (substC base w' p c) := by
  cases c <;> simp [substC, owned]

theorem stampAll_lhs_subst (base : Nat) (w w' : Nat → K) (cs : List (Cpt K)) (p : Nat) :
    (stampAll .time 0 (substFrom base w p cs)).lhs = (stampAll .time 0 (substFrom base w' p cs)).lhs := by
  induction cs generalizing p with
  | nil => rfl
  | cons c t ih =>
    simp only [substFrom]
    show ((stamp .time 0 (substC base w p c)).append (stampAll .time 0 (substFrom base w (p + 1) t))).lhs =
      ((stamp .time 0 (substC base w' p c)).append (stampAll .time 0 (substFrom base w' (p + 1) t))).lhs
    simp only [Stamp.append]
    rw [ih (p + 1), stamp_lhs_substC base w w' p c]

theorem owned_subst (base : Nat) (w w' : Nat → K) (cs : List (Cpt K)) (p : Nat) :
    (substFrom base w p cs).flatMap owned = (substFrom base w' p cs).flatMap owned := by
  induction cs generalizing p with
  | nil => rfl
  | cons c t ih => simp only [substFrom, List.flatMap_cons, ih (p + 1), owned_substC base w w' p c]

/-- two solutions of one substituted circuit differ by a solution of the homogeneous system -/
theorem solves_diff_hom (cs : List (Cpt K)) (x y : Ix → K) (hx : Solves .time 0 cs x) (hy : Solves .time 0 cs y) :
    ∀ r, r ≠ node 0 → lhsSum r (ground (fun i => x i - y i)) (stampAll .time 0 cs).lhs = 0 := by
  intro r hr
  have h1 := hx r hr
  have h2 := hy r hr
  simp only [residual] at h1 h2
  have hg : ground (fun i => x i - y i) = fun i => ground x i - ground y i := by
    funext i
    cases i with
    | node k => cases k <;> simp [ground]
    | br m => simp [ground]
  rw [hg, lhsSum_sub]
  rw [sub_eq_zero] at h1 h2
  rw [h1, h2, sub_self]

end Lcapy.SSMaker
