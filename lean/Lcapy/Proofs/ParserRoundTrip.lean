/-
  Helper lemmas for the line-level round trip of C06.  Core Lean only.
-/
import Lcapy.Proofs.ParserLemmas
import Lcapy.Spec.Netlist
namespace Lcapy.Parser

/-! ### strip / split helpers -/
theorem strip_id (s : Str) (h1 : ∀ c, s.head? = some c → isWs c = false)
    (h2 : ∀ c, s.getLast? = some c → isWs c = false) : strip s = s := by
  have hl : s.dropWhile isWs = s := by
    cases s with
    | nil => rfl
    | cons a t => simp [List.dropWhile, h1 a rfl]
  have hr : s.reverse.dropWhile isWs = s.reverse := by
    cases hr : s.reverse with
    | nil => rfl
    | cons a t =>
      have : s.getLast? = some a := by rw [List.getLast?_eq_head?_reverse, hr]; rfl
      simp [List.dropWhile, h2 a this]
  simp [strip, lstrip, rstrip, hl, hr]

theorem strip_ws_cons (c : Char) (s : Str) (hc : isWs c = true) : strip (c :: s) = strip s := by
  simp [strip, lstrip, List.dropWhile, hc]

/-- what `strip` returns has no white space at either end -/
theorem strip_ends (x : Str) : (∀ c, (strip x).head? = some c → isWs c = false) ∧
    (∀ c, (strip x).getLast? = some c → isWs c = false) := by
  have hl : ∀ c, (lstrip x).head? = some c → isWs c = false := by
    intro c hc
    unfold lstrip at hc
    have := List.head?_dropWhile_not isWs x
    rw [hc] at this
    simpa using this
  constructor
  · intro c hc
    unfold strip at hc
    -- rstrip y is a prefix of y
    have hp : rstrip (lstrip x) <+: lstrip x := by
      unfold rstrip
      have := List.dropWhile_suffix isWs (l := (lstrip x).reverse)
      have h2 := List.reverse_prefix.mpr this
      simpa using h2
    obtain ⟨t, ht⟩ := hp
    cases hrs : rstrip (lstrip x) with
    | nil => rw [hrs] at hc; simp at hc
    | cons a u =>
      rw [hrs] at hc ht
      simp at hc; subst hc
      apply hl
      rw [← ht]; rfl
  · intro c hc
    unfold strip rstrip at hc
    rw [List.getLast?_reverse] at hc
    have := List.head?_dropWhile_not isWs (lstrip x).reverse
    rw [hc] at this
    simpa using this

theorem splitFirst_none (sep : Char) (a : Str) (h : ∀ c ∈ a, c ≠ sep) : splitFirst sep a = (a, none) := by
  induction a with
  | nil => rfl
  | cons c t ih =>
    have hc : (c == sep) = false := by simpa using h c (by simp)
    simp [splitFirst, hc, ih (fun d hd => h d (by simp [hd]))]

theorem splitFirst_some (sep : Char) (a b : Str) (h : ∀ c ∈ a, c ≠ sep) : splitFirst sep (a ++ sep :: b) = (a, some b) := by
  induction a with
  | nil => simp [splitFirst]
  | cons c t ih =>
    have hc : (c == sep) = false := by simpa using h c (by simp)
    simp [splitFirst, hc, ih (fun d hd => h d (by simp [hd]))]

theorem splitOn_nosep (sep : Char) (a : Str) (h : ∀ c ∈ a, c ≠ sep) : splitOn sep a = [a] := by
  induction a with
  | nil => rfl
  | cons c t ih =>
    have hc : (c == sep) = false := by simpa using h c (by simp)
    simp [splitOn, hc, ih (fun d hd => h d (by simp [hd]))]

/-- a printed line `L`, alone or followed by `; ` and a stripped option text `strip x`: the whole is stripped, begins like
    `L`, and its first `;` separates the two parts -/
theorem line_with_opts (L x s : Str) (a : Char) (t : Str) (hL : L = a :: t) (ha : isWs a = false)
    (hlast : ∀ c, L.getLast? = some c → isWs c = false) (hsemi : ∀ c ∈ L, c ≠ ';')
    (hs : (if (strip x).isEmpty then L else L ++ [';', ' '] ++ strip x) = s) :
    strip s = s ∧ (∃ u, s = a :: u)
    ∧ ∃ tail, splitFirst ';' s = (L, tail) ∧ (tail.map strip).getD [] = strip x := by
  subst hs
  by_cases he : (strip x).isEmpty = true
  · rw [if_pos he]
    refine ⟨strip_id _ (fun c h => ?_) hlast, ⟨t, hL⟩, none, splitFirst_none ';' _ hsemi, (List.isEmpty_iff.mp he).symm⟩
    rw [hL] at h; cases h; exact ha
  · rw [if_neg he]
    have hne : strip x ≠ [] := fun h => he (by rw [h]; rfl)
    refine ⟨strip_id _ (fun c h => ?_) (fun c h => ?_), ⟨t ++ [';', ' '] ++ strip x, by simp [hL]⟩,
      some (' ' :: strip x), by simpa using splitFirst_some ';' L (' ' :: strip x) hsemi, ?_⟩
    · rw [hL] at h; cases h; exact ha
    · rw [List.getLast?_append] at h
      cases hl : (strip x).getLast? with
      | none => exact absurd (List.getLast?_eq_none_iff.mp hl) hne
      | some z => rw [hl] at h; cases h; exact (strip_ends x).2 _ hl
    · simp only [Option.map_some, Option.getD_some]
      rw [strip_ws_cons ' ' _ (by decide), strip_id _ (strip_ends x).1 (strip_ends x).2]

/-! ### node extraction -/

theorem extractNodes_args (name ns : Str) (C : List Param) (hC : C.all (·.kind.isArg) = true) (fs : List Str) :
    extractNodes name ns C fs = .ok [] := by
  induction C generalizing fs with
  | nil => rfl
  | cons p ps ih =>
    simp only [List.all_cons, Bool.and_eq_true] at hC
    have hn : p.kind.isNode = false := by
      have := hC.1
      cases hk : p.kind <;> simp [Kind.isArg, Kind.isNode, hk] at this ⊢
    simp only [extractNodes, hn]
    exact ih hC.2 fs.tail

/-- nodes that are read back unchanged: not starting with `.` (with an empty namespace) -/
theorem extractNodes_nodes (name : Str) (N : List Param) (hN : N.all (·.kind.isNode) = true) (ns : List Str)
    (hlen : ns.length = N.length) (hdot : ∀ n ∈ ns, n.head? ≠ some '.') (rest : List Param) (fs : List Str)
    (tail : List Str) (hrest : extractNodes name [] rest fs = .ok tail) :
    extractNodes name [] (N ++ rest) (ns ++ fs) = .ok (ns ++ tail) := by
  induction N generalizing ns with
  | nil =>
    obtain rfl : ns = [] := List.eq_nil_of_length_eq_zero hlen
    simpa using hrest
  | cons p ps ih =>
    cases ns with
    | nil => simp at hlen
    | cons n ns' =>
      simp only [List.all_cons, Bool.and_eq_true] at hN
      have hd : n.head? ≠ some '.' := hdot n (by simp)
      have := ih hN.2 ns' (by simpa using hlen) (fun x hx => hdot x (by simp [hx]))
      simp only [List.cons_append, extractNodes, hN.1, ↓reduceIte, this]
      simp [hd]

theorem extractNodes_skip (name ns : Str) (k : Param) (hk : k.kind.isNode = false) (rest : List Param) (f : Str) (fs : List Str) :
    extractNodes name ns (k :: rest) (f :: fs) = extractNodes name ns rest fs := by
  simp [extractNodes, hk]

theorem extractNodes_skips (name ns : Str) (K : List Param) (hK : K.all (fun p => !p.kind.isNode) = true)
    (KW : List Str) (hl : KW.length = K.length) (rest : List Param) (fs : List Str) :
    extractNodes name ns (K ++ rest) (KW ++ fs) = extractNodes name ns rest fs := by
  induction K generalizing KW with
  | nil =>
    obtain rfl : KW = [] := List.eq_nil_of_length_eq_zero hl
    rfl
  | cons k ks ih =>
    cases KW with
    | nil => simp at hl
    | cons w ws =>
      simp only [List.all_cons, Bool.and_eq_true, Bool.not_eq_true'] at hK
      rw [List.cons_append, List.cons_append, extractNodes_skip name ns k hK.1]
      exact ih hK.2 ws (by simpa using hl)

/-! ### m2 and the missing-argument test -/

theorem m2Of_args (C : List Param) (hC : C.all (·.kind.isArg) = true) (m acc : Nat) : m2Of C m acc = acc := by
  induction C generalizing m with
  | nil => rfl
  | cons p ps ih =>
    simp only [List.all_cons, Bool.and_eq_true] at hC
    simp [m2Of, hC.1, ih hC.2]

theorem m2Of_nonargs (N : List Param) (hN : N.all (fun p => !p.kind.isArg) = true) (rest : List Param) (m acc : Nat) :
    m2Of (N ++ rest) m acc = m2Of rest (m + N.length) (if N.isEmpty then acc else m + N.length) := by
  induction N generalizing m acc with
  | nil => simp
  | cons p ps ih =>
    simp only [List.all_cons, Bool.and_eq_true, Bool.not_eq_true'] at hN
    simp only [List.cons_append, m2Of, hN.1, Bool.false_eq_true, ↓reduceIte]
    rw [ih (by simpa using hN.2)]
    cases ps with
    | nil => simp
    | cons q qs =>
      have e : m + 1 + (q :: qs).length = m + (p :: q :: qs).length := by simp; omega
      simp only [e]; simp

theorem missingArg_nonargs (N : List Param) (hN : N.all (fun p => !p.kind.isArg) = true) (rest : List Param) (m n : Nat) :
    missingArg (N ++ rest) m n = missingArg rest (m + N.length) n := by
  induction N generalizing m with
  | nil => simp
  | cons p ps ih =>
    simp only [List.all_cons, Bool.and_eq_true, Bool.not_eq_true'] at hN
    simp only [List.cons_append, missingArg, hN.1, Bool.false_and, Bool.false_or]
    rw [ih (by simpa using hN.2)]
    congr 1
    simp; omega

theorem missingArg_false (C : List Param) (m n : Nat)
    (h : ∀ i p, C[i]? = some p → n ≤ m + i → p.optional = true) : missingArg C m n = false := by
  induction C generalizing m with
  | nil => rfl
  | cons p ps ih =>
    have hp : n ≤ m → p.optional = true := fun hn => h 0 p rfl hn
    have := ih (m + 1) fun i q hq hn => h (i + 1) q (by simpa using hq) (by omega)
    by_cases hn : n ≤ m <;> simp [missingArg, this, hn, hp]

/-! ### keyword placement -/

theorem nodesWithKw_noinsert (p : Nat) (kw : Str) (ns : List Str) (m : Nat) (h : p ≤ m) :
    nodesWithKw (some p) kw ns m = ns := by
  induction ns generalizing m with
  | nil => rfl
  | cons n t ih =>
    have : (some p == some (m + 1)) = false := by simp; omega
    simp [nodesWithKw, this, ih (m + 1) (by omega)]

theorem nodesWithKw_nokw (kp : Option Nat) (ns : List Str) (m : Nat) : nodesWithKw kp [] ns m = ns := by
  induction ns generalizing m with
  | nil => rfl
  | cons n t ih => simp [nodesWithKw, ih]

/-- a non-empty keyword to be written after node number `p` (counting from `m`) is inserted there -/
theorem nodesWithKw_eq (p : Nat) (kw : Str) (hkw : kw ≠ []) (ns : List Str) (m : Nat) (h1 : m < p)
    (h2 : p ≤ m + ns.length) :
    nodesWithKw (some p) kw ns m = ns.take (p - m) ++ kw :: ns.drop (p - m) := by
  have hk : kw.isEmpty = false := List.isEmpty_eq_false_iff.mpr hkw
  induction ns generalizing m with
  | nil => simp at h2; omega
  | cons a t ih =>
    by_cases hp : p = m + 1
    · subst hp
      simp [nodesWithKw, hk, nodesWithKw_noinsert (m + 1) kw t (m + 1) (Nat.le_refl _)]
    · have hne : (some p == some (m + 1)) = false := by simp [hp]
      have e : p - m = (p - (m + 1)) + 1 := by omega
      simp [nodesWithKw, hne, ih (m + 1) (by omega) (by simp at h2; omega), e]

/-! ### shape of a parameter list -/

def Shape.params (s : Shape) : List Param :=
  s.A ++ (match s.k with | some q => [q] | none => []) ++ s.B ++ s.C

/-- the segments returned by `shapeOf` make up the list; `A` and `B` are nodes, `k` is a keyword, and without a
    keyword there is no second run of nodes -/
theorem shapeOf_spec (ps : List Param) :
    (shapeOf ps).params = ps ∧ (shapeOf ps).A.all (·.kind.isNode) = true ∧ (shapeOf ps).B.all (·.kind.isNode) = true
    ∧ (∀ q, (shapeOf ps).k = some q → q.kind = .keyword) ∧ ((shapeOf ps).k = none → (shapeOf ps).B = []) := by
  have h1 := List.takeWhile_append_dropWhile (p := fun p : Param => p.kind.isNode) (l := ps)
  have hA : (ps.takeWhile (fun p : Param => p.kind.isNode)).all (fun p : Param => p.kind.isNode) = true :=
    List.all_takeWhile
  unfold shapeOf Shape.params
  cases hd : ps.dropWhile (fun p : Param => p.kind.isNode) with
  | nil => rw [hd] at h1; exact ⟨by simpa using h1, hA, rfl, by simp, fun _ => rfl⟩
  | cons q rest =>
    rw [hd] at h1
    by_cases hk : q.kind = .keyword
    · have h2 := List.takeWhile_append_dropWhile (p := fun p : Param => p.kind.isNode) (l := rest)
      simp only [hk, beq_self_eq_true, ↓reduceIte]
      refine ⟨?_, hA, List.all_takeWhile, by simp [hk], by simp⟩
      rw [List.append_assoc, List.append_assoc, h2]
      simpa using h1
    · have : (q.kind == Kind.keyword) = false := by simp [hk]
      simp only [this, Bool.false_eq_true, ↓reduceIte]
      exact ⟨by simpa using h1, hA, by simp, by simp, by simp⟩

/-! ### the Boolean predicates of the line-level round trip, as conjunctions -/

theorem grammarWF_iff (g : Grammar) : grammarWF g = true ↔
    g.ok = true ∧ g.rules.all (ruleWF2 g.delimiters) = true ∧ defaultFirst g = true
    ∧ ((g.rules.map (·.type)).eraseDups.all (fun ty => kwDistinct (rulesOf g ty))) = true
    ∧ g.delimiters.contains '{' = false ∧ g.delimiters.contains '}' = false ∧ g.delimiters.contains '"' = false
    ∧ g.delimiters.contains '=' = false ∧ g.delimiters.contains '0' = false ∧ g.delimiters.contains ';' = false
    ∧ g.delimiters.contains ' ' = true ∧ g.comments.all (fun c => !c.isAlpha) = true := by
  simp only [grammarWF, Bool.and_eq_true, Bool.not_eq_true', and_assoc]

theorem ruleWF2_iff (ds : List Char) (r : Rule) : ruleWF2 ds r = true ↔
    (shapeOf r.params).C.all (·.kind.isArg) = true
    ∧ r.pos = (shapeOf r.params).k.map (fun _ => (shapeOf r.params).A.length)
    ∧ (∀ q, (shapeOf r.params).k = some q → plainTok ds q.name = true)
    ∧ r.type ≠ [] ∧ r.type.all Char.isAlpha = true ∧ r.type ≠ ['X','X'] := by
  simp only [ruleWF2, Bool.and_eq_true, Bool.not_eq_true', beq_iff_eq, bne_iff_ne, ne_eq, and_assoc,
    List.isEmpty_eq_false_iff]
  cases (shapeOf r.params).k <;> simp

/-- in a well-formed rule the parameter at `pos` is the keyword -/
theorem ruleWF2_pos_keyword {ds : List Char} {r : Rule} (h : ruleWF2 ds r = true) {p : Nat} {prm : Param}
    (hp : r.pos = some p) (hq : r.params[p]? = some prm) : prm.kind = .keyword := by
  obtain ⟨-, hpos, -⟩ := (ruleWF2_iff ds r).mp h
  obtain ⟨hshape, -, -, hkk, -⟩ := shapeOf_spec r.params
  generalize shapeOf r.params = sh at *
  obtain ⟨A, k, B, C⟩ := sh
  cases k with
  | none => simp [hp] at hpos
  | some kq =>
    simp only [Option.map_some, hp, Option.some.injEq] at hpos
    simp only [Shape.params] at hshape
    have : r.params[p]? = some kq := by rw [← hshape, hpos]; simp
    rw [hq] at this; cases this
    exact hkk prm rfl

theorem normalCpt_iff (g : Grammar) (r : Rule) (c : Cpt) : normalCpt g r c = true ↔
    c.classname = r.classname ∧ c.ctype = r.type ∧ c.name = r.type ++ c.cid
    ∧ nameOK g r.type c.cid = true
    ∧ c.nodes.length = nNodes r ∧ c.nodes.all (fun n => plainTok g.delimiters n && n.head? != some '.') = true
    ∧ c.kw = kwName r ∧ (r.pos.isNone || c.kwpos == r.pos) = true
    ∧ c.args.length = (shapeOf r.params).C.length
    ∧ c.args.all (fun a => match a with | some v => okValue g.delimiters v && lineChars g.delimiters v | none => true) = true
    ∧ trailingNoneOK (shapeOf r.params).C c.args = true
    ∧ ((shapeOf r.params).C.drop (((netTokens g c).drop 1).length
          - (nNodes r + (if (shapeOf r.params).k.isSome then 1 else 0)))).all (·.optional) = true
    ∧ (!fmtElided g.delimiters c.name c.args || ((shapeOf r.params).C.head?.bind (·.default)) == some ['n','a','m','e']) = true
    ∧ selOK g r ((netTokens g c).drop 1) = true := by
  simp only [normalCpt, Bool.and_eq_true, beq_iff_eq, and_assoc]
  exact Iff.rfl

/-- an anonymous component (no id; type `A`, `W`, `O` or `P`) is in normal form for no rule -/
theorem normalCpt_anon (g : Grammar) (r : Rule) (c : Cpt)
    (h : (c.cid.isEmpty && (c.ctype == ['A'] || c.ctype == ['W'] || c.ctype == ['O'] || c.ctype == ['P'])) = true) :
    normalCpt g r c = false := by
  cases hn : normalCpt g r c with
  | false => rfl
  | true =>
    obtain ⟨-, hty, -, hname, -⟩ := (normalCpt_iff g r c).mp hn
    rw [← hty] at hname
    simp [nameOK, h] at hname

/-! ### joined tokens -/

theorem joinWith_mem (sep : Str) (ts : List Str) (c : Char) (h : c ∈ joinWith sep ts) : c ∈ sep ∨ ∃ t ∈ ts, c ∈ t := by
  induction ts with
  | nil => simp [joinWith] at h
  | cons t ts ih =>
    cases ts with
    | nil => simp only [joinWith] at h; exact Or.inr ⟨t, by simp, h⟩
    | cons u us =>
      simp only [joinWith, List.mem_append] at h
      rcases h with (h | h) | h
      · exact Or.inr ⟨t, by simp, h⟩
      · exact Or.inl h
      · rcases ih h with h | ⟨x, hx, hc⟩
        · exact Or.inl h
        · exact Or.inr ⟨x, by simp [hx], hc⟩

theorem joinWith_head (sep : Str) (t : Str) (ts : List Str) (ht : t ≠ []) : (joinWith sep (t :: ts)).head? = t.head? := by
  cases ts with
  | nil => rfl
  | cons u us => cases t with | nil => exact absurd rfl ht | cons a b => rfl

theorem joinWith_getLast (sep : Str) (ts : List Str) (hts : ts ≠ []) (hne : ∀ t ∈ ts, t ≠ []) :
    (joinWith sep ts).getLast? = (ts.getLast hts).getLast? := by
  induction ts with
  | nil => exact absurd rfl hts
  | cons t ts ih =>
    cases ts with
    | nil => rfl
    | cons u us =>
      have hj : joinWith sep (u :: us) ≠ [] := by
        have hu := hne u (by simp)
        cases us with
        | nil => simpa [joinWith] using hu
        | cons v vs => simp [joinWith, hu]
      simp only [joinWith]
      have ih' := ih (by simp) (fun x hx => hne x (by simp [hx]))
      cases hl : (joinWith sep (u :: us)).getLast? with
      | none => exact absurd (List.getLast?_eq_none_iff.mp hl) hj
      | some z =>
        rw [hl] at ih'
        simp [List.getLast?_append, hl, ← ih']

/-- joined parts that are non-empty and have no white space at either end: `strip` changes nothing -/
theorem strip_joinWith (sep : Str) (ts : List Str) (hts : ts ≠ [])
    (h : ∀ t ∈ ts, t ≠ [] ∧ (∀ c, t.head? = some c → isWs c = false) ∧ (∀ c, t.getLast? = some c → isWs c = false)) :
    strip (joinWith sep ts) = joinWith sep ts := by
  apply strip_id
  · obtain ⟨t0, rest, rfl⟩ := List.exists_cons_of_ne_nil hts
    intro c hc
    rw [joinWith_head _ _ _ (h t0 (by simp)).1] at hc
    exact (h t0 (by simp)).2.1 c hc
  · intro c hc
    rw [joinWith_getLast sep ts hts (fun t ht => (h t ht).1)] at hc
    exact (h _ (List.getLast_mem _)).2.2 c hc

theorem isNode_not_isArg (k : Kind) (h : k.isNode = true) : k.isArg = false := by
  cases k <;> simp [Kind.isNode, Kind.isArg] at h ⊢

theorem isArg_not_isNode (k : Kind) (h : k.isArg = true) : k.isNode = false := by
  cases k <;> simp [Kind.isNode, Kind.isArg] at h ⊢

/-! ### Opts: the local `split` of `Opts.add` -/

theorem optsSplitAux_part (p : Str) (hp : ∀ c ∈ p, c ≠ ',' ∧ c ≠ '{' ∧ c ≠ '}') (rest cur : Str) (acc : List Str) :
    optsSplitAux (p ++ ',' :: rest) 0 cur acc = optsSplitAux rest 0 [] ((cur.reverse ++ p) :: acc) := by
  induction p generalizing cur with
  | nil => simp [optsSplitAux]
  | cons c t ih =>
    have hc := hp c (by simp)
    have h1 : (c == ',') = false := by simp [hc.1]
    have h2 : (c == '{') = false := by simp [hc.2.1]
    have h3 : (c == '}') = false := by simp [hc.2.2]
    simp only [List.cons_append, optsSplitAux, h1, Bool.false_and, Bool.false_eq_true, ↓reduceIte, h2, h3]
    rw [ih (fun d hd => hp d (by simp [hd]))]
    simp

theorem optsSplitAux_join (ps : List Str) (hne : ps ≠ []) (hps : ∀ p ∈ ps, ∀ c ∈ p, c ≠ ',' ∧ c ≠ '{' ∧ c ≠ '}')
    (cur : Str) (acc : List Str) :
    optsSplitAux (joinWith [',', ' '] ps ++ [',']) 0 cur acc
      = some (acc.reverse ++ (cur.reverse ++ ps.head hne) :: ps.tail.map (' ' :: ·)) := by
  induction ps generalizing cur acc with
  | nil => exact absurd rfl hne
  | cons p rest ih =>
    cases rest with
    | nil =>
      simp only [joinWith, List.head_cons, List.tail_cons, List.map_nil]
      rw [optsSplitAux_part p (hps p (by simp))]
      simp [optsSplitAux]
    | cons q rest' =>
      have e : joinWith [',', ' '] (p :: q :: rest') ++ [','] = p ++ ',' :: (' ' :: (joinWith [',', ' '] (q :: rest') ++ [','])) := by
        simp [joinWith]
      rw [e, optsSplitAux_part p (hps p (by simp))]
      have hstep : ∀ (x : Str) (a : List Str), optsSplitAux (' ' :: x) 0 [] a = optsSplitAux x 0 [' '] a := by
        intro x a; simp [optsSplitAux]
      rw [hstep, ih (by simp) (fun p' hp' => hps p' (by simp [hp']))]
      simp

theorem optsSplit_join (ps : List Str) (hne : ps ≠ []) (hps : ∀ p ∈ ps, ∀ c ∈ p, c ≠ ',' ∧ c ≠ '{' ∧ c ≠ '}') :
    optsSplit (joinWith [',', ' '] ps) = some (ps.head hne :: ps.tail.map (' ' :: ·)) := by
  unfold optsSplit
  rw [optsSplitAux_join ps hne hps]
  simp

/-! ### `str.split('=')` / `'='.join` -/

theorem splitOn_cons_sep (sep : Char) (a b : Str) (h : ∀ c ∈ a, c ≠ sep) :
    splitOn sep (a ++ sep :: b) = a :: splitOn sep b := by
  induction a with
  | nil => simp [splitOn]
  | cons c t ih =>
    have hc : (c == sep) = false := by simpa using h c (by simp)
    simp [splitOn, hc, ih (fun d hd => h d (by simp [hd]))]

theorem splitOn_ne_nil (sep : Char) (s : Str) : splitOn sep s ≠ [] := by
  induction s with
  | nil => simp [splitOn]
  | cons c t ih =>
    unfold splitOn
    split
    · simp
    · split <;> simp

theorem joinWith_splitOn (sep : Char) (s : Str) : joinWith [sep] (splitOn sep s) = s := by
  induction s with
  | nil => rfl
  | cons c t ih =>
    unfold splitOn
    by_cases hc : (c == sep) = true
    · simp only [hc, ↓reduceIte]
      have hsep : c = sep := by simpa using hc
      cases h : splitOn sep t with
      | nil => exact absurd h (splitOn_ne_nil sep t)
      | cons a r => rw [h] at ih; simp [joinWith, ih, hsep]
    · have hc' : (c == sep) = false := by simpa using hc
      simp only [hc', Bool.false_eq_true, ↓reduceIte]
      cases h : splitOn sep t with
      | nil => exact absurd h (splitOn_ne_nil sep t)
      | cons a r =>
        rw [h] at ih
        cases r with
        | nil => simp only [joinWith] at ih ⊢; rw [ih]
        | cons b r' => simp only [joinWith] at ih ⊢; rw [← ih]; simp


/-! ### Opts: one entry -/

theorem optKeyOK_spec (k : Str) (h : optKeyOK k = true) :
    k ≠ [] ∧ (∀ c ∈ k, isWs c = false ∧ c ≠ ',' ∧ c ≠ '=' ∧ c ≠ '{' ∧ c ≠ '}') ∧ k ≠ ['d','e','f'] := by
  unfold optKeyOK at h
  simp only [Bool.and_eq_true, Bool.not_eq_true', List.all_eq_true, bne_iff_ne, ne_eq] at h
  refine ⟨by intro e; subst e; simp at h, ?_, h.2⟩
  intro c hc
  have := h.1.2 c hc
  exact ⟨this.1.1.1.1, this.1.1.1.2, this.1.1.2, this.1.2, this.2⟩

theorem strip_key (k : Str) (h : optKeyOK k = true) : strip k = k := by
  obtain ⟨_, hc, _⟩ := optKeyOK_spec k h
  apply strip_id
  · intro c hh; exact (hc c (List.mem_of_mem_head? hh)).1
  · intro c hh; exact (hc c (List.mem_of_getLast? hh)).1

/-- the printed text of an entry of a normal table -/
def optTxt (p : Str × OptVal) : Str := (optFmt1 p.1 p.2).getD []

theorem optFmt1_normal (k : Str) (v : OptVal) (hv : optValOK v = true) : optFmt1 k v = some (optTxt (k, v)) := by
  cases v with
  | defs _ => simp [optValOK] at hv
  | s x => simp [optFmt1, optTxt]
  | b x => cases x <;> simp [optFmt1, optTxt]

/-- the text `Opts.format` writes after `key=` for a value of a normal table (for an empty one the key alone is written) -/
def optValTxt : OptVal → Str
  | .s x => x
  | .b true => ['T','r','u','e']
  | .b false => ['F','a','l','s','e']
  | .defs _ => []

theorem optTxt_eq (k : Str) (v : OptVal) (hv : optValOK v = true) :
    optTxt (k, v) = if (optValTxt v).isEmpty then k else k ++ ['='] ++ optValTxt v := by
  cases v with
  | defs _ => simp [optValOK] at hv
  | s x => simp [optTxt, optFmt1, optValTxt]
  | b x => cases x <;> simp [optTxt, optFmt1, optValTxt]

/-- what `optValOK` says of the printed value: none of `, { }`, no white space at either end, and `Opts.add`
    reads it as `v` -/
theorem optValTxt_spec (v : OptVal) (hv : optValOK v = true) :
    (∀ c ∈ optValTxt v, c ≠ ',' ∧ c ≠ '{' ∧ c ≠ '}')
    ∧ (∀ c, (optValTxt v).head? = some c → isWs c = false) ∧ (∀ c, (optValTxt v).getLast? = some c → isWs c = false)
    ∧ (if optValTxt v == ['t','r','u','e'] || optValTxt v == ['T','r','u','e'] then OptVal.b true
       else if optValTxt v == ['f','a','l','s','e'] || optValTxt v == ['F','a','l','s','e'] then OptVal.b false
       else OptVal.s (optValTxt v)) = v := by
  cases v with
  | defs _ => simp [optValOK] at hv
  | b x => cases x <;> simp [optValTxt, isWs]
  | s x =>
    simp only [optValOK, optStrOK, Bool.and_eq_true, List.all_eq_true, bne_iff_ne, ne_eq] at hv
    obtain ⟨⟨⟨⟨⟨⟨hc, hh⟩, hl⟩, ht1⟩, ht2⟩, hf1⟩, hf2⟩ := hv
    refine ⟨fun c hc' => by simpa [and_assoc] using hc c hc', fun c h => ?_, fun c h => ?_, by simp [optValTxt, ht1, ht2, hf1, hf2]⟩
    · have h' : x.head? = some c := h
      rw [h'] at hh; simpa using hh
    · have h' : x.getLast? = some c := h
      rw [h'] at hl; simpa using hl

theorem optTxt_ends (k : Str) (v : OptVal) (hk : optKeyOK k = true) (hv : optValOK v = true) :
    optTxt (k, v) ≠ [] ∧ (∀ c, (optTxt (k, v)).head? = some c → isWs c = false)
      ∧ (∀ c, (optTxt (k, v)).getLast? = some c → isWs c = false) := by
  obtain ⟨hkne, hkc, _⟩ := optKeyOK_spec k hk
  obtain ⟨-, -, hvl, -⟩ := optValTxt_spec v hv
  have hkh : ∀ c, k.head? = some c → isWs c = false := fun c hh => (hkc c (List.mem_of_mem_head? hh)).1
  rw [optTxt_eq k v hv]
  split
  · exact ⟨hkne, hkh, fun c hh => (hkc c (List.mem_of_getLast? hh)).1⟩
  · rename_i hx
    obtain ⟨a, t, rfl⟩ := List.exists_cons_of_ne_nil hkne
    obtain ⟨b, u, hb⟩ := List.exists_cons_of_ne_nil (l := optValTxt v) (by simpa using hx)
    refine ⟨by simp, fun c hh => hkh c (by simpa using hh), fun c hh => hvl c ?_⟩
    rw [List.getLast?_append, hb] at hh
    rw [hb]; simpa using hh

theorem optTxt_chars (k : Str) (v : OptVal) (hk : optKeyOK k = true) (hv : optValOK v = true) :
    ∀ c ∈ optTxt (k, v), c ≠ ',' ∧ c ≠ '{' ∧ c ≠ '}' := by
  obtain ⟨_, hkc, _⟩ := optKeyOK_spec k hk
  have hk' : ∀ c ∈ k, c ≠ ',' ∧ c ≠ '{' ∧ c ≠ '}' := fun c hc => ⟨(hkc c hc).2.1, (hkc c hc).2.2.2.1, (hkc c hc).2.2.2.2⟩
  intro c hc
  rw [optTxt_eq k v hv] at hc
  split at hc
  · exact hk' c hc
  · simp only [List.mem_append, List.mem_singleton] at hc
    rcases hc with (hc | rfl) | hc
    · exact hk' c hc
    · decide
    · exact (optValTxt_spec v hv).1 c hc

/-- `Opts.add` on one printed entry (possibly after the blank that follows a comma) -/
theorem optsAddPart_entry (acc : Opts) (k : Str) (v : OptVal) (txt : Str) (lead : Str)
    (hlead : lead = [] ∨ lead = [' ']) (hk : optKeyOK k = true) (hv : optValOK v = true)
    (htxt : optFmt1 k v = some txt) (hfresh : acc.any (fun p => p.1 == k) = false) :
    optsAddPart acc (lead ++ txt) = acc ++ [(k, v)] := by
  obtain ⟨hkne, hkc, hkdef⟩ := optKeyOK_spec k hk
  have hkeq : ∀ c ∈ k, c ≠ '=' := fun c hc => (hkc c hc).2.2.1
  have hset : ∀ a : OptVal, optsSet acc k a = acc ++ [(k, a)] := by
    intro a; simp [optsSet, hfresh]
  have hdef : (k == ['d','e','f']) = false := by simp [hkdef]
  -- the part is the printed text: it has no white space at either end
  obtain ⟨htne, hth, htl⟩ := optTxt_ends k v hk hv
  rw [optFmt1_normal k v hv, Option.some.injEq] at htxt
  rw [htxt] at htne hth htl
  have hpart : strip (lead ++ txt) = txt := by
    rcases hlead with rfl | rfl
    · exact strip_id _ hth htl
    · rw [show [' '] ++ txt = ' ' :: txt from rfl, strip_ws_cons ' ' _ (by decide), strip_id _ hth htl]
  have hne : txt.isEmpty = false := List.isEmpty_eq_false_iff.mpr htne
  obtain ⟨-, hvh, hvl, hread⟩ := optValTxt_spec v hv
  rw [optTxt_eq k v hv] at htxt
  unfold optsAddPart
  split at htxt
  · rename_i hx
    rw [List.isEmpty_iff.mp hx] at hread
    subst htxt
    simp [hpart, hne, splitOn_nosep '=' k hkeq, strip_key k hk, hdef, hset, ← hread]
  · have hsp : splitOn '=' txt = k :: splitOn '=' (optValTxt v) := by
      rw [← htxt]; simpa using splitOn_cons_sep '=' k (optValTxt v) hkeq
    have hlen : (splitOn '=' (optValTxt v)).length + 1 > 1 := by
      have := List.length_pos_iff.mpr (splitOn_ne_nil '=' (optValTxt v)); omega
    simp only [hpart, hne, Bool.false_eq_true, ↓reduceIte, hsp, List.headD_cons, strip_key k hk, List.length_cons, hlen,
      List.drop_succ_cons, List.drop_zero, joinWith_splitOn, strip_id _ hvh hvl, hdef, hread, hset]

theorem optsFormat_normal (o : Opts) (h : optsNormal o = true) :
    optsFormat o = some (joinWith [',', ' '] (o.map optTxt)) := by
  have key : ∀ o : Opts, optsNormal o = true → o.mapM optFmtEntry = some (o.map (fun p => [optTxt p])) := by
    intro o
    induction o with
    | nil => intro _; rfl
    | cons e rest ih =>
      intro hn
      obtain ⟨k, v⟩ := e
      simp only [optsNormal, Bool.and_eq_true] at hn
      have ih' := ih hn.2
      cases v with
      | defs _ => simp [optValOK] at hn
      | s x => simp [List.mapM_cons, ih', optTxt, optFmt1, optFmtEntry]
      | b x => cases x <;> simp [List.mapM_cons, ih', optTxt, optFmt1, optFmtEntry]
  unfold optsFormat
  rw [key o h]
  have : ∀ l : Opts, (l.map (fun p => [optTxt p])).flatten = l.map optTxt := by
    intro l
    induction l with
    | nil => rfl
    | cons e rest ih => simp [ih]
  simp [this]


theorem key_ne_of_fresh {rest : Opts} {k : Str} (h : rest.any (fun p => p.1 == k) = false) {p : Str × OptVal}
    (hp : p ∈ rest) : (k == p.1) = false := by
  have := List.any_eq_false.mp h p hp
  simp only [beq_iff_eq] at this
  simpa using fun e : k = p.1 => this e.symm

theorem optsNormal_fold (rest : Opts) (hn : optsNormal rest = true) (acc : Opts)
    (hdisj : ∀ p ∈ rest, acc.any (fun q => q.1 == p.1) = false) :
    (rest.map (fun p => ' ' :: optTxt p)).foldl optsAddPart acc = acc ++ rest := by
  induction rest generalizing acc with
  | nil => simp
  | cons e rest ih =>
    obtain ⟨k, v⟩ := e
    simp only [optsNormal, Bool.and_eq_true, Bool.not_eq_true'] at hn
    obtain ⟨⟨⟨hk, hv⟩, hfr⟩, hrest⟩ := hn
    have h1 := optsAddPart_entry acc k v (optTxt (k, v)) [' '] (Or.inr rfl) hk hv (optFmt1_normal k v hv) (hdisj (k, v) (by simp))
    simp only [List.map_cons, List.foldl_cons]
    rw [show ' ' :: optTxt (k, v) = [' '] ++ optTxt (k, v) from rfl, h1]
    rw [ih hrest (acc ++ [(k, v)])]
    · simp
    · intro p hp
      simp [hdisj p (by simp [hp]), key_ne_of_fresh hfr hp]

theorem optsNormal_mem (l : Opts) (h : optsNormal l = true) : ∀ p ∈ l, optKeyOK p.1 = true ∧ optValOK p.2 = true := by
  induction l with
  | nil => intro p hp; simp at hp
  | cons e l ih =>
    obtain ⟨k, v⟩ := e
    simp only [optsNormal, Bool.and_eq_true] at h
    intro p hp
    rcases List.mem_cons.mp hp with rfl | hp
    · exact ⟨h.1.1.1, h.1.1.2⟩
    · exact ih h.2 p hp

/-! ### argument lists: an absent value that is not the last one is written, and normalised, as `0` -/

theorem fmtArgs_cons₂ (ds : List Char) (x y : Option Str) (r : List (Option Str)) :
    fmtArgs ds (x :: y :: r) = argFormat ds (x.getD ['0']) :: fmtArgs ds (y :: r) := by
  cases x <;> simp [fmtArgs]

theorem normArgs_cons₂ (x y : Option Str) (r : List (Option Str)) :
    Spec.Netlist.normArgs (x :: y :: r) = some (x.getD ['0']) :: Spec.Netlist.normArgs (y :: r) := by
  cases x <;> simp [Spec.Netlist.normArgs]

theorem normArgs_eq_cons (y : Option Str) (r : List (Option Str)) : ∃ z zs, Spec.Netlist.normArgs (y :: r) = z :: zs := by
  cases y <;> cases r <;> simp [Spec.Netlist.normArgs]

end Lcapy.Parser
