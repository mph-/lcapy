/-
  Helper lemmas for C15 (nodal and mesh formulations): evaluation of linear forms, the
  per-component identity "KCL term = physical outflow", telescoping of potential differences, what
  `CircuitGraph.from_circuit` guarantees of an edge, the value of a mesh equation, and the example circuit
  `V1 1 0 6; R1 1 2 3; R2 2 0 5` that Props/C15.lean and NonVacuityC15.lean use.
-/
import Lcapy.Model.Formulations
import Lcapy.Proofs.MNA
import Mathlib.Tactic.Ring
import Mathlib.Tactic.FieldSimp
import Mathlib.Tactic.LinearCombination
import Mathlib.Algebra.Field.Basic
import Mathlib.Tactic.NormNum
namespace Lcapy.Formulations
open Lcapy.MNA Ix
variable {K : Type} [Field K]

set_option linter.unusedSimpArgs false
set_option linter.unnecessarySeqFocus false

theorem lsum_eq_sum (l : List K) : lsum l = l.sum := by
  induction l with
  | nil => rfl
  | cons h t ih => rw [lsum, List.sum_cons, ih]

/-! ### linear forms -/

theorem eval_zero (x : Ix → K) : (LinForm.zero : LinForm K).eval x = 0 := by
  simp [LinForm.zero, LinForm.eval, lsum]

theorem eval_add (x : Ix → K) (f g : LinForm K) : (f.add g).eval x = f.eval x + g.eval x := by
  simp [LinForm.add, LinForm.eval, lsum_append]; ring

theorem eval_sumForms (x : Ix → K) (l : List (LinForm K)) :
    (sumForms l).eval x = lsum (l.map (LinForm.eval x)) := by
  induction l with
  | nil => simp [sumForms, eval_zero, lsum]
  | cons h t ih =>
    simp only [sumForms, List.foldr_cons, List.map_cons, lsum] at *
    rw [eval_add, ih]

/-! ### which components the nodal formulation can express -/

/-- the formulation is defined for the component: a one-port R, Y, C, L, V, I with two
    different nodes; a resistor has a finite admittance 1/R (R ≠ 0: the code prints `zoo` for a 0-ohm resistor), an
    inductor has no mutual coupling and a finite admittance 1/(sL) -/
def OkCpt (kind : Kind) (s : K) : Cpt K → Prop
  | .R a b r => a ≠ b ∧ r ≠ 0
  | .Y a b _ => a ≠ b
  | .Cap a b _ _ => a ≠ b
  | .Ind a b _ l _ coup => a ≠ b ∧ coup = [] ∧ indZ kind s l ≠ 0
  | .V a b _ _ => a ≠ b
  | .I a b _ => a ≠ b
  | _ => False

theorem isV_eq (c : Cpt K) (h : isV c = true) : ∃ n1 n2 m v, c = .V n1 n2 m v := by
  cases c with
  | V n1 n2 m v => exact ⟨n1, n2, m, v, rfl⟩
  | _ => exact absurd h Bool.false_ne_true

theorem incident_iff (k : Nat) (c : Cpt K) (n1 n2 : Nat) (h : nodes2 c = some (n1, n2)) :
    incident k c = true ↔ (n1 = k ∨ n2 = k) := by
  simp [incident, h]

/-- a component that does not touch node `k` carries no current out of it -/
theorem outflow_not_incident (kind : Kind) (s : K) (x : Ix → K) (k : Nat) (c : Cpt K)
    (hok : OkCpt kind s c) (hinc : incident k c = false) : outflow kind s x k c = 0 := by
  cases c <;> simp [OkCpt] at hok <;> simp [incident, nodes2] at hinc <;>
    simp [outflow, twoTerm, hinc.1, hinc.2]

/-- the KCL term of a branch with relation `i = g·v + i0` is that current, leaving by the first node -/
theorem kclTerm_eval (kind : Kind) (s : K) (x : Ix → K) (k : Nat) (c : Cpt K) (n1 n2 : Nat) (g i0 : K)
    (hn : nodes2 c = some (n1, n2)) (hq : curEq kind s c = some (g, i0)) (hne : n1 ≠ n2) (hk : n1 = k ∨ n2 = k) :
    (kclTerm kind s k c).eval x = twoTerm n1 n2 k (g * vd x n1 n2 + (if isI c then -i0 else i0)) := by
  simp only [kclTerm, hn, hq, twoTerm, vd]
  rcases hk with rfl | rfl
  · simp [LinForm.eval, lsum, hne, Ne.symm hne]; ring
  · simp [LinForm.eval, lsum, hne, Ne.symm hne]; ring

theorem kclTerm_none (kind : Kind) (s : K) (k : Nat) (c : Cpt K) (hq : curEq kind s c = none) :
    kclTerm kind s k c = LinForm.zero := by
  rw [kclTerm, hq]; rcases nodes2 c with _ | ⟨_, _⟩ <;> rfl

/-- the defining relation of an inductor without mutual couplings, in impedance form -/
theorem ind_law_uncoupled (kind : Kind) (s : K) (x : Ix → K) (a b m : Nat) (l : K) (i0 : Option K)
    (hlaw : ∀ p ∈ laws kind s x (.Ind a b m l i0 []), p.2 = 0) :
    vd x a b = indZ kind s l * x (br m) - (match kind, i0 with | .ivp, some i0 => l * i0 | _, _ => 0) := by
  cases kind <;> cases i0 <;>
    simpa [mutualDrop, mutualIC, lsum, indZ, sub_eq_zero] using hlaw _ (List.mem_singleton_self _)

/-- KCL term = physical current leaving node `k` through the component -/
theorem kclTerm_patched (kind : Kind) (s : K) (x : Ix → K) (k : Nat) (c : Cpt K)
    (hok : OkCpt kind s c) (hv : isV c = false) (hinc : incident k c = true)
    (hlaw : ∀ p ∈ laws kind s x c, p.2 = 0) :
    (kclTerm kind s k c).eval x = outflow kind s x k c := by
  have hk := fun a b h => (incident_iff k c a b h).mp hinc
  cases c with
  | R a b r =>
    rw [kclTerm_eval kind s x k _ a b _ _ rfl rfl hok.1 (hk a b rfl)]
    simp [outflow, isI, div_eq_inv_mul]
  | Y a b y =>
    rw [kclTerm_eval kind s x k _ a b _ _ rfl rfl hok (hk a b rfl)]
    simp [outflow, isI]
  | I a b i =>
    rw [kclTerm_eval kind s x k _ a b _ _ rfl rfl hok (hk a b rfl)]
    simp [outflow, isI]
  | Cap a b cc v0 =>
    cases kind
    case time => rw [kclTerm_none _ _ _ _ rfl, eval_zero]; simp [outflow, capCurrent, twoTerm]
    all_goals
      rw [kclTerm_eval _ s x k _ a b _ _ rfl rfl hok (hk a b rfl)]
      cases v0 <;> simp [outflow, isI, capCurrent, sub_eq_add_neg]
  | Ind a b m l i0 coup =>
    obtain ⟨hab, rfl, hz⟩ := hok
    cases kind
    case dc => exact absurd rfl hz
    case time => exact absurd rfl hz
    all_goals
      rw [kclTerm_eval _ s x k _ a b _ _ rfl rfl hab (hk a b rfl), ind_law_uncoupled _ s x a b m l i0 hlaw]
      simp only [outflow, isI, Bool.false_eq_true, if_false]
      congr 1
      cases i0 <;> field_simp <;> ring
  | V a b m v => simp [isV] at hv
  | _ => simp [OkCpt] at hok

/-- sum of the outflows over the netlist = sum over the incident components -/
theorem kcl_sum_filter (kind : Kind) (s : K) (x : Ix → K) (k : Nat) (cs : List (Cpt K))
    (t : Cpt K → LinForm K)
    (h : ∀ c ∈ cs, (incident k c = true → (t c).eval x = outflow kind s x k c) ∧
                   (incident k c = false → outflow kind s x k c = 0)) :
    lsum (((cs.filter (incident k)).map t).map (LinForm.eval x)) = lsum (cs.map (outflow kind s x k)) := by
  induction cs with
  | nil => simp [lsum]
  | cons c rest ih =>
    have hc := h c (by simp)
    have ih' := ih (fun c' hc' => h c' (by simp [hc']))
    by_cases hi : incident k c = true
    · simp only [List.filter_cons, hi, if_true, List.map_cons, lsum]
      rw [hc.1 hi]
      simp only [List.map_map] at ih' ⊢
      rw [ih']
    · simp only [Bool.not_eq_true] at hi
      simp only [List.filter_cons, hi, List.map_cons, lsum, hc.2 hi, zero_add]
      simpa using ih'

/-! ### telescoping of potential differences along a walk -/

/-- sum of the potential rises `φ b − φ a` over the consecutive pairs of a walk that closes at `first` -/
theorem pairsFrom_telescope (φ : GNode → K) (first a : GNode) (t : List GNode) :
    lsum ((pairsFrom first (a :: t)).map (fun pq => φ pq.2 - φ pq.1)) = φ first - φ a := by
  induction t generalizing a with
  | nil => simp [pairsFrom, lsum]
  | cons b t ih => simp [pairsFrom, lsum, ih b]

/-- around any closed walk the rises of a potential sum to zero -/
theorem loopPairs_telescope (φ : GNode → K) (loop : List GNode) :
    lsum ((loopPairs loop).map (fun pq => φ pq.2 - φ pq.1)) = 0 := by
  cases loop with
  | nil => rfl
  | cons a t => rw [loopPairs, pairsFrom_telescope φ a a t, sub_self]

/-! ### the circuit graph -/

theorem mem_enum (cs : List (Cpt K)) (ic : Nat × Cpt K) (h : ic ∈ enum cs) : cs[ic.1]? = some ic.2 := by
  unfold enum at h
  obtain ⟨j, hj, hget⟩ := List.mem_iff_getElem.mp h
  simp only [List.getElem_zip, List.getElem_range] at hget
  subst hget
  simp only [List.length_zip, List.length_range, Nat.min_self] at hj
  simp [hj]

/-- what `CircuitGraph.from_circuit` guarantees of every edge: a component edge holds component number `i` of the
    netlist, starts at the component's first node and ends at its second node or at a dummy standing for it; a dummy
    wire joins a dummy to the node it stands for -/
def EdgeOK (cs : List (Cpt K)) (e : Edge K) : Prop :=
  match e.cpt with
  | some (i, c) => cs[i]? = some c ∧ ∃ n0 n1, nodes2 c = some (n0, n1) ∧ e.a = .real n0 ∧ (e.b = .real n1 ∨ ∃ d, e.b = .dummy d n1)
  | none => ∃ d n, e.a = .dummy d n ∧ e.b = .real n

theorem addCpt_ok (cs : List (Cpt K)) (st : List (Edge K) × Nat) (ic : Nat × Cpt K) (hic : cs[ic.1]? = some ic.2)
    (h : ∀ e ∈ st.1, EdgeOK cs e) : ∀ e ∈ (addCpt st ic).1, EdgeOK cs e := by
  intro e he
  unfold addCpt at he
  cases hn : nodes2 ic.2 with
  | none => rw [hn] at he; exact h e he
  | some n12 =>
    obtain ⟨n1, n2⟩ := n12
    rw [hn] at he
    simp only at he
    split_ifs at he
    · simp only [List.mem_append, List.mem_cons, List.mem_nil_iff, or_false] at he
      rcases he with he | rfl | rfl
      · exact h e he
      · exact ⟨hic, n1, n2, hn, rfl, Or.inr ⟨_, rfl⟩⟩
      · exact ⟨_, _, rfl, rfl⟩
    · simp only [List.mem_append, List.mem_cons, List.mem_nil_iff, or_false] at he
      rcases he with he | rfl
      · exact h e he
      · exact ⟨hic, n1, n2, hn, rfl, Or.inl rfl⟩

theorem foldl_addCpt_ok (cs : List (Cpt K)) (l : List (Nat × Cpt K)) (hl : ∀ ic ∈ l, cs[ic.1]? = some ic.2) :
    ∀ st : List (Edge K) × Nat, (∀ e ∈ st.1, EdgeOK cs e) → ∀ e ∈ (l.foldl addCpt st).1, EdgeOK cs e := by
  induction l with
  | nil => intro st h; simpa using h
  | cons ic rest ih =>
    intro st h
    simp only [List.foldl_cons]
    exact ih (fun ic' h' => hl ic' (by simp [h'])) _ (addCpt_ok cs st ic (hl ic (by simp)) h)

/-- every edge of the graph built from the netlist is well formed -/
theorem buildGraph_ok (cs : List (Cpt K)) : ∀ e ∈ buildGraph cs, EdgeOK cs e := by
  unfold buildGraph
  apply foldl_addCpt_ok cs (enum cs)
  · intro ic hic; exact mem_enum cs ic hic
  · intro e he; simp at he

theorem joins_iff (e : Edge K) (p q : GNode) :
    e.joins p q = true ↔ (e.a = p ∧ e.b = q) ∨ (e.a = q ∧ e.b = p) := by
  simp [Edge.joins]

/-! ### mesh forms -/

theorem meshEval_scale (im : Nat → K) (z c0 : K) (l : List (Nat × K)) :
    (⟨scaleCoeffs z l, c0⟩ : MeshForm K).eval im = z * lsum (l.map (fun p => p.2 * im p.1)) + c0 := by
  simp only [MeshForm.eval]
  congr 1
  induction l with
  | nil => simp [scaleCoeffs, lsum]
  | cons h t ih =>
    simp only [scaleCoeffs, List.map_cons, lsum] at *
    rw [ih]; ring

theorem meshEval_add (im : Nat → K) (f g : MeshForm K) : (f.add g).eval im = f.eval im + g.eval im := by
  simp [MeshForm.add, MeshForm.eval, lsum_append]; ring

theorem meshEval_neg (im : Nat → K) (V : MeshForm K) :
    (⟨scaleCoeffs (-1) V.coeffs, -V.const⟩ : MeshForm K).eval im = -V.eval im := by
  rw [meshEval_scale]
  simp only [MeshForm.eval]
  ring

/-- the mesh formulation is defined for the component (an impedance exists) -/
def MeshOk (kind : Kind) (s : K) : Cpt K → Prop
  | .R a b r => a ≠ b ∧ r ≠ 0
  | .Y a b y => a ≠ b ∧ y ≠ 0
  | .Cap a b c _ => a ≠ b ∧ s * c ≠ 0 ∧ (kind = .lap ∨ kind = .ivp)
  | .Ind a b _ _ _ coup => a ≠ b ∧ coup = [] ∧ kind ≠ .time
  | .V a b _ _ => a ≠ b
  | _ => False

/-- current through a passive component from its first to its second node, by the spec -/
def through (kind : Kind) (s : K) (x : Ix → K) : Cpt K → K
  | .R a b r => vd x a b / r
  | .Y a b y => y * vd x a b
  | .Cap a b c v0 => capCurrent kind s c v0 (vd x a b)
  | .Ind _ _ m _ _ _ => x (.br m)
  | _ => 0

/-- the code's `current` for a component: signed sum of the mesh currents it finds -/
def meshCurrent (patched : Bool) (g : List (Edge K)) (loops : List (List GNode)) (idx : Nat) (c : Cpt K)
    (im : Nat → K) : K :=
  match nodes2 c with
  | some (n0, n1) =>
    lsum ((accCoeffs (K := K) (if patched then accEdge g loops idx n0 else accNames loops n0 n1)).map
      (fun p => p.2 * im p.1))
  | none => 0

theorem meshOk_nodes (kind : Kind) (s : K) (c : Cpt K) (h : MeshOk kind s c) :
    isI c = false ∧ ∃ n0 n1, nodes2 c = some (n0, n1) ∧ n0 ≠ n1 := by
  cases c with
  | R a b _ => exact ⟨rfl, a, b, rfl, h.1⟩
  | Y a b _ => exact ⟨rfl, a, b, rfl, h.1⟩
  | Cap a b _ _ => exact ⟨rfl, a, b, rfl, h.1⟩
  | Ind a b _ _ _ _ => exact ⟨rfl, a, b, rfl, h.1⟩
  | V a b _ _ => exact ⟨rfl, a, b, rfl, h⟩
  | _ => exact h.elim

theorem meshOk_volEq (kind : Kind) (s : K) (c : Cpt K) (h : MeshOk kind s c) :
    ∃ z v0, volEq kind s c = some (z, v0) ∧ (isV c = true → z = 0) := by
  cases c with
  | R a b r => exact ⟨_, _, rfl, nofun⟩
  | Y a b y => exact ⟨_, _, rfl, nofun⟩
  | Cap a b cc v0 => rcases h.2.2 with rfl | rfl <;> exact ⟨_, _, rfl, nofun⟩
  | Ind a b m l i0 coup =>
    cases kind with
    | time => exact absurd rfl h.2.2
    | _ => exact ⟨_, _, rfl, nofun⟩
  | V a b m v => exact ⟨0, v, rfl, fun _ => rfl⟩
  | _ => exact h.elim

/-- branch relation in impedance form: z·J + v0 = V(n0) − V(n1)  (a voltage source has z = 0) -/
theorem volEq_law (kind : Kind) (s : K) (x : Ix → K) (c : Cpt K) (hok : MeshOk kind s c)
    (hlaw : ∀ p ∈ laws kind s x c, p.2 = 0) (n0 n1 : Nat) (hn : nodes2 c = some (n0, n1)) (z v0 : K)
    (hvol : volEq kind s c = some (z, v0)) : z * through kind s x c + v0 = vd x n0 n1 := by
  cases c with
  | R a b r => cases hn; cases hvol; simp [through, mul_div_cancel₀ _ hok.2]
  | Y a b y => cases hn; cases hvol; simp [through, hok.2]
  | Cap a b cc iv =>
    cases hn
    obtain ⟨_, hsc, hk⟩ := hok
    have hs : s ≠ 0 := left_ne_zero_of_mul hsc
    have hcc : cc ≠ 0 := right_ne_zero_of_mul hsc
    rcases hk with rfl | rfl
    · cases hvol; simp [through, capCurrent]; field_simp
    · cases iv <;> cases hvol <;> simp [through, capCurrent] <;> field_simp <;> ring
  | Ind a b m l i0 coup =>
    cases hn
    obtain ⟨_, rfl, hk⟩ := hok
    have hJ := ind_law_uncoupled kind s x n0 n1 m l i0 hlaw
    cases kind with
    | time => exact absurd rfl hk
    | dc => cases hvol; simpa [through, indZ] using hJ.symm
    | lap => cases hvol; simpa [through, indZ] using hJ.symm
    | ivp => cases i0 <;> cases hvol <;> simpa [through, indZ, sub_eq_add_neg] using hJ.symm
  | V a b m v =>
    cases hn; cases hvol
    simpa [through] using (sub_eq_zero.mp (hlaw _ (List.mem_singleton_self _))).symm
  | _ => exact hok.elim

theorem find_joins (g : List (Edge K)) (p q : GNode) (h : hasEdge g p q = true) :
    ∃ e, g.find? (fun e => e.joins p q) = some e ∧ e ∈ g ∧ e.joins p q = true := by
  simp only [hasEdge, List.any_eq_true] at h
  obtain ⟨e0, he0, hj0⟩ := h
  cases hf : g.find? (fun e => e.joins p q) with
  | none =>
    rw [List.find?_eq_none] at hf
    exact absurd hj0 (hf e0 he0)
  | some e =>
    exact ⟨e, rfl, List.mem_of_find?_eq_some hf, by simpa using List.find?_some hf⟩

theorem component_some (g : List (Edge K)) (p q : GNode) (ic : Nat × Cpt K) (h : component g p q = some ic) :
    ∃ e, g.find? (fun e => e.joins p q) = some e ∧ e ∈ g ∧ e.joins p q = true ∧ e.cpt = some ic := by
  unfold component at h
  cases hf : g.find? (fun e => e.joins p q) with
  | none => rw [hf] at h; simp at h
  | some e =>
    rw [hf] at h
    exact ⟨e, rfl, List.mem_of_find?_eq_some hf, by simpa using List.find?_some hf, h⟩

/-- the rise of a potential `ψ` (the same on a dummy and on the node it stands for) over an adjacent pair, read off
    the edge that joins it: ± the rise over the component from its first to its second node, 0 over a dummy wire -/
theorem pair_rise (cs : List (Cpt K)) (g : List (Edge K)) (hg : ∀ e ∈ g, EdgeOK cs e) (ψ : GNode → K)
    (hψ : ∀ d n, ψ (.dummy d n) = ψ (.real n)) (a b : GNode) (hadj : hasEdge g a b = true) :
    ψ b - ψ a = match component g a b with
      | some (_, c) => (match nodes2 c with
        | some (n0, n1) => if a = .real n0 then ψ (.real n1) - ψ (.real n0) else -(ψ (.real n1) - ψ (.real n0))
        | none => 0)
      | none => 0 := by
  obtain ⟨e, hfind, hmem, hj⟩ := find_joins g a b hadj
  have hcomp : component g a b = e.cpt := by simp [component, hfind]
  have heok := hg e hmem
  rw [joins_iff] at hj
  rw [hcomp]
  cases hc : e.cpt with
  | none =>
    simp only [EdgeOK, hc] at heok
    obtain ⟨d, n, ha, hb⟩ := heok
    rcases hj with ⟨rfl, rfl⟩ | ⟨rfl, rfl⟩ <;> simp [ha, hb, hψ]
  | some ic =>
    obtain ⟨idx, c⟩ := ic
    simp only [EdgeOK, hc] at heok
    obtain ⟨_, n0, n1, hn, hea, heb⟩ := heok
    have hb : ψ e.b = ψ (.real n1) := by
      rcases heb with h | ⟨d, h⟩ <;> rw [h]
      exact hψ d n1
    simp only [hn]
    rcases hj with ⟨rfl, rfl⟩ | ⟨rfl, rfl⟩
    · rw [if_pos hea, hb, hea]
    · rw [hb, hea]
      split_ifs with h
      · rcases heb with h' | ⟨d, h'⟩ <;> rw [h'] at h <;> cases h
        ring
      · ring

/-- the form `_process_loop` writes for a pair joined by the edge of component `c` is the component's
    `voltage_equation(−current)`, negated when the pair counts as leaving the component's first node -/
theorem meshTerm_cpt (pe : Bool) (kind : Kind) (s : K) (g : List (Edge K)) (loops : List (List GNode)) (im : Nat → K)
    (ab : GNode × GNode) (idx : Nat) (c : Cpt K) (n0 n1 : Nat) (z v0 : K)
    (hcomp : component g ab.1 ab.2 = some (idx, c)) (hI : isI c = false) (hn : nodes2 c = some (n0, n1))
    (hvol : volEq kind s c = some (z, v0)) (hzV : isV c = true → z = 0)
    (t : MeshForm K) (ht : meshTerm pe kind s g loops ab = some t) :
    t.eval im = (if (if pe then ab.1 == .real n0 else (ab.1 == .real n0 && ab.2 == .real n1)) then -1 else 1) *
      (v0 - z * meshCurrent pe g loops idx c im) := by
  simp only [meshTerm, hcomp, hn, hvol, hI, Bool.false_eq_true, if_false, Option.some.injEq] at ht
  subst ht
  have hV : (if isV c then (⟨[], v0⟩ : MeshForm K) else
      ⟨scaleCoeffs (-z) (accCoeffs (if pe then accEdge g loops idx n0 else accNames loops n0 n1)), v0⟩).eval im
      = v0 - z * meshCurrent pe g loops idx c im := by
    simp only [meshCurrent, hn]
    cases hv : isV c
    · simp only [Bool.false_eq_true, if_false]; rw [meshEval_scale]; ring
    · rw [hzV hv]; simp [MeshForm.eval, lsum]
  generalize (if isV c then (⟨[], v0⟩ : MeshForm K) else _) = V at hV ⊢
  cases (if pe then ab.1 == GNode.real n0 else (ab.1 == GNode.real n0 && ab.2 == GNode.real n1))
  · simpa using hV
  · rw [if_pos rfl, if_pos rfl, meshEval_neg, hV]; ring

/-- the contribution of one consecutive pair (a, b) of a loop to the KVL sum is the potential
    rise  φ(b) − φ(a)  once the mesh currents carry the component's actual current -/
theorem meshTerm_eval (pe : Bool) (kind : Kind) (s : K) (cs : List (Cpt K)) (g : List (Edge K))
    (hg : ∀ e ∈ g, EdgeOK cs e) (loops : List (List GNode)) (x : Ix → K) (im : Nat → K)
    (hlaws : Laws kind s cs x) (hok : ∀ c ∈ cs, MeshOk kind s c)
    (hpe : pe = false → ∀ e ∈ g, ∃ n, e.b = .real n)
    (ab : GNode × GNode) (hadj : hasEdge g ab.1 ab.2 = true)
    (hcons : ∀ idx c, component g ab.1 ab.2 = some (idx, c) → isV c = false →
        meshCurrent pe g loops idx c im = -(through kind s x c))
    (t : MeshForm K) (ht : meshTerm pe kind s g loops ab = some t) :
    t.eval im = gvolt x ab.2 - gvolt x ab.1 := by
  obtain ⟨a, b⟩ := ab
  simp only at hadj hcons ⊢
  rw [pair_rise cs g hg (gvolt x) (fun _ _ => rfl) a b hadj]
  cases hcomp : component g a b with
  | none =>
    simp only [meshTerm, hcomp, Option.some.injEq] at ht
    subst ht
    simp [MeshForm.eval, lsum]
  | some ic =>
    obtain ⟨idx, c⟩ := ic
    obtain ⟨e, _, hmem, hj, hc⟩ := component_some g a b _ hcomp
    have heok := hg e hmem
    simp only [EdgeOK, hc] at heok
    obtain ⟨hcs, n0, n1, hn, hea, heb⟩ := heok
    replace hcs := List.mem_of_getElem? hcs
    have hmok := hok c hcs
    obtain ⟨hI, n0', n1', hn', hne⟩ := meshOk_nodes kind s c hmok
    cases hn.symm.trans hn'
    obtain ⟨z, v0, hvol, hzV⟩ := meshOk_volEq kind s c hmok
    have hval : v0 - z * meshCurrent pe g loops idx c im = vd x n0 n1 := by
      rw [← volEq_law kind s x c hmok (hlaws.2 c hcs) n0 n1 hn z v0 hvol]
      cases hV : isV c
      · rw [hcons idx c hcomp hV]; ring
      · rw [hzV hV]; ring
    -- the pair counts as leaving the first node exactly when it starts there
    have hrev : (if pe then a == GNode.real n0 else (a == GNode.real n0 && b == GNode.real n1)) =
        decide (a = GNode.real n0) := by
      cases pe with
      | true => rfl
      | false =>
        obtain ⟨n, hn'⟩ := hpe rfl e hmem
        have hb : e.b = .real n1 := by
          rcases heb with h | ⟨d, h⟩
          · exact h
          · rw [h] at hn'; cases hn'
        rcases (joins_iff e a b).mp hj with ⟨rfl, rfl⟩ | ⟨rfl, rfl⟩ <;> simp [hea, hb, hne, Ne.symm hne]
    rw [meshTerm_cpt pe kind s g loops im (a, b) idx c n0 n1 z v0 hcomp hI hn hvol hzV t ht, hval, hrev]
    simp only [hn, gvolt, vd]
    by_cases h : a = GNode.real n0 <;> simp [h] <;> ring

/-- the whole KVL sum of a loop, when `r` is the value of every pair's term -/
theorem meshEq_eval (pe : Bool) (kind : Kind) (s : K) (g : List (Edge K)) (loops : List (List GNode))
    (im : Nat → K) (r : GNode × GNode → K) (ps : List (GNode × GNode))
    (hterm : ∀ ab ∈ ps, ∀ t, meshTerm pe kind s g loops ab = some t → t.eval im = r ab)
    (f : MeshForm K)
    (hf : ps.foldr (fun ab acc => match meshTerm pe kind s g loops ab, acc with
        | some t, some r => some (t.add r) | _, _ => none) (some ⟨[], 0⟩) = some f) :
    f.eval im = lsum (ps.map r) := by
  induction ps generalizing f with
  | nil =>
    simp only [List.foldr_nil, Option.some.injEq] at hf
    subst hf
    simp [MeshForm.eval, lsum]
  | cons ab rest ih =>
    simp only [List.foldr_cons] at hf
    cases h1 : meshTerm pe kind s g loops ab with
    | none => rw [h1] at hf; simp at hf
    | some t =>
      rw [h1] at hf
      cases h2 : rest.foldr (fun ab acc => match meshTerm pe kind s g loops ab, acc with
          | some t, some r => some (t.add r) | _, _ => none) (some ⟨[], 0⟩) with
      | none => rw [h2] at hf; simp at hf
      | some r' =>
        rw [h2] at hf
        simp only [Option.some.injEq] at hf
        subst hf
        rw [meshEval_add, hterm ab (by simp) t h1, ih (fun ab' h' => hterm ab' (by simp [h'])) r' h2]
        simp [lsum]

theorem adjacent_of_cycle (g : List (Edge K)) (loop : List GNode) (h : isSimpleCycle g loop = true) :
    ∀ ab ∈ loopPairs loop, hasEdge g ab.1 ab.2 = true := by
  simp only [isSimpleCycle, Bool.and_eq_true, List.all_eq_true, adjacent] at h
  exact h.1.2


/-- the KVL equation of a loop that passes `isSimpleCycle` holds at a solution of the laws that the mesh currents
    carry; with `pe = false` (components identified by node names) for a graph without dummy nodes -/
theorem meshEq_holds (pe : Bool) (kind : Kind) (s : K) (cs : List (Cpt K)) (x : Ix → K) (loops : List (List GNode))
    (im : Nat → K) (hdef : ∀ c ∈ cs, MeshOk kind s c) (hlaws : Laws kind s cs x) (loop : List GNode)
    (hcyc : isSimpleCycle (buildGraph cs) loop = true)
    (hpe : pe = false → ∀ e ∈ buildGraph cs, ∃ n, e.b = GNode.real n)
    (hcons : ∀ ab ∈ loopPairs loop, ∀ idx c, component (buildGraph cs) ab.1 ab.2 = some (idx, c) → isV c = false →
      meshCurrent pe (buildGraph cs) loops idx c im = -(through kind s x c))
    (f : MeshForm K) (hf : meshEq pe kind s (buildGraph cs) loops loop = some f) : f.eval im = 0 := by
  rw [meshEq_eval pe kind s (buildGraph cs) loops im (fun pq => gvolt x pq.2 - gvolt x pq.1) (loopPairs loop) ?_ f hf,
    loopPairs_telescope]
  intro ab hab t ht
  exact meshTerm_eval pe kind s cs (buildGraph cs) (buildGraph_ok cs) loops x im hlaws hdef hpe ab
    (adjacent_of_cycle _ loop hcyc ab hab) (hcons ab hab) t ht

/-! ### a concrete circuit for the non-vacuity examples: V1 1 0 6; R1 1 2 3; R2 2 0 5, loop 0-1-2 -/

def exCkt : List (Cpt ℚ) := [.V 1 0 0 6, .R 1 2 3, .R 2 0 5]
def exSol : Ix → ℚ := fun i => match i with | node 1 => 6 | node 2 => 15/4 | br 0 => -3/4 | _ => 0
def exLoop : List GNode := [.real 0, .real 1, .real 2]

theorem exLoop_cycle : isSimpleCycle (buildGraph exCkt) exLoop = true := by decide

/-- the mesh current 3/4 carries `exSol` through both resistors, whichever way the components are identified -/
theorem exCurrents (pe : Bool) : ∀ ab ∈ loopPairs exLoop, ∀ idx c, component (buildGraph exCkt) ab.1 ab.2 = some (idx, c) →
    isV c = false → meshCurrent pe (buildGraph exCkt) [exLoop] idx c (fun _ => 3/4) = -(through .dc 0 exSol c) := by
  have h : (loopPairs exLoop).all (fun ab => match component (buildGraph exCkt) ab.1 ab.2 with
      | some (idx, c) =>
        isV c || decide (meshCurrent pe (buildGraph exCkt) [exLoop] idx c (fun _ => 3/4) = -(through .dc 0 exSol c))
      | none => true) = true := by cases pe <;> decide +kernel
  intro ab hab idx c hc hv
  have := List.all_eq_true.mp h ab hab
  rw [hc] at this
  simpa [hv] using this

theorem exNoPar : ∀ e ∈ buildGraph exCkt, ∃ n, e.b = GNode.real n := by
  have h : (buildGraph exCkt).all (fun e => match e.b with | .real _ => true | _ => false) = true := by decide
  intro e he
  have := List.all_eq_true.mp h e he
  cases hb : e.b with
  | real n => exact ⟨n, rfl⟩
  | dummy _ _ => rw [hb] at this; cases this

end Lcapy.Formulations
