/-
  Lemmas for the synthesis model (`Lcapy/Model/PolySynth.lean`): pattern realisations, Cauer ladders,
  Foster sums, the inverse continued fraction.
-/
import Lcapy.Model.PolySynth
import Lcapy.Proofs.Poly
import Lcapy.Proofs.PolyCF
namespace Lcapy.Synth
open Lcapy.Poly
variable {K : Type} [Field K]

/-- impedance of an optional network (`None` counts as 0 in series, and as an open circuit, admittance 0,
    in parallel: the two readings are kept apart by `ZserO` / `YparO`) -/
def ZserO (x : K) : Option (Net K) → K
  | none => 0
  | some n => n.Z x

def YparO (x : K) : Option (Net K) → K
  | none => 0
  | some n => 1 / n.Z x

theorem Z_serO (a b : Option (Net K)) (x : K) : ZserO x (serO a b) = ZserO x a + ZserO x b := by
  cases a <;> cases b <;> simp [serO, ZserO, Net.Z]

theorem Y_parO (a b : Option (Net K)) (x : K) : YparO x (parO a b) = YparO x a + YparO x b := by
  cases a <;> cases b <;> simp [parO, YparO, Net.Z]

theorem Z_optNet_R (o : Option K) (x : K) : ZserO x (optNet .R o) = o.getD 0 := by
  cases o <;> rfl
theorem Z_optNet_L (o : Option K) (x : K) : ZserO x (optNet .L o) = o.getD 0 * x := by
  cases o
  · exact (zero_mul x).symm
  · rfl
theorem Z_optNet_Cinv (o : Option K) (x : K) : ZserO x (optNet (fun a => .C (1 / a)) o) = o.getD 0 / x := by
  cases o
  · exact (zero_div x).symm
  · rename_i a; show 1 / (1 / a * x) = a / x; rw [one_div_mul_eq_div, one_div_div]
theorem Z_optNet_Ginv (o : Option K) (x : K) : ZserO x (optNet (fun a => .G (1 / a)) o) = o.getD 0 := by
  cases o
  · rfl
  · exact one_div_one_div _
theorem Y_optNet_Rinv (o : Option K) (x : K) : YparO x (optNet (fun a => .R (1 / a)) o) = o.getD 0 := by
  cases o
  · rfl
  · exact one_div_one_div _
theorem Y_optNet_Linv (o : Option K) (x : K) : YparO x (optNet (fun a => .L (1 / a)) o) = o.getD 0 / x := by
  cases o
  · exact (zero_div x).symm
  · rename_i a; show 1 / (1 / a * x) = a / x; rw [one_div_mul_eq_div, one_div_div]
theorem Y_optNet_C (o : Option K) (x : K) : YparO x (optNet .C o) = o.getD 0 * x := by
  cases o
  · exact (zero_mul x).symm
  · exact one_div_one_div _
theorem Y_optNet_G (o : Option K) (x : K) : YparO x (optNet .G o) = o.getD 0 := by
  cases o
  · rfl
  · exact one_div_one_div _

omit [Field K] in
theorem guard_eq_some {α : Type} {g : Bool} {a n : α} :
    (if g = true then none else some a) = some n ↔ g = false ∧ a = n := by
  cases g <;> simp

omit [Field K] in
theorem seriesRL_eq_some {d : Coll K} {n : Option (Net K)} :
    seriesRL d = some n ↔ (d.other = false ∧ d.cm = none) ∧ serO (optNet .R d.c0) (optNet .L d.cp) = n := by
  rw [seriesRL, guard_eq_some, Bool.or_eq_false_iff, Option.isSome_eq_false_iff, Option.isNone_iff_eq_none]

theorem seriesRC_eq_some {d : Coll K} {n : Option (Net K)} :
    seriesRC d = some n ↔
      (d.other = false ∧ d.cp = none) ∧ serO (optNet .R d.c0) (optNet (fun a => .C (1 / a)) d.cm) = n := by
  rw [seriesRC, guard_eq_some, Bool.or_eq_false_iff, Option.isSome_eq_false_iff, Option.isNone_iff_eq_none]

theorem seriesGC_eq_some {d : Coll K} {n : Option (Net K)} :
    seriesGC d = some n ↔ (d.other = false ∧ d.cp = none) ∧
      serO (optNet (fun a => .G (1 / a)) d.c0) (optNet (fun a => .C (1 / a)) d.cm) = n := by
  rw [seriesGC, guard_eq_some, Bool.or_eq_false_iff, Option.isSome_eq_false_iff, Option.isNone_iff_eq_none]

theorem seriesRLC_eq_some {d : Coll K} {n : Option (Net K)} :
    seriesRLC d = some n ↔
      d.other = false ∧ serO (serO (optNet .R d.c0) (optNet (fun a => .C (1 / a)) d.cm)) (optNet .L d.cp) = n := by
  rw [seriesRLC, guard_eq_some]

theorem parallelRL_eq_some {d : Coll K} {n : Option (Net K)} :
    parallelRL d = some n ↔ (d.other = false ∧ d.cp = none) ∧
      parO (optNet (fun a => .R (1 / a)) d.c0) (optNet (fun a => .L (1 / a)) d.cm) = n := by
  rw [parallelRL, guard_eq_some, Bool.or_eq_false_iff, Option.isSome_eq_false_iff, Option.isNone_iff_eq_none]

theorem parallelRC_eq_some {d : Coll K} {n : Option (Net K)} :
    parallelRC d = some n ↔
      (d.other = false ∧ d.cm = none) ∧ parO (optNet (fun a => .R (1 / a)) d.c0) (optNet .C d.cp) = n := by
  rw [parallelRC, guard_eq_some, Bool.or_eq_false_iff, Option.isSome_eq_false_iff, Option.isNone_iff_eq_none]

omit [Field K] in
theorem parallelGC_eq_some {d : Coll K} {n : Option (Net K)} :
    parallelGC d = some n ↔ (d.other = false ∧ d.cm = none) ∧ parO (optNet .G d.c0) (optNet .C d.cp) = n := by
  rw [parallelGC, guard_eq_some, Bool.or_eq_false_iff, Option.isSome_eq_false_iff, Option.isNone_iff_eq_none]

theorem parallelRLC_eq_some {d : Coll K} {n : Option (Net K)} :
    parallelRLC d = some n ↔ d.other = false ∧
      parO (parO (optNet (fun a => .R (1 / a)) d.c0) (optNet (fun a => .L (1 / a)) d.cm)) (optNet .C d.cp) = n := by
  rw [parallelRLC, guard_eq_some]

variable [DecidableEq K]

theorem seriesLC_eq_some {d : Coll K} {n : Option (Net K)} :
    seriesLC d = some n ↔
      (d.other = false ∧ d.c0.getD 0 = 0) ∧ serO (optNet (fun a => .C (1 / a)) d.cm) (optNet .L d.cp) = n := by
  rw [seriesLC, guard_eq_some, Bool.or_eq_false_iff, bne_eq_false_iff_eq]

theorem parallelLC_eq_some {d : Coll K} {n : Option (Net K)} :
    parallelLC d = some n ↔
      (d.other = false ∧ d.c0.getD 0 = 0) ∧ parO (optNet .C d.cp) (optNet (fun a => .L (1 / a)) d.cm) = n := by
  rw [parallelLC, guard_eq_some, Bool.or_eq_false_iff, bne_eq_false_iff_eq]

/-- a series-type pattern only accepts a dictionary without leftover keys, and realises the collected impedance -/
theorem series_forms_value (d : Coll K) (x : K) (net : Option (Net K)) :
    (seriesRL d = some net ∨ seriesRC d = some net ∨ seriesGC d = some net ∨ seriesLC d = some net ∨
      seriesRLC d = some net) → d.other = false ∧ ZserO x net = d.value x := by
  rintro (h | h | h | h | h)
  · obtain ⟨⟨ho, hc⟩, rfl⟩ := seriesRL_eq_some.1 h
    rw [Z_serO, Z_optNet_R, Z_optNet_L, Coll.value, hc, Option.getD_none, zero_div, add_zero]
    exact ⟨ho, rfl⟩
  · obtain ⟨⟨ho, hc⟩, rfl⟩ := seriesRC_eq_some.1 h
    rw [Z_serO, Z_optNet_R, Z_optNet_Cinv, Coll.value, hc, Option.getD_none, zero_mul, add_zero]
    exact ⟨ho, rfl⟩
  · obtain ⟨⟨ho, hc⟩, rfl⟩ := seriesGC_eq_some.1 h
    rw [Z_serO, Z_optNet_Ginv, Z_optNet_Cinv, Coll.value, hc, Option.getD_none, zero_mul, add_zero]
    exact ⟨ho, rfl⟩
  · obtain ⟨⟨ho, hc⟩, rfl⟩ := seriesLC_eq_some.1 h
    rw [Z_serO, Z_optNet_L, Z_optNet_Cinv, Coll.value, hc, zero_add, add_comm]
    exact ⟨ho, rfl⟩
  · obtain ⟨ho, rfl⟩ := seriesRLC_eq_some.1 h
    rw [Z_serO, Z_serO, Z_optNet_R, Z_optNet_L, Z_optNet_Cinv, Coll.value, add_right_comm]
    exact ⟨ho, rfl⟩

/-- a parallel-type pattern realises the collected ADMITTANCE -/
theorem parallel_forms_value (d : Coll K) (x : K) (net : Option (Net K)) :
    (parallelRL d = some net ∨ parallelRC d = some net ∨ parallelGC d = some net ∨ parallelLC d = some net ∨
      parallelRLC d = some net) → d.other = false ∧ YparO x net = d.value x := by
  rintro (h | h | h | h | h)
  · obtain ⟨⟨ho, hc⟩, rfl⟩ := parallelRL_eq_some.1 h
    rw [Y_parO, Y_optNet_Rinv, Y_optNet_Linv, Coll.value, hc, Option.getD_none, zero_mul, add_zero]
    exact ⟨ho, rfl⟩
  · obtain ⟨⟨ho, hc⟩, rfl⟩ := parallelRC_eq_some.1 h
    rw [Y_parO, Y_optNet_Rinv, Y_optNet_C, Coll.value, hc, Option.getD_none, zero_div, add_zero]
    exact ⟨ho, rfl⟩
  · obtain ⟨⟨ho, hc⟩, rfl⟩ := parallelGC_eq_some.1 h
    rw [Y_parO, Y_optNet_G, Y_optNet_C, Coll.value, hc, Option.getD_none, zero_div, add_zero]
    exact ⟨ho, rfl⟩
  · obtain ⟨⟨ho, hc⟩, rfl⟩ := parallelLC_eq_some.1 h
    rw [Y_parO, Y_optNet_C, Y_optNet_Linv, Coll.value, hc, zero_add]
    exact ⟨ho, rfl⟩
  · obtain ⟨ho, rfl⟩ := parallelRLC_eq_some.1 h
    rw [Y_parO, Y_parO, Y_optNet_Rinv, Y_optNet_Linv, Y_optNet_C, Coll.value, add_right_comm]
    exact ⟨ho, rfl⟩

omit [DecidableEq K] in
theorem monoColl_value (inv : Bool) (q : K) (k : Nat) (x : K) (h : (monoColl inv q k).other = false) :
    (monoColl inv q k).value x = monoVal inv q k x := by
  match k with
  | 0 => cases inv <;> simp [monoColl, Coll.value, monoVal, npow]
  | 1 => cases inv <;> simp [monoColl, Coll.value, monoVal, npow]
  | k + 2 => cases h

omit [DecidableEq K] in
theorem monoCollInv_value (inv : Bool) (q : K) (k : Nat) (x : K) (h : (monoCollInv inv q k).other = false) :
    (monoCollInv inv q k).value x = 1 / monoVal inv q k x := by
  match k with
  | 0 => cases inv <;> simp [monoCollInv, Coll.value, monoVal, npow]
  | 1 => cases inv <;> simp [monoCollInv, Coll.value, monoVal, npow, div_eq_mul_inv, mul_comm]
  | k + 2 => cases h

omit [DecidableEq K] in
theorem Y_of_Z (t : Option (Net K)) (x : K) : YparO x t = 1 / ZserO x t := by
  cases t
  · exact (div_zero 1).symm
  · rfl

omit [DecidableEq K] in
theorem Z_of_Y (t : Option (Net K)) (x : K) : ZserO x t = 1 / YparO x t := by
  cases t
  · exact (div_zero 1).symm
  · exact (one_div_one_div _).symm

omit [DecidableEq K] in
/-- a continued fraction is its first monomial plus `t`, the reciprocal of the rest (nothing if there is no rest) -/
theorem cfVal_cons (inv : Bool) (x q : K) (k : Nat) (rest : List (K × Nat)) (t : K)
    (h0 : rest = [] → t = 0) (h1 : rest ≠ [] → t = 1 / cfVal inv x rest) :
    cfVal inv x ((q, k) :: rest) = monoVal inv q k x + t := by
  cases rest with
  | nil => rw [h0 rfl, add_zero]; rfl
  | cons r rs => rw [h1 (List.cons_ne_nil _ _)]; rfl

/-- Cauer I ladder: at an even position the built network has IMPEDANCE `cfVal`, at an odd position
    ADMITTANCE `cfVal` -/
theorem cauerI_value (x : K) (cs : List (K × Nat)) (even : Bool) (net : Option (Net K))
    (h : cauerI even cs = some net) (hne : cs ≠ []) :
    (even = true → ZserO x net = cfVal false x cs) ∧ (even = false → YparO x net = cfVal false x cs) := by
  induction cs generalizing even net with
  | nil => exact absurd rfl hne
  | cons c rest ih =>
    obtain ⟨q, k⟩ := c
    rw [cauerI] at h
    cases ht : cauerI (!even) rest with
    | none => rw [ht] at h; cases h
    | some tail =>
      rw [ht] at h
      have h0 : rest = [] → tail = none := fun hr => by subst hr; exact (Option.some.inj ht).symm
      have ih := fun hr => ih (!even) tail ht hr
      cases even with
      | true =>
        refine ⟨fun _ => ?_, fun h0 => Bool.noConfusion h0⟩
        obtain ⟨s, hs, rfl⟩ := Option.map_eq_some_iff.1 h
        rw [Z_serO, add_comm, cfVal_cons false x q k rest (ZserO x tail) (fun hr => by rw [h0 hr]; rfl)
          (fun hr => by rw [Z_of_Y, (ih hr).2 rfl])]
        congr 1
        split at hs
        · rename_i hq; cases hs; rw [hq]; exact (zero_mul _).symm
        · obtain ⟨ho, hv⟩ := series_forms_value _ x s (Or.inl hs)
          rw [hv, monoColl_value _ _ _ _ ho]
      | false =>
        refine ⟨fun h0 => Bool.noConfusion h0, fun _ => ?_⟩
        obtain ⟨s, hs, rfl⟩ := Option.map_eq_some_iff.1 h
        rw [Y_parO, add_comm, cfVal_cons false x q k rest (YparO x tail) (fun hr => by rw [h0 hr]; rfl)
          (fun hr => by rw [Y_of_Z, (ih hr).1 rfl])]
        congr 1
        split at hs
        · cases hs
        · obtain ⟨ho, hv⟩ := parallel_forms_value _ x s (Or.inr (Or.inr (Or.inl hs)))
          rw [hv, monoColl_value _ _ _ _ ho]

omit [DecidableEq K] in
/-- series connection of sections adds impedances; parallel connection adds admittances -/
theorem Z_serAll (nets : List (Net K)) (x : K) : ZserO x (serAll nets) = (nets.map (fun n => n.Z x)).sum := by
  induction nets with
  | nil => rfl
  | cons n rest ih => rw [serAll, Z_serO, ih, List.map_cons, List.sum_cons]; rfl

omit [DecidableEq K] in
theorem Y_parAll (nets : List (Net K)) (x : K) : YparO x (parAll nets) = (nets.map (fun n => 1 / n.Z x)).sum := by
  induction nets with
  | nil => rfl
  | cons n rest ih => rw [parAll, Y_parO, ih, List.map_cons, List.sum_cons]; rfl

/-- Cauer II ladder (coefficients `q·x^(−k)` of the ADMITTANCE): at an even position the built network
    has admittance `cfVal`, at an odd position impedance `cfVal` -/
theorem cauerII_value (x : K) (cs : List (K × Nat)) (first even : Bool) (net : Option (Net K))
    (h : cauerII first even cs = some net) (hne : cs ≠ []) :
    (even = true → YparO x net = cfVal true x cs) ∧ (even = false → ZserO x net = cfVal true x cs) := by
  induction cs generalizing first even net with
  | nil => exact absurd rfl hne
  | cons c rest ih =>
    obtain ⟨q, k⟩ := c
    rw [cauerII] at h
    cases ht : cauerII false (!even) rest with
    | none => rw [ht] at h; cases h
    | some tail =>
      rw [ht] at h
      have h0 : rest = [] → tail = none := fun hr => by subst hr; exact (Option.some.inj ht).symm
      have ih := fun hr => ih false (!even) tail ht hr
      cases even with
      | true =>
        refine ⟨fun _ => ?_, fun h0 => Bool.noConfusion h0⟩
        rw [cfVal_cons true x q k rest (YparO x tail) (fun hr => by rw [h0 hr]; rfl)
          (fun hr => by rw [Y_of_Z, (ih hr).2 rfl])]
        simp only [if_true] at h
        split at h
        · rename_i hfq
          cases h
          rw [of_decide_eq_true (Bool.and_eq_true_iff.1 hfq).2, monoVal, if_pos rfl, zero_div, zero_add]
        · split at h
          · cases h
          · obtain ⟨s, hs, rfl⟩ := Option.map_eq_some_iff.1 h
            obtain ⟨ho, hv⟩ := series_forms_value _ x s (Or.inl hs)
            rw [Y_parO, add_comm, Y_of_Z s, hv, monoCollInv_value _ _ _ _ ho, one_div_one_div]
      | false =>
        refine ⟨fun h0 => Bool.noConfusion h0, fun _ => ?_⟩
        rw [cfVal_cons true x q k rest (ZserO x tail) (fun hr => by rw [h0 hr]; rfl)
          (fun hr => by rw [Z_of_Y, (ih hr).1 rfl])]
        simp only [Bool.false_eq_true, if_false] at h
        split at h
        · cases h
        · obtain ⟨s, hs, rfl⟩ := Option.map_eq_some_iff.1 h
          obtain ⟨ho, hv⟩ := parallel_forms_value _ x s (Or.inr (Or.inr (Or.inl hs)))
          rw [Z_serO, add_comm, Z_of_Y s, hv, monoCollInv_value _ _ _ _ ho, one_div_one_div]

/-! ### inverse continued fraction: `continued_fraction_inverse_coeffs` is the forward expansion in `1/var` -/
open Lcapy.Ratfun

/-- the swapping expansion is defined at `y`: no denominator met on the way vanishes there -/
def cfDefinedSwap : Nat → List K → List K → K → Bool
  | 0, _, _, _ => true
  | fuel + 1, N, D, y =>
    decide (Poly.eval D y ≠ 0) &&
    match cfStep N D with
    | none => decide (Poly.eval N y ≠ 0) && cfDefinedSwap fuel D N y
    | some (_, _, N2) => if isZero N2 then true else cfDefinedSwap fuel D N2 y

theorem cfRunSwap_ne_nil (fuel : Nat) (N D : List K) (cs : List (K × Nat)) (h : cfRunSwap fuel N D = .ok cs) :
    cs ≠ [] := by
  rintro rfl
  cases fuel with
  | zero => cases h
  | succ fuel =>
    rw [cfRunSwap] at h
    split at h
    · obtain ⟨_, _, h0⟩ := cons_ok h; cases h0
    · split at h
      · cases h
      · obtain ⟨_, _, h0⟩ := cons_ok h; cases h0

/-- value of the swapping expansion (in its own variable `y`) -/
theorem cfRunSwap_value (fuel : Nat) (N D : List K) (cs : List (K × Nat)) (y : K)
    (h : cfRunSwap fuel N D = .ok cs) (hdef : cfDefinedSwap fuel N D y = true) :
    cfVal false y cs = Poly.eval N y / Poly.eval D y := by
  induction fuel generalizing N D cs with
  | zero => cases h
  | succ fuel ih =>
    rw [cfRunSwap] at h
    rw [cfDefinedSwap, Bool.and_eq_true, decide_eq_true_eq] at hdef
    obtain ⟨hDy, hrest⟩ := hdef
    cases hs : cfStep N D with
    | none =>
      rw [hs] at h hrest
      obtain ⟨rest, hr, rfl⟩ := cons_ok h
      have hne := cfRunSwap_ne_nil fuel D N rest hr
      rw [cfVal_cons false y 0 0 rest _ (fun h0 => absurd h0 hne) (fun _ => rfl),
        ih D N rest hr (Bool.and_eq_true_iff.1 hrest).2, one_div_div, monoVal, if_neg Bool.false_ne_true,
        zero_mul, zero_add]
    | some v =>
      obtain ⟨q, k, N2⟩ := v
      rw [hs] at h hrest
      have hev := cfStep_eval hs (lc_ne_zero_of_eval hDy) y
      simp only at h hrest
      split at h
      · rename_i hz
        cases h
        rw [hev, eval_of_isZero hz, add_zero, mul_div_cancel_right₀ _ hDy, cfVal, monoVal, if_neg Bool.false_ne_true,
          npow_eq]
      · rename_i hz
        rw [if_neg hz] at hrest
        obtain ⟨rest, hr, rfl⟩ := cons_ok h
        have hne := cfRunSwap_ne_nil fuel D N2 rest hr
        rw [cfVal_cons false y q k rest _ (fun h0 => absurd h0 hne) (fun _ => rfl), ih D N2 rest hr hrest,
          one_div_div, hev, add_div, mul_div_cancel_right₀ _ hDy, monoVal, if_neg Bool.false_ne_true, npow_eq]

theorem cfRunSwap_of_cfRun {fuel : Nat} {N D : List K} {cs : List (K × Nat)} (h : cfRun fuel N D = .ok cs) :
    cfRunSwap fuel N D = .ok cs := by
  induction fuel generalizing N D cs with
  | zero => cases h
  | succ fuel ih =>
    rw [cfRun] at h
    rw [cfRunSwap]
    cases hs : cfStep N D with
    | none => rw [hs] at h; cases h
    | some v =>
      obtain ⟨q, k, N2⟩ := v
      rw [hs] at h
      simp only at h ⊢
      split
      · rename_i hz; rwa [if_pos hz] at h
      · rename_i hz
        rw [if_neg hz] at h
        obtain ⟨rest, hr, rfl⟩ := cons_ok h
        rw [ih hr]

theorem cfDefinedSwap_of_cfDefined {fuel : Nat} {N D : List K} {cs : List (K × Nat)} {x : K}
    (h : cfRun fuel N D = .ok cs) (hdef : cfDefined fuel N D x = true) : cfDefinedSwap fuel N D x = true := by
  induction fuel generalizing N D cs with
  | zero => rfl
  | succ fuel ih =>
    rw [cfRun] at h
    rw [cfDefined] at hdef
    rw [cfDefinedSwap]
    cases hs : cfStep N D with
    | none => rw [hs] at h; cases h
    | some v =>
      obtain ⟨q, k, N2⟩ := v
      rw [hs] at h hdef
      simp only at h hdef ⊢
      split
      · rename_i hz; rwa [if_pos hz] at hdef
      · rename_i hz
        rw [if_neg hz] at h hdef
        rw [Bool.and_eq_true] at hdef ⊢
        obtain ⟨rest, hr, -⟩ := cons_ok h
        exact ⟨hdef.1, ih hr hdef.2⟩

omit [DecidableEq K] in
/-- the expression `as_continued_fraction` builds and the ladder value `cfVal` are the same number -/
theorem cfExpr_eval (cs : List (K × Nat)) (env : Env K) : (cfExpr cs).eval env = cfVal false env.x cs := by
  induction cs with
  | nil => rfl
  | cons c rest ih =>
    obtain ⟨q, k⟩ := c
    cases rest with
    | nil => rfl
    | cons r rs => exact congrArg (fun t => q * npow env.x k + 1 / t) ih

theorem cfExpr_value (fuel : Nat) (N D : List K) (cs : List (K × Nat)) (env : Env K)
    (h : cfRun fuel N D = .ok cs) (hdef : cfDefined fuel N D env.x = true) :
    (cfExpr cs).eval env = Poly.eval N env.x / Poly.eval D env.x := by
  rw [cfExpr_eval, cfRunSwap_value fuel N D cs env.x (cfRunSwap_of_cfRun h) (cfDefinedSwap_of_cfDefined h hdef)]

omit [DecidableEq K] in
/-- reversing the coefficient list evaluates the polynomial at the reciprocal point -/
theorem eval_reverse (P : List K) (x y : K) (hxy : x * y = 1) :
    Poly.eval P.reverse y * x ^ (P.length - 1) = Poly.eval P x := by
  induction P with
  | nil => exact zero_mul _
  | cons a P ih =>
    rw [List.reverse_cons, eval_concat, List.length_reverse, add_mul, eval_cons, List.length_cons, Nat.add_sub_cancel]
    have hp : y ^ P.length * x ^ P.length = 1 := by rw [← mul_pow, mul_comm, hxy, one_pow]
    cases P with
    | nil => simp
    | cons b Q =>
      rw [List.length_cons, Nat.add_sub_cancel] at ih
      rw [List.length_cons] at hp ⊢
      linear_combination x * ih + a * hp

omit [DecidableEq K] in
theorem eval_revPad (P : List K) (m : Nat) (x y : K) (hxy : x * y = 1) (hl : P.length ≤ m) :
    Poly.eval (revPad P m) y * x ^ (m - 1) = Poly.eval P x := by
  have := eval_reverse (P ++ List.replicate (m - P.length) 0) x y hxy
  rwa [List.length_append, List.length_replicate, Nat.add_sub_cancel' hl, eval_append, eval_replicate_zero,
    mul_zero, add_zero] at this

omit [DecidableEq K] in
theorem cfVal_inv (x y : K) (hxy : x * y = 1) (cs : List (K × Nat)) : cfVal true x cs = cfVal false y cs := by
  have hm : ∀ q k, monoVal true q k x = monoVal false q k y := fun q k => by
    rw [monoVal, monoVal, if_pos rfl, if_neg Bool.false_ne_true, npow_eq, npow_eq, eq_inv_of_mul_eq_one_right hxy,
      inv_pow, div_eq_mul_inv]
  induction cs with
  | nil => rfl
  | cons c rest ih =>
    obtain ⟨q, k⟩ := c
    cases rest with
    | nil => exact hm q k
    | cons r rs =>
      show monoVal true q k x + 1 / cfVal true x (r :: rs) = monoVal false q k y + 1 / cfVal false y (r :: rs)
      rw [hm, ih]

/-- **value of the inverse continued fraction**: the coefficients `q·x^(−k)` of `cfiCoeffs N D` give back `N/D` -/
theorem cfi_value' (N D : List K) (cs : List (K × Nat)) (x : K) (hx : x ≠ 0)
    (h : cfiCoeffs N D = .ok cs)
    (hdef : cfDefinedSwap (2 * (max N.length D.length + max N.length D.length) + 3)
      (revPad N (max N.length D.length)) (revPad D (max N.length D.length)) (1 / x) = true) :
    cfVal true x cs = Poly.eval N x / Poly.eval D x := by
  have hxy : x * (1 / x) = 1 := mul_one_div_cancel hx
  rw [cfVal_inv x (1 / x) hxy, cfRunSwap_value _ _ _ cs (1 / x) h hdef,
    ← eval_revPad N _ x (1 / x) hxy (le_max_left _ _), ← eval_revPad D _ x (1 / x) hxy (le_max_right _ _),
    mul_div_mul_right _ _ (pow_ne_zero _ hx)]

end Lcapy.Synth
