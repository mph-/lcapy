/-
  C09: pointwise meaning of the operations with which `sem` (Model/Laplace.lean) builds formal signals, over ℂ with the true
  exponential: every smooth factor (`t^k`, `a t + b`, `e^{at}`, `sin/cos(ωt+φ)`, `sinh/cosh(at)`) acts on a delta-free signal
  as multiplication by the function it denotes (`applySmooth_pointwise`).  Together with `lt_is_integral` this makes the
  specification value of a product of smooth factors and a step the defining integral (`smooth_product_is_integral`).
-/
import Lcapy.Proofs.LaplaceIntegral
import Lcapy.Proofs.LaplaceEntries
namespace Lcapy.Laplace
open MeasureTheory Set

/-- delta-free with non-negative real delays -/
def Regular (f : ExpPoly ℂ) : Prop := NoDelta f ∧ RealDelays f

theorem regular_cons_iff (x : Term ℂ) (f : ExpPoly ℂ) : Regular (x :: f) ↔ Regular [x] ∧ Regular f := by
  simp only [Regular, NoDelta, RealDelays, List.mem_cons, forall_eq_or_imp, List.not_mem_nil, or_false, forall_eq]
  tauto

theorem regular_nil : Regular [] := ⟨fun _ h => by simp at h, fun _ h => by simp at h⟩

theorem regular_append {f g : ExpPoly ℂ} (hf : Regular f) (hg : Regular g) : Regular (f ++ g) :=
  ⟨fun t ht => (List.mem_append.mp ht).elim (hf.1 t) (hg.1 t), fun t ht => (List.mem_append.mp ht).elim (hf.2 t) (hg.2 t)⟩

theorem regular_ep_iff (c : ℂ) (k : ℕ) (p d : ℂ) : Regular [Term.ep c k p d] ↔ d.im = 0 ∧ 0 ≤ d.re := by
  simp [Regular, NoDelta, RealDelays, Term.delayOf]

theorem not_regular_dl (c : ℂ) (n : ℕ) (d : ℂ) : ¬ Regular [Term.dl c n d] := by
  simp [Regular, NoDelta]

/-- structural induction principle for flatMap-style operations on regular signals -/
theorem flatMap_pointwise (op : Term ℂ → ExpPoly ℂ) (m : ℝ → ℂ)
    (h : ∀ c k p d, d.im = 0 → 0 ≤ d.re → Regular (op (.ep c k p d)) ∧ ∀ t, timeFn (op (.ep c k p d)) t = m t * (Term.ep c k p d).timeFn t)
    (f : ExpPoly ℂ) (hf : Regular f) :
    Regular (f.flatMap op) ∧ ∀ t, timeFn (f.flatMap op) t = m t * timeFn f t := by
  induction f with
  | nil => exact ⟨by simpa using regular_nil, fun t => by simp [timeFn]⟩
  | cons x f ih =>
    rw [regular_cons_iff] at hf
    obtain ⟨r1, e1⟩ := ih hf.2
    cases x with
    | dl c n d => exact absurd hf.1 (not_regular_dl c n d)
    | ep c k p d =>
      obtain ⟨hd1, hd2⟩ := (regular_ep_iff c k p d).mp hf.1
      obtain ⟨r0, e0⟩ := h c k p d hd1 hd2
      refine ⟨by simpa [List.flatMap_cons] using regular_append r0 r1, fun t => ?_⟩
      rw [List.flatMap_cons, timeFn_append, timeFn_cons, e0, e1, mul_add]

theorem smul_pointwise (a : ℂ) (f : ExpPoly ℂ) (hf : Regular f) :
    Regular (smul a f) ∧ ∀ t, timeFn (smul a f) t = a * timeFn f t := by
  have : smul a f = f.flatMap (fun x => [Term.smul a x]) := List.map_eq_flatMap
  rw [this]
  refine flatMap_pointwise _ (fun _ => a) (fun c k p d hd1 hd2 => ⟨by simpa [Term.smul] using (regular_ep_iff _ k p d).mpr ⟨hd1, hd2⟩, fun t => ?_⟩) f hf
  simp only [Term.smul, timeFn_cons, timeFn_nil, add_zero, Term.timeFn]
  split_ifs <;> ring

theorem expWeight_pointwise (a : ℂ) (f : ExpPoly ℂ) (hf : Regular f) :
    Regular (expWeight Complex.exp a f) ∧ ∀ t, timeFn (expWeight Complex.exp a f) t = Complex.exp (a * t) * timeFn f t := by
  refine flatMap_pointwise _ (fun t => Complex.exp (a * t)) (fun c k p d hd1 hd2 => ⟨by simpa [Term.expWeight] using (regular_ep_iff _ k _ d).mpr ⟨hd1, hd2⟩, fun t => ?_⟩) f hf
  have hd : d = (d.re : ℂ) := by apply Complex.ext <;> simp [hd1]
  simp only [Term.expWeight, timeFn_cons, timeFn_nil, add_zero, Term.timeFn]
  split_ifs
  · have : Complex.exp (a * (t : ℂ)) = Complex.exp (a * d) * Complex.exp (a * ((t - d.re : ℝ) : ℂ)) := by
      rw [← Complex.exp_add]; congr 1; rw [hd]; push_cast; simp; ring
    rw [this, add_mul, Complex.exp_add]; ring
  · simp

theorem tmul_pointwise (f : ExpPoly ℂ) (hf : Regular f) :
    Regular (tmul f) ∧ ∀ t, timeFn (tmul f) t = (t : ℂ) * timeFn f t := by
  refine flatMap_pointwise _ (fun t => (t : ℂ)) (fun c k p d hd1 hd2 => ⟨?_, fun t => ?_⟩) f hf
  · simp only [Term.tmul]
    rw [regular_cons_iff]
    exact ⟨(regular_ep_iff _ _ p d).mpr ⟨hd1, hd2⟩, (regular_ep_iff _ k p d).mpr ⟨hd1, hd2⟩⟩
  · have hd : d = (d.re : ℂ) := by apply Complex.ext <;> simp [hd1]
    simp only [Term.tmul, timeFn_cons, timeFn_nil, add_zero, Term.timeFn, ofN_eq]
    have hk : ((k + 1).factorial : ℂ) = ((k : ℂ) + 1) * (k.factorial : ℂ) := by
      rw [Nat.factorial_succ]; push_cast; ring
    have hk0 : (k.factorial : ℂ) ≠ 0 := by exact_mod_cast k.factorial_ne_zero
    have hk1 : ((k : ℂ) + 1) ≠ 0 := by exact_mod_cast Nat.succ_ne_zero k
    split_ifs
    · rw [hk]
      have ht : (t : ℂ) = ((t - d.re : ℝ) : ℂ) + d := by rw [hd]; push_cast; simp
      rw [ht]; push_cast
      field_simp
      rw [hd]; simp; ring
    · simp

end Lcapy.Laplace

namespace Lcapy.Laplace
open MeasureTheory Set

/-- the function of real time that a smooth factor denotes -/
noncomputable def atomFn : Atom ℂ → ℝ → ℂ
  | .tpow k, t => (t : ℂ) ^ k
  | .lin a b, t => a * t + b
  | .exp a, t => Complex.exp (a * t)
  | .expb a b, t => Complex.exp (a * t + b)
  | .trig false w ph, t => Complex.sin (w * t + ph)
  | .trig true w ph, t => Complex.cos (w * t + ph)
  | .hyp false a, t => Complex.sinh (a * t)
  | .hyp true a, t => Complex.cosh (a * t)
  | _, _ => 1

theorem iter_tmul_pointwise (k : ℕ) (f : ExpPoly ℂ) (hf : Regular f) :
    Regular (iter tmul k f) ∧ ∀ t, timeFn (iter tmul k f) t = (t : ℂ) ^ k * timeFn f t := by
  induction k with
  | zero => exact ⟨hf, fun t => by simp [iter]⟩
  | succ k ih =>
    obtain ⟨r, e⟩ := tmul_pointwise _ ih.1
    exact ⟨r, fun t => by simp only [iter]; rw [e, ih.2]; ring⟩

/-- `P e^{at} + Q e^{bt}` times a regular signal: the shape of sin, cos, sinh, cosh -/
theorem pair_pointwise (P Q a b : ℂ) (f : ExpPoly ℂ) (hf : Regular f) :
    Regular (smul P (expWeight Complex.exp a f) ++ smul Q (expWeight Complex.exp b f)) ∧
    ∀ t, timeFn (smul P (expWeight Complex.exp a f) ++ smul Q (expWeight Complex.exp b f)) t
      = (P * Complex.exp (a * t) + Q * Complex.exp (b * t)) * timeFn f t := by
  obtain ⟨r1, e1⟩ := expWeight_pointwise a f hf
  obtain ⟨r2, e2⟩ := expWeight_pointwise b f hf
  obtain ⟨r3, e3⟩ := smul_pointwise P _ r1
  obtain ⟨r4, e4⟩ := smul_pointwise Q _ r2
  exact ⟨regular_append r3 r4, fun t => by rw [timeFn_append, e3, e4, e1, e2]; ring⟩

/-- every smooth factor acts on a regular signal as multiplication by the function it denotes -/
theorem applySmooth_pointwise (x : Atom ℂ) (f : ExpPoly ℂ) (hf : Regular f) :
    Regular (applySmooth Complex.exp Complex.I f x) ∧
    ∀ t, timeFn (applySmooth Complex.exp Complex.I f x) t = atomFn x t * timeFn f t := by
  have hI : Complex.I ≠ 0 := Complex.I_ne_zero
  cases x with
  | tpow k => exact iter_tmul_pointwise k f hf
  | lin a b =>
    obtain ⟨r1, e1⟩ := tmul_pointwise f hf
    obtain ⟨r2, e2⟩ := smul_pointwise a _ r1
    obtain ⟨r3, e3⟩ := smul_pointwise b f hf
    exact ⟨regular_append r2 r3, fun t => by simp only [applySmooth, atomFn, timeFn_append, e2, e1, e3]; ring⟩
  | exp a => exact expWeight_pointwise a f hf
  | expb a b =>
    obtain ⟨r1, e1⟩ := expWeight_pointwise a f hf
    obtain ⟨r2, e2⟩ := smul_pointwise (Complex.exp b) _ r1
    exact ⟨r2, fun t => by simp only [applySmooth, atomFn, e2, e1, Complex.exp_add]; ring⟩
  | trig isCos w ph =>
    have a1 (t : ℝ) : Complex.exp ((w * t + ph) * Complex.I) = Complex.exp (Complex.I * ph) * Complex.exp (Complex.I * w * t) := by
      rw [← Complex.exp_add]; congr 1; ring
    have a2 (t : ℝ) : Complex.exp (-(w * t + ph) * Complex.I) = Complex.exp (-(Complex.I * ph)) * Complex.exp (-(Complex.I * w) * t) := by
      rw [← Complex.exp_add]; congr 1; ring
    cases isCos
    · obtain ⟨r, e⟩ := pair_pointwise (Complex.exp (Complex.I * ph) / (2 * Complex.I))
        (-(Complex.exp (-(Complex.I * ph)) / (2 * Complex.I))) (Complex.I * w) (-(Complex.I * w)) f hf
      refine ⟨by simpa only [applySmooth, two_eq] using r, fun t => ?_⟩
      simp only [applySmooth, atomFn, two_eq, e, Complex.sin, a1, a2]
      field_simp
      ring_nf
      rw [Complex.I_sq]; ring
    · obtain ⟨r, e⟩ := pair_pointwise (Complex.exp (Complex.I * ph) / 2) (Complex.exp (-(Complex.I * ph)) / 2)
        (Complex.I * w) (-(Complex.I * w)) f hf
      refine ⟨by simpa only [applySmooth, two_eq] using r, fun t => ?_⟩
      simp only [applySmooth, atomFn, two_eq, e, Complex.cos, a1, a2]
      ring
  | hyp isCosh a =>
    cases isCosh
    · obtain ⟨r, e⟩ := pair_pointwise (1 / 2) (-(1 / 2)) a (-a) f hf
      refine ⟨by simpa only [applySmooth, two_eq] using r, fun t => ?_⟩
      simp only [applySmooth, atomFn, two_eq, e, Complex.sinh]
      rw [show -(a * (t : ℂ)) = -a * t by ring]; ring
    · obtain ⟨r, e⟩ := pair_pointwise (1 / 2) (1 / 2) a (-a) f hf
      refine ⟨by simpa only [applySmooth, two_eq] using r, fun t => ?_⟩
      simp only [applySmooth, atomFn, two_eq, e, Complex.cosh]
      rw [show -(a * (t : ℂ)) = -a * t by ring]; ring
  | step a b => exact ⟨hf, fun t => by simp [applySmooth, atomFn]⟩
  | delta n a b => exact ⟨hf, fun t => by simp [applySmooth, atomFn]⟩
  | fn g a b => exact ⟨hf, fun t => by simp [applySmooth, atomFn]⟩

/-- a product of smooth factors acts as the product of the functions they denote -/
theorem smooth_product_pointwise (sm : List (Atom ℂ)) (f : ExpPoly ℂ) (hf : Regular f) :
    Regular (sm.foldl (applySmooth Complex.exp Complex.I) f) ∧
    ∀ t, timeFn (sm.foldl (applySmooth Complex.exp Complex.I) f) t = (sm.map (fun x => atomFn x t)).prod * timeFn f t := by
  induction sm generalizing f with
  | nil => exact ⟨hf, fun t => by simp⟩
  | cons x sm ih =>
    obtain ⟨r, e⟩ := applySmooth_pointwise x f hf
    obtain ⟨r', e'⟩ := ih _ r
    exact ⟨r', fun t => by simp only [List.foldl_cons, List.map_cons, List.prod_cons]; rw [e', e]; ring⟩

theorem timeFn_step (c : ℂ) (tau : ℝ) (t : ℝ) : timeFn [Term.ep c 0 0 (tau : ℂ)] t = if tau ≤ t then c else 0 := by
  simp [timeFn, Term.timeFn]

/-- **The specification value is the defining integral** for every product of smooth factors switched on at `τ ≥ 0`
    (`c · Π gᵢ(t) · u(t−τ)`, `gᵢ` powers of `t`, affine factors, real/complex exponentials, sin/cos with phase, sinh/cosh):
    at every `s` right of all poles of the formal signal built by `semSimple`,
    `∫_0^∞ c Π gᵢ(t) u(t−τ) e^{−st} dt = L (sem …) (s)`. -/
theorem smooth_product_is_integral (sm : List (Atom ℂ)) (c : ℂ) (tau : ℝ) (htau : 0 ≤ tau) (s : ℂ)
    (hs : InROC (sm.foldl (applySmooth Complex.exp Complex.I) [Term.ep c 0 0 (tau : ℂ)]) s) :
    ∫ t : ℝ in Ioi (0:ℝ), ((sm.map (fun x => atomFn x t)).prod * (if tau ≤ t then c else 0)) * Complex.exp (-(s * t))
      = L Complex.exp (sm.foldl (applySmooth Complex.exp Complex.I) [Term.ep c 0 0 (tau : ℂ)]) s := by
  have hbase : Regular [Term.ep c 0 0 (tau : ℂ)] := (regular_ep_iff _ _ _ _).mpr ⟨by simp, by simpa using htau⟩
  obtain ⟨r, e⟩ := smooth_product_pointwise sm _ hbase
  rw [← (lt_is_integral _ s r.1 r.2 hs).2]
  congr 1
  funext t
  rw [e, timeFn_step]

end Lcapy.Laplace

/-! ### the `sin_cos` fast path of the code is the defining integral -/
namespace Lcapy.Laplace
open MeasureTheory Set
open scoped ComplexOrder
noncomputable section
attribute [local instance] Classical.propDecidable

/-- environment over ℂ with the true exponential and imaginary unit (no undefined functions) -/
def cenv (s : ℂ) : Env ℂ := { s := s, E := Complex.exp, J := Complex.I, xsig := ⟨[], []⟩, ysig := [], zic := true }

theorem isExp_cexp : IsExp Complex.exp := ⟨Complex.exp_add, Complex.exp_zero⟩

theorem sem_sin_cos (s c : ℂ) (al w ph tau : ℝ) (isCos : Bool) :
    sem (cenv s) (.prod c [.exp (al : ℂ), .trig isCos (w : ℂ) (ph : ℂ), .step 1 (-(tau : ℂ))])
      = some ([Atom.exp (al : ℂ), Atom.trig isCos (w : ℂ) (ph : ℂ)].foldl (applySmooth Complex.exp Complex.I)
          [Term.ep c 0 0 ((max tau 0 : ℝ) : ℂ)]) := by
  rw [sem, semProd_single _ _ _ rfl, semSimple_smooth2_step _ _ _ _ zero_le_one rfl rfl, mul_one]
  by_cases h : 0 ≤ tau
  · simp [h, cenv]
  · simp [h, cenv, max_eq_right (le_of_not_ge h)]

theorem roc_sin_cos (s c : ℂ) (al w ph : ℝ) (isCos : Bool) (d : ℂ) (h : al < s.re) :
    InROC ([Atom.exp (al : ℂ), Atom.trig isCos (w : ℂ) (ph : ℂ)].foldl (applySmooth Complex.exp Complex.I) [Term.ep c 0 0 d]) s := by
  cases isCos <;>
  · intro x hx
    simp [applySmooth, expWeight, Term.expWeight, smul, Term.smul] at hx
    rcases hx with rfl | rfl <;> simpa using h

/-- **the `sin_cos` fast path is the defining integral**: the value of the code's formula (`sinCosFormula`, the mirror of
    `LaplaceTransformer.sin_cos`, compared with the real code on every run) for `c·e^{αt}·sin/cos(ωt+φ)·u(t−τ)` equals
    `∫_0^∞ c e^{αt} sin/cos(ωt+φ) u(t − max(τ,0)) e^{−st} dt` for every `s` with `Re s > α`. -/
theorem sin_cos_is_integral (s c : ℂ) (al w ph tau : ℝ) (isCos : Bool) (h : al < s.re) :
    c * sinCosFormula (cenv s) (al : ℂ) isCos (w : ℂ) (ph : ℂ) (tau : ℂ)
      = ∫ t : ℝ in Ioi (0:ℝ), (Complex.exp (al * t) * ((if isCos then Complex.cos (w * t + ph) else Complex.sin (w * t + ph))
            * (if max tau 0 ≤ t then c else 0))) * Complex.exp (-(s * t)) := by
  have h01 : (0 : ℂ) ≤ 1 := zero_le_one
  have h1 : (cenv s).s - (al : ℂ) - (cenv s).J * (w : ℂ) ≠ 0 := by
    intro h0; have := congrArg Complex.re h0; simp [cenv] at this; linarith
  have h2 : (cenv s).s - (al : ℂ) + (cenv s).J * (w : ℂ) ≠ 0 := by
    intro h0; have := congrArg Complex.re h0; simp [cenv] at this; linarith
  have e1 := sin_cos_entry_gen (cenv s) isExp_cexp (by simp [cenv]) h01 two_ne_zero c (al : ℂ) (w : ℂ) (ph : ℂ) (tau : ℂ) isCos h1 h2
  rw [specValue, sem_sin_cos] at e1
  simp only [Option.map_some, Option.some.injEq] at e1
  rw [← e1]
  have key := smooth_product_is_integral [Atom.exp (al : ℂ), Atom.trig isCos (w : ℂ) (ph : ℂ)] c (max tau 0) (le_max_right _ _) s
    (roc_sin_cos s c al w ph isCos _ h)
  rw [show (cenv s).E = Complex.exp from rfl, show (cenv s).s = s from rfl, ← key]
  congr 1
  funext t
  cases isCos <;> simp [atomFn, mul_assoc]

end
end Lcapy.Laplace
