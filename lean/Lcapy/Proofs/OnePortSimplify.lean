/-
  Helper lemmas for C07: every `_combine` rule preserves the relation of the pair.
-/
import Lcapy.Proofs.OnePort
namespace Lcapy.OnePort
set_option linter.unusedSectionVars false
variable {K : Type} [Field K] [DecidableEq K]

/-- side conditions of the rules that divide: the combined value exists (the code would produce
    `zoo`/`nan` otherwise) and reactive elements are evaluated away from s = 0 -/
def combGuard (s : K) : Op → Leaf K → Leaf K → Prop
  | .ser, .G g1, .G g2 => g1 ≠ 0 ∧ g2 ≠ 0 ∧ g1 + g2 ≠ 0
  | .ser, .C c1 _, .C c2 _ => s ≠ 0 ∧ c1 ≠ 0 ∧ c2 ≠ 0 ∧ c1 + c2 ≠ 0
  | .par, .R r1, .R r2 => r1 ≠ 0 ∧ r2 ≠ 0 ∧ r1 + r2 ≠ 0
  | .par, .L l1 _, .L l2 _ => s ≠ 0 ∧ l1 ≠ 0 ∧ l2 ≠ 0 ∧ l1 + l2 ≠ 0
  | _, _, _ => True

theorem optEq_ic (a b : Option K) (h : optEq a b = true) : ic a = ic b := by
  cases a <;> cases b <;> simp_all [optEq, ic]

theorem icSum_ic (a b : Option K) : ic (icSum a b) = ic a + ic b := by
  cases a <;> cases b <;> simp [icSum, ic]

/-- the relation of a two-element Ser / Par -/
def pairRel (s : K) (op : Op) (a b : Leaf K) : K → K → Prop :=
  match op with
  | .ser => SerRel (a.rel s) (b.rel s)
  | .par => ParRel (a.rel s) (b.rel s)

theorem pairRel_mk (s : K) (op : Op) (a b : Leaf K) (v i : K) :
    (mk op [.leaf a, .leaf b]).rel s v i ↔ pairRel s op a b v i := by
  cases op
  · exact SerRel_congr (REq.refl _) (SerRel_zero_right _) v i
  · exact ParRel_congr (REq.refl _) (ParRel_zero_right _) v i

theorem isVzero_rel (s : K) (l : Leaf K) (h : l.isVzero = true) (v i : K) : l.rel s v i ↔ v = 0 := by
  unfold Leaf.isVzero at h; split at h <;> simp_all [Leaf.rel]
theorem isRZzero_rel (s : K) (l : Leaf K) (h : l.isRZzero = true) (v i : K) : l.rel s v i ↔ v = 0 := by
  unfold Leaf.isRZzero at h; split at h <;> simp_all [Leaf.rel, relR]
theorem isIzero_rel (s : K) (l : Leaf K) (h : l.isIzero = true) (v i : K) : l.rel s v i ↔ i = 0 := by
  unfold Leaf.isIzero at h; split at h <;> simp_all [Leaf.rel]
theorem isYGzero_rel (s : K) (l : Leaf K) (h : l.isYGzero = true) (v i : K) : l.rel s v i ↔ i = 0 := by
  unfold Leaf.isYGzero at h; split at h <;> simp_all [Leaf.rel]

theorem ser_zero_right (s : K) (a b : Leaf K) (h : ∀ v i, b.rel s v i ↔ v = 0) : REq (pairRel s .ser a b) (a.rel s) :=
  (SerRel_congr (REq.refl _) h).trans (SerRel_zero_right _)
theorem ser_zero_left (s : K) (a b : Leaf K) (h : ∀ v i, a.rel s v i ↔ v = 0) : REq (pairRel s .ser a b) (b.rel s) :=
  (SerRel_comm _ _).trans (ser_zero_right s b a h)
theorem par_zero_right (s : K) (a b : Leaf K) (h : ∀ v i, b.rel s v i ↔ i = 0) : REq (pairRel s .par a b) (a.rel s) :=
  (ParRel_congr (REq.refl _) h).trans (ParRel_zero_right _)
theorem par_zero_left (s : K) (a b : Leaf K) (h : ∀ v i, a.rel s v i ↔ i = 0) : REq (pairRel s .par a b) (b.rel s) :=
  (ParRel_comm _ _).trans (par_zero_right s b a h)

theorem combineDiff_sound (s : K) (op : Op) (a b y : Leaf K) (h : combineDiff op a b = .one y) (v i : K) :
    pairRel s op a b v i ↔ y.rel s v i := by
  cases op <;> simp only [combineDiff] at h <;> split_ifs at h with h1 h2 h3 h4 <;> cases h
  exacts [ser_zero_left s a b (isVzero_rel s a h1) v i, ser_zero_right s a b (isVzero_rel s b h2) v i,
    ser_zero_left s a b (isRZzero_rel s a h3) v i, ser_zero_right s a b (isRZzero_rel s b h4) v i,
    par_zero_left s a b (isIzero_rel s a h1) v i, par_zero_right s a b (isIzero_rel s b h2) v i,
    par_zero_left s a b (isYGzero_rel s a h3) v i, par_zero_right s a b (isYGzero_rel s b h4) v i]

theorem combineSame_sound (s : K) (op : Op) (a b y : Leaf K) (h : combineSame op a b = .one y)
    (hg : combGuard s op a b) (v i : K) : pairRel s op a b v i ↔ y.rel s v i := by
  unfold combineSame at h
  split at h <;> cases op <;> (try simp only at h) <;> (try (cases h; done))
  -- R R
  · cases h; exact ((relR_thev _).ser (relR_thev _)).congr (relR_thev _) (add_zero 0) rfl v i
  · cases h; obtain ⟨h1, h2, h3⟩ := hg
    exact (((relR_thev _).toNort h1).par ((relR_thev _).toNort h2)).congr
      ((relR_thev _).toNort (div_ne_zero (mul_ne_zero h1 h2) h3)) (by simp only [zero_mul, add_zero])
      (by rw [one_div_add_one_div h1 h2, one_div_div]) v i
  -- G G
  · cases h; obtain ⟨h1, h2, h3⟩ := hg
    exact (((adm_nort _).toThev h1).ser ((adm_nort _).toThev h2)).congr
      ((adm_nort _).toThev (div_ne_zero (mul_ne_zero h1 h2) h3)) (by simp only [zero_mul, add_zero])
      (by rw [one_div_add_one_div h1 h2, one_div_div]) v i
  · cases h; exact ((adm_nort _).par (adm_nort _)).congr (adm_nort _) (add_zero 0) rfl v i
  -- L L
  · split at h
    · rename_i he; cases h
      exact ((relL_thev s _ _).ser (relL_thev s _ _)).congr (relL_thev s _ _) (by rw [optEq_ic _ _ he]; ring) (by ring) v i
    · cases h
  · cases h; obtain ⟨hs, h1, h2, h3⟩ := hg
    have m1 := mul_ne_zero hs h1; have m2 := mul_ne_zero hs h2
    exact (((relL_thev s _ _).toNort m1).par ((relL_thev s _ _).toNort m2)).congr
      ((relL_thev s _ _).toNort (mul_ne_zero hs (div_ne_zero (mul_ne_zero h1 h2) h3)))
      (by rw [icSum_ic]; field_simp; ring) (by field_simp; ring) v i
  -- C C
  · cases h; obtain ⟨hs, h1, h2, h3⟩ := hg
    have m1 := mul_ne_zero hs h1; have m2 := mul_ne_zero hs h2
    exact (((relC_nort s _ _).toThev m1).ser ((relC_nort s _ _).toThev m2)).congr
      ((relC_nort s _ _).toThev (mul_ne_zero hs (div_ne_zero (mul_ne_zero h1 h2) h3)))
      (by rw [icSum_ic]; field_simp) (by field_simp; ring) v i
  · split at h
    · rename_i he; cases h
      exact ((relC_nort s _ _).par (relC_nort s _ _)).congr (relC_nort s _ _) (by rw [optEq_ic _ _ he]; ring) (by ring) v i
    · cases h
  -- Vdc Vdc, V V
  · cases h; exact ((relV_thev _).ser (relV_thev _)).congr (relV_thev _) rfl (add_zero 0) v i
  · cases h; exact ((relV_thev _).ser (relV_thev _)).congr (relV_thev _) rfl (add_zero 0) v i
  -- Idc Idc, I I
  · cases h; exact ((relI_nort _).par (relI_nort _)).congr (relI_nort _) rfl (add_zero 0) v i
  · cases h; exact ((relI_nort _).par (relI_nort _)).congr (relI_nort _) rfl (add_zero 0) v i

/-- whenever `_combine(arg1, arg2)` returns a component, it admits exactly the pairs of `Ser(arg1, arg2)` / `Par(arg1, arg2)` -/
theorem combine_pair_sound (s : K) (op : Op) (a b y : Leaf K) (h : combine op a b = .one y)
    (hg : combGuard s op a b) : REq ((mk op [.leaf a, .leaf b]).rel s) ((Net.leaf y).rel s) := by
  intro v i
  rw [pairRel_mk]
  unfold combine at h
  split at h
  · exact combineDiff_sound s op a b y h v i
  · exact combineSame_sound s op a b y h hg v i

end Lcapy.OnePort
