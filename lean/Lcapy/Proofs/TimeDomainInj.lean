/-
  C02 — injectivity of the formal unilateral Laplace transform on normal forms.

  A formal signal whose transform vanishes at all but finitely many points of an infinite field has the empty normal
  form (`FormalZero`): the functions  1/(s−p)^{k+1}  (distinct (p,k)) and  s^n  are linearly independent.

  Route.  For a pole `p0` and a bound `m` on the orders at `p0`, `hNum p0 m f` and `dOther p0 f` are polynomials with

        eval s (hNum f) · e(s)  =  eval s (dOther f) · (s − p0)^m · L E f s          (s regular, `hNum_eval`)
        eval p0 (hNum f)        =  eval p0 (dOther f) · (coefficient of f on t^{m−1} e^{p0 t}/(m−1)!)   (`hNum_eval_p0`)
        eval p0 (dOther f) ≠ 0

  (`dOther` = product of the denominators at the OTHER poles; the list need not be in normal form — like terms are
  summed by `coefOf`).  If `L E f` vanishes off a finite set then `hNum f` has infinitely many roots, so it is the zero
  polynomial (`Polynomial.eq_zero_of_infinite_isRoot`) and evaluation at `p0` gives that the top coefficient is 0
  (`top_coef_zero`).  Removing that class of terms lowers the bound: induction on `m` (`ep_coefs_zero`).  Once every
  exponential-polynomial coefficient is 0 the impulsive part  Σ c·s^n  is a polynomial with infinitely many roots
  (`dl_coefs_zero`).  All coefficients 0 ⇒ the normal form is empty (`formalZero_of_coefOf`).

  Delays.  The above is for signals whose terms carry ONE delay `d0` (the common factor e(s) = E(−s·d0) ≠ 0 is divided
  out); for `d0 = 0` these are the responses of lumped circuits without delayed sources.  For several delays the
  factors e^{−s d} are treated as independent indeterminates: `LW w f s` is the transform with e^{−s d} replaced by the
  value `w d`, and vanishing for EVERY assignment `w` gives `FormalZero` (`formalZero_of_LW`).  That the real exponential
  has this independence (`DelayIndep Real.exp`) is proved in Proofs/TimeDomainInjReal.lean.
-/
import Lcapy.Proofs.TimeDomain
import Mathlib.Algebra.Polynomial.Roots
import Mathlib.Algebra.Polynomial.Eval.Degree
namespace Lcapy.TD
open Lcapy.MNA Lcapy.Laplace Polynomial

section inj
variable {K : Type} [Field K] [DecidableEq K]

/-- every term of `f` carries the delay `d0` -/
def AllDelay (d0 : K) (f : ExpPoly K) : Prop := ∀ t ∈ f, t.delayOf = d0

/-- the orders (k+1) of the terms of `f` at the pole `p0` are at most `m` -/
def OrdLe (p0 : K) (m : Nat) (f : ExpPoly K) : Prop :=
  ∀ t ∈ f, match t with
    | .ep _ k p _ => p = p0 → k + 1 ≤ m
    | .dl _ _ _ => True

/-- the poles of `f` -/
def polesOf : ExpPoly K → List K
  | [] => []
  | .ep _ _ p _ :: f => p :: polesOf f
  | .dl _ _ _ :: f => polesOf f

theorem nonPole_of_not_mem {f : ExpPoly K} {s : K} (h : s ∉ polesOf f) : NonPole f s := by
  induction f with
  | nil => exact NonPole_nil s
  | cons t f ih =>
    cases t with
    | ep c k p d =>
      simp only [polesOf, List.mem_cons, not_or] at h
      exact (NonPole_cons_ep c k p d f s).2 ⟨sub_ne_zero.mpr h.1, ih h.2⟩
    | dl c n d => exact (NonPole_cons_dl c n d f s).2 (ih h)

/-- a statement about the regular points outside `bad` holds outside the finite set `bad ∪ poles` -/
theorem off_poles {P : K → Prop} (f : ExpPoly K) (bad : Finset K) (h : ∀ s, s ∉ bad → NonPole f s → P s) :
    ∀ s, s ∉ bad ∪ (polesOf f).toFinset → P s := by
  intro s hs
  simp only [Finset.mem_union, List.mem_toFinset, not_or] at hs
  exact h s hs.1 (nonPole_of_not_mem hs.2)

/-! ### polynomials that clear the denominators -/

/-- denominator of a term, poles at `p0` excluded -/
noncomputable def tDen (p0 : K) : Term K → K[X]
  | .ep _ k p _ => if p = p0 then 1 else (X - C p) ^ (k + 1)
  | .dl _ _ _ => 1

/-- numerator of `(s − p0)^m · (term)` over `tDen` -/
noncomputable def tNum (p0 : K) (m : Nat) : Term K → K[X]
  | .ep c k p _ => if p = p0 then C c * (X - C p0) ^ (m - (k + 1)) else C c * (X - C p0) ^ m
  | .dl c n _ => C c * X ^ n * (X - C p0) ^ m

/-- product of the denominators at the poles other than `p0` -/
noncomputable def dOther (p0 : K) : ExpPoly K → K[X]
  | [] => 1
  | t :: f => tDen p0 t * dOther p0 f

/-- numerator of `(s − p0)^m · L f` over `dOther` -/
noncomputable def hNum (p0 : K) (m : Nat) : ExpPoly K → K[X]
  | [] => 0
  | t :: f => tNum p0 m t * dOther p0 f + tDen p0 t * hNum p0 m f

variable (E : K → K)

theorem tNum_eval (p0 d0 : K) (m : Nat) (t : Term K) (s : K) (hd : t.delayOf = d0) (ho : OrdLe p0 m [t])
    (hs : NonPole [t] s) (hp : s - p0 ≠ 0) :
    (tNum p0 m t).eval s * E (-(s * d0)) = (tDen p0 t).eval s * (s - p0) ^ m * t.L E s := by
  cases t with
  | ep c k p d =>
    have hd' : d = d0 := hd
    subst hd'
    have hsp : s - p ≠ 0 := hs (.ep c k p d) (by simp)
    by_cases h : p = p0
    · subst h
      have hk : k + 1 ≤ m := ho (.ep c k p d) (by simp) rfl
      obtain ⟨j, rfl⟩ := Nat.exists_eq_add_of_le hk
      simp only [tNum, tDen, if_true, Term.L, pw_eq, eval_mul, eval_C, eval_pow, eval_sub, eval_X, eval_one,
        Nat.add_sub_cancel_left]
      field_simp
      ring
    · simp only [tNum, tDen, h, if_false, Term.L, pw_eq, eval_mul, eval_C, eval_pow, eval_sub, eval_X]
      field_simp
  | dl c n d =>
    have hd' : d = d0 := hd
    subst hd'
    simp only [tNum, tDen, Term.L, pw_eq, eval_mul, eval_C, eval_pow, eval_sub, eval_X, eval_one]
    ring

theorem OrdLe.cons {p0 : K} {m : Nat} {t : Term K} {f : ExpPoly K} (h : OrdLe p0 m (t :: f)) :
    OrdLe p0 m [t] ∧ OrdLe p0 m f := by
  constructor
  · intro x hx; simp at hx; subst hx; exact h _ (by simp)
  · intro x hx; exact h x (by simp [hx])

theorem AllDelay.cons {d0 : K} {t : Term K} {f : ExpPoly K} (h : AllDelay d0 (t :: f)) :
    t.delayOf = d0 ∧ AllDelay d0 f :=
  ⟨h _ (by simp), fun x hx => h x (by simp [hx])⟩

/-- `hNum / dOther` is `(s − p0)^m · L f` at every regular point -/
theorem hNum_eval (p0 d0 : K) (m : Nat) (f : ExpPoly K) (s : K) (hd : AllDelay d0 f) (ho : OrdLe p0 m f)
    (hs : NonPole f s) (hp : s - p0 ≠ 0) :
    (hNum p0 m f).eval s * E (-(s * d0)) = (dOther p0 f).eval s * (s - p0) ^ m * L E f s := by
  induction f with
  | nil => simp [hNum, dOther]
  | cons t f ih =>
    have h1 := tNum_eval E p0 d0 m t s hd.cons.1 ho.cons.1 hs.cons.1 hp
    have h2 := ih hd.cons.2 ho.cons.2 hs.cons.2
    simp only [hNum, dOther, eval_add, eval_mul, L_cons]
    linear_combination (dOther p0 f).eval s * h1 + (tDen p0 t).eval s * h2

theorem tDen_eval_p0 (p0 : K) (t : Term K) : (tDen p0 t).eval p0 ≠ 0 := by
  cases t with
  | ep c k p d =>
    by_cases h : p = p0
    · simp [tDen, h]
    · simp only [tDen, h, if_false, eval_pow, eval_sub, eval_X, eval_C]
      exact pow_ne_zero _ (sub_ne_zero.mpr (fun e => h e.symm))
  | dl c n d => simp [tDen]

theorem dOther_eval_p0 (p0 : K) (f : ExpPoly K) : (dOther p0 f).eval p0 ≠ 0 := by
  induction f with
  | nil => simp [dOther]
  | cons t f ih => simp only [dOther, eval_mul]; exact mul_ne_zero (tDen_eval_p0 p0 t) ih

theorem tNum_eval_p0 (p0 d0 : K) (k : Nat) (t : Term K) (hd : t.delayOf = d0) (ho : OrdLe p0 (k + 1) [t]) :
    (tNum p0 (k + 1) t).eval p0
      = (tDen p0 t).eval p0 * (if sameKey (.ep 0 k p0 d0) t then t.coef else 0) := by
  cases t with
  | ep c k' p d =>
    have hd' : d = d0 := hd
    subst hd'
    by_cases h : p = p0
    · subst h
      have hk : k' + 1 ≤ k + 1 := ho (.ep c k' p d) (by simp) rfl
      by_cases hkk : k = k'
      · subst hkk
        simp [tNum, tDen, sameKey, Term.coef]
      · have : k - k' ≠ 0 := by omega
        simp [tNum, tDen, sameKey, hkk, this]
    · have h' : ¬ p0 = p := fun e => h e.symm
      simp [tNum, tDen, sameKey, h, h']
  | dl c n d => simp [tNum, tDen, sameKey]

/-- at `p0` only the terms of top order survive -/
theorem hNum_eval_p0 (p0 d0 : K) (k : Nat) (f : ExpPoly K) (hd : AllDelay d0 f) (ho : OrdLe p0 (k + 1) f) :
    (hNum p0 (k + 1) f).eval p0 = (dOther p0 f).eval p0 * coefOf (.ep 0 k p0 d0) f := by
  induction f with
  | nil => simp [hNum, coefOf]
  | cons t f ih =>
    have h1 := tNum_eval_p0 p0 d0 k t hd.cons.1 ho.cons.1
    have h2 := ih hd.cons.2 ho.cons.2
    simp only [hNum, dOther, eval_add, eval_mul, coefOf, h1, h2]
    split_ifs <;> ring

/-- a polynomial that vanishes off a finite set of an infinite field is zero -/
theorem poly_zero_of_cofinite [Infinite K] (P : K[X]) (bad : Finset K) (h : ∀ s, s ∉ bad → P.eval s = 0) : P = 0 := by
  apply Polynomial.eq_zero_of_infinite_isRoot
  have hfin : (↑bad : Set K).Finite := bad.finite_toSet
  refine hfin.infinite_compl.mono ?_
  intro s hs
  exact h s (by simpa using hs)

/-- **top coefficient**: if `L E f` vanishes off a finite set and `k+1` bounds the orders at `p0`, then the
    coefficient of `f` on `t^k e^{p0 t}/k!` (delay `d0`) is zero -/
theorem top_coef_zero [Infinite K] (p0 d0 : K) (k : Nat) (f : ExpPoly K) (hd : AllDelay d0 f)
    (ho : OrdLe p0 (k + 1) f) (hE : ∀ s, E (-(s * d0)) ≠ 0) (bad : Finset K) (hz : ∀ s, s ∉ bad → L E f s = 0) :
    coefOf (.ep 0 k p0 d0) f = 0 := by
  have hP : hNum p0 (k + 1) f = 0 := by
    apply poly_zero_of_cofinite _ (bad ∪ (polesOf f).toFinset ∪ {p0})
    intro s hs
    simp only [Finset.mem_union, List.mem_toFinset, Finset.mem_singleton, not_or] at hs
    obtain ⟨⟨hb, hpole⟩, hp0⟩ := hs
    have := hNum_eval E p0 d0 (k + 1) f s hd ho (nonPole_of_not_mem hpole) (sub_ne_zero.mpr hp0)
    rw [hz s hb, mul_zero] at this
    exact (mul_eq_zero.mp this).resolve_right (hE s)
  have := hNum_eval_p0 p0 d0 k f hd ho
  rw [hP, eval_zero] at this
  exact (mul_eq_zero.mp this.symm).resolve_left (dOther_eval_p0 p0 f)

theorem coefOf_eq_zero_of_noKey (κ : Term K) (f : ExpPoly K) (h : ∀ t ∈ f, sameKey κ t = false) : coefOf κ f = 0 := by
  induction f with
  | nil => rfl
  | cons t f ih =>
    simp only [coefOf, h t (by simp)]
    exact ih (fun u hu => h u (by simp [hu]))

theorem OrdLe.mono {p0 : K} {m m' : Nat} {f : ExpPoly K} (hm : m ≤ m') (h : OrdLe p0 m f) : OrdLe p0 m' f := by
  intro t ht
  have := h t ht
  cases t with
  | ep c k p d => exact fun e => le_trans (this e) hm
  | dl _ _ _ => trivial

theorem exists_ordLe (p0 : K) (f : ExpPoly K) : ∃ m, OrdLe p0 m f := by
  induction f with
  | nil => exact ⟨0, fun t ht => nomatch ht⟩
  | cons t f ih =>
    obtain ⟨m, hm⟩ := ih
    cases t with
    | ep c k p d =>
      exact ⟨max m (k + 1), List.forall_mem_cons.2 ⟨fun _ => le_max_right _ _, hm.mono (le_max_left _ _)⟩⟩
    | dl c n d => exact ⟨m, List.forall_mem_cons.2 ⟨trivial, hm⟩⟩

/-- no term at the pole `p0`: every coefficient there is 0 -/
theorem coefOf_eq_zero_of_ordLe_zero {p0 : K} {f : ExpPoly K} (ho : OrdLe p0 0 f) (k : Nat) (d0 : K) :
    coefOf (.ep 0 k p0 d0) f = 0 := by
  refine coefOf_eq_zero_of_noKey _ f fun t ht => ?_
  cases t with
  | ep c k' p d =>
    have hp : ¬ p0 = p := fun hp => absurd (ho _ ht hp.symm) (by omega)
    simp [sameKey, hp]
  | dl c n d => rfl

/-- removing the class of order `m + 1` at `p0` lowers the bound on the orders there -/
theorem OrdLe.filter_top {p0 d0 : K} {m : Nat} {f : ExpPoly K} (hd : AllDelay d0 f) (ho : OrdLe p0 (m + 1) f) :
    OrdLe p0 m (f.filter (fun u => !sameKey (.ep 0 m p0 d0) u)) := by
  intro t ht
  obtain ⟨hmem, hnk⟩ := List.mem_filter.mp ht
  cases t with
  | ep c k' p d =>
    intro hp
    have hle : k' + 1 ≤ m + 1 := ho _ hmem hp
    have hdel : d = d0 := hd _ hmem
    have : m ≠ k' := by rintro rfl; subst hp hdel; simp [sameKey] at hnk
    omega
  | dl _ _ _ => trivial

/-- **all exponential-polynomial coefficients at one pole vanish** (induction on the order bound: the top class has
    coefficient 0 by `top_coef_zero`, removing it lowers the bound) -/
theorem ep_coefs_zero [Infinite K] (p0 d0 : K) (hE : ∀ s, E (-(s * d0)) ≠ 0) :
    ∀ (m : Nat) (f : ExpPoly K), AllDelay d0 f → OrdLe p0 m f →
      ∀ bad : Finset K, (∀ s, s ∉ bad → L E f s = 0) → ∀ k, coefOf (.ep 0 k p0 d0) f = 0 := by
  intro m
  induction m with
  | zero => exact fun f _ ho _ _ k => coefOf_eq_zero_of_ordLe_zero ho k d0
  | succ m ih =>
    intro f hd ho bad hz k
    have htop := top_coef_zero E p0 d0 m f hd ho hE bad hz
    by_cases hk : k = m
    · exact hk ▸ htop
    · rw [← coefOf_filter_ne _ (.ep 0 m p0 d0) (by simp [sameKey, hk]) f]
      exact ih _ (fun t ht => hd t (List.mem_of_mem_filter ht)) (OrdLe.filter_top hd ho) bad
        (fun s hs => by
          have := L_split E (.ep 0 m p0 d0) f s
          rw [htop, zero_mul, zero_add, hz s hs] at this
          exact this.symm) k

/-! ### all coefficients zero ⇒ empty normal form -/

theorem normalForm_of_coefOf : ∀ (fuel : Nat) (f : ExpPoly K), (∀ κ, coefOf κ f = 0) → normalForm fuel f = [] := by
  intro fuel
  induction fuel with
  | zero => intro f _; cases f <;> rfl
  | succ fuel ih =>
    intro f h
    cases f with
    | nil => rfl
    | cons t f =>
      simp only [normalForm, h t, if_true]
      apply ih
      intro κ
      by_cases hk : sameKey κ t = true
      · exact coefOf_filter_eq κ t hk f
      · simp only [Bool.not_eq_true] at hk
        rw [coefOf_filter_ne κ t hk f]
        have := h κ
        simpa [coefOf, hk] using this

theorem formalZero_of_coefOf {f : ExpPoly K} (h : ∀ κ, coefOf κ f = 0) : FormalZero f :=
  normalForm_of_coefOf _ f h

theorem formalZero_iff_coefOf {f : ExpPoly K} : FormalZero f ↔ ∀ κ, coefOf κ f = 0 :=
  ⟨fun h κ => coefOf_of_formalZero h κ, formalZero_of_coefOf⟩

/-! ### the impulsive part -/

def isEp : Term K → Bool
  | .ep _ _ _ _ => true
  | .dl _ _ _ => false

theorem L_filter_split (q : Term K → Bool) (f : ExpPoly K) (s : K) :
    L E f s = L E (f.filter q) s + L E (f.filter (fun t => !q t)) s := by
  induction f with
  | nil => simp
  | cons t f ih =>
    by_cases h : q t = true
    · simp [List.filter, h, ih]; ring
    · simp only [Bool.not_eq_true] at h
      simp [List.filter, h, ih]; ring

theorem isEp_of_sameKey {a b : Term K} (h : sameKey a b = true) : isEp a = isEp b := by
  cases a <;> cases b <;> first | rfl | exact absurd h (by simp [sameKey])

theorem coefOf_filter_isEp (κ : Term K) (f : ExpPoly K) :
    coefOf κ (f.filter isEp) = if isEp κ then coefOf κ f else 0 :=
  coefOf_filter _ (fun _ _ => isEp_of_sameKey) κ f

theorem coefOf_filter_isDl (κ : Term K) (f : ExpPoly K) :
    coefOf κ (f.filter (fun t => !isEp t)) = if isEp κ then 0 else coefOf κ f := by
  rw [coefOf_filter _ (fun a b hab => by simp only [isEp_of_sameKey hab]) κ f]
  cases isEp κ <;> rfl

/-- the polynomial  Σ c·X^n  of a purely impulsive signal -/
noncomputable def dlPoly : ExpPoly K → K[X]
  | [] => 0
  | .dl c n _ :: f => C c * X ^ n + dlPoly f
  | .ep _ _ _ _ :: f => dlPoly f

theorem dlPoly_eval (d0 : K) (f : ExpPoly K) (hd : AllDelay d0 f) (hdl : ∀ t ∈ f, isEp t = false) (s : K) :
    L E f s = (dlPoly f).eval s * E (-(s * d0)) := by
  induction f with
  | nil => simp [dlPoly]
  | cons t f ih =>
    have ih' := ih hd.cons.2 (fun u hu => hdl u (by simp [hu]))
    cases t with
    | ep c k p d => exact absurd (hdl (.ep c k p d) (by simp)) (by simp [isEp])
    | dl c n d =>
      have : d = d0 := hd.cons.1
      subst this
      simp only [L_cons, Term.L, pw_eq, dlPoly, eval_add, eval_mul, eval_C, eval_pow, eval_X, ih']
      ring

theorem dlPoly_coeff (d0 : K) (f : ExpPoly K) (hd : AllDelay d0 f) (n : Nat) :
    (dlPoly f).coeff n = coefOf (.dl 0 n d0) f := by
  induction f with
  | nil => simp [dlPoly, coefOf]
  | cons t f ih =>
    have ih' := ih hd.cons.2
    cases t with
    | ep c k p d => simp [dlPoly, coefOf, sameKey, ih']
    | dl c n' d =>
      have : d = d0 := hd.cons.1
      subst this
      simp only [dlPoly, coeff_add, coeff_C_mul, coeff_X_pow, ih', coefOf, sameKey, Term.coef]
      by_cases h : n = n' <;> simp [h]

/-- **the coefficients of the impulsive part vanish** once those of the exponential-polynomial part do -/
theorem dl_coefs_zero [Infinite K] (d0 : K) (f : ExpPoly K) (hd : AllDelay d0 f) (hE : ∀ s, E (-(s * d0)) ≠ 0)
    (hep : ∀ κ, isEp κ = true → coefOf κ f = 0) (bad : Finset K) (hz : ∀ s, s ∉ bad → L E f s = 0) (n : Nat) :
    coefOf (.dl 0 n d0) f = 0 := by
  have hfe : FormalZero (f.filter isEp) := by
    apply formalZero_of_coefOf
    intro κ
    rw [coefOf_filter_isEp]
    split_ifs with h
    · exact hep κ h
    · rfl
  have hd' : AllDelay d0 (f.filter (fun t => !isEp t)) := fun t ht => hd t (List.mem_of_mem_filter ht)
  have hdl : ∀ t ∈ f.filter (fun t => !isEp t), isEp t = false := by
    intro t ht
    have := (List.mem_filter.mp ht).2
    simpa using this
  have hP : dlPoly (f.filter (fun t => !isEp t)) = 0 := by
    apply poly_zero_of_cofinite _ bad
    intro s hs
    have h1 := L_filter_split E isEp f s
    rw [hz s hs, L_of_formalZero E hfe s, zero_add, dlPoly_eval E d0 _ hd' hdl s] at h1
    exact (mul_eq_zero.mp h1.symm).resolve_right (hE s)
  have := dlPoly_coeff d0 _ hd' n
  rw [hP, coeff_zero, coefOf_filter_isDl] at this
  simpa [isEp] using this.symm

/-! ### injectivity for signals with one delay -/

theorem delayOf_of_sameKey {κ t : Term K} (h : sameKey κ t = true) : κ.delayOf = t.delayOf := by
  cases κ <;> cases t <;> simp_all [sameKey, Term.delayOf]

/-- a key with another delay than all terms of `f` has coefficient 0 -/
theorem coefOf_eq_zero_of_delay_ne {d0 : K} {f : ExpPoly K} (hd : AllDelay d0 f) {κ : Term K} (h : κ.delayOf ≠ d0) :
    coefOf κ f = 0 :=
  coefOf_eq_zero_of_noKey κ f fun t ht =>
    Bool.eq_false_iff.2 fun hk => h ((delayOf_of_sameKey hk).trans (hd t ht))

/-- **injectivity, one delay**: a signal whose terms all carry the delay `d0` and whose transform vanishes off a finite
    set is formally zero.  (`d0 = 0`: lumped circuits without delayed sources.) -/
theorem formalZero_of_L_zero [Infinite K] (d0 : K) (f : ExpPoly K) (hd : AllDelay d0 f)
    (hE : ∀ s, E (-(s * d0)) ≠ 0) (bad : Finset K) (hz : ∀ s, s ∉ bad → L E f s = 0) : FormalZero f := by
  have hep : ∀ κ, isEp κ = true → coefOf κ f = 0 := by
    intro κ hκ
    cases κ with
    | dl _ _ _ => exact absurd hκ (by simp [isEp])
    | ep c k p d =>
      by_cases hdd : d = d0
      · subst hdd
        obtain ⟨m, hm⟩ := exists_ordLe p f
        exact (coefOf_congr (by simp [sameKey]) f).trans (ep_coefs_zero E p d hE m f hd hm bad hz k)
      · exact coefOf_eq_zero_of_delay_ne hd hdd
  refine formalZero_of_coefOf fun κ => ?_
  cases κ with
  | ep c k p d => exact hep _ rfl
  | dl c n d =>
    by_cases hdd : d = d0
    · subst hdd
      exact (coefOf_congr (by simp [sameKey]) f).trans (dl_coefs_zero E d f hd hE hep bad hz n)
    · exact coefOf_eq_zero_of_delay_ne hd hdd

/-! ### several delays: the delay factors as independent indeterminates -/

/-- the part of `f` delayed by `d` -/
def delayPart (d : K) (f : ExpPoly K) : ExpPoly K := f.filter (fun t => decide (t.delayOf = d))

theorem allDelay_delayPart (d : K) (f : ExpPoly K) : AllDelay d (delayPart d f) := by
  intro t ht
  have := (List.mem_filter.mp ht).2
  simpa using this

theorem coefOf_delayPart (κ : Term K) (f : ExpPoly K) : coefOf κ (delayPart κ.delayOf f) = coefOf κ f := by
  rw [delayPart, coefOf_filter _ (fun a b hab => by simp only [delayOf_of_sameKey hab]) κ f]
  simp

/-- `FormalZero` can be checked delay class by delay class -/
theorem formalZero_of_delayParts {f : ExpPoly K} (h : ∀ d, FormalZero (delayPart d f)) : FormalZero f := by
  apply formalZero_of_coefOf
  intro κ
  rw [← coefOf_delayPart]
  exact coefOf_of_formalZero (h _) κ

/-! ### the transform with independent delay indeterminates -/

theorem LW_eq_tsum (w : K → K) (f : ExpPoly K) (s : K) : LW w f s = tsum (Term.LW w s) f := by
  induction f with
  | nil => rfl
  | cons t f ih => simp [LW, tsum, ih]

theorem Term_LW_withCoef (w : K → K) (s : K) (t : Term K) (c : K) :
    (t.withCoef c).LW w s = c * (t.withCoef 1).LW w s := by
  cases t <;> simp [Term.withCoef, Term.LW] <;> ring

/-- a formally zero signal has the zero transform whatever values the delay indeterminates take -/
theorem LW_of_formalZero (w : K → K) {f : ExpPoly K} (h : FormalZero f) (s : K) : LW w f s = 0 := by
  rw [LW_eq_tsum]
  exact tsum_of_formalZero _ (Term_LW_withCoef w s) h

/-- the transform is `LW` at the values `w d = E(−s·d)` -/
theorem L_eq_LW (f : ExpPoly K) (s : K) : L E f s = LW (fun d => E (-(s * d))) f s := by
  induction f with
  | nil => rfl
  | cons t f ih => cases t <;> simp [LW, Term.LW, Term.L, ih]

/-- giving the indeterminate of delay `d0` the value 1 and all others 0 selects the part delayed by `d0` -/
theorem LW_indicator (d0 : K) (f : ExpPoly K) (s : K) :
    LW (fun d => if d = d0 then 1 else 0) f s = L (fun _ => (1 : K)) (delayPart d0 f) s := by
  induction f with
  | nil => rfl
  | cons t f ih =>
    cases t with
    | ep c k p d =>
      by_cases h : d = d0
      · simp [LW, Term.LW, delayPart, List.filter, Term.delayOf, h, Term.L] at ih ⊢; rw [ih]
      · simp [LW, Term.LW, delayPart, List.filter, Term.delayOf, h] at ih ⊢; rw [ih]
    | dl c n d =>
      by_cases h : d = d0
      · simp [LW, Term.LW, delayPart, List.filter, Term.delayOf, h, Term.L] at ih ⊢; rw [ih]
      · simp [LW, Term.LW, delayPart, List.filter, Term.delayOf, h] at ih ⊢; rw [ih]

/-- **injectivity, any delays**: a signal whose transform vanishes off a finite set for EVERY value of the delay
    indeterminates is formally zero -/
theorem formalZero_of_LW [Infinite K] (f : ExpPoly K) (bad : Finset K)
    (h : ∀ (w : K → K) (s : K), s ∉ bad → LW w f s = 0) : FormalZero f := by
  apply formalZero_of_delayParts
  intro d
  apply formalZero_of_L_zero (fun _ => (1 : K)) d _ (allDelay_delayPart d f) (fun _ => one_ne_zero) bad
  intro s hs
  rw [← LW_indicator]
  exact h _ s hs

/-- the delay factors of `E` are independent over the rational functions: a vanishing transform vanishes delay class
    by delay class.  (Holds for the real exponential, Proofs/TimeDomainInjReal.lean; fails e.g. for `E = 1`.) -/
def DelayIndep (E : K → K) : Prop :=
  ∀ (f : ExpPoly K) (bad : Finset K), (∀ s, s ∉ bad → L E f s = 0) →
    ∀ d, ∃ bad' : Finset K, ∀ s, s ∉ bad' → L E (delayPart d f) s = 0

theorem formalZero_of_delayIndep [Infinite K] (hE : IsExp E) (hI : DelayIndep E) (f : ExpPoly K) (bad : Finset K)
    (hz : ∀ s, s ∉ bad → L E f s = 0) : FormalZero f := by
  apply formalZero_of_delayParts
  intro d
  obtain ⟨bad', h'⟩ := hI f bad hz d
  exact formalZero_of_L_zero E d _ (allDelay_delayPart d f) (fun s => isExp_ne_zero hE _) bad' h'

/-- the two situations in which a transform that vanishes off a finite set forces the empty normal form: no delayed term, or
    independent delay factors -/
theorem formalZero_of_allDelay_or_indep [Infinite K] (hE : IsExp E) (f : ExpPoly K) (h : AllDelay 0 f ∨ DelayIndep E)
    (bad : Finset K) (hz : ∀ s, s ∉ bad → L E f s = 0) : FormalZero f :=
  h.elim (fun hd => formalZero_of_L_zero E 0 f hd (fun _ => isExp_ne_zero hE _) bad hz)
    (fun hI => formalZero_of_delayIndep E hE hI f bad hz)

/-! ### residuals of delay-free problems are delay-free -/

theorem AllDelay.nil (d0 : K) : AllDelay d0 ([] : ExpPoly K) := fun _ ht => nomatch ht

theorem AllDelay.append {d0 : K} {f g : ExpPoly K} (hf : AllDelay d0 f) (hg : AllDelay d0 g) : AllDelay d0 (f ++ g) :=
  List.forall_mem_append.2 ⟨hf, hg⟩

theorem AllDelay.smul {d0 : K} {f : ExpPoly K} (a : K) (hf : AllDelay d0 f) : AllDelay d0 (smul a f) := by
  intro t ht
  simp only [Laplace.smul, List.mem_map] at ht
  obtain ⟨u, hu, rfl⟩ := ht
  have := hf u hu
  cases u <;> simpa [Term.smul, Term.delayOf] using this

theorem AllDelay.subP {d0 : K} {f g : ExpPoly K} (hf : AllDelay d0 f) (hg : AllDelay d0 g) : AllDelay d0 (subP f g) :=
  hf.append (hg.smul _)

theorem AllDelay.deriv {d0 : K} {f : ExpPoly K} (hf : AllDelay d0 f) : AllDelay d0 (deriv f) := by
  intro t ht
  simp only [Laplace.deriv, List.mem_flatMap] at ht
  obtain ⟨u, hu, htu⟩ := ht
  have := hf u hu
  cases u with
  | ep c k p d =>
    cases k <;> simp [Term.deriv] at htu <;> rcases htu with rfl | rfl <;> simpa [Term.delayOf] using this
  | dl c n d =>
    simp [Term.deriv] at htu
    subst htu
    simpa [Term.delayOf] using this

theorem AllDelay.stateDeriv {f : ExpPoly K} (st : K) (hf : AllDelay 0 f) : AllDelay 0 (stateDeriv st f) := by
  apply AllDelay.append hf.deriv
  intro t ht
  simp at ht
  subst ht
  rfl

theorem AllDelay.twoTermT {d0 : K} {i : ExpPoly K} (n1 n2 k : Nat) (hi : AllDelay d0 i) : AllDelay d0 (twoTermT n1 n2 k i) := by
  unfold TD.twoTermT
  apply AllDelay.subP <;> (split_ifs <;> first | exact hi | exact AllDelay.nil d0)

theorem AllDelay.voltT {x : Ix → Signal K} (hx : ∀ ix, AllDelay 0 (x ix).post) (k : Nat) : AllDelay 0 (voltT x k).post := by
  cases k with
  | zero => exact AllDelay.nil 0
  | succ k => exact hx _

theorem AllDelay.vpost {x : Ix → Signal K} (hx : ∀ ix, AllDelay 0 (x ix).post) (a b : Nat) : AllDelay 0 (vpost x a b) :=
  (AllDelay.voltT hx a).subP (AllDelay.voltT hx b)

theorem AllDelay.flatMap {α : Type} {d0 : K} (l : List α) (g : α → ExpPoly K) (h : ∀ a ∈ l, AllDelay d0 (g a)) :
    AllDelay d0 (l.flatMap g) := by
  intro t ht
  obtain ⟨a, ha, hta⟩ := List.mem_flatMap.mp ht
  exact h a ha t hta

theorem AllDelay.mutualDropT {x : Ix → Signal K} (hx : ∀ ix, AllDelay 0 (x ix).post) (coup : List (Nat × K × Option K)) :
    AllDelay 0 (mutualDropT x coup) :=
  AllDelay.flatMap _ _ (fun _ _ => ((hx _).stateDeriv _).smul _)

theorem allDelay_outflowT (x : Ix → Signal K) (hx : ∀ ix, AllDelay 0 (x ix).post) (k : Nat) (c : TCpt K)
    (hw : AllDelay 0 c.2.post) : AllDelay 0 (outflowT x k c) := by
  have hv := AllDelay.vpost hx
  obtain ⟨c, w⟩ := c
  cases c with
  | R | Y => exact .twoTermT _ _ _ ((hv _ _).smul _)
  | Cap => exact .twoTermT _ _ _ (((hv _ _).stateDeriv _).smul _)
  | I => exact .twoTermT _ _ _ (hw.smul _)
  | G => exact .twoTermT _ _ _ (((hv _ _).smul _).smul _)
  | F => exact .twoTermT _ _ _ ((hx _).smul _)
  | TF => exact .append (.twoTermT _ _ _ (hx _)) (.twoTermT _ _ _ (((hx _).smul _).smul _))
  | GY => exact .append (.twoTermT _ _ _ (hx _)) (.twoTermT _ _ _ (hx _))
  | Open => exact .nil 0
  | TPA => exact .append (.twoTermT _ _ _ (hx _)) (.twoTermT _ _ _ (((hv _ _).smul _).subP ((hx _).smul _)))
  | TPY =>
    exact .append (.twoTermT _ _ _ (((hv _ _).smul _).append ((hv _ _).smul _)))
      (.twoTermT _ _ _ (((hv _ _).smul _).append ((hv _ _).smul _)))
  | _ => exact .twoTermT _ _ _ (hx _)

theorem allDelay_lawsT (x : Ix → Signal K) (hx : ∀ ix, AllDelay 0 (x ix).post) (c : TCpt K)
    (hw : AllDelay 0 c.2.post) : ∀ p ∈ lawsT x c, AllDelay 0 p.2 := by
  have hv := AllDelay.vpost hx
  have hn := AllDelay.voltT hx
  obtain ⟨c, w⟩ := c
  cases c with
  | Ind =>
    exact List.forall_mem_singleton.2 ((hv _ _).subP ((((hx _).stateDeriv _).smul _).append (.mutualDropT hx _)))
  | V => exact List.forall_mem_singleton.2 ((hv _ _).subP hw)
  | E =>
    exact List.forall_mem_singleton.2 ((hv _ _).subP (((hv _ _).smul _).append ((((hn _).append (hn _)).smul _).smul _)))
  | H => exact List.forall_mem_singleton.2 ((hv _ _).subP ((hx _).smul _))
  | TF => exact List.forall_mem_singleton.2 ((hv _ _).subP ((hv _ _).smul _))
  | GY => exact List.forall_mem_cons.2 ⟨(hv _ _).append ((hx _).smul _),
      List.forall_mem_singleton.2 ((hv _ _).subP ((hx _).smul _))⟩
  | AM => exact List.forall_mem_singleton.2 (hv _ _)
  | TR => exact List.forall_mem_singleton.2 ((hn _).subP ((hn _).smul _))
  | TPA => exact List.forall_mem_singleton.2 ((hv _ _).subP (((hv _ _).smul _).subP ((hx _).smul _)))
  | HY => exact List.forall_mem_cons.2 ⟨(hv _ _).subP ((hx _).smul _),
      List.forall_mem_singleton.2 ((hx _).subP (((hv _ _).smul _).subP (List.forall_mem_singleton.2 rfl)))⟩
  | SP => exact List.forall_mem_singleton.2 ((hn _).subP ((((hn _).smul _).append ((hn _).smul _)).append ((hn _).smul _)))
  | _ => exact fun _ h => nomatch h

theorem allDelay_kclT (x : Ix → Signal K) (hx : ∀ ix, AllDelay 0 (x ix).post) (tcs : List (TCpt K))
    (hw : ∀ c ∈ tcs, AllDelay 0 c.2.post) (k : Nat) : AllDelay 0 (kclT x k tcs) :=
  AllDelay.flatMap _ _ (fun c hc => allDelay_outflowT x hx k c (hw c hc))

end inj
end Lcapy.TD
