/-
  Helper lemmas for C08 (two-port parameter sets).  Only helper material lives here; the
  property theorems are in Lcapy/Props/C08.lean.
-/
import Lcapy.Spec.TwoPort
import Lcapy.Generated.TwoPort
import Mathlib.Tactic.FieldSimp
import Mathlib.Tactic.Ring
import Mathlib.Tactic.LinearCombination
namespace Lcapy.TwoPort
open Lcapy Lcapy.Spec Lcapy.Gen
variable {K : Type} [Field K]

-- both relations explicit in their left-hand sides: substitute and normalise
-- (unhygienic only so that `rfl` in the pattern is the keyword; no name of the context is used)
set_option hygiene false in
macro "tp_both" : tactic => `(tactic|
  (try simp only [neg_eq_iff_eq_neg]
   constructor <;> (rintro ⟨rfl, rfl⟩; constructor <;> (field_simp; ring))))

/-- A conversion `f` from representation `X` to representation `P` is sound under the
    side condition `ok` when both matrices describe the same set of port quantities. -/
def SoundConv (X P : Rep) (f : M2 K → K → M2 K) (ok : M2 K → K → Prop) : Prop :=
  ∀ m Z0 p, ok m Z0 → (rel X m Z0 p ↔ rel P (f m Z0) Z0 p)

theorem SoundConv.id (X : Rep) : SoundConv (K := K) X X (fun m _ => m) (fun _ _ => True) :=
  fun _ _ _ _ => Iff.rfl

theorem SoundConv.comp {X Q P : Rep} {f g h : M2 K → K → M2 K} {ok1 ok2 : M2 K → K → Prop}
    (h1 : SoundConv X Q h ok1) (h2 : SoundConv Q P g ok2)
    (hfg : ∀ m Z0, f m Z0 = g (h m Z0) Z0 := by exact fun _ _ => rfl) :
    SoundConv X P f (fun m Z0 => ok1 m Z0 ∧ ok2 (h m Z0) Z0) := by
  intro m Z0 p ⟨o1, o2⟩
  rw [hfg, h1 m Z0 p o1, h2 (h m Z0) Z0 p o2]

/-- `Matrix.inv` swaps the roles of the two sides of `lin`. -/
theorem lin_inv (m : M2 K) (h : m.det ≠ 0) (l1 l2 r1 r2 : K) :
    lin m l1 l2 r1 r2 ↔ lin (M2.inv m) r1 r2 l1 l2 := by
  obtain ⟨d, hd⟩ : ∃ d, d = m.det := ⟨_, rfl⟩
  rw [← hd] at h
  simp only [lin, M2.inv, ← hd]
  simp only [M2.det] at hd
  constructor
  · rintro ⟨rfl, rfl⟩; constructor <;> (field_simp; rw [hd]; ring)
  · rintro ⟨rfl, rfl⟩; constructor <;> (field_simp; rw [hd]; ring)

/-- solving the first equation for `r1` exchanges `l1` and `r1` (principal pivot on `a11`) -/
theorem lin_pivot11 (m : M2 K) (h : m.a11 ≠ 0) (l1 l2 r1 r2 : K) :
    lin m l1 l2 r1 r2 ↔
      lin ⟨1 / m.a11, -m.a12 / m.a11, m.a21 / m.a11, m.a22 - m.a21 * m.a12 / m.a11⟩ r1 l2 l1 r2 := by
  simp only [lin]
  constructor <;> (rintro ⟨rfl, rfl⟩; constructor <;> (field_simp; ring))

/-- solving the second equation for `r2` exchanges `l2` and `r2` (principal pivot on `a22`) -/
theorem lin_pivot22 (m : M2 K) (h : m.a22 ≠ 0) (l1 l2 r1 r2 : K) :
    lin m l1 l2 r1 r2 ↔
      lin ⟨m.a11 - m.a12 * m.a21 / m.a22, m.a12 / m.a22, -m.a21 / m.a22, 1 / m.a22⟩ l1 r2 r1 l2 := by
  simp only [lin]
  constructor <;> (rintro ⟨rfl, rfl⟩; constructor <;> (field_simp; ring))

/-- `lin` is homogeneous: a common non-zero divisor of all four variables cancels -/
theorem lin_div (m : M2 K) {c : K} (hc : c ≠ 0) (l1 l2 r1 r2 : K) :
    lin m (l1 / c) (l2 / c) (r1 / c) (r2 / c) ↔ lin m l1 l2 r1 r2 := by
  unfold lin
  rw [show m.a11 * (r1 / c) + m.a12 * (r2 / c) = (m.a11 * r1 + m.a12 * r2) / c by ring,
    show m.a21 * (r1 / c) + m.a22 * (r2 / c) = (m.a21 * r1 + m.a22 * r2) / c by ring,
    div_left_inj' hc, div_left_inj' hc]

/-- composing two linear relations multiplies their matrices -/
theorem lin_mul {a b : M2 K} {l1 l2 x y r1 r2 : K} (ha : lin a l1 l2 x y) (hb : lin b x y r1 r2) :
    lin (M2.mul a b) l1 l2 r1 r2 := by
  obtain ⟨rfl, rfl⟩ := ha
  obtain ⟨rfl, rfl⟩ := hb
  constructor <;> (simp only [M2.mul]; ring)

theorem M2_mul_assoc (a b c : M2 K) : M2.mul (M2.mul a b) c = M2.mul a (M2.mul b c) := by
  simp only [M2.mul, M2.mk.injEq]; refine ⟨?_, ?_, ?_, ?_⟩ <;> ring

theorem det_inv (m : M2 K) (h : m.det ≠ 0) : (M2.inv m).det = 1 / m.det := by
  obtain ⟨d, hd⟩ : ∃ d, d = m.det := ⟨_, rfl⟩
  rw [← hd] at h
  simp only [M2.inv, ← hd]
  simp only [M2.det] at hd ⊢
  field_simp; rw [hd]; ring

/-- `lin` determines its matrix: feed it the two unit vectors. -/
theorem lin_inj (m m' : M2 K)
    (h : ∀ l1 l2 r1 r2, lin m l1 l2 r1 r2 ↔ lin m' l1 l2 r1 r2) : m = m' := by
  have e1 := (h m.a11 m.a21 1 0).mp (by simp [lin])
  have e2 := (h m.a12 m.a22 0 1).mp (by simp [lin])
  obtain ⟨a, b, c, d⟩ := m
  obtain ⟨a', b', c', d'⟩ := m'
  simp only [lin, mul_one, mul_zero, add_zero, zero_add] at e1 e2
  simp only [M2.mk.injEq]
  exact ⟨e1.1, e2.1, e1.2, e2.2⟩

theorem inv_inv (m : M2 K) (h : m.det ≠ 0) : M2.inv (M2.inv m) = m := by
  have h2 : (M2.inv m).det ≠ 0 := by rw [det_inv m h]; exact one_div_ne_zero h
  apply lin_inj
  intro l1 l2 r1 r2
  rw [← lin_inv (M2.inv m) h2, ← lin_inv m h]

/-- a derived attribute `q` computed from representation `X` meets its port definition -/
def DerivedSound (X : Rep) (d : Derived) (q : M2 K → K → K) (ok : M2 K → K → Prop) : Prop :=
  ∀ m Z0 p, ok m Z0 → rel X m Z0 p → d.holds (q m Z0) p

theorem DerivedSound.via {X Q : Rep} {d : Derived} {f : M2 K → K → M2 K} {q q' : M2 K → K → K}
    {ok1 ok2 : M2 K → K → Prop}
    (hc : SoundConv X Q f ok1) (hd : DerivedSound Q d q' ok2) (hq : ∀ m Z0, q m Z0 = q' (f m Z0) Z0 := by exact fun _ _ => rfl) :
    DerivedSound X d q (fun m Z0 => ok1 m Z0 ∧ ok2 (f m Z0) Z0) := by
  intro m Z0 p ⟨o1, o2⟩ h
  rw [hq]
  exact hd (f m Z0) Z0 p o2 ((hc m Z0 p o1).mp h)

/-- the port whose wave variables are prescribed -/
def wavePort (Z0 a1 b1 a2 b2 : K) : Port K :=
  ⟨(a1 + b1) / 2, (a1 - b1) / (2 * Z0), (a2 + b2) / 2, (a2 - b2) / (2 * Z0)⟩

theorem wavePort_spec (Z0 : K) (hz : Z0 ≠ 0) (h2 : (2 : K) ≠ 0) (a1 b1 a2 b2 : K) :
    wa1 Z0 (wavePort Z0 a1 b1 a2 b2) = a1 ∧ wb1 Z0 (wavePort Z0 a1 b1 a2 b2) = b1 ∧
    wa2 Z0 (wavePort Z0 a1 b1 a2 b2) = a2 ∧ wb2 Z0 (wavePort Z0 a1 b1 a2 b2) = b2 := by
  simp only [wa1, wb1, wa2, wb2, wavePort]
  refine ⟨?_, ?_, ?_, ?_⟩ <;> (field_simp; ring)

/-- a V/I representation determines its matrix -/
theorem rel_inj_VI (X : Rep) (hX : X ≠ .S ∧ X ≠ .T) (Z0 : K) (m m' : M2 K)
    (h : ∀ p, rel X m Z0 p ↔ rel X m' Z0 p) : m = m' := by
  apply lin_inj
  intro l1 l2 r1 r2
  cases X
  · simpa [rel] using h ⟨l1, l2, r1, -r2⟩
  · simpa [rel] using h ⟨r1, r2, l1, -l2⟩
  · simpa [rel] using h ⟨r1, l1, l2, r2⟩
  · simpa [rel] using h ⟨l1, r1, r2, l2⟩
  · exact absurd rfl hX.1
  · exact absurd rfl hX.2
  · simpa [rel] using h ⟨r1, l1, r2, l2⟩
  · simpa [rel] using h ⟨l1, r1, l2, r2⟩

/-- every representation determines its matrix (wave representations need Z0 ≠ 0, 2 ≠ 0) -/
theorem rel_inj (X : Rep) (Z0 : K) (hz : Z0 ≠ 0) (h2 : (2 : K) ≠ 0) (m m' : M2 K)
    (h : ∀ p, rel X m Z0 p ↔ rel X m' Z0 p) : m = m' := by
  by_cases hX : X ≠ .S ∧ X ≠ .T
  · exact rel_inj_VI X hX Z0 m m' h
  · apply lin_inj
    intro l1 l2 r1 r2
    have hX' : X = .S ∨ X = .T := by
      cases X <;> simp_all
    rcases hX' with rfl | rfl
    · obtain ⟨e1, e2, e3, e4⟩ := wavePort_spec Z0 hz h2 r1 l1 r2 l2
      have := h (wavePort Z0 r1 l1 r2 l2)
      simpa only [rel, e1, e2, e3, e4] using this
    · obtain ⟨e1, e2, e3, e4⟩ := wavePort_spec Z0 hz h2 l2 l1 r1 r2
      have := h (wavePort Z0 l2 l1 r1 r2)
      simpa only [rel, e1, e2, e3, e4] using this

end Lcapy.TwoPort
