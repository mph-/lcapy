/-
  Helper lemmas for C14: the phasor map `toPh` is linear, turns the time derivative into multiplication by jω,
  and carries every time-domain residual of Spec/LawsTD.lean (sinusoids of angular frequency ω) to the corresponding
  Laplace-domain residual of Spec/Laws.lean at s = jω over `Cx K`.
-/
import Lcapy.Model.Phasor
import Lcapy.Proofs.Cx
import Lcapy.Proofs.MNA
namespace Lcapy.TDS
open Lcapy.MNA Lcapy.Cx Ix
variable {K : Type} [Field K]
set_option linter.unusedSimpArgs false
set_option linter.unusedTactic false
set_option linter.unreachableTactic false
set_option linter.unnecessarySeqFocus false

@[ext] theorem Sinus.ext' {u v : Sinus K} (h1 : u.a = v.a) (h2 : u.b = v.b) : u = v := by
  cases u; cases v; simp_all

@[simp] theorem toPh_zero (w : K) : toPh (sinusOps w).zero = 0 := by ext <;> simp [toPh, sinusOps]
@[simp] theorem toPh_add (w : K) (u v : Sinus K) : toPh ((sinusOps w).add u v) = toPh u + toPh v := by
  ext <;> simp [toPh, sinusOps]; ring
@[simp] theorem toPh_sub (w : K) (u v : Sinus K) : toPh ((sinusOps w).sub u v) = toPh u - toPh v := by
  ext <;> simp [toPh, sinusOps]; ring
@[simp] theorem toPh_neg (w : K) (u : Sinus K) : toPh ((sinusOps w).neg u) = -toPh u := by
  ext <;> simp [toPh, sinusOps]
@[simp] theorem toPh_smul (w r : K) (u : Sinus K) : toPh ((sinusOps w).smul r u) = ofReal r * toPh u := by
  ext <;> simp [toPh, sinusOps]

/-- **the derivative of a sinusoid is multiplication of its phasor by jω** -/
@[simp] theorem toPh_D (w : K) (u : Sinus K) : toPh ((sinusOps w).D u) = jw w * toPh u := by
  ext <;> simp [toPh, sinusOps]

theorem toPh_injective (u v : Sinus K) (h : toPh u = toPh v) : u = v := by
  have h1 := congrArg Cx.re h
  have h2 := congrArg Cx.im h
  simp only [toPh, neg_inj] at h1 h2
  exact Sinus.ext' h1 h2

theorem toPh_eq_zero (w : K) (u : Sinus K) : toPh u = 0 ↔ u = (sinusOps w).zero := by
  rw [← toPh_zero w]
  exact ⟨toPh_injective _ _, fun h => by rw [h]⟩

@[simp] theorem toPh_toTime (p : Cx K) : toPh (toTime p) = p := by ext <;> simp [toPh, toTime]
@[simp] theorem toTime_toPh (u : Sinus K) : toTime (toPh u) = u := by ext <;> simp [toPh, toTime]

@[simp] theorem toPh_voltS (w : K) (x : Ix → Sinus K) (n : Nat) :
    toPh (voltS (sinusOps w) x n) = volt (fun i => toPh (x i)) n := by
  cases n <;> simp [voltS, volt]

@[simp] theorem toPh_vdS (w : K) (x : Ix → Sinus K) (a b : Nat) :
    toPh (vdS (sinusOps w) x a b) = vd (fun i => toPh (x i)) a b := by
  simp [vdS, vd]

@[simp] theorem toPh_twoTermS (w : K) (n1 n2 k : Nat) (i : Sinus K) :
    toPh (twoTermS (sinusOps w) n1 n2 k i) = twoTerm n1 n2 k (toPh i) := by
  simp only [twoTermS, twoTerm, toPh_sub]
  split_ifs <;> simp

theorem toPh_sumS (w : K) (l : List (Sinus K)) : toPh (sumS (sinusOps w) l) = lsum (l.map toPh) := by
  induction l with
  | nil => simp [sumS, lsum]
  | cons h t ih => simp [sumS, lsum, ih]

theorem toPh_mutualDropS (w : K) (x : Ix → Sinus K) (coup : List (Nat × K × Option K)) :
    toPh (mutualDropS (sinusOps w) x coup) =
      mutualDrop (jw w) (fun i => toPh (x i)) (coup.map (fun p => (p.1, ofReal p.2.1, p.2.2.map ofReal))) := by
  induction coup with
  | nil => simp [mutualDropS, mutualDrop, sumS, lsum]
  | cons p t ih =>
    simp only [mutualDropS, mutualDrop, List.map_cons, sumS, lsum, toPh_add, toPh_smul, toPh_D] at ih ⊢
    rw [ih]; ring

/-- the current a component draws from a node: time domain ↦ phasor domain -/
theorem toPh_outflowS (w : K) (x : Ix → Sinus K) (k : Nat) (c : SCpt K (Sinus K)) :
    toPh (outflowS (sinusOps w) x k c) = outflow .lap (jw w) (fun i => toPh (x i)) k (phasorCpt c) := by
  obtain ⟨c, wv⟩ := c
  cases c <;>
    simp [outflowS, outflow, phasorCpt, embed, capCurrent, div_ofReal] <;> (try ring)

/-- the defining relations: time domain ↦ phasor domain (same branches, residuals mapped by `toPh`) -/
theorem toPh_lawsS (w : K) (x : Ix → Sinus K) (c : SCpt K (Sinus K)) :
    (lawsS (sinusOps w) x c).map (fun p => (p.1, toPh p.2)) =
      laws .lap (jw w) (fun i => toPh (x i)) (phasorCpt c) := by
  obtain ⟨c, wv⟩ := c
  cases c <;>
    simp [lawsS, laws, phasorCpt, embed, toPh_mutualDropS, div_two, div_ofReal] <;> (try ring) <;>
    (try (constructor <;> ring))

/-- maps `φ i` of the signals that commute with the sums, the outflows and the law residuals and that
    jointly reflect zero transport "KCL and every component law" (the shape of `LawsTD` and of `Laws`) -/
theorem laws_transport {ι A V : Type} {W B : ι → Type} (φ : ∀ i, V → W i) (zV : V) (zW : ∀ i, W i)
    (hz : ∀ v, (∀ i, φ i v = zW i) ↔ v = zV)
    (sumV : List V → V) (sumW : ∀ i, List (W i) → W i) (hsum : ∀ i l, φ i (sumV l) = sumW i (l.map (φ i)))
    (f : ∀ i, A → B i) (outV : Nat → A → V) (outW : ∀ i, Nat → B i → W i)
    (ho : ∀ i k c, φ i (outV k c) = outW i k (f i c))
    (lawV : A → List (Nat × V)) (lawW : ∀ i, B i → List (Nat × W i))
    (hl : ∀ i c, (lawV c).map (fun p => (p.1, φ i p.2)) = lawW i (f i c)) (cs : List A) :
    ((∀ k, k ≠ 0 → sumV (cs.map (outV k)) = zV) ∧ ∀ c ∈ cs, ∀ p ∈ lawV c, p.2 = zV) ↔
      ∀ i, (∀ k, k ≠ 0 → sumW i ((cs.map (f i)).map (outW i k)) = zW i) ∧
        ∀ c ∈ cs.map (f i), ∀ p ∈ lawW i c, p.2 = zW i := by
  have hk : ∀ i k, φ i (sumV (cs.map (outV k))) = sumW i ((cs.map (f i)).map (outW i k)) := fun i k => by
    rw [hsum, List.map_map, List.map_map]
    exact congrArg _ (List.map_congr_left fun c _ => ho i k c)
  have hz0 : ∀ i, φ i zV = zW i := (hz zV).mpr rfl
  constructor
  · rintro ⟨h1, h2⟩ i
    refine ⟨fun k hk0 => by rw [← hk, h1 k hk0, hz0], fun c hc p hp => ?_⟩
    obtain ⟨c0, hc0, rfl⟩ := List.mem_map.mp hc
    rw [← hl] at hp
    obtain ⟨p0, hp0, rfl⟩ := List.mem_map.mp hp
    show φ i p0.2 = _
    rw [h2 c0 hc0 p0 hp0, hz0]
  · intro h
    refine ⟨fun k hk0 => (hz _).mp fun i => by rw [hk]; exact (h i).1 k hk0, fun c hc p hp => (hz _).mp fun i => ?_⟩
    exact (h i).2 _ (List.mem_map_of_mem hc) (p.1, φ i p.2) (by rw [← hl]; exact List.mem_map_of_mem hp)

@[simp] theorem fam_zero (w : K) : (famOps (K := K)).zero w = (sinusOps w).zero := rfl
@[simp] theorem fam_add (u v : K → Sinus K) (w : K) : famOps.add u v w = (sinusOps w).add (u w) (v w) := rfl
@[simp] theorem fam_sub (u v : K → Sinus K) (w : K) : famOps.sub u v w = (sinusOps w).sub (u w) (v w) := rfl
@[simp] theorem fam_neg (u : K → Sinus K) (w : K) : famOps.neg u w = (sinusOps w).neg (u w) := rfl
@[simp] theorem fam_smul (r : K) (u : K → Sinus K) (w : K) : famOps.smul r u w = (sinusOps w).smul r (u w) := rfl
@[simp] theorem fam_D (u : K → Sinus K) (w : K) : famOps.D u w = (sinusOps w).D (u w) := rfl

@[simp] theorem fam_voltS (x : Ix → K → Sinus K) (n : Nat) (w : K) :
    voltS famOps x n w = voltS (sinusOps w) (fun i => x i w) n := by
  cases n <;> rfl

@[simp] theorem fam_vdS (x : Ix → K → Sinus K) (a b : Nat) (w : K) :
    vdS famOps x a b w = vdS (sinusOps w) (fun i => x i w) a b := by
  simp only [vdS, fam_sub, fam_voltS]

@[simp] theorem fam_twoTermS (n1 n2 k : Nat) (i : K → Sinus K) (w : K) :
    twoTermS famOps n1 n2 k i w = twoTermS (sinusOps w) n1 n2 k (i w) := by
  simp only [twoTermS, fam_sub]
  split_ifs <;> rfl

theorem fam_sumS (l : List (K → Sinus K)) (w : K) : sumS famOps l w = sumS (sinusOps w) (l.map (fun f => f w)) := by
  induction l with
  | nil => rfl
  | cons h t ih => simp only [sumS, List.map_cons, fam_add, ih]

@[simp] theorem fam_mutualDropS (x : Ix → K → Sinus K) (coup : List (Nat × K × Option K)) (w : K) :
    mutualDropS famOps x coup w = mutualDropS (sinusOps w) (fun i => x i w) coup := by
  simp only [mutualDropS, fam_sumS, List.map_map]
  rfl

theorem fam_outflowS (x : Ix → K → Sinus K) (k : Nat) (c : SCpt K (K → Sinus K)) (w : K) :
    outflowS famOps x k c w = outflowS (sinusOps w) (fun i => x i w) k (atFreq w c) := by
  obtain ⟨c, f⟩ := c
  cases c <;> simp only [outflowS, atFreq, fam_twoTermS, fam_add, fam_sub, fam_neg, fam_smul, fam_D, fam_vdS, fam_zero]

theorem fam_lawsS (x : Ix → K → Sinus K) (c : SCpt K (K → Sinus K)) (w : K) :
    (lawsS famOps x c).map (fun p => (p.1, p.2 w)) = lawsS (sinusOps w) (fun i => x i w) (atFreq w c) := by
  obtain ⟨c, f⟩ := c
  cases c <;> simp only [lawsS, atFreq, List.map_cons, List.map_nil, fam_add, fam_sub, fam_neg, fam_smul, fam_D,
    fam_vdS, fam_voltS, fam_mutualDropS]

theorem mutualDrop_zero (x : Ix → K) (coup : List (Nat × K × Option K)) : mutualDrop 0 x coup = 0 := by
  induction coup with
  | nil => simp [mutualDrop, lsum]
  | cons p t ih => simp only [mutualDrop, List.map_cons, lsum] at ih ⊢; rw [ih]; ring

@[simp] theorem const_zero : (constOps (K := K)).zero = 0 := rfl
@[simp] theorem const_add (u v : K) : constOps.add u v = u + v := rfl
@[simp] theorem const_sub (u v : K) : constOps.sub u v = u - v := rfl
@[simp] theorem const_neg (u : K) : constOps.neg u = -u := rfl
@[simp] theorem const_smul (r u : K) : constOps.smul r u = r * u := rfl
@[simp] theorem const_D (u : K) : constOps.D u = 0 := rfl

@[simp] theorem const_voltS (x : Ix → K) (n : Nat) : voltS constOps x n = volt x n := by cases n <;> rfl
@[simp] theorem const_vdS (x : Ix → K) (a b : Nat) : vdS constOps x a b = vd x a b := by simp [vdS, vd]
@[simp] theorem const_twoTermS (n1 n2 k : Nat) (i : K) : twoTermS constOps n1 n2 k i = twoTerm n1 n2 k i := by
  simp [twoTermS, twoTerm]

theorem const_sumS (l : List K) : sumS constOps l = lsum l := by
  induction l with
  | nil => rfl
  | cons h t ih => simp only [sumS, lsum, const_add, ih]

end Lcapy.TDS
