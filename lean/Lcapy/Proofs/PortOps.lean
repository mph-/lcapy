/-
  Helper lemmas for C04 (Props/C04Ops.lean): killed components under scaling / addition of independent quantities, the
  split of a circuit into "sources only" and "initial conditions only".
-/
import Lcapy.Proofs.Linear
import Lcapy.Model.PortOps
import Lcapy.Props.C03
namespace Lcapy.MNA
open Ix
variable {K : Type} [Field K]

theorem coupMap_zero_indep (coup : List (Nat × K × Option K)) :
    ∀ v ∈ (coupMap (fun _ => (0 : K)) coup).flatMap (fun p => p.2.2.toList), v = 0 := by
  intro v hv
  simp only [coupMap, List.mem_flatMap, List.mem_map] at hv
  obtain ⟨p, ⟨q, _, rfl⟩, hv⟩ := hv
  cases h : q.2.2 <;> simp [h] at hv
  exact hv

theorem mutualIC_zero (coup : List (Nat × K × Option K))
    (h : ∀ v ∈ coup.flatMap (fun p => p.2.2.toList), v = 0) : mutualIC coup = 0 := by
  induction coup with
  | nil => simp [mutualIC, lsum]
  | cons p t ih =>
    obtain ⟨b, M, o⟩ := p
    have ht := ih (fun v hv => h v (by simp only [List.flatMap_cons, List.mem_append]; exact Or.inr hv))
    simp only [mutualIC, List.map_cons, lsum] at ht ⊢
    rw [ht]
    cases o with
    | none => simp [icFlux]
    | some i0 =>
      have : i0 = 0 := h i0 (by simp)
      simp [icFlux, this]

theorem indep_killSrcs (c : Cpt K) (v : K) (hv : v ∈ c.killSrcs.indep) : v ∈ c.indep ∨ v = 0 := by
  cases c with
  | V => exact .inr (List.mem_singleton.mp hv)
  | I => exact .inr (List.mem_singleton.mp hv)
  | _ => exact .inl hv

theorem addSrc_killICs_killSrcs (c : Cpt K) : c.killICs.addSrc c.killSrcs = c := by
  have hc : ∀ coup : List (Nat × K × Option K), coupAdd (coupMap (fun _ => 0) coup) coup = coup := fun coup => by
    simpa [coupMap_id] using coupAdd_coupMap (fun _ => 0) (fun v => v) coup
  cases c with
  | Cap n1 n2 c v0 => cases v0 <;> simp [Cpt.killICs, Cpt.killSrcs, Cpt.addSrc, optAdd]
  | Ind n1 n2 m l i0 coup => cases i0 <;> simp [Cpt.killICs, Cpt.killSrcs, Cpt.addSrc, optAdd, hc]
  | _ => simp [Cpt.killICs, Cpt.killSrcs, Cpt.addSrc]

theorem sameShape_killICs_killSrcs (c : Cpt K) : SameShape c.killICs c.killSrcs := by
  cases c <;> simp [SameShape, Cpt.killICs, Cpt.killSrcs, Cpt.mapSrc, coupMap_comp, Function.comp_def]

theorem forall2_killICs_killSrcs (cs : List (Cpt K)) :
    List.Forall₂ SameShape (cs.map Cpt.killICs) (cs.map Cpt.killSrcs) := by
  induction cs with
  | nil => exact List.Forall₂.nil
  | cons c t ih => exact List.Forall₂.cons (sameShape_killICs_killSrcs c) ih

theorem zip_killICs_killSrcs (cs : List (Cpt K)) :
    List.zipWith Cpt.addSrc (cs.map Cpt.killICs) (cs.map Cpt.killSrcs) = cs := by
  induction cs with
  | nil => rfl
  | cons c t ih => simp only [List.map_cons, List.zipWith_cons_cons, ih, addSrc_killICs_killSrcs]

theorem vd_fun_add (x y : Ix → K) (p m : Nat) : vd (fun i => x i + y i) p m = vd x p m + vd y p m := by
  cases p <;> cases m <;> simp [vd, volt] <;> ring

theorem vd_smul (a : K) (x : Ix → K) (p m : Nat) : vd (fun i => a * x i) p m = a * vd x p m := by
  cases p <;> cases m <;> simp [vd, volt]; ring

theorem vd_linear (x1 x2 : Ix → K) (a b : K) (p m : Nat) :
    vd (fun i => a * x1 i + b * x2 i) p m = a * vd x1 p m + b * vd x2 p m := by
  rw [vd_fun_add (fun i => a * x1 i) (fun i => b * x2 i), vd_smul, vd_smul]

/-- two assignments that agree on the unknowns of a netlist give the same potential to every node that the stamp of
    one of its components mentions (the test sources' own stamps mention the port nodes) -/
theorem volt_eq_of_unknown (kind : Kind) (s : K) (cs : List (Cpt K)) (c : Cpt K) (hc : c ∈ cs) (x y : Ix → K)
    (h : ∀ i, C01.Unknown kind s cs i → x i = y i) (k : Nat) (hk : node k ∈ C01.unknowns (stamp kind s c)) :
    volt x k = volt y k := by
  cases k with
  | zero => rfl
  | succ n => exact h _ ⟨by simp, C01.mem_unknowns_stampAll kind s cs c hc _ hk⟩

omit [Field K] in
/-- components that own no branch current (test current sources, …) do not affect well-formedness -/
theorem wf_append_unowned {cs P : List (Cpt K)} (hP : P.flatMap owned = []) : C01.WF (cs ++ P) ↔ C01.WF cs := by
  simp [C01.WF, hP]

/-- a response of `cs ++ P` plus a response of the killed netlist to the probe values `P'` is a response of `cs`
    to the sum of the probe values: the form in which superposition is used for every probe experiment -/
theorem solves_add_killed (kind : Kind) (s : K) (cs P P' : List (Cpt K)) (x y : Ix → K)
    (hsh : List.Forall₂ SameShape P P') (hx : Solves kind s (cs ++ P) x) (hy : Solves kind s (killAll cs ++ P') y) :
    Solves kind s (cs ++ List.zipWith Cpt.addSrc P P') (fun i => x i + y i) := by
  have h := C03.superposition kind s _ _ x y (List.rel_append (sameShape_killAll cs) hsh) hx hy
  rwa [List.zipWith_append (by simp [killAll]), zip_killAll] at h

omit [Field K] in
theorem owned_mapSrc (f : K → K) (c : Cpt K) : owned (c.mapSrc f) = owned c := by
  cases c <;> simp [Cpt.mapSrc, owned]

end Lcapy.MNA
