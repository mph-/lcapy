/-
  Helper lemmas for property C13, part b: polynomial evaluation, sequences with an origin, convolution algebra, the DTFT
  rule cascade, initial-condition indexing, the `discretize` substitutions.
-/
import Lcapy.Proofs.DT

namespace Lcapy.DT
open PowerSeries
variable {K : Type} [Field K]
set_option linter.unusedVariables false

/-! ### polynomial evaluation -/

@[simp] theorem peval_nil (w : K) : peval ([] : List K) w = 0 := rfl
@[simp] theorem peval_cons (c : K) (p : List K) (w : K) : peval (c :: p) w = c + w * peval p w := rfl

theorem peval_padd (p q : List K) (w : K) : peval (padd p q) w = peval p w + peval q w := by
  induction p generalizing q with
  | nil => simp [padd]
  | cons a p ih =>
    cases q with
    | nil => simp [padd]
    | cons b q => simp [padd, ih]; ring

theorem peval_pscale (c : K) (p : List K) (w : K) : peval (pscale c p) w = c * peval p w := by
  induction p with
  | nil => simp [pscale]
  | cons a p ih =>
    have : pscale c (a :: p) = (c * a) :: pscale c p := rfl
    rw [this, peval_cons, ih]; simp; ring

theorem peval_pneg (p : List K) (w : K) : peval (pneg p) w = - peval p w := by
  induction p with
  | nil => simp [pneg]
  | cons a p ih =>
    have : pneg (a :: p) = (-a) :: pneg p := rfl
    rw [this, peval_cons, ih]; simp; ring

theorem peval_psub (p q : List K) (w : K) : peval (psub p q) w = peval p w - peval q w := by
  simp [psub, peval_padd, peval_pneg]; ring

theorem peval_pmul (p q : List K) (w : K) : peval (pmul p q) w = peval p w * peval q w := by
  induction p with
  | nil => simp [pmul]
  | cons a p ih => simp [pmul, peval_padd, peval_pscale, ih]; ring

theorem peval_pshift (d : ℕ) (p : List K) (w : K) : peval (pshift d p) w = w ^ d * peval p w := by
  induction d with
  | zero => simp [pshift]
  | succ d ih =>
    have : pshift (d + 1) p = 0 :: pshift d p := by simp [pshift, List.replicate_succ]
    rw [this, peval_cons, ih]; ring

theorem peval_pdilateFrom (a s : K) (p : List K) (w : K) :
    peval (pdilateFrom a s p) w = s * peval p (a * w) := by
  induction p generalizing s with
  | nil => simp [pdilateFrom]
  | cons c p ih => simp [pdilateFrom, ih]; ring

theorem peval_ppow (p : List K) (n : ℕ) (w : K) : peval (ppow p n) w = peval p w ^ n := by
  induction n with
  | zero => simp [ppow]
  | succ n ih => simp [ppow, peval_pmul, ih, pow_succ]; ring

theorem peval_eq_zero_of_toPS (p : List K) (h : toPS p = 0) (w : K) : peval p w = 0 := by
  induction p with
  | nil => rfl
  | cons a p ih =>
    rw [toPS_cons] at h
    have h0 : a = 0 := by simpa using congrArg (coeff 0) h
    have h1 : toPS p = 0 := by
      ext n; simpa [coeff_succ_X_mul] using congrArg (coeff (n + 1)) h
    rw [peval_cons, h0, ih h1, mul_zero, add_zero]

/-- two coefficient lists with the same power series (i.e. equal up to trailing zeros) evaluate equally -/
theorem peval_eq_of_toPS (p q : List K) (h : toPS p = toPS q) (w : K) : peval p w = peval q w := by
  rw [← sub_eq_zero, ← peval_psub]
  exact peval_eq_zero_of_toPS _ (by rw [toPS_psub, h, sub_self]) w

/-! ### sequences with an origin -/

theorem lsum_pdilateFrom (a s : K) (vals : List K) : lsum (pdilateFrom a s vals) = s * peval vals a := by
  induction vals generalizing s with
  | nil => simp [pdilateFrom, lsum]
  | cons c p ih => simp [pdilateFrom, lsum, ih]; ring

theorem dtftSum_lit_aux (vals : List K) (n0 : ℤ) (q : K) (hq : q ≠ 0) (m : ℕ) :
    dtftSum (litVal vals n0) q n0 m = q ^ n0 * peval (vals.take m) q := by
  induction m generalizing vals with
  | zero => simp [dtftSum]
  | succ m ih =>
    rw [dtftSum, ih]
    have hle : n0 ≤ n0 + Int.ofNat m := by simp
    have e1 : (n0 + Int.ofNat m - n0).toNat = m := by simp
    simp only [litVal, hle, ↓reduceIte, e1, zpowK_eq]
    rw [zpow_add₀ hq]
    have key : ∀ (l : List K) (k : ℕ), peval (l.take (k + 1)) q = peval (l.take k) q + l.getD k 0 * q ^ k := by
      intro l
      induction l with
      | nil => intro k; simp
      | cons c l ihl =>
        intro k
        cases k with
        | zero => simp
        | succ k => simp only [List.take_succ_cons, peval_cons, ihl k, List.getD_cons_succ]; ring
    rw [key]
    simp
    ring

theorem pdilateFrom_length (a s : K) (p : List K) : (pdilateFrom a s p).length = p.length := by
  induction p generalizing s with
  | nil => rfl
  | cons c p ih => simp [pdilateFrom, ih]

theorem pdilateFrom_getD (a s : K) (p : List K) (i : ℕ) :
    (pdilateFrom a s p).getD i 0 = p.getD i 0 * (s * a ^ i) := by
  induction p generalizing s i with
  | nil => simp [pdilateFrom]
  | cons c p ih =>
    cases i with
    | zero => simp [pdilateFrom]
    | succ i => simp only [pdilateFrom, List.getD_cons_succ]; rw [ih]; ring

theorem pdilateFrom_pdilateFrom (a b s t : K) (p : List K) :
    pdilateFrom b t (pdilateFrom a s p) = pdilateFrom (a * b) (s * t) p := by
  induction p generalizing s t with
  | nil => rfl
  | cons c p ih =>
    simp only [pdilateFrom]; rw [ih]
    have e1 : c * s * t = c * (s * t) := by ring
    have e2 : s * a * (t * b) = s * t * (a * b) := by ring
    rw [e1, e2]

theorem pdilateFrom_one (p : List K) : pdilateFrom (1 : K) 1 p = p := by
  have : ∀ s : K, s = 1 → pdilateFrom (1 : K) s p = p := by
    induction p with
    | nil => intro s _; rfl
    | cons c p ih => intro s hs; subst hs; simp [pdilateFrom, ih]
  exact this 1 rfl

/-! ### convolution algebra -/

theorem lfilterPy_length (b a x : List K) : (lfilterPy b a x).length = x.length := by simp [lfilterPy]

theorem convolvePy_length (x h : List K) (hx : x ≠ []) (hh : h ≠ []) :
    (convolvePy x h).length = x.length + (h.length - 1) := by
  simp [convolvePy, hx, hh, lfilterPy_length]

theorem bsum_litZ_high (h x : List K) (n : ℕ) (hn : x.length + (h.length - 1) ≤ n) (hh : h ≠ []) :
    bsum h (litZ x) n = 0 := by
  have gen : ∀ (h : List K) (i : ℤ), (x.length : ℤ) + (h.length : ℤ) - 1 ≤ i → bsum h (litZ x) i = 0 := by
    intro h
    induction h with
    | nil => intro i _; simp [bsum]
    | cons c cs ih =>
      intro i hi
      simp only [bsum]
      have h1 : litZ x i = 0 := by
        simp only [List.length_cons] at hi
        have h0 : 0 ≤ i := by omega
        simp only [litZ, h0, ↓reduceIte]
        exact List.getD_eq_default _ _ (by omega)
      rw [h1, ih (i - 1) (by simp only [List.length_cons] at hi; push_cast at hi ⊢; omega)]; simp
  apply gen
  cases h with
  | nil => exact absurd rfl hh
  | cons c cs => simp only [List.length_cons] at hn ⊢; push_cast; omega

theorem mk_litZ (x : List K) : PowerSeries.mk (fun n : ℕ => litZ x n) = toPS x := by
  ext n; rw [coeff_mk, litZ_natCast, coeff_toPS]

theorem litZ_convolve (x h : List K) (hx : x ≠ []) (hh : h ≠ []) (i : ℤ) :
    litZ (convolvePy x h) i = bsum h (litZ x) i := by
  by_cases hi : 0 ≤ i
  · obtain ⟨n, rfl⟩ := Int.eq_ofNat_of_zero_le hi
    rw [litZ_natCast]
    by_cases hn : n < x.length + (h.length - 1)
    · rw [convolve_getD x h hx hh n hn]; rfl
    · rw [List.getD_eq_default _ _ (by rw [convolvePy_length x h hx hh]; omega)]
      exact (bsum_litZ_high h x n (by omega) hh).symm
  · have hneg : i < 0 := by omega
    rw [litZ_causal _ i hneg, litZ_eq_extZ, bsum_extZ_neg _ _ i hneg]

/-- `Sequence.convolve` multiplies the generating polynomials -/
theorem toPS_convolve (x h : List K) (hx : x ≠ []) (hh : h ≠ []) :
    toPS (convolvePy x h) = toPS h * toPS x := by
  ext n
  simp only [coeff_toPS, coeff_toPS_mul, ← litZ_eq_extZ, ← litZ_convolve x h hx hh, litZ_natCast]

theorem list_ext_getD (l1 l2 : List K) (hl : l1.length = l2.length)
    (h : ∀ n, n < l1.length → l1.getD n 0 = l2.getD n 0) : l1 = l2 := by
  apply List.ext_getElem hl
  intro i h1 h2
  have := h i h1
  rwa [List.getD_eq_getElem _ _ h1, List.getD_eq_getElem _ _ h2] at this

theorem list_eq_of_toPS (p q : List K) (hl : p.length = q.length) (h : toPS p = toPS q) : p = q :=
  list_ext_getD p q hl fun i _ => by rw [← coeff_toPS, h, coeff_toPS]

theorem convolvePy_ne_nil (x h : List K) (hx : x ≠ []) (hh : h ≠ []) : convolvePy x h ≠ [] := by
  intro e
  have := convolvePy_length x h hx hh
  rw [e] at this
  cases x with
  | nil => exact hx rfl
  | cons _ _ => simp only [List.length_cons, List.length_nil] at this; omega

/-! ### initial conditions -/

theorem respY_neg (b a : List K) (x : ℤ → K) (ic : List K) (i : ℕ) :
    respY b a x ic (-((i : ℤ) + 1)) = ic.getD i 0 := by
  rw [respY_of_neg b a x ic (by omega)]
  congr 1; omega

theorem bsum_congr (c : List K) (u v : ℤ → K) (i : ℤ) (h : ∀ k : ℕ, k < c.length → u (i - k) = v (i - k)) :
    bsum c u i = bsum c v i := by
  induction c generalizing i with
  | nil => simp [bsum]
  | cons a cs ih =>
    simp only [bsum]
    have h0 := h 0 (by simp)
    simp at h0
    rw [h0, ih (i - 1)]
    intro k hk
    have := h (k + 1) (by simpa using hk)
    have e : i - ((k + 1 : ℕ) : ℤ) = i - 1 - (k : ℤ) := by push_cast; omega
    rw [e] at this; exact this

/-- `Σ_{k≥1} a_k ic[k-1]`: how the initial conditions enter the first output sample -/
theorem bsum_ic (c ic : List K) (b a : List K) (x : ℤ → K) (hl : c.length ≤ ic.length) :
    bsum c (respY b a x ic) (-1) = dot c ic := by
  rw [bsum_congr c _ (negSeq ic) (-1) (fun k _ => by
    rw [respY_of_neg b a x ic (by omega), negSeq_of_neg ic (by omega)])]
  exact bsum_negSeq_neg c ic 0


/-! ### DTFT: finite bilateral sums -/

theorem dtftSum_add (x y : ℤ → K) (q : K) (lo : ℤ) (len : ℕ) :
    dtftSum (fun n => x n + y n) q lo len = dtftSum x q lo len + dtftSum y q lo len := by
  induction len with
  | zero => simp [dtftSum]
  | succ m ih => simp only [dtftSum, ih]; ring

theorem dtftSum_smul (c : K) (x : ℤ → K) (q : K) (lo : ℤ) (len : ℕ) :
    dtftSum (fun n => c * x n) q lo len = c * dtftSum x q lo len := by
  induction len with
  | zero => simp [dtftSum]
  | succ m ih => simp only [dtftSum, ih]; ring

theorem dtftSum_congr (x y : ℤ → K) (q : K) (lo : ℤ) (len : ℕ)
    (h : ∀ i : ℕ, i < len → x (lo + i) = y (lo + i)) : dtftSum x q lo len = dtftSum y q lo len := by
  induction len with
  | zero => simp [dtftSum]
  | succ m ih =>
    simp only [dtftSum]
    rw [ih (fun i hi => h i (by omega))]
    have := h m (by omega)
    simp only [Int.ofNat_eq_natCast]
    rw [this]

theorem dtftSum_modulate (x : ℤ → K) (r q : K) (lo : ℤ) (len : ℕ) :
    dtftSum (fun n => r ^ n * x n) q lo len = dtftSum x (r * q) lo len := by
  induction len with
  | zero => simp [dtftSum]
  | succ k ih => simp only [dtftSum, ih, zpowK_eq, mul_zpow]; ring

theorem dtftSum_impulse (d : ℤ) (q : K) (lo : ℤ) (len : ℕ) :
    dtftSum (fun n => if n = d then (1 : K) else 0) q lo len
      = if lo ≤ d ∧ d < lo + len then q ^ d else 0 := by
  induction len with
  | zero => simp [dtftSum]
  | succ k ih =>
    simp only [dtftSum, ih, zpowK_eq, Int.ofNat_eq_natCast]
    by_cases h1 : lo + (k : ℤ) = d
    · have h2 : ¬ (lo ≤ d ∧ d < lo + (k : ℤ)) := by omega
      have h3 : lo ≤ d ∧ d < lo + ((k + 1 : ℕ) : ℤ) := by push_cast; omega
      rw [if_neg h2, if_pos h1, if_pos h3, h1]; ring
    · by_cases h2 : lo ≤ d ∧ d < lo + (k : ℤ)
      · have h3 : lo ≤ d ∧ d < lo + ((k + 1 : ℕ) : ℤ) := by push_cast; omega
        rw [if_pos h2, if_neg h1, if_pos h3]; ring
      · have h3 : ¬ (lo ≤ d ∧ d < lo + ((k + 1 : ℕ) : ℤ)) := by push_cast; omega
        rw [if_neg h2, if_neg h1, if_neg h3]; ring

/-! ### DTFT: the rule cascade gives the defining series (causal terms) -/

theorem IsZT.of_toPS {x : ℕ → K} {r s : ZR K} (h : IsZT x r) (h0 : s.adv = 0)
    (hn : toPS s.num = toPS r.num) (hd : toPS s.den = toPS r.den) : IsZT x s := by
  obtain ⟨_, h1, h2⟩ := h
  refine ⟨h0, by rw [hn, hd]; exact h1, ?_⟩
  rw [headD_eq] at h2 ⊢
  rwa [hd]

theorem isZT_dtftGate (a : K) (isStep : Bool) (m : ℕ) :
    IsZT (fun n : ℕ => a ^ n * (if isStep then (if m ≤ n then (1 : K) else 0) else (if n = m then 1 else 0)))
      (dtftGate a isStep (m : ℤ)) := by
  have hm : (m : ℤ) ≥ 0 := by omega
  refine ⟨by simp [dtftGate], ?_, by cases isStep <;> simp [dtftGate]⟩
  cases isStep with
  | false =>
    simp only [dtftGate, hm, ↓reduceIte, Bool.false_eq_true, toPS_pshift, Int.toNat_natCast,
      zpowK_eq, zpow_natCast, toPS_singleton, mul_ite, mul_one, mul_zero]
    rw [map_one, one_mul, mul_comm (X ^ m), ← mk_single]
    congr 1; funext n
    split_ifs with h
    · rw [h]
    · rfl
  | true =>
    simp only [dtftGate, hm, ↓reduceIte, toPS_pshift, Int.toNat_natCast, zpowK_eq, zpow_natCast, toPS_singleton,
      toPS_one_sub_C, mul_ite, mul_one, mul_zero]
    rw [one_sub_mul_mk_gate, mul_comm]

/-- side conditions of the DTFT soundness theorem: causal gate; for a sine the symbol `j` is an imaginary unit -/
def DTerm.ok (t : DTerm K) : Prop :=
  0 ≤ t.d ∧ (match t.mod with
    | .sin _ _ j => j * j = -1
    | _ => True)

theorem isZT_dtftReg (t : DTerm K) (h : t.ok) : IsZT (fun n : ℕ => t.val n) (dtftReg t) := by
  obtain ⟨hd, hm⟩ := h
  obtain ⟨m, hm'⟩ := Int.eq_ofNat_of_zero_le hd
  have hg := (isZT_dtftGate t.a t.isStep m).iterMulN t.p
  rw [← hm'] at hg
  have gate_eq : ∀ n : ℕ, (if t.isStep then (if t.d ≤ (n : ℤ) then (1 : K) else 0) else (if (n : ℤ) = t.d then 1 else 0))
      = (if t.isStep then (if m ≤ n then (1 : K) else 0) else (if n = m then 1 else 0)) := by
    intro n
    rw [hm']
    cases t.isStep <;> simp
  cases hmod : t.mod with
  | none =>
    have := hg.scale t.coef
    simp only [dtftReg, hmod]
    refine this.congr (fun n => ?_)
    simp only [DTerm.val, hmod, DMod.val, gate_eq, powK_eq, intK_eq, zpowK_eq, zpow_natCast, Int.cast_natCast]
    ring
  | cos eb ec =>
    have := ((((hg.dilate (1 / eb)).scale (1 / ec)).add ((hg.dilate eb).scale ec)).scale (1 / (1 + 1))).scale t.coef
    simp only [dtftReg, hmod]
    refine this.congr (fun n => ?_)
    simp only [DTerm.val, hmod, DMod.val, gate_eq, powK_eq, intK_eq, zpowK_eq, zpow_natCast, Int.cast_natCast,
      one_div, inv_pow, mul_inv]
    ring
  | sin eb ec j =>
    have hj : j * j = -1 := by simpa [hmod] using hm
    have hinv : j⁻¹ = -j := inv_eq_of_mul_eq_one_right (by linear_combination -hj)
    have := ((((hg.dilate (1 / eb)).scale (1 / ec)).add ((hg.dilate eb).scale (-ec))).scale (j / (1 + 1))).scale t.coef
    simp only [dtftReg, hmod]
    refine this.congr (fun n => ?_)
    simp only [DTerm.val, hmod, DMod.val, gate_eq, powK_eq, intK_eq, zpowK_eq, zpow_natCast, Int.cast_natCast,
      mul_inv, div_eq_mul_inv, hinv]
    ring

/-- two closed forms of the same sequence evaluate equally wherever both denominators are non-zero -/
theorem eval_eq_of_isZT {x : ℕ → K} {r s : ZR K} (hr : IsZT x r) (hs : IsZT x s) (z : K)
    (h1 : peval r.den (1 / z) ≠ 0) (h2 : peval s.den (1 / z) ≠ 0) : r.eval z = s.eval z := by
  obtain ⟨r0, r1, _⟩ := hr
  obtain ⟨s0, s1, _⟩ := hs
  have e : toPS (pmul r.num s.den) = toPS (pmul s.num r.den) := by
    rw [toPS_pmul, toPS_pmul, ← r1, ← s1]; ring
  have := peval_eq_of_toPS _ _ e (1 / z)
  rw [peval_pmul, peval_pmul] at this
  simp only [ZR.eval, r0, s0, powK_eq, pow_zero, one_mul]
  field_simp
  linear_combination this


/-! ### origin arithmetic -/

theorem litVal_eq_litZ (vals : List K) (n0 n : ℤ) : litVal vals n0 n = litZ vals (n - n0) := by
  by_cases h : n0 ≤ n <;> simp [litVal, litZ, h]

theorem bsum_shift (c : List K) (u : ℤ → K) (m i : ℤ) :
    bsum c (fun k => u (k - m)) i = bsum c u (i - m) := by
  induction c generalizing i with
  | nil => simp [bsum]
  | cons a cs ih =>
    simp only [bsum, ih]
    have : i - 1 - m = i - m - 1 := by ring
    rw [this]

/-! ### `lfilter` started at rest -/

theorem lfilter_ps (b a x : List K) (ha : a.headD 0 ≠ 0) :
    toPS a * PowerSeries.mk (fun n : ℕ => respY b a (litZ x) (List.replicate (a.length - 1) 0) n)
      = toPS (pmul b x) := by
  rw [recursion_ps b a (litZ x) _ ha (lfilter_zeros_len a ha)
    (by intro v hv; exact (List.mem_replicate.mp hv).2) (litZ_causal x), mk_litZ, toPS_pmul]

/-! ### `discretize` substitutions -/

/-- `Σ_i c_i N^i D^(M-i)` -/
def hval (N D : K) : List K → ℕ → K
  | [], _ => 0
  | c :: cs, M => c * D ^ M + N * hval N D cs (M - 1)

theorem peval_homSubst (sn sd c : List K) (M : ℕ) (w : K) :
    peval (homSubst sn sd c M) w = hval (peval sn w) (peval sd w) c M := by
  induction c generalizing M with
  | nil => simp [homSubst, hval]
  | cons a cs ih => simp [homSubst, hval, peval_padd, peval_pscale, peval_ppow, peval_pmul, ih]

theorem hval_eq (N D : K) (hD : D ≠ 0) (c : List K) (M : ℕ) (h : c.length ≤ M + 1) :
    hval N D c M = D ^ M * peval c (N / D) := by
  induction c generalizing M with
  | nil => simp [hval]
  | cons a cs ih =>
    cases cs with
    | nil => simp [hval]; ring
    | cons a2 cs2 =>
      have hM : 1 ≤ M := by simp at h; omega
      obtain ⟨M', rfl⟩ : ∃ M', M = M' + 1 := ⟨M - 1, by omega⟩
      have := ih M' (by simp at h ⊢; omega)
      simp only [hval, Nat.add_sub_cancel] at this ⊢
      rw [this, peval_cons, peval_cons, peval_cons]
      field_simp
      ring

end Lcapy.DT
