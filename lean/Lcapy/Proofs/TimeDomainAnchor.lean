/-
  Analytic anchor for C02: on the regular part of a formal signal the formal derivative `deriv` (Model/ExpPoly.lean) is
  the classical derivative.  With `E = Real.exp`, at every instant that is not one of the signal's switching instants
  (the delays of its terms; for an undelayed response: every t ≠ 0),

        d/dt [evalAt f] (t) = evalAt (deriv f) t .
-/
import Lcapy.Proofs.TimeDomain
import Mathlib.Analysis.SpecialFunctions.ExpDeriv
import Mathlib.Analysis.Calculus.Deriv.Pow
namespace Lcapy.TD
open Lcapy.Laplace Filter Topology

/-- `d/dτ (τ−d)^k/k! = (τ−d)^(k−1)/(k−1)!` (0 for k = 0), with the model's `pw`, `fact` -/
theorem hasDerivAt_pw_div_fact (d t : ℝ) : ∀ k : ℕ,
    HasDerivAt (fun τ : ℝ => pw (τ - d) k / fact k) (match k with | 0 => 0 | k + 1 => pw (t - d) k / fact k) t
  | 0 => by simpa [pw, fact] using hasDerivAt_const t (1 : ℝ)
  | k + 1 => by
    have hlin : HasDerivAt (fun τ : ℝ => τ - d) 1 t := (hasDerivAt_id t).sub_const d
    have h : HasDerivAt (fun τ : ℝ => (τ - d) ^ (k + 1) / ((k + 1).factorial : ℝ)) _ t :=
      (hlin.pow (k + 1)).div_const ((k + 1).factorial : ℝ)
    simp only [pw_eq, fact_eq]
    refine h.congr_deriv ?_
    rw [Nat.factorial_succ, Nat.cast_mul, Nat.add_sub_cancel, mul_one,
      mul_div_mul_left _ _ (Nat.cast_ne_zero.mpr (Nat.succ_ne_zero k))]

theorem term_hasDerivAt (x : Term ℝ) (t : ℝ) (ht : t ≠ x.delayOf) :
    HasDerivAt (fun τ => x.at Real.exp τ) (evalAt Real.exp (Term.deriv x) t) t := by
  cases x with
  | dl c n d =>
    simp only [Term.at, Term.deriv, evalAt, add_zero]
    exact hasDerivAt_const t 0
  | ep c k p d =>
    simp only [Term.delayOf] at ht
    rcases lt_or_gt_of_ne ht with hlt | hgt
    · -- before the term starts: identically zero near t
      have hnot : ¬ d ≤ t := not_le.mpr hlt
      have hval : evalAt Real.exp (Term.deriv (.ep c k p d)) t = 0 := by
        cases k <;> simp [Term.deriv, evalAt, Term.at, hnot]
      rw [hval]
      have hev : (fun τ => (Term.ep c k p d).at Real.exp τ) =ᶠ[𝓝 t] fun _ => (0 : ℝ) := by
        filter_upwards [Iio_mem_nhds hlt] with τ hτ
        have : ¬ d ≤ τ := not_le.mpr hτ
        simp [Term.at, this]
      exact (hasDerivAt_const t (0 : ℝ)).congr_of_eventuallyEq hev
    · -- after the term has started: a smooth function near t
      have hle : d ≤ t := le_of_lt hgt
      have hev : (fun τ => (Term.ep c k p d).at Real.exp τ) =ᶠ[𝓝 t]
          fun τ => c * (pw (τ - d) k / fact k) * Real.exp (p * (τ - d)) := by
        filter_upwards [Ioi_mem_nhds hgt] with τ hτ
        simp only [Term.at, if_pos (le_of_lt (Set.mem_Ioi.mp hτ)), mul_div_assoc]
      have hexp : HasDerivAt (fun τ : ℝ => Real.exp (p * (τ - d))) (Real.exp (p * (t - d)) * (p * 1)) t :=
        (((hasDerivAt_id t).sub_const d).const_mul p).exp
      have hmain := ((hasDerivAt_pw_div_fact d t k).const_mul c).mul hexp
      refine (hmain.congr_of_eventuallyEq hev).congr_deriv ?_
      cases k <;> simp only [Term.deriv, evalAt, Term.at, if_pos hle] <;> ring

/-- **The formal derivative is the classical derivative** away from the switching instants. -/
theorem evalAt_hasDerivAt (f : ExpPoly ℝ) (t : ℝ) (h : ∀ x ∈ f, t ≠ x.delayOf) :
    HasDerivAt (fun τ => evalAt Real.exp f τ) (evalAt Real.exp (Laplace.deriv f) t) t := by
  induction f with
  | nil => simpa [Laplace.deriv, evalAt] using hasDerivAt_const t (0 : ℝ)
  | cons x f ih =>
    have h1 := term_hasDerivAt x t (h x (by simp))
    have h2 := ih (fun y hy => h y (by simp [hy]))
    have := h1.add h2
    simp only [Laplace.deriv, List.flatMap_cons, evalAt_append] at this ⊢
    exact this

end Lcapy.TD
