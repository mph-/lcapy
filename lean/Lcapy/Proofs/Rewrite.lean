/-
  Helper lemmas for C05: sums; Thevenin / Norton forms of the two-terminal element classes, chains and
  groups by induction, orientation and the capacitor / inductor duality; what a component's current and laws
  read (`mentions`, `SupportedIn`); `Simulates` as a preorder and a congruence; semantics of `TT.toCpt` in
  terms of `outflow` / `laws`; assignments updated at single unknowns.
-/
import Lcapy.Model.Rewrite
import Lcapy.Spec.PortRel
import Lcapy.Proofs.MNA
import Mathlib.Tactic.Ring
import Mathlib.Tactic.FieldSimp
import Mathlib.Tactic.LinearCombination
import Mathlib.Algebra.Field.Basic
namespace Lcapy.MNA
variable {K : Type} [Field K]

/-! ### sums -/

theorem sumVals_eq_sumK (l : List K) : Rewrite.sumVals l = sumK l := by
  induction l with
  | nil => rfl
  | cons h t ih => simp [Rewrite.sumVals, sumK, ih]

theorem sumK_append (a b : List K) : sumK (a ++ b) = sumK a + sumK b := by
  induction a with
  | nil => simp [sumK]
  | cons h t ih => simp [sumK, ih, add_assoc]

theorem sumK_perm {a b : List K} (h : a.Perm b) : sumK a = sumK b := by
  induction h with
  | nil => rfl
  | cons x _ ih => simp [sumK, ih]
  | swap x y l => simp [sumK]; ring
  | trans _ _ ih1 ih2 => rw [ih1, ih2]

section sums
variable {α : Type}

theorem sumK_map_zero (l : List α) : sumK (l.map (fun _ => (0 : K))) = 0 := by
  induction l with
  | nil => rfl
  | cons h t ih => simp only [List.map_cons, sumK, ih, add_zero]

/-- a map that respects `0` and `+` comes out of a sum -/
theorem sumK_map_additive (g : K → K) (h0 : g 0 = 0) (hadd : ∀ a b, g (a + b) = g a + g b) (f : α → K) (l : List α) :
    sumK (l.map (fun a => g (f a))) = g (sumK (l.map f)) := by
  induction l with
  | nil => exact h0.symm
  | cons h t ih => simp only [List.map_cons, sumK, ih, hadd]

theorem sumK_mul_left (c : K) (f : α → K) (l : List α) : sumK (l.map (fun a => c * f a)) = c * sumK (l.map f) :=
  sumK_map_additive (c * ·) (mul_zero c) (mul_add c) f l

theorem sumK_mul_right (c : K) (f : α → K) (l : List α) : sumK (l.map (fun a => f a * c)) = sumK (l.map f) * c :=
  sumK_map_additive (· * c) (zero_mul c) (fun a b => add_mul a b c) f l

theorem sumK_neg (f : α → K) (l : List α) : sumK (l.map (fun a => -f a)) = -sumK (l.map f) :=
  sumK_map_additive (- ·) neg_zero neg_add f l

theorem sumK_div_right (c : K) (f : α → K) (l : List α) : sumK (l.map (fun a => f a / c)) = sumK (l.map f) / c :=
  sumK_map_additive (· / c) (zero_div c) (fun a b => add_div a b c) f l

theorem sumK_congr (f g : α → K) (l : List α) (h : ∀ a ∈ l, f a = g a) : sumK (l.map f) = sumK (l.map g) := by
  rw [List.map_congr_left h]
end sums

theorem sumK_map_mul (c : K) (l : List K) : sumK (l.map (fun x => c * x)) = c * sumK l :=
  (sumK_mul_left c id l).trans (by rw [List.map_id])

theorem sumK_map_mul_right (c : K) (l : List K) : sumK (l.map (fun x => x * c)) = sumK l * c :=
  (sumK_mul_right c id l).trans (by rw [List.map_id])

theorem sumK_map_neg (l : List K) : sumK (l.map (fun x => -x)) = -sumK l :=
  (sumK_neg id l).trans (by rw [List.map_id])

theorem sumK_map_div (c : K) (l : List K) : sumK (l.map (fun x => x / c)) = sumK l / c :=
  (sumK_div_right c id l).trans (by rw [List.map_id])

/-! ### Thevenin and Norton forms -/

/-- `e` behaves as `v = z·i + e0` -/
def Thev (kind : Kind) (s : K) (e : TT K) (z e0 : K) : Prop := ∀ v i, TT.rel kind s e v i ↔ v = z * i + e0

/-- `e` behaves as `i = y·v + j0` -/
def Nort (kind : Kind) (s : K) (e : TT K) (y j0 : K) : Prop := ∀ v i, TT.rel kind s e v i ↔ i = y * v + j0

theorem chain_of_thev {α : Type} (kind : Kind) (s : K) (f : α → TT K) (z e0 : α → K) (l : List α)
    (h : ∀ a ∈ l, Thev kind s (f a) (z a) (e0 a)) (v i : K) :
    chainRel kind s (l.map f) v i ↔ v = sumK (l.map z) * i + sumK (l.map e0) := by
  induction l generalizing v with
  | nil => simp only [List.map_nil, chainRel, sumK, zero_mul, add_zero]
  | cons p t ih =>
    have hp := h p List.mem_cons_self
    have ht := ih (fun q hq => h q (List.mem_cons_of_mem _ hq))
    simp only [List.map_cons, chainRel, sumK]
    constructor
    · rintro ⟨v1, v', rfl, h1, h2⟩
      rw [(hp v1 i).mp h1, (ht v').mp h2]; ring
    · intro hv
      exact ⟨z p * i + e0 p, _, by rw [hv]; ring, (hp _ _).mpr rfl, (ht _).mpr rfl⟩

theorem group_of_nort {α : Type} (kind : Kind) (s : K) (f : α → TT K) (y j0 : α → K) (l : List α)
    (h : ∀ a ∈ l, Nort kind s (f a) (y a) (j0 a)) (v i : K) :
    groupRel kind s (l.map f) v i ↔ i = sumK (l.map y) * v + sumK (l.map j0) := by
  induction l generalizing i with
  | nil => simp only [List.map_nil, groupRel, sumK, zero_mul, add_zero]
  | cons p t ih =>
    have hp := h p List.mem_cons_self
    have ht := ih (fun q hq => h q (List.mem_cons_of_mem _ hq))
    simp only [List.map_cons, groupRel, sumK]
    constructor
    · rintro ⟨i1, i', rfl, h1, h2⟩
      rw [(hp v i1).mp h1, (ht i').mp h2]; ring
    · intro hi
      exact ⟨y p * v + j0 p, _, by rw [hi]; ring, (hp _ _).mpr rfl, (ht _).mpr rfl⟩

theorem capCurrent_ivp (s c : K) (v0 : Option K) (v : K) :
    capCurrent .ivp s c v0 v = s * c * v - c * icv v0 := by
  cases v0 <;> simp [capCurrent, icv]

theorem thev_R (kind : Kind) (s r : K) (hr : r ≠ 0) : Thev kind s (.R r) r 0 := by
  intro v i; simp only [TT.rel]
  constructor
  · intro h; rw [h]; field_simp; ring
  · intro h; rw [h]; field_simp; ring

theorem thev_Z (kind : Kind) (s z : K) (hz : z ≠ 0) : Thev kind s (.Z z) z 0 := by
  intro v i; simp only [TT.rel]
  constructor
  · intro h; rw [h]; field_simp; ring
  · intro h; rw [h]; field_simp; ring

theorem thev_Y (kind : Kind) (s y : K) (hy : y ≠ 0) : Thev kind s (.Y y) (1 / y) 0 := by
  intro v i; simp only [TT.rel]
  constructor
  · intro h; rw [h]; field_simp; ring
  · intro h; rw [h]; field_simp; ring

theorem thev_V (kind : Kind) (s e : K) : Thev kind s (.V e) 0 e := by
  intro v i; simp [TT.rel]

/-- impedance and source term of an inductor in each analysis kind -/
def indThev (kind : Kind) (s l : K) (i0 : Option K) : K × K :=
  match kind with
  | .dc => (0, 0)
  | .time => (0, 0)
  | .lap => (s * l, 0)
  | .ivp => (s * l, -(l * icv i0))

theorem thev_L (kind : Kind) (s l : K) (i0 : Option K) :
    Thev kind s (.L l i0) (indThev kind s l i0).1 (indThev kind s l i0).2 := by
  intro v i
  cases kind <;> simp only [TT.rel, indThev, zero_mul, add_zero, sub_eq_add_neg]

/-- source term of a capacitor written in Thevenin form / of an inductor written in Norton form -/
def icTerm (kind : Kind) (s ic : K) : K :=
  match kind with
  | .ivp => ic / s
  | _ => 0

theorem thev_C (kind : Kind) (hk : kind = .lap ∨ kind = .ivp) (s c : K) (v0 : Option K) (hs : s ≠ 0) (hc : c ≠ 0) :
    Thev kind s (.C c v0) (1 / (s * c)) (icTerm kind s (icv v0)) := by
  intro v i
  rcases hk with rfl | rfl
  · simp only [TT.rel, capCurrent, icTerm]
    constructor <;> (intro h; rw [h]; field_simp; ring)
  · simp only [TT.rel, capCurrent_ivp, icTerm]
    constructor <;> (intro h; rw [h]; field_simp; ring)

theorem nort_R (kind : Kind) (s r : K) : Nort kind s (.R r) (1 / r) 0 := by
  intro v i; simp only [TT.rel]
  constructor <;> intro h <;> rw [h] <;> ring

theorem nort_Z (kind : Kind) (s z : K) : Nort kind s (.Z z) (1 / z) 0 := by
  intro v i; simp only [TT.rel]
  constructor <;> intro h <;> rw [h] <;> ring

theorem nort_Y (kind : Kind) (s y : K) : Nort kind s (.Y y) y 0 := by
  intro v i; simp only [TT.rel]
  constructor <;> intro h <;> rw [h] <;> ring

theorem nort_I (kind : Kind) (s j : K) : Nort kind s (.I j) 0 (-j) := by
  intro v i; simp [TT.rel]

/-! ### orientation -/

theorem getD_zero_eq_icv (o : Option K) : o.getD 0 = icv o := by cases o <;> rfl

theorem icv_neg (o : Option K) : icv (o.map (fun x => -x)) = -icv o := by
  cases o <;> simp [icv]

theorem rel_flip (kind : Kind) (s : K) (e : TT K) (v i : K) :
    TT.rel kind s e.flip v i ↔ TT.rel kind s e (-v) (-i) := by
  cases e with
  | C c v0 =>
    cases kind <;> simp only [TT.rel, TT.flip, capCurrent_ivp, icv_neg] <;>
      simp only [capCurrent, mul_neg, sub_neg_eq_add, neg_eq_iff_eq_neg, neg_sub', neg_neg, neg_zero]
  | L l i0 =>
    cases kind <;> simp only [TT.rel, TT.flip, icv_neg, mul_neg, sub_neg_eq_add,
      neg_eq_iff_eq_neg, neg_sub', neg_neg, neg_zero]
  | _ => simp only [TT.rel, TT.flip, neg_div, mul_neg, neg_eq_iff_eq_neg, neg_neg]

/-- signed value of a polarised quantity: `true` = along the direction of traversal -/
def sgn (σ : Bool) (v : K) : K := if σ then v else -v

theorem orient_L (σ : Bool) (l : K) (i0 : Option K) :
    (TT.L l i0).orient σ = TT.L l (if σ then i0 else i0.map (fun x => -x)) := by
  cases σ <;> simp [TT.orient, TT.flip]

theorem orient_C (σ : Bool) (c : K) (v0 : Option K) :
    (TT.C c v0).orient σ = TT.C c (if σ then v0 else v0.map (fun x => -x)) := by
  cases σ <;> simp [TT.orient, TT.flip]

theorem icv_signed (σ : Bool) (o : Option K) : icv (if σ then o else o.map (fun x => -x)) = sgn σ (icv o) := by
  cases σ <;> simp [sgn, icv_neg]

/-- exchanging voltage and current turns a capacitor into the inductor of the same value and initial condition -/
theorem rel_C_dual (kind : Kind) (s c : K) (v0 : Option K) (v i : K) :
    TT.rel kind s (.C c v0) v i ↔ TT.rel kind s (.L c v0) i v := by
  cases kind <;> simp only [TT.rel, capCurrent_ivp] <;> rfl

theorem rel_orient_C_dual (kind : Kind) (s : K) (σ : Bool) (c : K) (v0 : Option K) (v i : K) :
    TT.rel kind s ((TT.C c v0).orient σ) v i ↔ TT.rel kind s ((TT.L c v0).orient σ) i v := by
  cases σ <;> exact rel_C_dual kind s c _ v i

/-- a parallel group is the series chain of the dual elements with voltage and current exchanged -/
theorem group_chain_dual {α : Type} (kind : Kind) (s : K) (f g : α → TT K)
    (h : ∀ a v i, TT.rel kind s (f a) v i ↔ TT.rel kind s (g a) i v) (l : List α) (v i : K) :
    groupRel kind s (l.map f) v i ↔ chainRel kind s (l.map g) i v := by
  induction l generalizing i with
  | nil => exact Iff.rfl
  | cons a t ih =>
    simp only [List.map_cons, groupRel, chainRel, h, ih]
/-! ### netlists: splitting `Laws` -/
open Ix

theorem kclAt_append (kind : Kind) (s : K) (a b : List (Cpt K)) (x : Ix → K) (k : Nat) :
    kclAt kind s (a ++ b) x k = kclAt kind s a x k + kclAt kind s b x k := by
  simp [kclAt, lsum_append]

theorem lawsOf_append (kind : Kind) (s : K) (a b : List (Cpt K)) (x : Ix → K) :
    lawsOf kind s (a ++ b) x ↔ lawsOf kind s a x ∧ lawsOf kind s b x := by
  simp only [lawsOf, List.mem_append]
  constructor
  · intro h; exact ⟨fun c hc => h c (Or.inl hc), fun c hc => h c (Or.inr hc)⟩
  · rintro ⟨h1, h2⟩ c (hc | hc)
    · exact h1 c hc
    · exact h2 c hc

theorem Laws_iff (kind : Kind) (s : K) (cs : List (Cpt K)) (x : Ix → K) :
    Laws kind s cs x ↔ (∀ k, k ≠ 0 → kclAt kind s cs x k = 0) ∧ lawsOf kind s cs x := Iff.rfl

theorem volt_congr {R : Ix → Prop} {x y : Ix → K} (h : ∀ i, R i → y i = x i) (n : Nat) (hn : R (node n)) :
    volt y n = volt x n := by
  cases n with
  | zero => rfl
  | succ k => exact h _ hn

theorem mutualDrop_congr (s : K) (x y : Ix → K) (coup : List (Nat × K × Option K))
    (h : ∀ p ∈ coup, y (br p.1) = x (br p.1)) : mutualDrop s y coup = mutualDrop s x coup := by
  induction coup with
  | nil => rfl
  | cons p t ih =>
    simp only [mutualDrop, List.map_cons, lsum] at *
    rw [h p List.mem_cons_self, ih (fun q hq => h q (List.mem_cons_of_mem _ hq))]

/-- a component's current and laws only read the unknowns it mentions -/
theorem outflow_congr (kind : Kind) (s : K) {R : Ix → Prop} {x y : Ix → K} (h : ∀ i, R i → y i = x i)
    (c : Cpt K) (hc : ∀ i ∈ mentions c, R i) (k : Nat) : outflow kind s y k c = outflow kind s x k c := by
  have hv : ∀ n, R (node n) → volt y n = volt x n := volt_congr h
  have hb : ∀ m, R (br m) → y (br m) = x (br m) := fun m => h _
  cases c <;> simp only [mentions, List.forall_mem_cons, List.forall_mem_append] at hc <;>
    simp only [outflow, vd, hv, hb, hc]

theorem laws_congr (kind : Kind) (s : K) {R : Ix → Prop} {x y : Ix → K} (h : ∀ i, R i → y i = x i)
    (c : Cpt K) (hc : ∀ i ∈ mentions c, R i) : laws kind s y c = laws kind s x c := by
  have hv : ∀ n, R (node n) → volt y n = volt x n := volt_congr h
  have hb : ∀ m, R (br m) → y (br m) = x (br m) := fun m => h _
  cases c with
  | Ind n1 n2 m l i0 coup =>
    have hm : mutualDrop s y coup = mutualDrop s x coup :=
      mutualDrop_congr s x y coup fun p hp => h _ (hc _ (List.mem_append_right _ (List.mem_map_of_mem hp)))
    simp only [mentions, List.forall_mem_cons, List.forall_mem_append] at hc
    cases kind <;> simp only [laws, vd, hv, hb, hm, hc]
  | _ => simp only [mentions, List.forall_mem_cons] at hc; simp only [laws, vd, hv, hb, hc]

theorem twoTerm_of_ne (a b k : Nat) (i : K) (ha : a ≠ k) (hb : b ≠ k) : twoTerm a b k i = 0 := by
  simp only [twoTerm, if_neg ha, if_neg hb, sub_zero]

/-- a component draws no current at a node it does not mention -/
theorem outflow_unmentioned (kind : Kind) (s : K) (x : Ix → K) (c : Cpt K) (k : Nat) (hk0 : k ≠ 0)
    (hk : node k ∉ mentions c) : outflow kind s x k c = 0 := by
  have t : ∀ a b (i : K), ¬ node k = node a → ¬ node k = node b → twoTerm a b k i = 0 :=
    fun a b i ha hb => twoTerm_of_ne a b k i (fun e => ha (e ▸ rfl)) (fun e => hb (e ▸ rfl))
  have t0 : ∀ a (i : K), ¬ node k = node a → twoTerm a 0 k i = 0 :=
    fun a i ha => twoTerm_of_ne a 0 k i (fun e => ha (e ▸ rfl)) (Ne.symm hk0)
  cases c <;> simp only [mentions, List.mem_cons, List.mem_append, not_or] at hk <;>
    simp only [outflow, t, t0, hk, not_false_eq_true, add_zero]

theorem SupportedIn_append {R : Ix → Prop} (a b : List (Cpt K)) :
    SupportedIn R (a ++ b) ↔ SupportedIn R a ∧ SupportedIn R b := by
  simp only [SupportedIn, List.mem_append]
  constructor
  · intro h; exact ⟨fun c hc => h c (Or.inl hc), fun c hc => h c (Or.inr hc)⟩
  · rintro ⟨h1, h2⟩ c (hc | hc)
    · exact h1 c hc
    · exact h2 c hc

theorem SupportedIn_mono {R R' : Ix → Prop} (h : ∀ i, R i → R' i) {a : List (Cpt K)}
    (ha : SupportedIn R a) : SupportedIn R' a := fun c hc i hi => h i (ha c hc i hi)

/-! ### `Simulates` is a preorder and a congruence for placing a sub-netlist in a context -/

theorem kclAt_supported_zero (kind : Kind) (s : K) {R : Ix → Prop} (t : List (Cpt K)) (ht : SupportedIn R t)
    (x : Ix → K) (k : Nat) (hk0 : k ≠ 0) (hk : ¬ R (node k)) : kclAt kind s t x k = 0 := by
  induction t with
  | nil => rfl
  | cons c t ih =>
    have hc : outflow kind s x k c = 0 :=
      outflow_unmentioned kind s x c k hk0 (fun hm => hk (ht c List.mem_cons_self _ hm))
    have := ih (fun c' hc' => ht c' (List.mem_cons_of_mem _ hc'))
    simp only [kclAt, List.map_cons, lsum] at *
    rw [hc, this, add_zero]

theorem kclAt_supported_congr (kind : Kind) (s : K) {R : Ix → Prop} (t : List (Cpt K)) (ht : SupportedIn R t)
    {x y : Ix → K} (h : ∀ i, R i → y i = x i) (k : Nat) : kclAt kind s t y k = kclAt kind s t x k := by
  induction t with
  | nil => rfl
  | cons c t ih =>
    have hc := outflow_congr kind s h c (ht c List.mem_cons_self) k
    have := ih (fun c' hc' => ht c' (List.mem_cons_of_mem _ hc'))
    simp only [kclAt, List.map_cons, lsum] at *
    rw [hc, this]

theorem lawsOf_supported_congr (kind : Kind) (s : K) {R : Ix → Prop} (t : List (Cpt K)) (ht : SupportedIn R t)
    {x y : Ix → K} (h : ∀ i, R i → y i = x i) : lawsOf kind s t y ↔ lawsOf kind s t x := by
  simp only [lawsOf]
  constructor
  · intro hl c hc p hp
    rw [← laws_congr kind s h c (ht c hc)] at hp
    exact hl c hc p hp
  · intro hl c hc p hp
    rw [laws_congr kind s h c (ht c hc)] at hp
    exact hl c hc p hp

theorem Simulates.refl (kind : Kind) (s : K) (R : Ix → Prop) (a : List (Cpt K)) : Simulates kind s R a a :=
  fun x hl hk => ⟨x, fun _ _ => rfl, hl, hk, fun _ _ _ => rfl⟩

theorem Simulates.trans {kind : Kind} {s : K} {R : Ix → Prop} {a b c : List (Cpt K)}
    (h1 : Simulates kind s R a b) (h2 : Simulates kind s R b c) : Simulates kind s R a c := by
  intro x hl hk
  obtain ⟨y, hy, hly, hky, hry⟩ := h1 x hl hk
  obtain ⟨z, hz, hlz, hkz, hrz⟩ := h2 y hly hky
  exact ⟨z, fun i hi => (hz i hi).trans (hy i hi), hlz, hkz, fun k hk0 hR => (hrz k hk0 hR).trans (hry k hk0 hR)⟩

/-- retaining less is easier -/
theorem Simulates.mono {kind : Kind} {s : K} {R R' : Ix → Prop} {a b : List (Cpt K)}
    (h : Simulates kind s R a b) (hsub : ∀ i, R' i → R i) : Simulates kind s R' a b := by
  intro x hl hk
  obtain ⟨y, hy, hly, hky, hry⟩ := h x hl (fun k hk0 hR => hk k hk0 (fun hR' => hR (hsub _ hR')))
  refine ⟨y, fun i hi => hy i (hsub _ hi), hly, ?_, fun k hk0 hR' => hry k hk0 (hsub _ hR')⟩
  intro k hk0 hR'
  by_cases hR : R (node k)
  · rw [hry k hk0 hR]; exact hk k hk0 hR'
  · exact hky k hk0 hR

/-- placing both sub-netlists next to the same components that only read retained unknowns -/
theorem Simulates.context {kind : Kind} {s : K} {R : Ix → Prop} {a b : List (Cpt K)}
    (h : Simulates kind s R a b) (l r : List (Cpt K)) (hl : SupportedIn R l) (hr : SupportedIn R r) :
    Simulates kind s R (l ++ a ++ r) (l ++ b ++ r) := by
  intro x hlaw hk
  simp only [lawsOf_append] at hlaw
  obtain ⟨⟨hll, hla⟩, hlr⟩ := hlaw
  have hka : ∀ k, k ≠ 0 → ¬ R (node k) → kclAt kind s a x k = 0 := by
    intro k hk0 hR
    have := hk k hk0 hR
    simp only [kclAt_append, kclAt_supported_zero kind s l hl x k hk0 hR,
      kclAt_supported_zero kind s r hr x k hk0 hR, zero_add, add_zero] at this
    exact this
  obtain ⟨y, hy, hlb, hkb, hrb⟩ := h x hla hka
  refine ⟨y, hy, ?_, ?_, ?_⟩
  · simp only [lawsOf_append]
    exact ⟨⟨(lawsOf_supported_congr kind s l hl hy).mpr hll, hlb⟩, (lawsOf_supported_congr kind s r hr hy).mpr hlr⟩
  · intro k hk0 hR
    simp only [kclAt_append, kclAt_supported_zero kind s l hl y k hk0 hR,
      kclAt_supported_zero kind s r hr y k hk0 hR, hkb k hk0 hR, add_zero]
  · intro k hk0 hR
    simp only [kclAt_append, kclAt_supported_congr kind s l hl hy k, kclAt_supported_congr kind s r hr hy k,
      hrb k hk0 hR]

/-! ### semantics of `TT.toCpt` -/

theorem lawsOf_singleton (kind : Kind) (s : K) (c : Cpt K) (x : Ix → K) :
    lawsOf kind s [c] x ↔ ∀ p ∈ laws kind s x c, p.2 = 0 := by
  simp [lawsOf]

theorem lawsOf_cons (kind : Kind) (s : K) (c : Cpt K) (t : List (Cpt K)) (x : Ix → K) :
    lawsOf kind s (c :: t) x ↔ lawsOf kind s [c] x ∧ lawsOf kind s t x := by
  rw [show c :: t = [c] ++ t from rfl, lawsOf_append]

theorem lawsOf_of_nil (kind : Kind) (s : K) (c : Cpt K) (x : Ix → K) (h : laws kind s x c = []) : lawsOf kind s [c] x :=
  fun d hd p hp => by rw [List.mem_singleton.mp hd, h] at hp; cases hp

theorem kclAt_cons (kind : Kind) (s : K) (c : Cpt K) (t : List (Cpt K)) (x : Ix → K) (k : Nat) :
    kclAt kind s (c :: t) x k = outflow kind s x k c + kclAt kind s t x k := rfl

theorem kclAt_nil (kind : Kind) (s : K) (x : Ix → K) (k : Nat) : kclAt kind s ([] : List (Cpt K)) x k = 0 := rfl

theorem outflow_toCpt (kind : Kind) (s : K) (e : TT K) (a b m : Nat) (x : Ix → K) (k : Nat) :
    outflow kind s x k (e.toCpt a b m) = twoTerm a b k (e.cur kind s a b m x) := by
  cases e <;> simp [TT.toCpt, outflow, TT.cur]

theorem lawsOf_toCpt (kind : Kind) (s : K) (e : TT K) (a b m : Nat) (x : Ix → K) :
    lawsOf kind s [e.toCpt a b m] x ↔ TT.rel kind s e (vd x a b) (e.cur kind s a b m x) := by
  have hd : mutualDrop s x [] = 0 := rfl
  have hi : mutualIC ([] : List (Nat × K × Option K)) = 0 := rfl
  rw [lawsOf_singleton]
  cases e with
  | L l i0 =>
    cases kind <;> cases i0 <;>
      simp only [TT.toCpt, laws, TT.rel, TT.cur, hd, hi, icv, List.forall_mem_singleton,
        sub_eq_zero, add_zero, sub_zero, mul_zero]
  | V e => simp only [TT.toCpt, laws, TT.rel, List.forall_mem_singleton, sub_eq_zero]
  | _ => simp only [TT.toCpt, laws, TT.rel, TT.cur, List.not_mem_nil, false_imp_iff, implies_true]

/-- the current of the component is the one the relation prescribes, once the owned branch
    unknown (if any) carries it -/
theorem cur_of_rel (kind : Kind) (s : K) (e : TT K) (a b m : Nat) (y : Ix → K) (v i : K)
    (hv : vd y a b = v) (hb : y (br m) = i) (h : TT.rel kind s e v i) : e.cur kind s a b m y = i := by
  cases e <;> simp_all [TT.cur, TT.rel]

/-! ### assignments edited at a few unknowns -/

theorem volt_of_nodes_eq {x y : Ix → K} (n : Nat) (h : n ≠ 0 → y (node n) = x (node n)) : volt y n = volt x n := by
  cases n with
  | zero => rfl
  | succ k => exact h (Nat.succ_ne_zero k)

theorem volt_update_br (x : Ix → K) (m : Nat) (i : K) (n : Nat) : volt (Function.update x (br m) i) n = volt x n := by
  cases n with
  | zero => rfl
  | succ k => exact Function.update_of_ne (a := node (k + 1)) (a' := br m) nofun i x

theorem vd_update_br (x : Ix → K) (m : Nat) (i : K) (a b : Nat) : vd (Function.update x (br m) i) a b = vd x a b := by
  simp only [vd, volt_update_br]

omit [Field K] in
theorem update_of_not_mem {hid : List Ix} {k : Ix} (hk : k ∈ hid) (x : Ix → K) (v : K) (j : Ix) (hj : j ∉ hid) :
    Function.update x k v j = x j :=
  Function.update_of_ne (fun h : j = k => hj (h.symm ▸ hk)) _ _

/-- writing a current the element admits at the present voltage into its branch unknown: the component obeys its
    law and carries that current -/
theorem toCpt_update_br (kind : Kind) (s : K) (e : TT K) (a b m : Nat) (x : Ix → K) (i : K)
    (h : TT.rel kind s e (vd x a b) i) :
    lawsOf kind s [e.toCpt a b m] (Function.update x (br m) i) ∧
      e.cur kind s a b m (Function.update x (br m) i) = i := by
  have hvd := vd_update_br x m i a b
  have hc := cur_of_rel kind s e a b m _ _ i hvd (Function.update_self ..) h
  rw [lawsOf_toCpt, hc, hvd]
  exact ⟨h, rfl⟩

theorem volt_nonzero (x : Ix → K) (n : Nat) (h : n ≠ 0) : volt x n = x (node n) := by
  cases n with
  | zero => exact absurd rfl h
  | succ k => rfl

theorem twoTerm_series (a b c k : Nat) (i : K) (hk : k ≠ b) :
    twoTerm a b k i + twoTerm b c k i = twoTerm a c k i := by
  have : b ≠ k := fun h => hk h.symm
  simp only [twoTerm, this, if_false]; ring

theorem twoTerm_add (a b k : Nat) (i j : K) : twoTerm a b k i + twoTerm a b k j = twoTerm a b k (i + j) := by
  simp only [twoTerm]; split_ifs <;> ring

theorem twoTerm_swap (a b k : Nat) (i : K) : twoTerm a b k (-i) = twoTerm b a k i := by
  simp only [twoTerm]; split_ifs <;> ring

theorem vd_add (x : Ix → K) (a b c : Nat) : vd x a b + vd x b c = vd x a c := by simp [vd]

theorem vd_swap (x : Ix → K) (a b : Nat) : vd x a b = -vd x b a := by simp [vd]

theorem chainRel_pair (kind : Kind) (s : K) (e1 e2 : TT K) (v i : K) :
    chainRel kind s [e1, e2] v i ↔ ∃ v1 v2, v = v1 + v2 ∧ TT.rel kind s e1 v1 i ∧ TT.rel kind s e2 v2 i := by
  simp only [chainRel]
  constructor
  · rintro ⟨v1, v', rfl, h1, v2, v'', rfl, h2, rfl⟩
    exact ⟨v1, v2, by ring, h1, h2⟩
  · rintro ⟨v1, v2, rfl, h1, h2⟩
    exact ⟨v1, v2, rfl, h1, v2, 0, (add_zero _).symm, h2, rfl⟩

theorem groupRel_pair (kind : Kind) (s : K) (e1 e2 : TT K) (v i : K) :
    groupRel kind s [e1, e2] v i ↔ ∃ i1 i2, i = i1 + i2 ∧ TT.rel kind s e1 v i1 ∧ TT.rel kind s e2 v i2 := by
  simp only [groupRel]
  constructor
  · rintro ⟨i1, i', rfl, h1, i2, i'', rfl, h2, rfl⟩
    exact ⟨i1, i2, by ring, h1, h2⟩
  · rintro ⟨i1, i2, rfl, h1, h2⟩
    exact ⟨i1, i2, rfl, h1, i2, 0, (add_zero _).symm, h2, rfl⟩

end Lcapy.MNA
