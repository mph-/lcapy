/-
  Analytic lemmas for the anchors of C12 (where an integral exists, the formal pair of `Spec/Fourier.lean` is the
  integral; the anchors themselves are in Props/C12.lean): the kernels e^{ct} at c = −j2πf and the triangle integral.
-/
import Mathlib.Analysis.SpecialFunctions.ImproperIntegrals
import Mathlib.Analysis.SpecialFunctions.Gaussian.FourierTransform
import Mathlib.Analysis.SpecialFunctions.Integrals.Basic
namespace Lcapy.Fourier.Anchors
open Complex MeasureTheory intervalIntegral

theorem kernel_ne_zero (f : ℝ) (hf : f ≠ 0) : -((2 * Real.pi * f : ℝ) : ℂ) * Complex.I ≠ 0 := by
  have h : (2 * Real.pi * f : ℝ) ≠ 0 := mul_ne_zero (mul_ne_zero two_ne_zero Real.pi_ne_zero) hf
  exact mul_ne_zero (neg_ne_zero.mpr (ofReal_ne_zero.mpr h)) I_ne_zero

/-- (e^{c/2} − e^{−c/2})/c at c = −j2πf is sin(πf)/(πf) -/
theorem sinc_kernel (f : ℝ) (hf : f ≠ 0) :
    (Complex.exp (-((2 * Real.pi * f : ℝ) : ℂ) * Complex.I * ((1 / 2 : ℝ) : ℂ))
      - Complex.exp (-((2 * Real.pi * f : ℝ) : ℂ) * Complex.I * ((-(1 / 2) : ℝ) : ℂ))) / (-((2 * Real.pi * f : ℝ) : ℂ) * Complex.I)
      = ((Real.sin (Real.pi * f) / (Real.pi * f) : ℝ) : ℂ) := by
  have hx : ((Real.pi * f : ℝ) : ℂ) ≠ 0 := ofReal_ne_zero.mpr (mul_ne_zero Real.pi_ne_zero hf)
  rw [show -((2 * Real.pi * f : ℝ) : ℂ) * Complex.I * ((1 / 2 : ℝ) : ℂ) = -((Real.pi * f : ℝ) : ℂ) * Complex.I by push_cast; ring,
    show -((2 * Real.pi * f : ℝ) : ℂ) * Complex.I * ((-(1 / 2) : ℝ) : ℂ) = ((Real.pi * f : ℝ) : ℂ) * Complex.I by push_cast; ring,
    show -((2 * Real.pi * f : ℝ) : ℂ) * Complex.I = -(2 * ((Real.pi * f : ℝ) : ℂ)) * Complex.I by push_cast; ring,
    ofReal_div, ofReal_sin, Complex.sin]
  generalize ((Real.pi * f : ℝ) : ℂ) = x at *
  rw [div_eq_div_iff (mul_ne_zero (neg_ne_zero.mpr (mul_ne_zero two_ne_zero hx)) I_ne_zero) hx]
  linear_combination (Complex.exp (-x * I) - Complex.exp (x * I)) * x * I_sq

theorem rect_sinc_zero : ∫ t in (-(1/2) : ℝ)..(1/2), Complex.exp (-((2 * Real.pi * (0:ℝ) : ℝ) : ℂ) * Complex.I * t) = 1 := by
  simp; norm_num

/-- antiderivative of (1 + σt) e^{ct} -/
theorem hasDerivAt_tri (c σ : ℂ) (hc : c ≠ 0) (x : ℝ) :
    HasDerivAt (fun t : ℝ => (1 + σ * (t : ℂ)) * Complex.exp (c * t) / c - σ * Complex.exp (c * t) / c ^ 2)
      ((1 + σ * (x : ℂ)) * Complex.exp (c * x)) x := by
  have h1 : HasDerivAt (fun t : ℝ => (t : ℂ)) 1 x := Complex.ofRealCLM.hasDerivAt
  have h3 : HasDerivAt (fun t : ℝ => Complex.exp (c * t)) (Complex.exp (c * x) * (c * 1)) x := (h1.const_mul c).cexp
  have h4 : HasDerivAt (fun t : ℝ => 1 + σ * (t : ℂ)) (σ * 1) x := (h1.const_mul σ).const_add 1
  have h5 := ((h4.fun_mul h3).div_const c).fun_sub ((h3.const_mul σ).div_const (c ^ 2))
  refine h5.congr_deriv ?_
  field_simp; ring

/-- on an interval where |t| = −σt -/
theorem tri_half (c σ : ℂ) (hc : c ≠ 0) (a b : ℝ) (h : ∀ t ∈ Set.uIcc a b, ((|t| : ℝ) : ℂ) = -σ * t) :
    ∫ t in a..b, ((1 - |t| : ℝ) : ℂ) * Complex.exp (c * t)
      = ((1 + σ * b) * Complex.exp (c * b) / c - σ * Complex.exp (c * b) / c ^ 2)
        - ((1 + σ * a) * Complex.exp (c * a) / c - σ * Complex.exp (c * a) / c ^ 2) := by
  rw [← integral_eq_sub_of_hasDerivAt (fun x _ => hasDerivAt_tri c σ hc x) (Continuous.intervalIntegrable (by fun_prop) _ _)]
  apply integral_congr
  intro t ht
  simp only [ofReal_sub, ofReal_one, h t ht]; ring

/-- ∫_{−1}^{1} (1 − |t|) e^{ct} dt = ((e^{c/2} − e^{−c/2})/c)² -/
theorem tri_exp (c : ℂ) (hc : c ≠ 0) :
    ∫ t in (-1 : ℝ)..1, ((1 - |t| : ℝ) : ℂ) * Complex.exp (c * t)
      = ((Complex.exp (c * ((1 / 2 : ℝ) : ℂ)) - Complex.exp (c * ((-(1 / 2) : ℝ) : ℂ))) / c) ^ 2 := by
  have hcont : ∀ a b : ℝ, IntervalIntegrable (fun t : ℝ => ((1 - |t| : ℝ) : ℂ) * Complex.exp (c * t)) volume a b :=
    fun a b => Continuous.intervalIntegrable (by fun_prop) a b
  rw [← integral_add_adjacent_intervals (hcont (-1) 0) (hcont 0 1),
    tri_half c 1 hc (-1) 0 (fun t ht => by
      rw [Set.uIcc_of_le (by norm_num : (-1 : ℝ) ≤ 0)] at ht; rw [abs_of_nonpos ht.2]; push_cast; ring),
    tri_half c (-1) hc 0 1 (fun t ht => by
      rw [Set.uIcc_of_le (by norm_num : (0 : ℝ) ≤ 1)] at ht; rw [abs_of_nonneg ht.1]; ring)]
  have e1 : Complex.exp (c * ((1 : ℝ) : ℂ)) = Complex.exp (c * ((1 / 2 : ℝ) : ℂ)) ^ 2 := by
    rw [← Complex.exp_nat_mul]; congr 1; push_cast; ring
  have e2 : Complex.exp (c * ((-1 : ℝ) : ℂ)) = Complex.exp (c * ((-(1 / 2) : ℝ) : ℂ)) ^ 2 := by
    rw [← Complex.exp_nat_mul]; congr 1; push_cast; ring
  have e3 : Complex.exp (c * ((1 / 2 : ℝ) : ℂ)) * Complex.exp (c * ((-(1 / 2) : ℝ) : ℂ)) = 1 := by
    rw [← Complex.exp_add, ← mul_add, ← ofReal_add, add_neg_cancel, ofReal_zero, mul_zero, Complex.exp_zero]
  rw [e1, e2, ofReal_zero, mul_zero (c), Complex.exp_zero]
  generalize Complex.exp (c * ((1 / 2 : ℝ) : ℂ)) = A at *
  generalize Complex.exp (c * ((-(1 / 2) : ℝ) : ℂ)) = B at *
  field_simp
  push_cast
  linear_combination 2 * e3

end Lcapy.Fourier.Anchors
