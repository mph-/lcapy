/-
  C09 helper lemmas: what `semSimple` / `semProd` (Model/Laplace.lean) return on the atom lists that
  `LaplaceTransformer.term` handles with its own formulas (smooth factors and one step; `a t + b` times a step), and the
  transforms of those signals: the sin_cos fast path and the rect/tri/ramp/rampstep table, independent of the generated table.
-/
import Lcapy.Proofs.Laplace
import Lcapy.Model.Laplace
import Mathlib.Algebra.Order.Field.Basic
import Mathlib.Tactic.Linarith
import Mathlib.Tactic.Positivity
import Mathlib.Tactic.LinearCombination
namespace Lcapy.Laplace
section
variable {K : Type} [Field K]
theorem two_eq : (two : K) = 2 := by norm_num [two]

/-- transform of `(P e^{Jwt} + Q e^{−Jwt}) · e^{al t} · c u(t − d)` -/
theorem L_conj_weighted (E : K → K) (hE : IsExp E) (J : K) (hJ : J * J = -1) (s c al w d P Q : K)
    (h1 : s - al - J * w ≠ 0) (h2 : s - al + J * w ≠ 0) :
    L E (smul P (expWeight E (J * w) (expWeight E al [.ep c 0 0 d]))
        ++ smul Q (expWeight E (-(J * w)) (expWeight E al [.ep c 0 0 d]))) s
      = c * E (-(d * s)) * E (al * d) * (((P * E (J * w * d) + Q * E (-(J * w) * d)) * (s - al)
          + (P * E (J * w * d) - Q * E (-(J * w) * d)) * (J * w)) / (w * w + (s - al) * (s - al))) := by
  have x1 : E (-((s - J * w - al) * d)) = E (-(d * s)) * E (al * d) * E (J * w * d) := by
    rw [← hE.add, ← hE.add]; congr 1; ring
  have x2 : E (-((s - -(J * w) - al) * d)) = E (-(d * s)) * E (al * d) * E (-(J * w) * d) := by
    rw [← hE.add, ← hE.add]; congr 1; ring
  rw [← conj_fracs J hJ (s - al) w _ _ h1 h2]
  simp only [L_append, L_smul, L_expWeight _ hE, L_cons, L_nil, Term.L, pw_eq, zero_add, pow_one, sub_zero, add_zero, x1, x2]
  rw [show s - J * w - al = s - al - J * w by ring, show s - -(J * w) - al = s - al + J * w by ring]
  ring

theorem L_linstep (E : K → K) (c a b τ s : K) (hs : s ≠ 0) :
    L E (smul a (tmul [.ep c 0 0 τ]) ++ smul b [.ep c 0 0 τ]) s = c * E (-(s * τ)) * (a / s ^ 2 + (a * τ + b) / s) := by
  rw [L_append, L_smul, L_smul, L_tmul]
  simp only [negDL, Term.negDL, L_cons, L_nil, Term.L, pw_eq, sub_zero, add_zero, Nat.cast_zero, zero_add, pow_one]
  field_simp; ring
end

section
variable {K : Type} [Field K] [LE K] [DecidableLE K]

/-- a product without `rect/tri/ramp/rampstep` factors is a single summand -/
theorem semProd_single (E : K → K) (J c : K) {atoms : List (Atom K)} (h : expandAtoms atoms = [(1, atoms)]) :
    semProd E J c atoms = semSimple E J (c * 1) atoms := by
  rw [semProd, h]
  cases hg : semSimple E J (c * 1) atoms <;> simp only [List.foldl_cons, List.foldl_nil, hg, List.nil_append]

theorem sel_of_smooth {x : Atom K} (hx : isSmooth x = true) : deltaSel x = none ∧ stepSel x = none ∧ offSel x = none := by
  cases x <;> first | exact ⟨rfl, rfl, rfl⟩ | exact Bool.noConfusion hx

/-- two smooth factors and a unit-slope step `u(t − τ)`: the factors applied to the step switched on at `max τ 0` -/
theorem semSimple_smooth2_step (E : K → K) (J c tau : K) (h01 : (0 : K) ≤ 1) {x y : Atom K}
    (hx : isSmooth x = true) (hy : isSmooth y = true) :
    semSimple E J c [x, y, .step 1 (-tau)]
      = some (applySmooth E J (applySmooth E J [.ep c 0 0 (if 0 ≤ tau then tau else 0)] x) y) := by
  obtain ⟨x1, x2, x3⟩ := sel_of_smooth hx
  obtain ⟨y1, y2, y3⟩ := sel_of_smooth hy
  have s1 : deltaSel (Atom.step 1 (-tau)) = none := rfl
  have s2 : stepSel (Atom.step 1 (-tau)) = some (1, -tau) := if_pos h01
  have s3 : offSel (Atom.step 1 (-tau)) = none := if_pos h01
  have s4 : isSmooth (Atom.step 1 (-tau)) = false := rfl
  simp only [semSimple, List.filterMap_cons, List.filterMap_nil, List.filter_cons, List.filter_nil, x1, x2, x3, y1, y2, y3, hx, hy,
    s1, s2, s3, s4, if_true, List.foldl_cons, List.foldl_nil, div_one, neg_neg, Bool.false_eq_true, if_false]

/-- the two conjugate exponentials of `sin/cos(ωt+φ)` on `c e^{αt} u(t−d)`, `d = max τ 0`, combine to the code's formula -/
theorem L_trig_exp_step (env : Env K) (hE : IsExp env.E) (hJ : env.J * env.J = -1)
    (c al w ph tau : K) (isCos : Bool) (h1 : env.s - al - env.J * w ≠ 0) (h2 : env.s - al + env.J * w ≠ 0) :
    L env.E (applySmooth env.E env.J (applySmooth env.E env.J [.ep c 0 0 (if 0 ≤ tau then tau else 0)] (.exp al))
      (.trig isCos w ph)) env.s = c * sinCosFormula env al isCos w ph tau := by
  obtain ⟨s, E, J, _, _, _⟩ := env
  simp only [sinCosFormula] at hE hJ h1 h2 ⊢
  generalize (if 0 ≤ tau then tau else 0) = d
  have hJ0 : J ≠ 0 := by intro h; rw [h] at hJ; simp at hJ
  have e1 : E (J * (ph + w * d)) = E (J * ph) * E (J * w * d) := by rw [← hE.add]; congr 1; ring
  have e2 : E (-(J * (ph + w * d))) = E (-(J * ph)) * E (-(J * w) * d) := by rw [← hE.add]; congr 1; ring
  cases isCos
  · simp only [applySmooth, two_eq, Bool.false_eq_true, if_false]
    rw [L_conj_weighted E hE J hJ s c al w d _ _ h1 h2, e1, e2]
    generalize E (J * ph) = A, E (-(J * ph)) = A', E (J * w * d) = B, E (-(J * w) * d) = B', E (al * d) = C,
      E (-(d * s)) = D, w * w + (s - al) * (s - al) = N
    linear_combination (c * D * C / N * (A * B + A' * B') / 2 * w) * inv_mul_cancel₀ hJ0
  · simp only [applySmooth, two_eq, if_true]
    rw [L_conj_weighted E hE J hJ s c al w d _ _ h1 h2, e1, e2]
    generalize E (J * ph) = A, E (-(J * ph)) = A', E (J * w * d) = B, E (-(J * w) * d) = B', E (al * d) = C,
      E (-(d * s)) = D, w * w + (s - al) * (s - al) = N
    linear_combination (c * D * C / N * (A * B - A' * B') / 2 * w * J⁻¹) * hJ
      - (c * D * C / N * (A * B - A' * B') / 2 * w * J) * inv_mul_cancel₀ hJ0

variable [DecidableEq K]

/-- the `sin_cos` entry needs no order on `K` beyond `0 ≤ 1` (an ordered field has no `J` with `J² = −1`); instantiated
    at ℂ in Proofs/LaplaceSemantics.lean -/
theorem sin_cos_entry_gen (env : Env K) (hE : IsExp env.E) (hJ : env.J * env.J = -1) (h01 : (0 : K) ≤ 1) (_h20 : (2 : K) ≠ 0)
    (c al w ph tau : K) (isCos : Bool)
    (h1 : env.s - al - env.J * w ≠ 0) (h2 : env.s - al + env.J * w ≠ 0) :
    specValue env (.prod c [.exp al, .trig isCos w ph, .step 1 (-tau)])
      = some (c * sinCosFormula env al isCos w ph tau) := by
  rw [specValue, sem, semProd_single _ _ _ rfl, semSimple_smooth2_step _ _ _ _ h01 rfl rfl, Option.map_some,
    L_trig_exp_step env hE hJ _ al w ph tau isCos h1 h2, mul_one]

/-- `sin_cos` with a constant in the exponent, `c·e^{αt+β}·sin/cos(ωt+φ)·u(t−τ)`: the factor `e^β` of the code (`if beta != 0: E = exp(beta) * E`) -/
theorem sin_cos_entry_beta' (env : Env K) (hE : IsExp env.E) (hJ : env.J * env.J = -1) (h01 : (0 : K) ≤ 1) (_h20 : (2 : K) ≠ 0)
    (c al be w ph tau : K) (isCos : Bool)
    (h1 : env.s - al - env.J * w ≠ 0) (h2 : env.s - al + env.J * w ≠ 0) :
    specValue env (.prod c [.expb al be, .trig isCos w ph, .step 1 (-tau)])
      = some (c * (env.E be * sinCosFormula env al isCos w ph tau)) := by
  have hsm : ∀ d : K, applySmooth env.E env.J [Term.ep (c * 1) 0 0 d] (.expb al be)
      = applySmooth env.E env.J [Term.ep (env.E be * c) 0 0 d] (.exp al) := by
    intro d; simp [applySmooth, smul, expWeight, Term.expWeight, Term.smul, mul_assoc]
  rw [specValue, sem, semProd_single _ _ _ rfl, semSimple_smooth2_step _ _ _ _ h01 rfl rfl, Option.map_some, hsm,
    L_trig_exp_step env hE hJ _ al w ph tau isCos h1 h2, mul_left_comm, mul_assoc]
end

section
variable {K : Type} [Field K] [LinearOrder K] [IsStrictOrderedRing K]

/-- where the forward step `u(a t + b)`, `a > 0`, switches on within `t ≥ 0` -/
def onset (a b : K) : K := if 0 ≤ -(b / a) then -(b / a) else 0

theorem onset_zero (a : K) : onset a 0 = 0 := by simp [onset]

theorem onset_pos (a b : K) (ha : 0 < a) (hb : 0 ≤ b) : onset a b = 0 := by
  unfold onset; split_ifs with h
  · exact le_antisymm (neg_nonpos.mpr (div_nonneg hb ha.le)) h
  · rfl

theorem onset_neg (a b : K) (ha : 0 < a) (hb : b ≤ 0) : onset a b = -(b / a) :=
  if_pos (neg_nonneg.mpr (div_nonpos_of_nonpos_of_nonneg hb ha.le))

theorem semSimple_linstep (E : K → K) (J c a b : K) (ha : 0 < a) :
    semSimple E J c [.lin a b, .step a b] =
      some (smul a (tmul [.ep c 0 0 (onset a b)]) ++ smul b [.ep c 0 0 (onset a b)]) := by
  simp [semSimple, List.filterMap, deltaSel, stepSel, offSel, List.filter, isSmooth, applySmooth, ha.le, onset]

theorem semSimple_step (E : K → K) (J c a b : K) (ha : 0 < a) :
    semSimple E J c [.step a b] = some [.ep c 0 0 (onset a b)] := by
  simp [semSimple, List.filterMap, deltaSel, stepSel, offSel, List.filter, isSmooth, ha.le, onset]

theorem spec_tri (env : Env K) (hE : IsExp env.E) (a : K) (ha : 0 < a) (hs : env.s ≠ 0) :
    specValue env (.prod 1 [.fn .tri a 0]) =
      some (1 / env.s - a * (1 - env.E (-(env.s * (1 / a)))) / env.s ^ 2) := by
  simp only [specValue, sem, semProd, expandAtoms, expandFn, List.flatMap_cons, List.flatMap_nil, List.map_cons, List.map_nil,
    List.append_nil, List.cons_append, List.nil_append, List.foldl_cons, List.foldl_nil, semSimple_linstep _ _ _ _ _ ha,
    Option.map_some, L_append, L_linstep _ _ _ _ _ _ hs, zero_add, add_zero,
    onset_pos a 1 ha zero_le_one, onset_zero, onset_neg a (-1) ha (by norm_num), two_eq]
  rw [mul_zero, neg_zero, hE.zero, show -(-1 / a) = 1 / a by ring]
  congr 1
  field_simp; ring

theorem spec_rampstep (env : Env K) (hE : IsExp env.E) (a : K) (ha : 0 < a) (hs : env.s ≠ 0) :
    specValue env (.prod 1 [.fn .rampstep a 0]) =
      some (a * (1 - env.E (-(env.s * (1 / a)))) / env.s ^ 2) := by
  simp only [specValue, sem, semProd, expandAtoms, expandFn, List.flatMap_cons, List.flatMap_nil, List.map_cons, List.map_nil,
    List.append_nil, List.cons_append, List.nil_append, List.foldl_cons, List.foldl_nil, semSimple_linstep _ _ _ _ _ ha,
    Option.map_some, L_append, L_linstep _ _ _ _ _ _ hs, zero_add, add_zero,
    onset_zero, onset_neg a (-1) ha (by norm_num)]
  rw [mul_zero, neg_zero, hE.zero, show -(-1 / a) = 1 / a by ring]
  congr 1
  field_simp; ring

theorem spec_ramp (env : Env K) (hE : IsExp env.E) (a : K) (ha : 0 < a) (hs : env.s ≠ 0) :
    specValue env (.prod 1 [.fn .ramp a 0]) = some (a / env.s ^ 2) := by
  simp only [specValue, sem, semProd, expandAtoms, expandFn, List.flatMap_cons, List.flatMap_nil, List.map_cons, List.map_nil,
    List.append_nil, List.nil_append, List.foldl_cons, List.foldl_nil, semSimple_linstep _ _ _ _ _ ha,
    Option.map_some, L_linstep _ _ _ _ _ _ hs, add_zero, onset_zero]
  rw [mul_zero, neg_zero, hE.zero]
  congr 1
  field_simp
  ring

theorem spec_rect (env : Env K) (hE : IsExp env.E) (a : K) (ha : 0 < a) (hs : env.s ≠ 0) :
    specValue env (.prod 1 [.fn .rect a 0]) = some ((1 - env.E (-(env.s * (1 / (2 * a))))) / env.s) := by
  have h2 : (0:K) ≤ 1 / 2 := by norm_num
  simp only [specValue, sem, semProd, expandAtoms, expandFn, List.flatMap_cons, List.flatMap_nil, List.map_cons, List.map_nil,
    List.append_nil, List.cons_append, List.nil_append, List.foldl_cons, List.foldl_nil, semSimple_step _ _ _ _ _ ha,
    Option.map_some, L_cons, L_nil, Term.L, pw_eq, zero_add, add_zero, two_eq,
    onset_pos a (1/2) ha h2, onset_neg a (-(1/2)) ha (neg_nonpos.mpr h2), zero_sub]
  rw [mul_zero, neg_zero, hE.zero]
  congr 1
  field_simp; ring_nf

theorem sin_cos_entry' (env : Env K) (hE : IsExp env.E) (hJ : env.J * env.J = -1) (c al w ph tau : K) (isCos : Bool)
    (h1 : env.s - al - env.J * w ≠ 0) (h2 : env.s - al + env.J * w ≠ 0) :
    specValue env (.prod c [.exp al, .trig isCos w ph, .step 1 (-tau)])
      = some (c * sinCosFormula env al isCos w ph tau) :=
  sin_cos_entry_gen env hE hJ zero_le_one two_ne_zero c al w ph tau isCos h1 h2
end
end Lcapy.Laplace
