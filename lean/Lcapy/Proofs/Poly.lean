/-
  Lemmas about the coefficient-list polynomial model (`Lcapy/Model/Poly.lean`) over an arbitrary field.
-/
import Lcapy.Model.Poly
import Mathlib.Algebra.Field.Basic
import Mathlib.Tactic.Ring
import Mathlib.Tactic.FieldSimp
import Mathlib.Tactic.LinearCombination
namespace Lcapy.Poly
variable {K : Type} [Field K]

theorem npow_eq (a : K) (n : Nat) : npow a n = a ^ n := by
  induction n with
  | zero => exact (pow_zero a).symm
  | succ n ih => rw [npow, ih, pow_succ']

@[simp] theorem eval_nil (x : K) : eval ([] : List K) x = 0 := rfl
@[simp] theorem eval_cons (a : K) (p : List K) (x : K) : eval (a :: p) x = a + x * eval p x := rfl

theorem eval_add (p q : List K) (x : K) : eval (add p q) x = eval p x + eval q x := by
  induction p generalizing q with
  | nil => exact (zero_add _).symm
  | cons a p ih =>
    cases q with
    | nil => exact (add_zero _).symm
    | cons b q => rw [add, eval_cons, ih, eval_cons, eval_cons]; ring

theorem eval_smul (c : K) (p : List K) (x : K) : eval (smul c p) x = c * eval p x := by
  induction p with
  | nil => exact (mul_zero c).symm
  | cons a p ih => rw [smul, List.map_cons, eval_cons, eval_cons, ← smul, ih]; ring

theorem eval_neg (p : List K) (x : K) : eval (neg p) x = - eval p x := by
  induction p with
  | nil => exact neg_zero.symm
  | cons a p ih => rw [neg, List.map_cons, eval_cons, eval_cons, ← neg, ih]; ring

theorem eval_sub (p q : List K) (x : K) : eval (sub p q) x = eval p x - eval q x := by
  rw [sub, eval_add, eval_neg, sub_eq_add_neg]

theorem eval_mul (p q : List K) (x : K) : eval (mul p q) x = eval p x * eval q x := by
  induction p with
  | nil => exact (zero_mul _).symm
  | cons a p ih => rw [mul, eval_add, eval_smul, eval_cons, ih, eval_cons]; ring

theorem eval_pow (p : List K) (n : Nat) (x : K) : eval (pow p n) x = eval p x ^ n := by
  induction n with
  | zero => simp [pow]
  | succ n ih => rw [pow, eval_mul, ih, pow_succ']

theorem eval_append (p q : List K) (x : K) : eval (p ++ q) x = eval p x + x ^ p.length * eval q x := by
  induction p with
  | nil => simp
  | cons a p ih => rw [List.cons_append, eval_cons, ih, eval_cons, List.length_cons, pow_succ]; ring

theorem eval_replicate_zero (k : Nat) (x : K) : eval (List.replicate k (0 : K)) x = 0 := by
  induction k with
  | zero => rfl
  | succ k ih => rw [List.replicate_succ, eval_cons, ih, mul_zero, add_zero]

theorem eval_monomial (c : K) (k : Nat) (x : K) : eval (monomial c k) x = c * x ^ k := by
  rw [monomial, eval_append, eval_replicate_zero, List.length_replicate, eval_cons, eval_nil]; ring

theorem eval_linear (r x : K) : eval (linear r) x = x - r := by
  rw [linear, eval_cons, eval_cons, eval_nil]; ring

/-- the value of a root table `Π (x − r)^n` -/
def rootsValue (roots : List (K × Nat)) (x : K) : K := (roots.map (fun rn => (x - rn.1) ^ rn.2)).prod

theorem rootsValue_cons (r : K) (n : Nat) (rest : List (K × Nat)) (x : K) :
    rootsValue ((r, n) :: rest) x = (x - r) ^ n * rootsValue rest x := rfl

theorem eval_mulLinear (r : K) (p : List K) (x : K) : eval (mulLinear r p) x = (x - r) * eval p x := by
  rw [mulLinear, eval_add, eval_smul, eval_cons]; ring

theorem eval_mulLinearPow (r : K) (n : Nat) (p : List K) (x : K) :
    eval (mulLinearPow r n p) x = (x - r) ^ n * eval p x := by
  induction n with
  | zero => rw [mulLinearPow, pow_zero, one_mul]
  | succ n ih => rw [mulLinearPow, eval_mulLinear, ih, pow_succ']; ring

theorem eval_prodRoots (roots : List (K × Nat)) (x : K) : eval (prodRoots roots) x = rootsValue roots x := by
  induction roots with
  | nil => simp [prodRoots, rootsValue]
  | cons rn rest ih => rw [prodRoots, eval_mulLinearPow, ih, rootsValue_cons]

theorem eval_concat (p : List K) (a x : K) : eval (p ++ [a]) x = eval p x + x ^ p.length * a := by
  rw [eval_append, eval_cons, eval_nil, mul_zero, add_zero]

theorem eval_dropLast (p : List K) (x : K) :
    eval p x = eval p.dropLast x + x ^ (p.length - 1) * p.getLastD 0 := by
  rcases List.eq_nil_or_concat' p with rfl | ⟨l, a, rfl⟩
  · simp
  · rw [List.dropLast_concat, eval_concat, List.length_append, List.length_singleton, Nat.add_sub_cancel,
      List.getLastD_concat]

theorem length_add (p q : List K) : (add p q).length = max p.length q.length := by
  induction p generalizing q with
  | nil => exact (Nat.zero_max _).symm
  | cons a p ih =>
    cases q with
    | nil => exact (Nat.max_zero _).symm
    | cons b q => rw [add, List.length_cons, ih q, List.length_cons, List.length_cons, Nat.succ_max_succ]

theorem length_sub_le (p q : List K) : (sub p q).length ≤ max p.length q.length := by
  rw [sub, length_add, neg, List.length_map]

theorem length_smul (c : K) (p : List K) : (smul c p).length = p.length := List.length_map _

theorem rootsValue_eq_zero {roots : List (K × Nat)} {r : K} {n : Nat} (hr : (r, n) ∈ roots) (hn : n ≠ 0) :
    rootsValue roots r = 0 := by
  induction roots with
  | nil => cases hr
  | cons a rest ih =>
    obtain ⟨q, m⟩ := a
    rw [rootsValue_cons]
    rcases List.mem_cons.1 hr with h | h
    · cases h; rw [sub_self, zero_pow hn, zero_mul]
    · rw [ih h, mul_zero]

omit [Field K] in
theorem getLastD_irrel (p : List K) (hp : p ≠ []) (x y : K) : p.getLastD x = p.getLastD y := by
  cases p with
  | nil => exact absurd rfl hp
  | cons a p => rfl

theorem getLastD_add_of_lt (p q : List K) (d : K) (h : q.length < p.length) :
    (add p q).getLastD d = p.getLastD d := by
  induction p generalizing q d with
  | nil => cases h
  | cons a p ih =>
    cases q with
    | nil => rfl
    | cons b q =>
      have h := Nat.lt_of_succ_lt_succ h
      rw [add, List.getLastD_cons, List.getLastD_cons, ih q _ h]
      exact getLastD_irrel p (List.ne_nil_of_length_pos (Nat.zero_lt_of_lt h)) _ _

theorem length_mulLinear (r : K) (p : List K) : (mulLinear r p).length = p.length + 1 := by
  rw [mulLinear, length_add, length_smul, List.length_cons, Nat.max_eq_left (Nat.le_succ _)]

theorem getLastD_mulLinear (r : K) (p : List K) (hp : p ≠ []) (d : K) :
    (mulLinear r p).getLastD d = p.getLastD d := by
  rw [mulLinear, getLastD_add_of_lt _ _ _ (by rw [length_smul]; exact Nat.lt_succ_self _), List.getLastD_cons]
  exact getLastD_irrel p hp _ _

theorem mulLinearPow_spec (r : K) (n : Nat) (p : List K) (hp : p ≠ []) (d : K) :
    (mulLinearPow r n p).length = p.length + n ∧ (mulLinearPow r n p).getLastD d = p.getLastD d ∧
      mulLinearPow r n p ≠ [] := by
  induction n with
  | zero => exact ⟨rfl, rfl, hp⟩
  | succ n ih =>
    obtain ⟨h1, h2, h3⟩ := ih
    have hl : (mulLinearPow r (n + 1) p).length = p.length + (n + 1) := by
      rw [mulLinearPow, length_mulLinear, h1, Nat.add_assoc]
    exact ⟨hl, by rw [mulLinearPow, getLastD_mulLinear _ _ h3, h2],
      List.ne_nil_of_length_pos (hl ▸ Nat.succ_pos _)⟩

theorem prodRoots_spec (roots : List (K × Nat)) :
    (prodRoots roots).length = (roots.map (fun rn => rn.2)).sum + 1 ∧ (prodRoots roots).getLastD 0 = 1 ∧
      prodRoots roots ≠ [] := by
  induction roots with
  | nil => exact ⟨rfl, rfl, List.cons_ne_nil _ _⟩
  | cons rn rest ih =>
    obtain ⟨r, n⟩ := rn
    obtain ⟨h1, h2, h3⟩ := ih
    obtain ⟨g1, g2, g3⟩ := mulLinearPow_spec r n (prodRoots rest) h3 0
    refine ⟨?_, by rw [prodRoots, g2, h2], g3⟩
    rw [prodRoots, g1, h1, List.map_cons, List.sum_cons]; omega

theorem getLastD_smul (c : K) (p : List K) : (smul c p).getLastD 0 = c * p.getLastD 0 := by
  rcases List.eq_nil_or_concat' p with rfl | ⟨l, a, rfl⟩
  · exact (mul_zero c).symm
  · rw [smul, List.map_append, List.map_singleton, List.getLastD_concat, List.getLastD_concat]

theorem getD_getLastD (q : List K) (hq : q ≠ []) : q.getD (q.length - 1) 0 = q.getLastD 0 := by
  rcases List.eq_nil_or_concat' q with rfl | ⟨l, a, rfl⟩
  · exact absurd rfl hq
  · rw [List.length_append, List.length_singleton, Nat.add_sub_cancel, List.getLastD_concat,
      List.getD_eq_getElem?_getD, List.getElem?_concat_length]; rfl

/-- **Long division**: for a divisor whose last entry is non-zero, `A = Q·B + R` at every point and
    `R` has fewer coefficients than `B` (degree R < degree B). -/
theorem divmodT_spec (A B : List K) (hB : B.getLastD 0 ≠ 0) :
    (∀ x, eval A x = eval (divmodT A B).1 x * eval B x + eval (divmodT A B).2 x) ∧
    (divmodT A B).2.length < B.length := by
  have hBlen : 0 < B.length := List.length_pos_iff.mpr (by rintro rfl; exact hB rfl)
  induction A with
  | nil => exact ⟨fun x => by rw [divmodT, eval_nil, zero_mul, zero_add], hBlen⟩
  | cons a A ih =>
    obtain ⟨ihv, ihl⟩ := ih
    simp only [divmodT]
    split
    · rename_i hlt
      refine ⟨fun x => ?_, hlt⟩
      rw [eval_cons, eval_cons, eval_cons, ihv x]; ring
    · rename_i hge
      have hlen : (a :: (divmodT A B).2).length = B.length :=
        Nat.le_antisymm (Nat.succ_le_of_lt ihl) (Nat.le_of_not_lt hge)
      constructor
      · intro x
        have hS := eval_dropLast (a :: (divmodT A B).2) x
        have hBx := eval_dropLast B x
        rw [hlen, eval_cons] at hS
        rw [eval_cons, eval_cons, eval_sub, eval_smul, ihv x]
        linear_combination hS - ((a :: (divmodT A B).2).getLastD 0 / B.getLastD 0) * hBx
          - x ^ (B.length - 1) * div_mul_cancel₀ ((a :: (divmodT A B).2).getLastD 0) hB
      · have h1 := length_sub_le (a :: (divmodT A B).2).dropLast
            (smul ((a :: (divmodT A B).2).getLastD 0 / B.getLastD 0) B.dropLast)
        rw [length_smul, List.length_dropLast, List.length_dropLast, hlen, max_self] at h1
        exact lt_of_le_of_lt h1 (Nat.sub_lt hBlen Nat.one_pos)

theorem getD_add (p q : List K) (m : Nat) : (add p q).getD m 0 = p.getD m 0 + q.getD m 0 := by
  induction p generalizing q m with
  | nil => exact (zero_add _).symm
  | cons a p ih =>
    cases q with
    | nil => exact (add_zero _).symm
    | cons b q =>
      cases m with
      | zero => rfl
      | succ m => exact ih q m

theorem getD_smul (c : K) (p : List K) (m : Nat) : (smul c p).getD m 0 = c * p.getD m 0 := by
  induction p generalizing m with
  | nil => exact (mul_zero c).symm
  | cons a p ih =>
    cases m with
    | zero => rfl
    | succ m => exact ih m

theorem getD_neg (p : List K) (m : Nat) : (neg p).getD m 0 = - p.getD m 0 := by
  induction p generalizing m with
  | nil => exact neg_zero.symm
  | cons a p ih =>
    cases m with
    | zero => rfl
    | succ m => exact ih m

theorem getD_dropLast (S : List K) (m : Nat) :
    S.dropLast.getD m 0 = if m < S.length - 1 then S.getD m 0 else 0 := by
  induction S generalizing m with
  | nil => simp
  | cons a S ih =>
    cases S with
    | nil => simp
    | cons b S =>
      cases m with
      | zero => simp
      | succ m =>
        have := ih m
        simp only [List.dropLast_cons_cons, List.getD_cons_succ, List.length_cons] at this ⊢
        rw [this]
        simp only [Nat.add_sub_cancel]
        by_cases h : m < S.length <;> simp [h]

theorem eval_all_zero (q : List K) (h : ∀ c ∈ q, c = 0) (x : K) : eval q x = 0 := by
  induction q with
  | nil => rfl
  | cons a q ih =>
    have ha : a = 0 := h a (by simp)
    simp [ha, ih (fun c hc => h c (List.mem_cons_of_mem _ hc))]

section dec
variable [DecidableEq K]

theorem trim_cons (a : K) (p : List K) :
    trim (a :: p) = if a = 0 ∧ trim p = [] then [] else a :: trim p := by
  rw [trim]
  cases trim p with
  | nil => by_cases ha : a = 0 <;> simp [ha]
  | cons b q => simp

theorem eval_trim (p : List K) (x : K) : eval (trim p) x = eval p x := by
  induction p with
  | nil => rfl
  | cons a p ih =>
    rw [trim_cons]
    split
    · rename_i h; rw [eval_cons, ← ih, h.1, h.2, eval_nil, mul_zero, add_zero]
    · rw [eval_cons, eval_cons, ih]

theorem getD_trim (p : List K) (i : Nat) : (trim p).getD i 0 = p.getD i 0 := by
  induction p generalizing i with
  | nil => rfl
  | cons a p ih =>
    rw [trim_cons]
    split
    · rename_i h
      cases i with
      | zero => exact h.1.symm
      | succ i => rw [List.getD_cons_succ, ← ih, h.2]; rfl
    · cases i with
      | zero => rfl
      | succ i => exact ih i

theorem length_trim_le (p : List K) : (trim p).length ≤ p.length := by
  induction p with
  | nil => exact Nat.le_refl _
  | cons a p ih =>
    rw [trim_cons]
    split
    · exact Nat.zero_le _
    · exact Nat.succ_le_succ ih

theorem trim_getLastD (p : List K) : trim p = [] ∨ (trim p).getLastD 0 ≠ 0 := by
  induction p with
  | nil => exact .inl rfl
  | cons a p ih =>
    rw [trim_cons]
    split
    · exact .inl rfl
    · rename_i h
      right
      rcases ih with h0 | h0
      · rw [h0] at h ⊢; exact fun ha => h ⟨ha, rfl⟩
      · rwa [List.getLastD_cons, getLastD_irrel _ (fun h1 => h0 (by rw [h1]; rfl)) a 0]

theorem trim_of_getLastD_ne_zero (p : List K) (h : p.getLastD 0 ≠ 0) : trim p = p := by
  induction p with
  | nil => rfl
  | cons a p ih =>
    rw [trim_cons, List.getLastD_cons] at *
    cases p with
    | nil => exact if_neg fun h0 => h h0.1
    | cons b q => rw [ih h, if_neg (fun h0 => List.cons_ne_nil _ _ h0.2)]

theorem eval_of_isZero {p : List K} (h : isZero p = true) (x : K) : eval p x = 0 := by
  rw [← eval_trim, List.isEmpty_iff.1 h]; rfl

theorem polyEq_eval {p q : List K} (h : polyEq p q = true) (x : K) : eval p x = eval q x := by
  rw [← eval_trim p, ← eval_trim q, of_decide_eq_true h]

theorem lc_eq_zero_iff (p : List K) : lc p = 0 ↔ trim p = [] :=
  ⟨fun h => (trim_getLastD p).resolve_right (not_not_intro h), fun h => by rw [lc, h]; rfl⟩

theorem eval_of_lc_zero {p : List K} (h : lc p = 0) (x : K) : eval p x = 0 := by
  rw [← eval_trim, (lc_eq_zero_iff p).1 h]; rfl

theorem lc_ne_zero_of_eval {p : List K} {x : K} (h : eval p x ≠ 0) : lc p ≠ 0 :=
  fun h0 => h (eval_of_lc_zero h0 x)

theorem lc_ne_zero_of_not_isZero {p : List K} (h : ¬ isZero p = true) : lc p ≠ 0 :=
  fun h0 => h (List.isEmpty_iff.2 ((lc_eq_zero_iff p).1 h0))

theorem trim_length_pos {p : List K} (h : lc p ≠ 0) : 0 < (trim p).length :=
  List.length_pos_iff.2 fun h0 => h ((lc_eq_zero_iff p).2 h0)

theorem trim_trim (p : List K) : trim (trim p) = trim p :=
  (trim_getLastD p).elim (fun h => by rw [h]; rfl) (trim_of_getLastD_ne_zero _)

theorem eval_monic (p : List K) (x : K) : eval (monic p) x = eval p x / lc p := by
  unfold monic
  split
  · rename_i h; rw [eval_trim, h, div_zero, eval_of_lc_zero h]
  · rw [eval_smul, eval_trim, one_div, inv_mul_eq_div]

theorem trim_getLastD_ne_zero {B : List K} (h : lc B ≠ 0) : (trim B).getLastD 0 ≠ 0 := h

/-- `sympy.div`: `A = Q·B + R`, `deg R < deg B`, for every non-zero divisor. -/
theorem divmod_spec' (A B : List K) (hB : lc B ≠ 0) :
    (∀ x, eval A x = eval (divmod A B).1 x * eval B x + eval (divmod A B).2 x) ∧
    (divmod A B).2.length < (trim B).length := by
  have := divmodT_spec A (trim B) hB
  refine ⟨fun x => ?_, this.2⟩
  rw [this.1 x, eval_trim]; rfl

/-- `cancel` never changes the value (wherever the original denominator is non-zero). -/
theorem cancel_value (B A : List K) (x : K) (hA : eval A x ≠ 0) :
    eval (cancel B A).1 x / eval (cancel B A).2 x = eval B x / eval A x ∧ eval (cancel B A).2 x ≠ 0 := by
  unfold cancel
  simp only
  split
  · exact ⟨rfl, hA⟩
  · rename_i hg
    split
    · rename_i hz
      rw [Bool.and_eq_true] at hz
      have hg' := lc_ne_zero_of_not_isZero hg
      have hb := (divmod_spec' B (gcd B A) hg').1 x
      have ha := (divmod_spec' A (gcd B A) hg').1 x
      rw [eval_of_isZero hz.1, add_zero] at hb
      rw [eval_of_isZero hz.2, add_zero] at ha
      rw [ha] at hA
      rw [eval_trim, eval_trim, hb, ha, mul_div_mul_right _ _ (right_ne_zero_of_mul hA)]
      exact ⟨rfl, left_ne_zero_of_mul hA⟩
    · exact ⟨rfl, hA⟩

/-- **rootsCheck is sound**: a root table that passes the check factorises `A` completely. -/
theorem rootsCheck_eval {A : List K} {roots : List (K × Nat)} (h : rootsCheck A roots = true) (x : K) :
    eval A x = lc A * rootsValue roots x := by
  rw [polyEq_eval h x, eval_smul, eval_prodRoots]

theorem length_trim_le_of (p : List K) (n : Nat) (h : ∀ i, n ≤ i → p.getD i 0 = 0) : (trim p).length ≤ n := by
  induction p generalizing n with
  | nil => exact Nat.zero_le n
  | cons a p ih =>
    rw [trim_cons]
    split
    · exact Nat.zero_le n
    · rename_i hne
      cases n with
      | zero =>
        exact absurd ⟨h 0 (Nat.le_refl 0), List.length_eq_zero_iff.1
          (Nat.le_zero.1 (ih 0 fun i _ => h (i + 1) (Nat.zero_le _)))⟩ hne
      | succ n => exact Nat.succ_le_succ (ih n fun i hi => h (i + 1) (Nat.succ_le_succ hi))

theorem getD_of_trim_length_le (p : List K) (m : Nat) (h : (trim p).length ≤ m) : p.getD m 0 = 0 := by
  rw [← getD_trim, List.getD_eq_getElem?_getD, List.getElem?_eq_none h]; rfl

theorem length_trim_tail_le (a : K) (p : List K) : (trim p).length ≤ (trim (a :: p)).length := by
  rw [trim_cons]
  split
  · rename_i h; rw [h.2]
  · exact Nat.le_succ _

/-- dividing a polynomial of smaller degree: the quotient has only zero coefficients and the remainder has the
    coefficients of the dividend -/
theorem divmodT_small (B A' : List K) (hlast : A'.getLastD 0 ≠ 0) (hlt : (trim B).length < A'.length) :
    (∀ c ∈ (divmodT B A').1, c = 0) ∧ ∀ m, (divmodT B A').2.getD m 0 = B.getD m 0 := by
  induction B with
  | nil => simp [divmodT]
  | cons a B ih =>
    have hlt' : (trim B).length < A'.length := lt_of_le_of_lt (length_trim_tail_le a B) hlt
    obtain ⟨ih1, ih2⟩ := ih hlt'
    have hrl := (divmodT_spec B A' hlast).2
    have hS : ∀ m, (a :: (divmodT B A').2).getD m 0 = (a :: B).getD m 0 := by
      intro m
      cases m with
      | zero => simp
      | succ m => simp only [List.getD_cons_succ]; exact ih2 m
    simp only [divmodT]
    split
    · refine ⟨?_, hS⟩
      intro c hc
      simp only [List.mem_cons] at hc
      rcases hc with h | h
      · exact h
      · exact ih1 c h
    · rename_i hge
      have hlen : (a :: (divmodT B A').2).length = A'.length := by
        simp only [List.length_cons] at hge ⊢; omega
      have hne : (a :: (divmodT B A').2) ≠ [] := by simp
      have hz : (a :: (divmodT B A').2).getLastD 0 = 0 := by
        rw [← getD_getLastD _ hne, hlen, hS]
        exact getD_of_trim_length_le _ _ (by omega)
      refine ⟨?_, ?_⟩
      · intro c hc
        simp only [List.mem_cons] at hc
        rcases hc with h | h
        · rw [h, hz]; simp
        · exact ih1 c h
      · intro m
        show (sub _ _).getD m 0 = _
        rw [hz]
        simp only [sub, getD_add, getD_neg, getD_smul, zero_div, zero_mul, neg_zero, add_zero]
        rw [getD_dropLast, hlen]
        by_cases hm : m < A'.length - 1
        · simp only [hm, if_true]; exact hS m
        · simp only [hm, if_false]
          exact (getD_of_trim_length_le _ _ (by omega)).symm

theorem rootsCheck_degree {A : List K} {roots : List (K × Nat)} (h : rootsCheck A roots = true)
    (hA : lc A ≠ 0) : (roots.map (fun rn => rn.2)).sum = degree A := by
  have ht : trim A = trim (smul (lc A) (prodRoots roots)) := of_decide_eq_true h
  obtain ⟨h1, h2, -⟩ := prodRoots_spec roots
  rw [trim_of_getLastD_ne_zero (smul (lc A) _) (by rwa [getLastD_smul, h2, mul_one])] at ht
  rw [degree, ht, length_smul, h1, Nat.add_sub_cancel]

end dec
end Lcapy.Poly
