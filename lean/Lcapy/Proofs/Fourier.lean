/-
  Helper lemmas for C12: arithmetic of `rabs`/`rsgn`/`zpow` and of the Gaussian rationals `CQ`, the per-term forms of the
  transform laws, and the soundness of the structural table checks.
-/
import Lcapy.Spec.Fourier
import Lcapy.Model.Fourier
import Lcapy.Spec.Signal
import Mathlib.Algebra.Order.Field.Rat
import Mathlib.Algebra.Order.Field.Basic
import Mathlib.Tactic.FieldSimp
import Mathlib.Tactic.Ring
import Mathlib.Tactic.Linarith
import Mathlib.Tactic.LinearCombination
import Mathlib.Algebra.Ring.Parity
namespace Lcapy.Fourier

theorem rabs_eq_abs (x : Rat) : rabs x = |x| := by
  unfold rabs
  split_ifs with h
  · exact (abs_of_neg h).symm
  · exact (abs_of_nonneg (not_lt.mp h)).symm

theorem rabs_neg (x : Rat) : rabs (-x) = rabs x := by simp [rabs_eq_abs]
theorem rabs_mul (x y : Rat) : rabs (x * y) = rabs x * rabs y := by simp [rabs_eq_abs, abs_mul]
theorem rabs_ne_zero {x : Rat} (h : x ≠ 0) : rabs x ≠ 0 := by simpa [rabs_eq_abs] using h
theorem rabs_one_div (x : Rat) : rabs (1 / x) = 1 / rabs x := by simp [rabs_eq_abs, abs_inv]
theorem rabs_div (x y : Rat) : rabs (x / y) = rabs x / rabs y := by simp [rabs_eq_abs, abs_div]
theorem rabs_one : rabs 1 = 1 := by decide

theorem rsgn_mul_self_abs (a : Rat) : rsgn a * rabs a = a := by
  unfold rsgn rabs; split_ifs <;> ring

theorem rsgn_neg {a : Rat} (ha : a ≠ 0) : rsgn (-a) = -rsgn a := by
  unfold rsgn
  rcases lt_or_gt_of_ne ha with h | h
  · rw [if_neg (by linarith), if_pos h, neg_neg]
  · rw [if_pos (by linarith), if_neg (by linarith)]

theorem zpow_eq (x : Rat) (n : Int) : zpow x n = x ^ n := by
  unfold zpow
  split_ifs with h
  · obtain ⟨m, rfl⟩ := Int.exists_eq_neg_ofNat (le_of_lt h)
    simp
  · obtain ⟨m, rfl⟩ := Int.eq_ofNat_of_zero_le (not_lt.mp h)
    simp

/-! ### `CQ` is a commutative ring with `smul r = (ofRat r * ·)` -/

@[ext] theorem CQ.ext' {x y : CQ} (h1 : x.re = y.re) (h2 : x.im = y.im) : x = y := by
  cases x; cases y; simp_all

theorem CQ.mul_re (x y : CQ) : (x * y).re = x.re * y.re - x.im * y.im := rfl
theorem CQ.mul_im (x y : CQ) : (x * y).im = x.re * y.im + x.im * y.re := rfl
theorem CQ.one_re : (1 : CQ).re = 1 := rfl
theorem CQ.one_im : (1 : CQ).im = 0 := rfl
theorem CQ.neg_re (x : CQ) : (-x).re = -x.re := rfl
theorem CQ.neg_im (x : CQ) : (-x).im = -x.im := rfl
theorem CQ.mk_mul_mk (a b c d : Rat) : (⟨a, b⟩ : CQ) * ⟨c, d⟩ = ⟨a * c - b * d, a * d + b * c⟩ := rfl
theorem CQ.one_def : (1 : CQ) = ⟨1, 0⟩ := rfl

theorem CQ.mul_comm' (x y : CQ) : x * y = y * x := by
  ext <;> simp only [CQ.mul_re, CQ.mul_im] <;> ring
theorem CQ.mul_assoc' (x y z : CQ) : x * y * z = x * (y * z) := by
  ext <;> simp only [CQ.mul_re, CQ.mul_im] <;> ring
theorem CQ.one_mul' (x : CQ) : (1 : CQ) * x = x := by
  ext <;> simp [CQ.mul_re, CQ.mul_im, CQ.one_re, CQ.one_im]
theorem CQ.mul_one' (x : CQ) : x * 1 = x := by rw [CQ.mul_comm', CQ.one_mul']
theorem CQ.add_comm' (x y : CQ) : x + y = y + x := by
  ext <;> show _ + _ = _ + _ <;> ring
theorem CQ.sub_neg' (x y : CQ) : x - (-y) = x + y := by
  ext <;> show _ - -_ = _ + _ <;> ring

theorem CQ.smul_smul (r s : Rat) (x : CQ) : CQ.smul r (CQ.smul s x) = CQ.smul (r * s) x := by
  ext <;> simp only [CQ.smul] <;> ring
theorem CQ.one_smul (x : CQ) : CQ.smul 1 x = x := by
  ext <;> simp only [CQ.smul, one_mul]
theorem CQ.smul_mul (r : Rat) (x y : CQ) : CQ.smul r x * y = CQ.smul r (x * y) := by
  ext <;> simp only [CQ.smul, CQ.mul_re, CQ.mul_im] <;> ring
theorem CQ.mul_smul (r : Rat) (x y : CQ) : x * CQ.smul r y = CQ.smul r (x * y) := by
  rw [CQ.mul_comm', CQ.smul_mul, CQ.mul_comm']
theorem mul_ofRat (c : CQ) (r : Rat) : c * CQ.ofRat r = CQ.smul r c := by
  ext <;> simp [CQ.mul_re, CQ.mul_im, CQ.ofRat, CQ.smul] <;> ring
theorem CQ.ofRat_mul (r : Rat) (x : CQ) : CQ.ofRat r * x = CQ.smul r x := by
  rw [CQ.mul_comm', mul_ofRat]
theorem ofRat_mul_inv (r : Rat) (h : r ≠ 0) : CQ.ofRat r * CQ.ofRat (1 / r) = 1 := by
  ext <;> simp [CQ.mul_re, CQ.mul_im, CQ.ofRat, h] <;> rfl

theorem CQ.npow_mul (x y : CQ) : ∀ n : Nat, (x * y).npow n = x.npow n * y.npow n
  | 0 => by simp [CQ.npow, CQ.one_mul']
  | n + 1 => by
      simp only [CQ.npow, CQ.npow_mul x y n]
      rw [CQ.mul_assoc', CQ.mul_assoc']; congr 1
      rw [← CQ.mul_assoc', CQ.mul_comm' (y.npow n) x, CQ.mul_assoc']

theorem CQ.npow_neg_one : ∀ n : Nat, (CQ.ofRat (-1)).npow n = CQ.ofRat ((-1) ^ n)
  | 0 => by simp [CQ.npow, CQ.ofRat]; rfl
  | n + 1 => by
      simp only [CQ.npow, CQ.npow_neg_one n, pow_succ]
      ext <;> simp [CQ.mul_re, CQ.mul_im, CQ.ofRat]

theorem Term.ext' {x y : Term} (h1 : x.c = y.c) (h2 : x.ph = y.ph) (h3 : x.th = y.th) (h4 : x.k = y.k)
    (h5 : x.a = y.a) (h6 : x.b = y.b) : x = y := by
  cases x; cases y; simp_all

/-! ### per-term transform laws -/

theorem ftTerm_shift (pi tau : Rat) (t : Term) (h : t.a ≠ 0) :
    ftTerm pi (shiftT tau t) = (ftTerm pi t).map (modT (-tau)) := by
  simp only [ftTerm, shiftT, List.map_map]
  apply List.map_congr_left
  intro p _
  simp only [Function.comp, modT, Term.mk.injEq, true_and, and_true]
  refine ⟨?_, ?_⟩ <;> (field_simp; ring)

theorem ftTerm_mod (pi nu : Rat) (t : Term) (h : t.a ≠ 0) :
    ftTerm pi (modT nu t) = (ftTerm pi t).map (shiftT nu) := by
  simp only [ftTerm, modT, List.map_map]
  apply List.map_congr_left
  intro p _
  simp only [Function.comp, shiftT, Term.mk.injEq, true_and]
  refine ⟨?_, ?_⟩ <;> (field_simp; ring)

theorem ftTerm_scale (pi s : Rat) (t : Term) (h : t.a ≠ 0) (hs : s ≠ 0) :
    ftTerm pi (scaleT s t) = (ftTerm pi t).map (fun u => smulT (CQ.ofRat (1 / rabs s)) (scaleT (1 / s) u)) := by
  simp only [ftTerm, scaleT, List.map_map]
  apply List.map_congr_left
  intro p _
  have ha := rabs_ne_zero h
  have hs' := rabs_ne_zero hs
  apply Term.ext' <;> simp only [Function.comp, smulT]
  · rw [CQ.ofRat_mul, CQ.smul_smul, rabs_mul]; congr 1; field_simp
  all_goals field_simp

theorem ftTerm_smul (pi : Rat) (q : CQ) (t : Term) :
    ftTerm pi (smulT q t) = (ftTerm pi t).map (smulT q) := by
  simp only [ftTerm, smulT, List.map_map]
  apply List.map_congr_left
  intro p _
  simp only [Function.comp, smulT, CQ.mul_smul, CQ.mul_assoc']

theorem WF.tail {t : Term} {x : E} (h : WF (t :: x)) : WF x := fun u hu => h u (List.mem_cons_of_mem _ hu)
theorem WF.head {t : Term} {x : E} (h : WF (t :: x)) : t.a ≠ 0 := h t List.mem_cons_self

theorem fourier_laplace_aux (pi f : Rat) : ∀ x : List EPTerm,
    ratValue pi f (ft pi (x.map EPTerm.toTerm)) = laplaceAt ⟨0, 2 * pi * f⟩ x
  | [] => rfl
  | p :: x => by
      have ih := fourier_laplace_aux pi f x
      simp only [ratValue, ft, laplaceAt, List.map_cons, List.flatMap_cons, List.map_append, List.foldr_cons,
        List.foldr_append] at ih ⊢
      rw [← ih]
      simp only [ftTerm, ftKind, EPTerm.toTerm, List.map_cons, List.map_nil, List.foldr_cons, List.foldr_nil,
        Term.ratValue, rabs_one]
      congr 1
      rw [CQ.add_comm' p.al]
      simp only [div_one, one_mul]
      congr 1
      · ext <;> simp [CQ.smul, CQ.mul_re, CQ.mul_im, CQ.ofRat]
      · simp

/-! ### the model of `term` -/

theorem simShift_forward (a b : Rat) (base : E) (hsim : Gen.similarity = some (-1, 1))
    (hph : Gen.shiftPhase = some (true, -1, 1)) :
    Model.simShift false a b base =
      some (smulE (CQ.ofRat (1 / rabs a)) (modE (b / a) (scaleE (1 / a) base))) := by
  unfold Model.simShift
  rw [hsim, hph]
  simp [zpow, div_eq_mul_inv, mul_comm]

/-- `term` on an atom that goes through `similarity_shift` with table value `Σ q·K'(s·f)`: the spec's rule `ftTerm` with that
row -/
theorem modelTerm_simShift (pi : Rat) (c : CQ) (ph th : Rat) (k : Kind) (a b : Rat) (l : List Pair)
    (hsim : Gen.similarity = some (-1, 1)) (hph : Gen.shiftPhase = some (true, -1, 1))
    (h : Model.otherTerm pi false 0 k a b = Model.simShift false a b (l.map fun p => ⟨p.q, 0, 0, p.k, p.s, 0⟩)) :
    Model.modelTerm pi false 0 ⟨c, ph, th, k, a, b⟩ =
      some (l.map fun p => ⟨CQ.smul (1 / rabs a) (c * p.q), ph - th * b / a, b / a, p.k, p.s / a, -(p.s * th / a)⟩) := by
  simp only [Model.modelTerm, h, simShift_forward a b _ hsim hph, Option.map_some,
    Option.some.injEq, shiftE, smulE, modE, scaleE, List.map_map]
  apply List.map_congr_left
  intro p _
  apply Term.ext' <;> simp only [Function.comp, shiftT, smulT, modT, scaleT]
  · rw [← mul_ofRat, CQ.mul_comm' (c * p.q), ← CQ.mul_assoc', CQ.mul_comm' c, CQ.mul_assoc']
  all_goals
    try simp only [Bool.false_eq_true, if_false]
    ring

/-! ### double transform of a single-pair atom -/

def ftftPairs (pi : Rat) (k : Kind) : List (CQ × Kind × Rat) :=
  (ftKind pi k).flatMap fun p => (ftKind pi p.k).map fun r => (p.q * r.q, r.k, r.s / p.s)

theorem ftftPairs_single (pi : Rat) {k k' k'' : Kind} {q q' : CQ} {s s' : Rat}
    (h1 : ftKind pi k = [⟨q, k', s⟩]) (h2 : ftKind pi k' = [⟨q', k'', s'⟩]) :
    ftftPairs pi k = [(q * q', k'', s' / s)] := by
  simp only [ftftPairs, h1, h2, List.flatMap_cons, List.flatMap_nil, List.map_cons, List.map_nil, List.append_nil]

theorem fact_pos' (n : Nat) : (fact n : Rat) ≠ 0 := by
  induction n with
  | zero => simp [fact]
  | succ m ih =>
    simp only [fact]
    push_cast
    have : ((m : Rat) + 1) ≠ 0 := by positivity
    exact mul_ne_zero this ih

/-- ift (ft t) for a single-pair atom: c·q·q'·K(−(a x + b)) -/
theorem ift_ft_single (pi : Rat) (t : Term) (ha : t.a ≠ 0) (q q' : CQ) (k' : Kind)
    (h1 : ftKind pi t.k = [⟨q, k', 1⟩]) (h2 : ftKind pi k' = [⟨q', t.k, 1⟩]) :
    ift pi (ftTerm pi t) = [⟨t.c * q * q', t.ph, t.th, t.k, -t.a, -t.b⟩] := by
  obtain ⟨c, ph, th, k, a, b⟩ := t
  simp only at ha h1 h2 ⊢
  have har := rabs_ne_zero ha
  simp only [ift, ft, ftTerm, h1, h2, reflectE, List.map_cons, List.map_nil, List.flatMap_cons, List.flatMap_nil,
    List.append_nil, reflectT, List.cons.injEq, and_true]
  apply Term.ext' <;> dsimp only
  · -- the two similarity factors 1/|1/a| and 1/|a| cancel
    rw [CQ.smul_mul, CQ.smul_smul, rabs_one_div, show 1 / (1 / rabs a) * (1 / rabs a) = 1 by field_simp, CQ.one_smul]
  all_goals (field_simp; try ring)

/-- canonical form absorbs the reflection of an even atom … -/
theorem canon_reflect_even (c : CQ) (ph th : Rat) (k : Kind) (a b : Rat) (ha : a ≠ 0) (hp : k.parity = some true) :
    canonT ⟨c, ph, th, k, -a, -b⟩ = canonT ⟨c, ph, th, k, a, b⟩ := by
  simp only [canonT, hp, rabs_neg, rsgn_neg ha]
  apply Term.ext' <;> simp

/-- … and of an odd atom together with a sign of the coefficient -/
theorem canon_reflect_odd (c : CQ) (ph th : Rat) (k : Kind) (a b : Rat) (ha : a ≠ 0) (hp : k.parity = some false) :
    canonT ⟨CQ.smul (-1) c, ph, th, k, -a, -b⟩ = canonT ⟨c, ph, th, k, a, b⟩ := by
  simp only [canonT, hp, rabs_neg, rsgn_neg ha, CQ.smul_smul]
  apply Term.ext' <;> simp

/-- inverse ∘ forward on a single-pair atom whose double pair has coefficient 1 and that is even … -/
theorem inverse_forward_of_even (pi : Rat) (c : CQ) (ph th : Rat) (k : Kind) (a b : Rat) (ha : a ≠ 0) (q q' : CQ)
    (k' : Kind) (h1 : ftKind pi k = [⟨q, k', 1⟩]) (h2 : ftKind pi k' = [⟨q', k, 1⟩]) (hq : q * q' = 1)
    (hp : k.parity = some true) :
    (ift pi (ftTerm pi ⟨c, ph, th, k, a, b⟩)).map canonT = [canonT ⟨c, ph, th, k, a, b⟩] := by
  rw [ift_ft_single pi _ ha q q' k' h1 h2, CQ.mul_assoc', hq, CQ.mul_one']
  exact congrArg (· :: []) (canon_reflect_even c ph th k a b ha hp)

/-- … or has coefficient −1 and is odd -/
theorem inverse_forward_of_odd (pi : Rat) (c : CQ) (ph th : Rat) (k : Kind) (a b : Rat) (ha : a ≠ 0) (q q' : CQ)
    (k' : Kind) (h1 : ftKind pi k = [⟨q, k', 1⟩]) (h2 : ftKind pi k' = [⟨q', k, 1⟩]) (hq : q * q' = CQ.ofRat (-1))
    (hp : k.parity = some false) :
    (ift pi (ftTerm pi ⟨c, ph, th, k, a, b⟩)).map canonT = [canonT ⟨c, ph, th, k, a, b⟩] := by
  rw [ift_ft_single pi _ ha q q' k' h1 h2, CQ.mul_assoc', hq, mul_ofRat]
  exact congrArg (· :: []) (canon_reflect_odd c ph th k a b ha hp)

theorem pw_delta_coeff (pi : Rat) (hpi : pi ≠ 0) (n : Nat) :
    (CQ.I * CQ.ofRat (1 / (2 * pi))).npow n * (j2pi pi).npow n = CQ.ofRat ((-1) ^ n) := by
  rw [← CQ.npow_mul, ← CQ.npow_neg_one]
  congr 1
  ext <;> simp [CQ.mul_re, CQ.mul_im, CQ.ofRat, CQ.I, j2pi] <;> field_simp

/-! ### frequency variables: the conversions compose -/

theorem scaleE_scaleE (r s : Rat) (g : E) : scaleE s (scaleE r g) = scaleE (r * s) g := by
  simp only [scaleE, List.map_map]
  apply List.map_congr_left
  intro t _
  simp [Function.comp, scaleT, mul_assoc]

theorem scaleE_one (g : E) : scaleE 1 g = g := by
  simp only [scaleE]
  conv_rhs => rw [← List.map_id g]
  apply List.map_congr_left
  intro t _
  simp [scaleT]

theorem monomial_sub (pi dt : Rat) (hpi : pi ≠ 0) (hdt : dt ≠ 0) (s d : Int × Int × Int) :
    monomial pi dt (s.1 - d.1, s.2.1 - d.2.1, s.2.2 - d.2.2) = monomial pi dt s / monomial pi dt d := by
  simp only [monomial, zpow_eq, zpow_sub₀ hpi, zpow_sub₀ hdt, zpow_sub₀ (two_ne_zero : (2:Rat) ≠ 0)]
  field_simp

theorem Dom.k_ne_zero (pi dt : Rat) (hpi : pi ≠ 0) (hdt : dt ≠ 0) (d : Dom) : d.k pi dt ≠ 0 := by
  simp only [Dom.k, monomial, zpow_eq]
  exact mul_ne_zero (mul_ne_zero (zpow_ne_zero _ two_ne_zero) (zpow_ne_zero _ hpi)) (zpow_ne_zero _ hdt)

/-- converting D → E → F is converting D → F -/
theorem convDom_comp (pi dt : Rat) (hpi : pi ≠ 0) (hdt : dt ≠ 0) (d e d' : Dom) (g : E) :
    convDom pi dt e d' (convDom pi dt d e g) = convDom pi dt d d' g := by
  have he := Dom.k_ne_zero pi dt hpi hdt e
  simp only [convDom, scaleE_scaleE]
  congr 1
  field_simp

theorem convDom_self (pi dt : Rat) (hpi : pi ≠ 0) (hdt : dt ≠ 0) (d : Dom) (g : E) : convDom pi dt d d g = g := by
  have hd := Dom.k_ne_zero pi dt hpi hdt d
  simp only [convDom, div_self hd, scaleE_one]

/-- every ordered pair of distinct domains has a generated row, and its exponents are the differences -/
theorem findConv_ok (d e : Dom) (hde : d ≠ e) : ∃ c, Model.findConv d (some e) = some c ∧
    (c.e2, c.epi, c.edt) = (d.expo.1 - e.expo.1, d.expo.2.1 - e.expo.2.1, d.expo.2.2 - e.expo.2.2) := by
  cases d <;> cases e <;> first | exact absurd rfl hde | exact ⟨_, rfl, rfl⟩

theorem convDom_chain_aux (pi dt : Rat) (hpi : pi ≠ 0) (hdt : dt ≠ 0) (d : Dom) (g : E) : ∀ (path : List Dom) (cur : Dom),
    (path ++ [d]).foldl (fun (st : Dom × E) e => (e, convDom pi dt st.1 e st.2)) (cur, convDom pi dt d cur g) = (d, g)
  | [], cur => by simp [convDom_comp pi dt hpi hdt, convDom_self pi dt hpi hdt]
  | e :: path, cur => by
      simp only [List.cons_append, List.foldl_cons, convDom_comp pi dt hpi hdt]
      exact convDom_chain_aux pi dt hpi hdt d g path e

/-! ### the structural table -/

/-- forward direction: the value of a structural row does not depend on `useSf` -/
theorem toTerm_fwd (pi : Rat) (reN imN : Int) (den : Nat) (piPow : Int) (k : Kind) (u : Bool) (scN : Int) (scD : Nat)
    (scPi : Int) :
    GTerm.toTerm pi false ⟨reN, imN, den, piPow, k, u, scN, scD, scPi⟩
      = ⟨⟨zpow pi piPow * (reN / den), zpow pi piPow * (imN / den)⟩, 0, 0, k, scN / scD * zpow pi scPi, 0⟩ := by
  simp [GTerm.toTerm, GTerm.coef, GTerm.scale, CQ.smul]

/-- the second spec table `pairG` (structural form, used by the decidable table checks) IS the table `ftKind` that defines `ft` -/
theorem pairG_is_ftKind (pi : Rat) (k : Kind) (l : List GTerm) (h : pairG k = some l) :
    entryE pi false l = (ftKind pi k).map fun p => ⟨p.q, 0, 0, p.k, p.s, 0⟩ := by
  unfold pairG at h
  split at h <;> cases h <;>
    simp only [entryE, List.map_cons, List.map_nil, toTerm_fwd, ftKind, CQ.ofRat, CQ.I, CQ.npow, CQ.one_def, CQ.mk_mul_mk,
      zpow_eq, zpow_neg, zpow_ofNat, List.cons.injEq, Term.mk.injEq, CQ.mk.injEq, and_true, true_and,
      Int.cast_neg, Int.cast_ofNat, Int.cast_one, Int.cast_zero, Nat.cast_ofNat, Nat.cast_one]
  all_goals (refine ⟨?_, ?_⟩ <;> (try refine ⟨?_, ?_⟩) <;> (try refine ⟨?_, ?_⟩) <;> ring)

/-- a generated row equals, term by term and in order, the `pairG` row of its atom (the forward value ignores `useSf`) -/
def entryForwardExact (e : GEntry) : Bool :=
  match pairG e.kind with
  | none => false
  | some l => e.terms.map (fun g => { g with useSf := true }) == l.map (fun g => { g with useSf := true })

theorem entryE_fwd_useSf (pi : Rat) (l : List GTerm) :
    entryE pi false (l.map (fun g => { g with useSf := true })) = entryE pi false l := by
  simp only [entryE, List.map_map]
  apply List.map_congr_left
  intro g _
  cases g
  simp only [Function.comp, toTerm_fwd]

/-- … hence it is the row of `ftKind`, the table that DEFINES the spec transform `ft` -/
theorem table_row_is_ftKind (pi : Rat) (e : GEntry) (h : entryForwardExact e = true) :
    entryE pi false e.terms = (ftKind pi e.kind).map fun p => ⟨p.q, 0, 0, p.k, p.s, 0⟩ := by
  unfold entryForwardExact at h
  cases hp : pairG e.kind with
  | none => simp [hp] at h
  | some l =>
    simp only [hp] at h
    have heq := eq_of_beq h
    rw [← entryE_fwd_useSf pi e.terms, heq, entryE_fwd_useSf pi l]
    exact pairG_is_ftKind pi e.kind l hp

theorem lookup_mem (k : Kind) (alt : Nat) (e : GEntry) (h : Model.lookup k alt = some e) : e ∈ Gen.table ∧ e.kind = k := by
  unfold Model.lookup at h
  have hm : e ∈ Gen.table.filter (fun e => e.kind == k) := List.mem_of_getElem? h
  rw [List.mem_filter] at hm
  exact ⟨hm.1, eq_of_beq hm.2⟩

/-! ### Laplace transform on the jω axis -/

/-- `Σ c·t^k e^{−αt}u(t)` as a formal causal signal of C09's specification (Spec/Signal.lean: `ep c k p d = c (t−d)^k/k! e^{p(t−d)} u(t−d)`) -/
def EPTerm.toLaplace (p : EPTerm) : Lcapy.Laplace.Term CQ := .ep (p.c * CQ.ofRat (fact p.k)) p.k (-p.al) 0

theorem pw_eq_npow (x : CQ) : ∀ n : Nat, Lcapy.Laplace.pw x n = x.npow n
  | 0 => rfl
  | n + 1 => by simp [Lcapy.Laplace.pw, CQ.npow, pw_eq_npow x n]

/-- the driver's `laplaceAt` is C09's formal unilateral transform `L` of the same signal -/
theorem laplaceAt_is_L (s : CQ) : ∀ x : List EPTerm,
    laplaceAt s x = Lcapy.Laplace.L (fun _ => (1 : CQ)) (x.map EPTerm.toLaplace) s
  | [] => rfl
  | p :: x => by
      have ih := laplaceAt_is_L s x
      simp only [laplaceAt, List.map_cons, List.foldr_cons] at ih ⊢
      rw [ih]
      simp only [Lcapy.Laplace.L, Lcapy.Laplace.Term.L, EPTerm.toLaplace, pw_eq_npow, CQ.sub_neg', CQ.mul_one']
      rfl

end Lcapy.Fourier
