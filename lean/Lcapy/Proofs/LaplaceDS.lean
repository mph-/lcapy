/-
  C10 helper lemmas: the polynomial-part loop as written in the source, `do_damped_sin` (generated
  arithmetic), the exclusive assumptions.
-/
import Lcapy.Proofs.LaplaceILT
namespace Lcapy.Laplace
variable {K : Type} [Field K]
variable (E : K → K)

/-! ### polynomial part -/

theorem L_iltQgo (b : Bool) (T s : K) : ∀ (C : List K) (n : Nat),
    L E (iltQgo b (n + C.length) (n + C.length - 1) T n C) s = E (-(s * T)) * evalHF C s := by
  intro C
  induction C with
  | nil => intro n; simp [iltQgo, evalHF]
  | cons c cs ih =>
    intro n
    have h1 : n + (c :: cs).length - n - 1 = cs.length := by simp
    have h2 : n + (c :: cs).length - 1 - n = cs.length := by simp
    have h3 : n + (c :: cs).length = (n + 1) + cs.length := by simp; omega
    simp only [iltQgo, L_cons, Term.L, evalHF, h1, h2, ite_self]
    rw [h3, ih (n + 1)]
    ring

theorem evalHF_append_single (l : List K) (a s : K) : evalHF (l ++ [a]) s = s * evalHF l s + a := by
  induction l with
  | nil => simp [evalHF, pw]
  | cons c cs ih => simp only [List.cons_append, evalHF, ih, List.length_append, List.length_cons, List.length_nil, pw]; ring

theorem evalHF_reverse (q : Poly K) (s : K) : evalHF q.reverse s = Poly.eval q s := by
  induction q with
  | nil => simp [evalHF]
  | cons a q ih => simp [evalHF_append_single, ih]; ring

theorem L_iltQsrc [DecidableEq K] (hd : Gen.qCoeffsDense = true) (T s : K) (q : Poly K) :
    L E (iltQsrc T q) s = E (-(s * T)) * Poly.eval q s := by
  unfold iltQsrc
  simp only [hd, if_true]
  have := L_iltQgo E Gen.qOrderByLen T s q.reverse 0
  simp only [Nat.zero_add, List.length_reverse] at this ⊢
  rw [this, evalHF_reverse]

/-! ### damped sinusoids -/

theorem L_expCos {J : K} (hJ : J * J = -1) (h20 : (1 + 1 : K) ≠ 0) (c rate om T s : K)
    (h1 : s - (rate + J * om) ≠ 0) (h2 : s - (rate - J * om) ≠ 0) :
    L E (expCos J c rate om T) s = E (-(s * T)) * (c * (s - rate) / ((s - rate) ^ 2 + om ^ 2)) := by
  rw [expCos, L_conj_pair E hJ _ _ _ _ _ _ h1 h2, show om * om + (s - rate) * (s - rate) = (s - rate) ^ 2 + om ^ 2 by ring]
  congr 2
  field_simp
  ring

theorem L_expSin {J : K} (hJ : J * J = -1) (h20 : (1 + 1 : K) ≠ 0) (c rate om T s : K)
    (h1 : s - (rate + J * om) ≠ 0) (h2 : s - (rate - J * om) ≠ 0) :
    L E (expSin J c rate om T) s = E (-(s * T)) * (c * om / ((s - rate) ^ 2 + om ^ 2)) := by
  have hJ0 : J ≠ 0 := by intro h; rw [h] at hJ; simp at hJ
  rw [expSin, L_conj_pair E hJ _ _ _ _ _ _ h1 h2, show om * om + (s - rate) * (s - rate) = (s - rate) ^ 2 + om ^ 2 by ring]
  congr 2
  field_simp
  ring

theorem L_dsSignal {J : K} (hJ : J * J = -1) (h20 : (1 + 1 : K) ≠ 0) (f : Gen.DSIn K → K) (x : Gen.DSIn K) (T s : K)
    (h1 : s - (Gen.dsRate x + J * Gen.dsFreqC x) ≠ 0) (h2 : s - (Gen.dsRate x - J * Gen.dsFreqC x) ≠ 0)
    (h3 : s - (Gen.dsRate x + J * Gen.dsFreqS x) ≠ 0) (h4 : s - (Gen.dsRate x - J * Gen.dsFreqS x) ≠ 0) :
    L E (dsSignal J f x T) s = E (-(s * T)) * (f { x with Dl := 1 }
      + f { x with C := 1 } * (s - Gen.dsRate x) / ((s - Gen.dsRate x) ^ 2 + Gen.dsFreqC x ^ 2)
      + f { x with S := 1 } * Gen.dsFreqS x / ((s - Gen.dsRate x) ^ 2 + Gen.dsFreqS x ^ 2)) := by
  unfold dsSignal
  rw [L_cons, L_append, L_expCos E hJ h20 _ _ _ _ _ h1 h2, L_expSin E hJ h20 _ _ _ _ _ h3 h4]
  simp only [Term.L, pw]
  ring

/-- both parts of a `do_damped_sin` result, with the generated rate / frequencies evaluated:
    `ρ = −d1/2`, `ω = sq1·sq2`, `(s−ρ)² + ω² = (rd0 s² + rd1 s + rd2)/rd0` -/
theorem L_ds_pair {J : K} (hJ : J * J = -1) (h20 : (1 + 1 : K) ≠ 0) (fc fu : Gen.DSIn K → K)
    (rn0 rn1 rn2 rd0 rd1 rd2 sq1 sq2 T s : K) (hd0 : rd0 ≠ 0) (hsq1 : sq1 ≠ 0)
    (hsq : (sq1 * sq2) ^ 2 = rd2 / rd0 - (rd1 / rd0 / 2) ^ 2)
    (hden : rd0 * s ^ 2 + rd1 * s + rd2 ≠ 0) :
    let x := dsInput rn0 rn1 rn2 rd0 rd1 rd2 sq1 sq2
    L E (dsSignal J fc x T ++ dsSignal J fu x T) s = E (-(s * T)) * (
      (fc { x with Dl := 1 } + fu { x with Dl := 1 })
      + (fc { x with C := 1 } + fu { x with C := 1 }) * (s + rd1 / rd0 / 2) / ((rd0 * s ^ 2 + rd1 * s + rd2) / rd0)
      + (fc { x with S := 1 } + fu { x with S := 1 }) * (sq1 * sq2) / ((rd0 * s ^ 2 + rd1 * s + rd2) / rd0)) := by
  intro x
  have h2' : (2 : K) ≠ 0 := by rw [show (2 : K) = 1 + 1 by norm_num]; exact h20
  have hrate : Gen.dsRate x = -(rd1 / rd0 / 2) := by
    simp [x, Gen.dsRate, dsInput, Gen.dsDenNormalised, ofN]; field_simp; ring
  have hfs : Gen.dsFreqS x = sq1 * sq2 := by simp [x, Gen.dsFreqS, dsInput]
  have hfc : Gen.dsFreqC x = sq1 * sq2 := by simp [x, Gen.dsFreqC, dsInput]
  have hq : (s - -(rd1 / rd0 / 2)) ^ 2 + (sq1 * sq2) ^ 2 = (rd0 * s ^ 2 + rd1 * s + rd2) / rd0 := by
    rw [hsq]; field_simp; ring
  have hq0 : (s - -(rd1 / rd0 / 2)) ^ 2 + (sq1 * sq2) ^ 2 ≠ 0 := by
    rw [hq]; exact div_ne_zero hden hd0
  have hfac : (s - (-(rd1 / rd0 / 2) + J * (sq1 * sq2))) * (s - (-(rd1 / rd0 / 2) - J * (sq1 * sq2)))
      = (s - -(rd1 / rd0 / 2)) ^ 2 + (sq1 * sq2) ^ 2 := by
    linear_combination (-(sq1 * sq2) ^ 2) * hJ
  have hp1 : s - (-(rd1 / rd0 / 2) + J * (sq1 * sq2)) ≠ 0 := by
    intro h0; rw [h0, zero_mul] at hfac; exact hq0 hfac.symm
  have hp2 : s - (-(rd1 / rd0 / 2) - J * (sq1 * sq2)) ≠ 0 := by
    intro h0; rw [h0, mul_zero] at hfac; exact hq0 hfac.symm
  have hL (f : Gen.DSIn K → K) := L_dsSignal E hJ h20 f x T s (by rw [hrate, hfc]; exact hp1) (by rw [hrate, hfc]; exact hp2)
    (by rw [hrate, hfs]; exact hp1) (by rw [hrate, hfs]; exact hp2)
  rw [L_append, hL, hL, hrate, hfs, hfc, hq]
  ring

/-! ### classical derivatives of a regular undelayed signal; sums of delayed terms -/

theorem derivC_regular (f : ExpPoly K) (hr : Regular0 f) : Regular0 (derivC f) := by
  obtain ⟨hd, h0⟩ := hr
  constructor
  · intro t ht
    simp only [derivC, List.mem_filter] at ht
    cases t with
    | ep => trivial
    | dl c n d => simp [Term.isEp] at ht
  · intro t ht
    simp only [derivC, List.mem_filter, deriv, List.mem_flatMap] at ht
    obtain ⟨⟨x, hx, htx⟩, _⟩ := ht
    have hx0 := h0 x hx
    cases x with
    | dl c n d => exact absurd (hd _ hx) (by simp)
    | ep c k p d =>
      cases k with
      | zero => simp [Term.deriv] at htx; rcases htx with rfl | rfl <;> simpa [Term.delayOf] using hx0
      | succ k => simp [Term.deriv] at htx; rcases htx with rfl | rfl <;> simpa [Term.delayOf] using hx0

theorem derivC_nonpole {s : K} (f : ExpPoly K) (hn : NonPole f s) : NonPole (derivC f) s := by
  intro t ht
  simp only [derivC, List.mem_filter] at ht
  exact NonPole_deriv hn t ht.1

theorem derivCN_inv {s : K} (n : Nat) (f : ExpPoly K) (hn : NonPole f s) (hr : Regular0 f) :
    NonPole (derivCN n f) s ∧ Regular0 (derivCN n f) := by
  induction n with
  | zero => exact ⟨hn, hr⟩
  | succ n ih => exact ⟨derivC_nonpole _ ih.1, derivC_regular _ ih.2⟩

theorem L_initImpulses (s : K) (hE : IsExp E) (v : Nat → K) (n : Nat) (l : List Nat) :
    L E (l.map (fun m => Term.dl (v m) (n - 1 - m) 0)) s = (l.map (fun m => v m * s ^ (n - 1 - m))).sum := by
  induction l with
  | nil => simp
  | cons a l ih => simp [ih, Term.L, pw_eq, hE.zero]

theorem list_sum_mul_left (c : K) (f : Nat → K) (l : List Nat) :
    (l.map (fun m => c * f m)).sum = c * (l.map f).sum := by
  induction l with
  | nil => simp
  | cons a l ih => simp [ih]; ring

theorem L_derivCN [DecidableEq K] (hE : IsExp E) (g : ExpPoly K) (s : K) (hn : NonPole g s) (hr : Regular0 g) (n : Nat) :
    L E (derivCN n g) s + ((List.range n).map (fun m => val0plus (derivCN m g) * s ^ (n - 1 - m))).sum = s ^ n * L E g s := by
  induction n with
  | zero => simp [derivCN]
  | succ n ih =>
    have inv := derivCN_inv n g hn hr
    rw [derivCN, L_derivC E hE _ s inv.1 inv.2, List.range_succ, List.map_append, List.sum_append]
    have : ((List.range n).map (fun m => val0plus (derivCN m g) * s ^ (n + 1 - 1 - m))).sum
        = s * ((List.range n).map (fun m => val0plus (derivCN m g) * s ^ (n - 1 - m))).sum := by
      rw [← list_sum_mul_left]
      congr 1
      apply List.map_congr_left
      intro m hm
      have hm' : m < n := List.mem_range.mp hm
      rw [show n + 1 - 1 - m = (n - 1 - m) + 1 by omega, pow_succ]; ring
    rw [this]
    simp only [List.map_cons, List.map_nil, List.sum_cons, List.sum_nil, Nat.add_sub_cancel, Nat.sub_self, pow_zero, mul_one, add_zero]
    linear_combination s * ih

/-- `s^n V(s)` with the initial-condition impulses -/
theorem L_derivEntry [DecidableEq K] (hE : IsExp E) (g : ExpPoly K) (s : K) (hn : NonPole g s) (hr : Regular0 g) (n : Nat) :
    L E (derivEntry false n g) s = s ^ n * L E g s := by
  simp only [derivEntry, Bool.false_eq_true, if_false, L_append]
  rw [L_initImpulses E s hE (fun m => val0plus (derivCN m g)) n]
  exact L_derivCN E hE g s hn hr n

/-- `zero_initial_conditions=True` is right exactly when the initial values vanish -/
theorem L_derivEntry_zic [DecidableEq K] (hE : IsExp E) (g : ExpPoly K) (s : K) (hn : NonPole g s) (hr : Regular0 g) (n : Nat)
    (h0 : ∀ m < n, val0plus (derivCN m g) = 0) :
    L E (derivEntry true n g) s = s ^ n * L E g s := by
  simp only [derivEntry, if_true, List.append_nil]
  rw [← L_derivCN E hE g s hn hr n]
  have : (List.range n).map (fun m => val0plus (derivCN m g) * s ^ (n - 1 - m)) = (List.range n).map (fun _ => (0 : K)) := by
    apply List.map_congr_left
    intro m hm
    rw [h0 m (List.mem_range.mp hm)]; ring
  rw [this]; simp

theorem L_iltSum (pfs : List (PF K)) (s : K) (ho : ∀ pf ∈ pfs, ∀ x ∈ pf.R, 0 < x.2.2) :
    L E (iltSum pfs) s = (pfs.map (fun pf => evalPF E pf s)).sum := by
  induction pfs with
  | nil => simp [iltSum]
  | cons pf pfs ih =>
    simp only [iltSum, List.flatMap_cons, L_append, List.map_cons, List.sum_cons] at ih ⊢
    rw [ilt_laplace' E pf s (ho pf (by simp)), ih (fun q hq => ho q (by simp [hq]))]


/-! ### every term the synthesis produces carries the delay of its factor -/

/-- every term of the signal carries the delay `T` -/
def AllDelay (T : K) (f : ExpPoly K) : Prop := ∀ t ∈ f, t.delayOf = T

theorem AllDelay.append {T : K} {f g : ExpPoly K} (hf : AllDelay T f) (hg : AllDelay T g) : AllDelay T (f ++ g) :=
  List.forall_mem_append.2 ⟨hf, hg⟩

theorem allDelay_iltQgo (b : Bool) (len deg : Nat) (T : K) : ∀ (C : List K) (n : Nat), AllDelay T (iltQgo b len deg T n C) := by
  intro C
  induction C with
  | nil => exact fun n t ht => nomatch ht
  | cons c cs ih => exact fun n => List.forall_mem_cons.2 ⟨rfl, ih (n + 1)⟩

theorem allDelay_iltQsrc [DecidableEq K] (T : K) (q : Poly K) : AllDelay T (iltQsrc T q) := by
  unfold iltQsrc; exact allDelay_iltQgo _ _ _ _ _ _

theorem allDelay_cosSin (J Ac As al om T : K) : AllDelay T (cosSin J Ac As al om T) := by
  intro t ht; simp [cosSin] at ht; rcases ht with rfl | rfl <;> rfl

theorem allDelay_conjPair [DecidableEq K] (J r rc p pc T : K) : AllDelay T (conjPair J r rc p pc T) := by
  unfold conjPair; simp only; split <;> exact allDelay_cosSin _ _ _ _ _ _

theorem allDelay_ratfunLoop [DecidableEq K] (J : K) (conj : K → K) (T : K) :
    ∀ (fuel : Nat) (R : List (K × K × Nat)), AllDelay T (ratfunLoop J conj T fuel R) := by
  intro fuel
  induction fuel with
  | zero => intro R t ht; simp [ratfunLoop] at ht
  | succ fuel ih =>
    intro R
    cases R with
    | nil => intro t ht; simp [ratfunLoop] at ht
    | cons y R =>
      obtain ⟨r, p, o⟩ := y
      simp only [ratfunLoop]
      split
      · split
        · exact (allDelay_conjPair _ _ _ _ _ _).append (ih _)
        · exact List.forall_mem_cons.2 ⟨rfl, ih _⟩
      · exact List.forall_mem_cons.2 ⟨rfl, ih _⟩

theorem allDelay_dsSignal (J : K) (f : Gen.DSIn K → K) (x : Gen.DSIn K) (T : K) : AllDelay T (dsSignal J f x T) := by
  intro t ht
  simp only [dsSignal, expCos, expSin, List.mem_cons, List.mem_append, List.mem_nil_iff, or_false] at ht
  rcases ht with rfl | (rfl | rfl) | (rfl | rfl) <;> rfl

theorem allDelay_dampedSin [DecidableEq K] (J : K) (nc dc : List K) (sq1 sq2 T : K) (c u : ExpPoly K)
    (h : dampedSin J nc dc sq1 sq2 T = some (c, u)) : AllDelay T (c ++ u) := by
  unfold dampedSin at h
  split at h
  · dsimp only at h
    split at h
    · exact absurd h (by simp)
    · simp only [Option.some.injEq, Prod.mk.injEq] at h
      obtain ⟨rfl, rfl⟩ := h
      exact (allDelay_dsSignal _ _ _ _).append (allDelay_dsSignal _ _ _ _)
  · dsimp only at h
    split at h
    · exact absurd h (by simp)
    · simp only [Option.some.injEq, Prod.mk.injEq] at h
      obtain ⟨rfl, rfl⟩ := h
      exact (allDelay_dsSignal _ _ _ _).append (allDelay_dsSignal _ _ _ _)
  · dsimp only at h
    split at h
    · exact absurd h (by simp)
    · simp only [Option.some.injEq, Prod.mk.injEq] at h
      obtain ⟨rfl, rfl⟩ := h
      exact (allDelay_dsSignal _ _ _ _).append (allDelay_dsSignal _ _ _ _)
  · exact absurd h (by simp)


/-! ### the exclusive assumptions -/
section assumptions
omit [Field K]
theorem assumeMerge_append (st : List String) (k1 k2 : List (String × Bool)) :
    assumeMerge st (k1 ++ k2) = assumeMerge (assumeMerge st k1) k2 := by
  induction k1 generalizing st with
  | nil => rfl
  | cons x k1 ih => obtain ⟨a, v⟩ := x; simp [assumeMerge, ih]

theorem assumeSet_true_mem (st : List String) (a b : String) (ha : a ∈ exclusiveAssumptions)
    (hb : b ∈ exclusiveAssumptions) : b ∈ assumeSet st a true ↔ b = a := by
  simp [assumeSet, ha, hb]

/-- invariant: at most one of the exclusive assumptions is present -/
def AtMostOneExclusive (st : List String) : Prop :=
  (st.filter (fun b => b ∈ exclusiveAssumptions)).length ≤ 1

theorem assumeSet_inv (st : List String) (a : String) (v : Bool) (h : AtMostOneExclusive st) :
    AtMostOneExclusive (assumeSet st a v) := by
  unfold assumeSet
  split
  · rename_i ha
    cases v with
    | true =>
      simp only [if_true, AtMostOneExclusive, List.filter_cons, ha, decide_true, List.length_cons]
      simp
    | false =>
      simp only [AtMostOneExclusive] at h ⊢
      simp only [Bool.false_eq_true, if_false]
      refine le_trans ?_ h
      apply List.Sublist.length_le
      exact List.Sublist.filter _ List.filter_sublist
  · exact h

theorem assumeMerge_inv (kw : List (String × Bool)) (st : List String) (h : AtMostOneExclusive st) :
    AtMostOneExclusive (assumeMerge st kw) := by
  induction kw generalizing st with
  | nil => exact h
  | cons x kw ih => obtain ⟨a, v⟩ := x; exact ih _ (assumeSet_inv st a v h)

end assumptions

end Lcapy.Laplace
