import Lcapy.Spec.DT
import Mathlib.RingTheory.PowerSeries.Basic
import Mathlib.RingTheory.PowerSeries.Derivative
import Mathlib.RingTheory.PowerSeries.Inverse
import Mathlib.RingTheory.PowerSeries.NoZeroDivisors
import Mathlib.RingTheory.RootsOfUnity.PrimitiveRoots
import Mathlib.Algebra.Ring.GeomSum
import Mathlib.Tactic.Ring
import Mathlib.Tactic.FieldSimp
import Mathlib.Tactic.LinearCombination

namespace Lcapy.DT
open PowerSeries
variable {K : Type} [Field K]

noncomputable def toPS (l : List K) : K⟦X⟧ := PowerSeries.mk (fun n => l.getD n 0)

@[simp] theorem toPS_nil : toPS ([] : List K) = 0 := by
  ext n; simp [toPS]

theorem toPS_cons (a : K) (l : List K) : toPS (a :: l) = C a + X * toPS l := by
  ext n
  cases n with
  | zero => rw [map_add, coeff_zero_X_mul, coeff_zero_C, add_zero]; simp only [toPS, coeff_mk]; rfl
  | succ n => rw [map_add, coeff_succ_X_mul, coeff_C, if_neg n.succ_ne_zero, zero_add]; simp only [toPS, coeff_mk]; rfl

@[simp] theorem natK_eq (n : ℕ) : (natK n : K) = (n : K) := by
  induction n with
  | zero => simp [natK]
  | succ n ih => simp [natK, ih]

@[simp] theorem powK_eq (a : K) (n : ℕ) : powK a n = a ^ n := by
  induction n with
  | zero => simp [powK]
  | succ n ih => simp [powK, ih, pow_succ]

@[simp] theorem intK_eq (i : ℤ) : (intK i : K) = (i : K) := by
  cases i with
  | ofNat n => simp [intK]
  | negSucc n => simp [intK, Int.negSucc_eq]

@[simp] theorem zpowK_eq (a : K) (i : ℤ) : zpowK a i = a ^ i := by
  cases i with
  | ofNat n => simp [zpowK]
  | negSucc n => simp [zpowK, zpow_negSucc]

theorem toPS_padd (p q : List K) : toPS (padd p q) = toPS p + toPS q := by
  induction p generalizing q with
  | nil => simp [padd]
  | cons a p ih =>
    cases q with
    | nil => simp [padd]
    | cons b q => simp only [padd, toPS_cons, ih, map_add]; ring

theorem toPS_pscale (c : K) (p : List K) : toPS (pscale c p) = C c * toPS p := by
  induction p with
  | nil => simp [pscale]
  | cons a p ih =>
    simp only [pscale, List.map_cons, toPS_cons, map_mul] at ih ⊢
    rw [ih]; ring

theorem toPS_pneg (p : List K) : toPS (pneg p) = - toPS p := by
  induction p with
  | nil => simp [pneg]
  | cons a p ih =>
    simp only [pneg, List.map_cons, toPS_cons, map_neg] at ih ⊢
    rw [ih]; ring

theorem toPS_psub (p q : List K) : toPS (psub p q) = toPS p - toPS q := by
  simp [psub, toPS_padd, toPS_pneg, sub_eq_add_neg]

theorem toPS_pmul (p q : List K) : toPS (pmul p q) = toPS p * toPS q := by
  induction p with
  | nil => simp [pmul]
  | cons a p ih =>
    simp only [pmul, toPS_padd, toPS_pscale, toPS_cons, ih, map_zero]; ring

theorem toPS_pshift (d : ℕ) (p : List K) : toPS (pshift d p) = X ^ d * toPS p := by
  induction d with
  | zero => simp [pshift]
  | succ d ih =>
    simp only [pshift, List.replicate_succ, List.cons_append, toPS_cons, map_zero] at ih ⊢
    rw [ih]; ring

theorem rescale_C' (a c : K) : rescale a (C c : K⟦X⟧) = C c := by
  ext n
  cases n <;> simp [coeff_rescale, coeff_C]

theorem toPS_pdilateFrom (a s : K) (p : List K) :
    toPS (pdilateFrom a s p) = C s * rescale a (toPS p) := by
  induction p generalizing s with
  | nil => simp [pdilateFrom]
  | cons c p ih =>
    simp only [pdilateFrom, toPS_cons, ih, map_add, map_mul, rescale_X, rescale_C']
    ring

theorem toPS_pdilate (a : K) (p : List K) : toPS (pdilate a p) = rescale a (toPS p) := by
  simp [pdilate, toPS_pdilateFrom]

theorem toPS_pderivFrom (j : K) (p : List K) :
    toPS (pderivFrom j p) = C j * toPS p + X * d⁄dX K (toPS p) := by
  induction p generalizing j with
  | nil => simp [pderivFrom]
  | cons c p ih =>
    simp only [pderivFrom, toPS_cons, ih, map_add, map_mul, Derivation.leibniz]
    simp; ring

theorem toPS_pderivW (p : List K) : toPS (pderivW p) = X * d⁄dX K (toPS p) := by
  simp [pderivW, toPS_pderivFrom]


/-- a one-sided sequence extended by zero to negative indices -/
def extZ (x : ℕ → K) : ℤ → K := fun i => if 0 ≤ i then x i.toNat else 0

theorem extZ_natCast (x : ℕ → K) (n : ℕ) : extZ x (n : ℤ) = x n := by
  rw [extZ, if_pos (Int.natCast_nonneg n), Int.toNat_natCast]

theorem extZ_neg (x : ℕ → K) {i : ℤ} (hi : i < 0) : extZ x i = 0 := if_neg (not_le.mpr hi)

theorem bsum_extZ_neg (a : List K) (x : ℕ → K) (i : ℤ) (hi : i < 0) : bsum a (extZ x) i = 0 := by
  induction a generalizing i with
  | nil => rfl
  | cons c cs ih => rw [bsum, extZ_neg x hi, ih (i - 1) (by omega), mul_zero, add_zero]

theorem coeff_toPS_mul (a : List K) (S : K⟦X⟧) (n : ℕ) :
    coeff n (toPS a * S) = bsum a (extZ (fun m => coeff m S)) n := by
  induction a generalizing n with
  | nil => rw [toPS_nil, zero_mul, map_zero]; rfl
  | cons c cs ih =>
    rw [toPS_cons, add_mul, map_add, coeff_C_mul, mul_assoc, bsum, extZ_natCast]
    cases n with
    | zero => rw [coeff_zero_X_mul, bsum_extZ_neg _ _ _ (by omega)]
    | succ n => rw [coeff_succ_X_mul, ih, Nat.cast_succ, add_sub_cancel_right]

theorem headD_eq (l : List K) : l.headD 0 = constantCoeff (toPS l) := by
  cases l <;> simp [toPS_cons]

/-- `r` (a rational function of w = z⁻¹ with no advance) is the unilateral z-transform of `x`:
    `den(w) * Σ x[n] w^n = num(w)` as formal power series, and `den(0) ≠ 0` so that this
    determines every `x[n]`. -/
def IsZT (x : ℕ → K) (r : ZR K) : Prop :=
  r.adv = 0 ∧ toPS r.den * PowerSeries.mk x = toPS r.num ∧ r.den.headD 0 ≠ 0

theorem IsZT.congr {x y : ℕ → K} {r : ZR K} (h : IsZT x r) (e : ∀ n, x n = y n) : IsZT y r := by
  have : x = y := funext e
  rwa [← this]

theorem IsZT.scale {x : ℕ → K} {r : ZR K} (h : IsZT x r) (c : K) :
    IsZT (fun n => c * x n) (ZR.scale c r) := by
  obtain ⟨h0, h1, h2⟩ := h
  refine ⟨h0, ?_, h2⟩
  have : PowerSeries.mk (fun n => c * x n) = C c * PowerSeries.mk x := by ext n; simp
  simp only [ZR.scale, toPS_pscale, this, ← h1]; ring

theorem IsZT.add {x y : ℕ → K} {r s : ZR K} (hr : IsZT x r) (hs : IsZT y s) :
    IsZT (fun n => x n + y n) (ZR.add r s) := by
  obtain ⟨h0, h1, h2⟩ := hr
  obtain ⟨g0, g1, g2⟩ := hs
  have : PowerSeries.mk (fun n => x n + y n) = PowerSeries.mk x + PowerSeries.mk y := by ext n; simp
  refine ⟨by simp [ZR.add, h0, g0], ?_, ?_⟩
  · simp only [ZR.add, h0, g0, Nat.max_self, Nat.sub_self, toPS_padd, toPS_pshift, toPS_pmul, this,
      ← h1, ← g1]
    ring
  · simp only [ZR.add, headD_eq, toPS_pmul, map_mul] at *
    exact mul_ne_zero h2 g2

theorem IsZT.dilate {x : ℕ → K} {r : ZR K} (h : IsZT x r) (a : K) :
    IsZT (fun n => a ^ n * x n) (ZR.dilate a r) := by
  obtain ⟨h0, h1, h2⟩ := h
  refine ⟨h0, ?_, ?_⟩
  · simp only [ZR.dilate, h0, toPS_pscale, toPS_pdilate, ← rescale_mk, ← h1, map_mul]
    simp
  · simp only [ZR.dilate, headD_eq, toPS_pdilate] at *
    rw [← coeff_zero_eq_constantCoeff_apply, coeff_rescale]
    simpa using h2

theorem mk_mulN (x : ℕ → K) :
    PowerSeries.mk (fun n => (n : K) * x n) = X * d⁄dX K (PowerSeries.mk x) := by
  ext n
  cases n with
  | zero => simp
  | succ n => simp [coeff_succ_X_mul, coeff_derivative]; ring

theorem IsZT.mulN {x : ℕ → K} {r : ZR K} (h : IsZT x r) :
    IsZT (fun n => (n : K) * x n) (ZR.mulN r) := by
  obtain ⟨h0, h1, h2⟩ := h
  refine ⟨h0, ?_, ?_⟩
  · have hd := congrArg (d⁄dX K) h1
    rw [Derivation.leibniz] at hd
    simp only [ZR.mulN, h0, toPS_padd, toPS_pscale, toPS_psub, toPS_pmul, toPS_pderivW, mk_mulN,
      natK_eq, Nat.cast_zero, neg_zero, map_zero, zero_mul, zero_add, smul_eq_mul] at hd ⊢
    rw [← h1] at hd ⊢
    linear_combination (toPS r.den * X) * hd
  · simp only [ZR.mulN, headD_eq, toPS_pmul, map_mul] at *
    exact mul_ne_zero h2 h2


theorem toPS_singleton (c : K) : toPS [c] = C c := by rw [toPS_cons, toPS_nil, mul_zero, add_zero]
theorem toPS_two (a b : K) : toPS [a, b] = C a + C b * X := by
  rw [toPS_cons, toPS_singleton]; ring
theorem toPS_three (a b c : K) : toPS [a, b, c] = C a + C b * X + C c * X ^ 2 := by
  rw [toPS_cons, toPS_two]; ring
theorem toPS_one : toPS ([1] : List K) = 1 := by rw [toPS_singleton, map_one]
theorem toPS_one_sub : toPS ([1, -1] : List K) = 1 - X := by simp [toPS_cons]; ring
theorem toPS_one_sub_C (a : K) : toPS ([1, -a] : List K) = 1 - C a * X := by
  rw [toPS_two, map_one, map_neg]; ring

/-- the gated geometric sequence `a^n u[n-m]`: `(1 - a w) Σ_{n ≥ m} a^n w^n = a^m w^m` -/
theorem one_sub_mul_mk_gate (a : K) (m : ℕ) :
    (1 - C a * X) * PowerSeries.mk (fun n => if m ≤ n then a ^ n else 0) = C (a ^ m) * X ^ m := by
  ext n
  rw [sub_mul, one_mul, mul_assoc, map_sub, coeff_C_mul, coeff_C_mul_X_pow]
  cases n with
  | zero => by_cases h : m = 0 <;> simp [h, eq_comm]
  | succ n =>
    rw [coeff_succ_X_mul, coeff_mk, coeff_mk]
    rcases Nat.lt_trichotomy m (n + 1) with h | h | h
    · rw [if_pos h.le, if_pos (Nat.lt_succ_iff.mp h), if_neg (by omega), pow_succ]; ring
    · rw [if_pos h.le, if_neg (by omega), if_pos h.symm, h]; ring
    · rw [if_neg (by omega), if_neg (by omega), if_neg (by omega)]; ring

theorem mk_single (y : K) (m : ℕ) :
    PowerSeries.mk (fun n => if n = m then y else 0) = C y * X ^ m := by
  ext n; rw [coeff_mk, coeff_C_mul_X_pow]

theorem isZT_imp (d : ℤ) (hd : 0 ≤ d) :
    IsZT (fun n : ℕ => (Base.imp d : Base K).val n) (ztBase (.imp d)) := by
  obtain ⟨m, rfl⟩ := Int.eq_ofNat_of_zero_le hd
  refine ⟨by simp only [ztBase, ge_iff_le, hd, ↓reduceIte], ?_, by simp [ztBase]⟩
  simp only [ztBase, hd, ↓reduceIte, toPS_one, one_mul, toPS_pshift, mul_one, Int.toNat_natCast, Base.val,
    Nat.cast_inj]
  rw [mk_single, map_one, one_mul]

theorem isZT_step (d : ℤ) (hd : 0 ≤ d) :
    IsZT (fun n : ℕ => (Base.step d : Base K).val n) (ztBase (.step d)) := by
  obtain ⟨m, rfl⟩ := Int.eq_ofNat_of_zero_le hd
  refine ⟨by simp only [ztBase, ge_iff_le, hd, ↓reduceIte], ?_, by simp [ztBase]⟩
  have := one_sub_mul_mk_gate (1 : K) m
  simp only [one_pow, map_one, one_mul] at this
  simp only [ztBase, hd, ↓reduceIte, toPS_one, toPS_one_sub_C, toPS_pshift, mul_one, Int.toNat_natCast, Base.val,
    Nat.cast_le, map_one, one_mul, this]

theorem isZT_one : IsZT (fun n : ℕ => (Base.one : Base K).val n) (ztBase .one) := by
  refine ⟨rfl, ?_, by simp [ztBase]⟩
  have := one_sub_mul_mk_gate (1 : K) 0
  simp only [one_pow, map_one, one_mul, pow_zero, Nat.zero_le, ↓reduceIte] at this
  simp only [ztBase, toPS_one, toPS_one_sub_C, Base.val, map_one, one_mul, this]

theorem rotZ_natCast (cb sb : K) (n : ℕ) : rotZ cb sb (n : ℤ) = rotPow cb sb n := rfl

/-- solving `P = 1 + w (c P - s Q)`, `Q = w (c Q + s P)` with `c² + s² = 1` -/
theorem rot_solve {R : Type} [CommRing R] (w P Q c s : R) (hc : P = 1 + w * (c * P - s * Q))
    (hs : Q = w * (c * Q + s * P)) (h : c ^ 2 + s ^ 2 = 1) :
    (1 - (c + c) * w + w ^ 2) * P = 1 - c * w ∧ (1 - (c + c) * w + w ^ 2) * Q = s * w := by
  constructor
  · linear_combination (1 - c * w) * hc - s * w * hs - w ^ 2 * P * h
  · linear_combination (1 - c * w) * hs + s * w * hc - w ^ 2 * Q * h

/-- the generating series of `cos(bn)`, `sin(bn)` (the rotation recursion read as two series equations) -/
theorem mk_rotPow (cb sb : K) (h : cb ^ 2 + sb ^ 2 = 1) :
    (1 - (C cb + C cb) * X + X ^ 2) * PowerSeries.mk (fun n => (rotPow cb sb n).1) = 1 - C cb * X ∧
    (1 - (C cb + C cb) * X + X ^ 2) * PowerSeries.mk (fun n => (rotPow cb sb n).2) = C sb * X := by
  refine rot_solve X _ _ (C cb) (C sb) ?_ ?_ (by rw [← map_pow, ← map_pow, ← map_add, h, map_one])
  · ext n
    cases n with
    | zero => simp only [coeff_mk, rotPow, map_add, coeff_zero_X_mul, add_zero, coeff_zero_one]
    | succ n => simp only [coeff_mk, rotPow, map_add, coeff_succ_X_mul, coeff_one, map_sub, coeff_C_mul, mul_comm]; simp
  · ext n
    cases n with
    | zero => simp only [coeff_mk, rotPow, coeff_zero_X_mul]
    | succ n => simp only [coeff_mk, rotPow, map_add, coeff_succ_X_mul, coeff_C_mul, mul_comm]

theorem isZT_cos (cb sb cc sc : K) (h : cb ^ 2 + sb ^ 2 = 1) :
    IsZT (fun n : ℕ => (Base.cos cb sb cc sc).val n) (ztBase (.cos cb sb cc sc)) := by
  refine ⟨rfl, ?_, one_ne_zero⟩
  obtain ⟨hc, hs⟩ := mk_rotPow cb sb h
  have e : PowerSeries.mk (fun n : ℕ => (Base.cos cb sb cc sc).val n)
      = C cc * PowerSeries.mk (fun n => (rotPow cb sb n).1) - C sc * PowerSeries.mk (fun n => (rotPow cb sb n).2) := by
    ext n; simp only [Base.val, rotZ_natCast, coeff_mk, map_sub, coeff_C_mul, mul_comm]
  simp only [ztBase, toPS_two, toPS_three, e, map_neg, map_add, map_mul, map_one]
  linear_combination C cc * hc - C sc * hs

theorem isZT_sin (cb sb cc sc : K) (h : cb ^ 2 + sb ^ 2 = 1) :
    IsZT (fun n : ℕ => (Base.sin cb sb cc sc).val n) (ztBase (.sin cb sb cc sc)) := by
  refine ⟨rfl, ?_, one_ne_zero⟩
  obtain ⟨hc, hs⟩ := mk_rotPow cb sb h
  have e : PowerSeries.mk (fun n : ℕ => (Base.sin cb sb cc sc).val n)
      = C cc * PowerSeries.mk (fun n => (rotPow cb sb n).2) + C sc * PowerSeries.mk (fun n => (rotPow cb sb n).1) := by
    ext n; simp only [Base.val, rotZ_natCast, coeff_mk, map_add, coeff_C_mul, mul_comm]
  simp only [ztBase, toPS_two, toPS_three, e, map_neg, map_add, map_mul, map_sub, map_one]
  linear_combination C cc * hs + C sc * hc


theorem mk_gate (x : ℕ → K) (g : ℕ) :
    PowerSeries.mk (fun n => if g ≤ n then x n else 0)
      = PowerSeries.mk x - toPS ((List.range g).map x) := by
  ext n
  simp only [coeff_mk, map_sub, toPS]
  by_cases h : n < g
  · have : ¬ g ≤ n := by omega
    rw [List.getD_eq_getElem _ _ (by simpa using h)]
    simp [this]
  · have : g ≤ n := by omega
    rw [List.getD_eq_default _ _ (by simpa using this)]
    simp [this]

/-- rule "multiplication with u(n - g)": `X(z) - Σ_{i<g} x[i] z^-i`, any sequence -/
theorem IsZT.gate {x : ℕ → K} {num den : List K} (h : IsZT x ⟨0, num, den⟩) (g : ℕ) :
    IsZT (fun n => if g ≤ n then x n else 0) ⟨0, psub num (pmul den ((List.range g).map x)), den⟩ := by
  obtain ⟨_, h1, h2⟩ := h
  refine ⟨rfl, ?_, h2⟩
  simp only [toPS_psub, toPS_pmul, mk_gate, mul_sub] at h1 ⊢
  rw [h1]

theorem isZT_gstep (isSin : Bool) (g : ℤ) (cb sb cc sc : K) (h : cb ^ 2 + sb ^ 2 = 1) :
    IsZT (fun n : ℕ => (Base.gated isSin false g cb sb cc sc).val n)
      (ztBase (.gated isSin false g cb sb cc sc)) := by
  have hx : ∀ n : ℕ, (if g.toNat ≤ n then trigVal isSin cb sb cc sc n else 0)
      = (Base.gated isSin false g cb sb cc sc).val n := by
    intro n
    have : (g ≤ (n : ℤ)) ↔ g.toNat ≤ n := by omega
    simp only [Base.val, this, mul_ite, mul_one, mul_zero]
  cases isSin with
  | false => exact ((isZT_cos cb sb cc sc h).gate g.toNat).congr hx
  | true => exact ((isZT_sin cb sb cc sc h).gate g.toNat).congr hx

theorem isZT_gimp (isSin : Bool) (g : ℤ) (hg : 0 ≤ g) (cb sb cc sc : K) :
    IsZT (fun n : ℕ => (Base.gated isSin true g cb sb cc sc).val n)
      (ztBase (.gated isSin true g cb sb cc sc)) := by
  have h1 : IsZT (fun n : ℕ => trigVal isSin cb sb cc sc g * (Base.imp g : Base K).val n)
      (ZR.scale (trigVal isSin cb sb cc sc g) (ztBase (.imp g))) :=
    (isZT_imp (K := K) g hg).scale (trigVal isSin cb sb cc sc g)
  have e : ZR.scale (trigVal isSin cb sb cc sc g) (ztBase (.imp g))
      = ztBase (.gated isSin true g cb sb cc sc) := by
    simp [ztBase, ZR.scale, hg]
  have ef : (fun n : ℕ => (Base.gated isSin true g cb sb cc sc).val n)
      = fun n : ℕ => trigVal isSin cb sb cc sc g * (Base.imp g : Base K).val n := by
    funext n
    simp only [Base.val]
    split_ifs with h
    · rw [h]
    · ring
  rw [ef, ← e]
  exact h1

/-- side condition under which the closed form of a base sequence is claimed: delays are
    non-negative (advances are finding F17); `cos b, sin b` lie on the unit circle -/
def Base.ok : Base K → Prop
  | .imp d => 0 ≤ d
  | .step d => 0 ≤ d
  | .one => True
  | .cos cb sb _ _ => cb ^ 2 + sb ^ 2 = 1
  | .sin cb sb _ _ => cb ^ 2 + sb ^ 2 = 1
  | .gated _ true g _ _ _ _ => 0 ≤ g
  | .gated _ false _ cb sb _ _ => cb ^ 2 + sb ^ 2 = 1

theorem isZT_base (b : Base K) (h : b.ok) : IsZT (fun n : ℕ => b.val n) (ztBase b) := by
  cases b with
  | imp d => exact isZT_imp d h
  | step d => exact isZT_step d h
  | one => exact isZT_one
  | cos cb sb cc sc => exact isZT_cos cb sb cc sc h
  | sin cb sb cc sc => exact isZT_sin cb sb cc sc h
  | gated isSin byImp g cb sb cc sc =>
    cases byImp with
    | true => exact isZT_gimp isSin g h cb sb cc sc
    | false => exact isZT_gstep isSin g cb sb cc sc h

theorem IsZT.iterMulN {x : ℕ → K} {r : ZR K} (h : IsZT x r) (p : ℕ) :
    IsZT (fun n => (n : K) ^ p * x n) (iter ZR.mulN p r) := by
  induction p with
  | zero => simpa [iter] using h
  | succ p ih =>
    have := ih.mulN
    simp only [iter]
    convert this using 2
    ring

theorem isZT_term (t : CTerm K) (h : t.base.ok) : IsZT (fun n : ℕ => t.val n) (ztTerm t) := by
  have := (((isZT_base t.base h).dilate t.a).iterMulN t.p).scale t.coef
  refine this.congr (fun n => ?_)
  simp [CTerm.val]
  ring

theorem isZT_zero : IsZT (fun _ : ℕ => (0 : K)) ZR.zero := by
  refine ⟨rfl, ?_, by simp [ZR.zero]⟩
  ext n; simp [ZR.zero, coeff_toPS_mul, bsum, extZ]

theorem toPS_head_tail (l : List K) : toPS l = C (l.headD 0) + X * toPS l.tail := by
  cases l <;> simp [toPS_cons]

theorem ldStep_spec (den r : List K) (h : den.headD 0 ≠ 0) :
    toPS r = C (ldStep den r).1 * toPS den + X * toPS (ldStep den r).2 := by
  have e := toPS_head_tail (psub r (pscale (r.headD 0 / den.headD 0) den))
  have h0 : (psub r (pscale (r.headD 0 / den.headD 0) den)).headD 0 = 0 := by
    rw [headD_eq, toPS_psub, toPS_pscale, map_sub, map_mul, ← headD_eq, ← headD_eq]
    generalize r.headD 0 = a
    generalize den.headD 0 = d at h
    simp only [constantCoeff_C]
    field_simp
    ring
  rw [h0, toPS_psub, toPS_pscale, map_zero] at e
  simp only [ldStep]
  linear_combination e

/-- remainder after n long-division steps -/
def remFrom (den : List K) : ℕ → List K → List K
  | 0, r => r
  | n + 1, r => remFrom den n (ldStep den r).2

theorem seriesFrom_spec (den : List K) (h : den.headD 0 ≠ 0) (n : ℕ) (r : List K) :
    toPS r = toPS den * toPS (seriesFrom den n r) + X ^ n * toPS (remFrom den n r) := by
  induction n generalizing r with
  | zero => simp [seriesFrom, remFrom]
  | succ n ih =>
    have e := ldStep_spec den r h
    have e2 := ih (ldStep den r).2
    simp only [seriesFrom, remFrom, toPS_cons]
    rw [e] at *
    linear_combination X * e2

theorem seriesFrom_length (den : List K) (n : ℕ) (r : List K) : (seriesFrom den n r).length = n := by
  induction n generalizing r with
  | zero => simp [seriesFrom]
  | succ n ih => simp [seriesFrom, ih]

theorem coeff_toPS (l : List K) (i : ℕ) : coeff i (toPS l) = l.getD i 0 := by simp [toPS]

/-- long division computes THE power series of num/den: any S with den * S = num has the
    computed coefficients -/
theorem series_unique (num den : List K) (h : den.headD 0 ≠ 0) (S : K⟦X⟧)
    (hS : toPS den * S = toPS num) (n i : ℕ) (hi : i < n) :
    (series num den n).getD i 0 = coeff i S := by
  have e := seriesFrom_spec den h n num
  rw [← hS] at e
  have hc : constantCoeff (toPS den) ≠ 0 := by rwa [← headD_eq]
  have hinv := PowerSeries.mul_inv_cancel (toPS den) hc
  have key : S - toPS (seriesFrom den n num) = X ^ n * (toPS (remFrom den n num) * (toPS den)⁻¹) := by
    have : S - toPS (seriesFrom den n num)
        = (toPS den * (toPS den)⁻¹) * (S - toPS (seriesFrom den n num)) := by rw [hinv]; ring
    rw [this]
    linear_combination ((toPS den)⁻¹) * e
  have hd : X ^ n ∣ S - toPS (seriesFrom den n num) := ⟨_, key⟩
  have := (X_pow_dvd_iff.mp hd) i hi
  rw [map_sub, coeff_toPS, sub_eq_zero] at this
  exact this.symm

theorem series_eq_of_isZT {x : ℕ → K} {r : ZR K} (h : IsZT x r) (n : ℕ) :
    series r.num r.den n = (List.range n).map x := by
  apply List.ext_getElem
  · simp [series, seriesFrom_length]
  · intro i h1 h2
    have := series_unique r.num r.den h.2.2 (PowerSeries.mk x) h.2.1 n i (by simpa [series, seriesFrom_length] using h1)
    rw [List.getD_eq_getElem _ _ h1] at this
    simp [this]


theorem dot_eq_bsum (cs l : List K) (y : ℤ → K) (i : ℤ) (hl : cs.length ≤ l.length)
    (h : ∀ k : ℕ, k < cs.length → l.getD k 0 = y (i - k)) : dot cs l = bsum cs y i := by
  induction cs generalizing l i with
  | nil => simp [dot, bsum]
  | cons c cs ih =>
    cases l with
    | nil => simp at hl
    | cons v l =>
      simp only [dot, bsum]
      have h0 := h 0 (by simp)
      simp at h0
      rw [h0, ih l (i - 1) (by simpa using hl)]
      intro k hk
      have := h (k + 1) (by simpa using hk)
      simp only [List.getD_cons_succ] at this
      rw [this]; congr 1; push_cast; omega

/-- the output of the recursion as a two-sided sequence: `y[i]` for i ≥ 0 from `respRun`,
    `y[-1-i] = ic[i]` -/
def respY (b a : List K) (x : ℤ → K) (ic : List K) (i : ℤ) : K :=
  if 0 ≤ i then (respRun b a x ic (i.toNat + 1)).headD 0 else ic.getD (-i - 1).toNat 0

theorem respY_natCast (b a : List K) (x : ℤ → K) (ic : List K) (n : ℕ) :
    respY b a x ic n = (respRun b a x ic (n + 1)).headD 0 := by
  rw [respY, if_pos (Int.natCast_nonneg n), Int.toNat_natCast]

theorem respY_of_neg (b a : List K) (x : ℤ → K) (ic : List K) {i : ℤ} (hi : i < 0) :
    respY b a x ic i = ic.getD (-i - 1).toNat 0 := if_neg (not_le.mpr hi)

theorem respRun_length (b a : List K) (x : ℤ → K) (ic : List K) (n : ℕ) :
    (respRun b a x ic n).length = n + ic.length := by
  induction n with
  | zero => simp [respRun]
  | succ n ih => simp [respRun, ih]; omega

theorem respRun_getD (b a : List K) (x : ℤ → K) (ic : List K) (n k : ℕ) (hk : k < n + ic.length) :
    (respRun b a x ic n).getD k 0 = respY b a x ic ((n : ℤ) - 1 - k) := by
  induction n generalizing k with
  | zero =>
    rw [respY_of_neg b a x ic (by omega), respRun]
    congr 1; omega
  | succ n ih =>
    cases k with
    | zero =>
      have e : ((n + 1 : ℕ) : ℤ) - 1 - ((0 : ℕ) : ℤ) = (n : ℤ) := by omega
      rw [e, respY_natCast]
      simp [respRun]
    | succ k =>
      have := ih k (by omega)
      simp only [respRun, List.getD_cons_succ, this]
      congr 1; omega

/-- the model of `DLTIFilter.response` satisfies the difference equation at every n ≥ 0 -/
theorem resp_recursion (b a : List K) (x : ℤ → K) (ic : List K) (ha : a.headD 0 ≠ 0)
    (hlen : a.length = ic.length + 1) (n : ℕ) :
    bsum a (respY b a x ic) n = bsum b x n := by
  cases a with
  | nil => simp at hlen
  | cons a0 atl =>
    simp only [List.headD_cons] at ha
    simp only [bsum]
    have hd : dot atl (respRun b (a0 :: atl) x ic n) = bsum atl (respY b (a0 :: atl) x ic) ((n : ℤ) - 1) := by
      apply dot_eq_bsum
      · rw [respRun_length]; simp at hlen; omega
      · intro k hk
        rw [respRun_getD]; simp at hlen; omega
    rw [← hd]
    simp only [respY_natCast, respRun, List.headD_cons, respStep, List.tail_cons]
    field_simp
    simp


theorem getD_allzero (l : List K) (h : ∀ v ∈ l, v = 0) (k : ℕ) : l.getD k 0 = 0 := by
  by_cases hk : k < l.length
  · rw [List.getD_eq_getElem _ _ hk]; exact h _ (List.getElem_mem hk)
  · exact List.getD_eq_default _ _ (by omega : l.length ≤ k)

theorem extZ_of_causal (x : ℤ → K) (hx : ∀ i, i < 0 → x i = 0) :
    extZ (fun m : ℕ => x m) = x := by
  funext i
  by_cases h : 0 ≤ i
  · simp [extZ, h, Int.toNat_of_nonneg h]
  · simp [extZ, h, hx i (by omega)]

/-- zero initial conditions, causal input: `A(w) Y(w) = B(w) X(w)` as formal power series -/
theorem recursion_ps (b a : List K) (x : ℤ → K) (ic : List K) (ha : a.headD 0 ≠ 0)
    (hlen : a.length = ic.length + 1) (hic : ∀ v ∈ ic, v = 0) (hx : ∀ i, i < 0 → x i = 0) :
    toPS a * PowerSeries.mk (fun n : ℕ => respY b a x ic n) = toPS b * PowerSeries.mk (fun n : ℕ => x n) := by
  ext n
  rw [coeff_toPS_mul, coeff_toPS_mul]
  have e1 : extZ (fun m => coeff m (PowerSeries.mk (fun n : ℕ => respY b a x ic n))) = respY b a x ic := by
    simp only [coeff_mk]
    apply extZ_of_causal
    intro i hi
    rw [respY_of_neg b a x ic hi, getD_allzero ic hic]
  have e2 : extZ (fun m => coeff m (PowerSeries.mk (fun n : ℕ => x n))) = x := by
    simp only [coeff_mk]
    exact extZ_of_causal x hx
  rw [e1, e2]
  exact resp_recursion b a x ic ha hlen n

/-- impulse response = coefficients of B/A by long division -/
def hCoeff (b a : List K) (i : ℕ) : K := (series b a (i + 1)).getD i 0

theorem toPS_a_mul_h (b a : List K) (ha : a.headD 0 ≠ 0) :
    toPS a * PowerSeries.mk (hCoeff b a) = toPS b := by
  have hc : constantCoeff (toPS a) ≠ 0 := by rwa [← headD_eq]
  have hS : toPS a * (toPS b * (toPS a)⁻¹) = toPS b := by
    rw [mul_comm (toPS b), ← mul_assoc, PowerSeries.mul_inv_cancel _ hc, one_mul]
  have : PowerSeries.mk (hCoeff b a) = toPS b * (toPS a)⁻¹ := by
    ext i
    simp only [coeff_mk, hCoeff]
    exact series_unique b a ha _ hS (i + 1) i (by omega)
  rw [this, hS]

theorem recursion_is_convolution' (b a : List K) (x : ℤ → K) (ic : List K) (ha : a.headD 0 ≠ 0)
    (hlen : a.length = ic.length + 1) (hic : ∀ v ∈ ic, v = 0) (hx : ∀ i, i < 0 → x i = 0) (n : ℕ) :
    respY b a x ic n = ∑ p ∈ Finset.antidiagonal n, hCoeff b a p.1 * x p.2 := by
  have h1 := recursion_ps b a x ic ha hlen hic hx
  have h2 := toPS_a_mul_h b a ha
  have hc : constantCoeff (toPS a) ≠ 0 := by rwa [← headD_eq]
  have hne : toPS a ≠ 0 := by
    intro h0; rw [h0] at hc; simp at hc
  have : PowerSeries.mk (fun n : ℕ => respY b a x ic n)
      = PowerSeries.mk (hCoeff b a) * PowerSeries.mk (fun n : ℕ => x n) := by
    apply mul_left_cancel₀ hne
    rw [h1, ← mul_assoc, h2]
  have e := congrArg (coeff n) this
  simpa [coeff_mul] using e


theorem dftSum_congr (x y : ℕ → K) (q : K) (N : ℕ) (h : ∀ n, n < N → x n = y n) :
    dftSum x q N = dftSum y q N := by
  induction N with
  | zero => rfl
  | succ N ih =>
    simp only [dftSum]
    rw [ih (fun n hn => h n (by omega)), h N (by omega)]

theorem dftSum_smul (c : K) (x : ℕ → K) (q : K) (N : ℕ) :
    dftSum (fun n => c * x n) q N = c * dftSum x q N := by
  induction N with
  | zero => simp [dftSum]
  | succ N ih => simp only [dftSum, ih]; ring

theorem dftSum_add (x y : ℕ → K) (q : K) (N : ℕ) :
    dftSum (fun n => x n + y n) q N = dftSum x q N + dftSum y q N := by
  induction N with
  | zero => simp [dftSum]
  | succ N ih => simp only [dftSum, ih]; ring

theorem dftSum_zero (q : K) (N : ℕ) : dftSum (fun _ => (0 : K)) q N = 0 := by
  induction N with
  | zero => rfl
  | succ N ih => simp [dftSum, ih]

/-- a gated sum telescopes: if `F (n+1) - F n = f n q^n` from `l` on, the sum over `l ≤ n < N` is `F N - F l` -/
theorem dftSum_gate_telescope (f F : ℕ → K) (q : K) (l : ℕ)
    (hF : ∀ n, l ≤ n → F (n + 1) = F n + f n * q ^ n) (N : ℕ) (hl : l ≤ N) :
    dftSum (fun n => if l ≤ n then f n else 0) q N = F N - F l := by
  induction N, hl using Nat.le_induction with
  | base =>
    rw [dftSum_congr _ (fun _ => 0) q l (fun n hn => if_neg (by omega)), dftSum_zero, sub_self]
  | succ N hN ih => rw [dftSum, ih, if_pos hN, powK_eq, hF N hN]; ring

/-- the value of a step-like term at n ≥ 0 -/
theorem steplike_val (t : CTerm K) (l : ℕ)
    (hb : t.base = .one ∧ l = 0 ∨ ∃ d : ℤ, t.base = .step d ∧ l = d.toNat) (n : ℕ) :
    t.val n = t.coef * ((n : K) ^ t.p * (if l ≤ n then t.a ^ n else 0)) := by
  rcases hb with ⟨hb, rfl⟩ | ⟨d, hb, rfl⟩
  · simp [CTerm.val, hb, Base.val]; ring
  · simp only [CTerm.val, hb, Base.val, powK_eq, intK_eq, zpowK_eq, Int.cast_natCast, zpow_natCast]
    have : (d ≤ (n : ℤ)) ↔ d.toNat ≤ n := by omega
    simp only [this]
    split_ifs <;> ring

/-- at the bin where `a q = 1`: `Σ_{l ≤ n < N} a^n q^n = N - l` -/
theorem dftSum_bin_step (a q : K) (haq : a * q = 1) (l N : ℕ) (hl : l ≤ N) :
    dftSum (fun n => if l ≤ n then a ^ n else 0) q N = (N : K) - (l : K) :=
  dftSum_gate_telescope _ (fun n => (n : K)) q l (fun n _ => by rw [← mul_pow, haq, one_pow]; push_cast; ring) N hl

/-- … and Faulhaber, `2 Σ_{l ≤ n < N} n = N(N-1) - l(l-1)` -/
theorem dftSum_bin_ramp (a q : K) (haq : a * q = 1) (l N : ℕ) (hl : l ≤ N) :
    (1 + 1) * dftSum (fun n => if l ≤ n then (n : K) * a ^ n else 0) q N
      = (N : K) * ((N : K) - 1) - (l : K) * ((l : K) - 1) := by
  rw [← dftSum_gate_telescope (fun n => (1 + 1) * ((n : K) * a ^ n)) (fun n => (n : K) * ((n : K) - 1)) q l
    (fun n _ => by rw [mul_assoc, mul_assoc, ← mul_pow, haq, one_pow]; push_cast; ring) N hl, ← dftSum_smul]
  exact dftSum_congr _ _ _ _ (fun n _ => by rw [mul_ite, mul_zero])

/-- the special case is right wherever the geometric ratio is 1 -/
theorem dftGeoSpecial_sound (h2 : (1 + 1 : K) ≠ 0) (p l N : ℕ) (a q : K) (haq : a * q = 1) (hl : l ≤ N) (w : K)
    (hw : dftGeoSpecial p l N = some w) :
    w = dftSum (fun n => (n : K) ^ p * if l ≤ n then a ^ n else 0) q N := by
  rcases p with _ | _ | p
  · simp only [dftGeoSpecial, Option.some.injEq, natK_eq] at hw
    rw [← hw, ← dftSum_bin_step a q haq l N hl]
    exact dftSum_congr _ _ _ _ (fun n _ => by rw [pow_zero, one_mul])
  · simp only [dftGeoSpecial, Option.some.injEq, natK_eq] at hw
    rw [← hw, div_eq_iff h2, ← dftSum_bin_ramp a q haq l N hl, mul_comm]
    congr 1
    exact dftSum_congr _ _ _ _ (fun n _ => by rw [zero_add, pow_one, mul_ite, mul_zero])
  · simp [dftGeoSpecial] at hw

section dftsound
variable [DecidableEq K]

/-- the closed form of the finite geometric sum (p = 0) and of its derivative (p = 1), ratio `a q ≠ 1` -/
theorem dftGeoGeneral_sound (p l N : ℕ) (a q : K) (hl : l ≤ N) (w : K)
    (hw : dftGeoGeneral p l N (a * q) ((a * q) ^ N) = some w) :
    w = dftSum (fun n => (n : K) ^ p * if l ≤ n then a ^ n else 0) q N := by
  unfold dftGeoGeneral at hw
  split_ifs at hw with h1
  have hpow : ∀ n : ℕ, a ^ n * q ^ n = (a * q) ^ n := fun n => (mul_pow a q n).symm
  generalize a * q = r at *
  rcases p with _ | _ | p
  · simp only [Option.some.injEq, powK_eq] at hw
    rw [← hw, dftSum_congr _ _ _ _ (fun n _ => by rw [pow_zero, one_mul]),
      dftSum_gate_telescope (fun n => a ^ n) (fun n => - r ^ n / (1 - r)) q l (fun n _ => by rw [hpow]; field_simp; ring) N hl]
    ring
  · simp only [Option.some.injEq, powK_eq, natK_eq] at hw
    rw [← hw, dftSum_congr _ _ _ _ (fun n _ => by rw [zero_add, pow_one, mul_ite, mul_zero]),
      dftSum_gate_telescope (fun n => (n : K) * a ^ n) (fun n => - (r ^ n * ((n : K) - r * ((n : K) - 1))) / ((1 - r) * (1 - r)))
        q l (fun n _ => by rw [mul_assoc, hpow]; push_cast; field_simp; ring) N hl]
    ring
  · simp at hw

theorem dft_steplike_sound (numeric : Bool) (t : CTerm K) (N : ℕ) (q : K) (hq : q ^ N = 1)
    (h2 : (1 + 1 : K) ≠ 0) (l : ℕ)
    (hb : t.base = .one ∧ l = 0 ∨ ∃ d : ℤ, t.base = .step d ∧ l = d.toNat)
    (hsym : numeric = false → l ≤ N)
    (v : K) (hv : dftTerm numeric t N q = some v) :
    v = dftSum (fun n => t.val n) q N := by
  rw [dftSum_congr _ _ q N (fun n _ => steplike_val t l hb n), dftSum_smul]
  have hv' : (if numeric = true ∧ N ≤ l then some 0 else
      (if t.a = 1 then (if q = 1 then dftGeoSpecial t.p l N else dftGeoGeneral t.p l N q 1)
        else if numeric = true ∧ powK t.a N = 1 ∧ t.a * q = 1 then dftGeoSpecial t.p l N
        else dftGeoGeneral t.p l N (t.a * q) (powK t.a N)).map (fun v => t.coef * v)) = some v := by
    rcases hb with ⟨hb, rfl⟩ | ⟨d, hb, rfl⟩ <;> simpa [dftTerm, hb] using hv
  clear hv
  by_cases hN : numeric = true ∧ N ≤ l
  · rw [if_pos hN, Option.some.injEq] at hv'
    rw [← hv', dftSum_congr _ (fun _ => 0) q N (fun n hn => by rw [if_neg (by omega), mul_zero]), dftSum_zero, mul_zero]
  · have hl : l ≤ N := by
      cases numeric
      · exact hsym rfl
      · simp only [true_and, not_le] at hN; omega
    rw [if_neg hN, Option.map_eq_some_iff] at hv'
    obtain ⟨w, hw, rfl⟩ := hv'
    congr 1
    have hN' : (t.a * q) ^ N = t.a ^ N := by rw [mul_pow, hq, mul_one]
    by_cases ha : t.a = 1
    · rw [if_pos ha] at hw
      by_cases hq1 : q = 1
      · rw [if_pos hq1] at hw
        exact dftGeoSpecial_sound h2 _ l N _ q (by rw [ha, hq1, one_mul]) hl w hw
      · rw [if_neg hq1] at hw
        exact dftGeoGeneral_sound _ l N _ q hl w (by rw [hN', ha, one_mul, one_pow]; exact hw)
    · rw [if_neg ha] at hw
      split_ifs at hw with hr
      · exact dftGeoSpecial_sound h2 _ l N _ q hr.2.2 hl w hw
      · exact dftGeoGeneral_sound _ l N _ q hl w (by rw [hN', ← powK_eq]; exact hw)

end dftsound

theorem dftSum_single (m : ℕ) (y q : K) (N : ℕ) :
    dftSum (fun n => if n = m then y else 0) q N = if m < N then y * q ^ m else 0 := by
  induction N with
  | zero => simp [dftSum]
  | succ N ih =>
    simp only [dftSum, ih, powK_eq]
    by_cases h1 : m < N
    · have : N ≠ m := by omega
      simp [h1, this, Nat.lt_succ_of_lt h1]
    · by_cases h2 : N = m
      · subst h2; simp
      · have : ¬ m < N + 1 := by omega
        simp [h1, h2, this]

section dftsound2
variable [DecidableEq K]

theorem dft_imp_sound (numeric : Bool) (t : CTerm K) (N : ℕ) (q : K) (d : ℤ)
    (hb : t.base = .imp d)
    (v : K) (hv : dftTerm numeric t N q = some v) :
    v = dftSum (fun n => t.val n) q N := by
  simp only [dftTerm, hb] at hv
  by_cases hr : 0 ≤ d ∧ d < N
  · obtain ⟨m, rfl⟩ : ∃ m : ℕ, d = m := ⟨d.toNat, by omega⟩
    have hm : m < N := by omega
    have hval : ∀ n : ℕ, t.val n = if n = m then t.coef * (m : K) ^ t.p * t.a ^ m else 0 := by
      intro n
      simp only [CTerm.val, hb, Base.val, powK_eq, intK_eq, zpowK_eq, Int.cast_natCast, zpow_natCast,
        Nat.cast_inj]
      split_ifs with h <;> simp [h]
    rw [dftSum_congr _ _ q N (fun n _ => hval n), dftSum_single]
    simp only [hr, and_self, ↓reduceIte, Option.some.injEq, hm] at hv ⊢
    rw [← hv]
    simp only [powK_eq, intK_eq, zpowK_eq, Int.cast_natCast, zpow_natCast]
  · simp only [hr, ↓reduceIte, Option.some.injEq] at hv
    rw [← hv, dftSum_congr _ (fun _ => 0) q N (fun n hn => by
      have : ¬ ((n : ℤ) = d) := by omega
      simp [CTerm.val, hb, Base.val, this]), dftSum_zero]

/-- side condition of the DFT soundness theorems: for symbolic N a step must start inside the window -/
def dftOk (numeric : Bool) (N : ℕ) (t : CTerm K) : Prop :=
  match t.base with
  | .step d => numeric = false → d.toNat ≤ N
  | _ => True

theorem dft_term_sound (numeric : Bool) (t : CTerm K) (N : ℕ) (q : K) (hq : q ^ N = 1)
    (h2 : (1 + 1 : K) ≠ 0) (hok : dftOk numeric N t)
    (v : K) (hv : dftTerm numeric t N q = some v) :
    v = dftSum (fun n => t.val n) q N := by
  rcases hb : t.base with d | d | _ | _ | _ | _
  · exact dft_imp_sound numeric t N q d hb v hv
  · exact dft_steplike_sound numeric t N q hq h2 d.toNat (Or.inr ⟨d, hb, rfl⟩)
      (by simpa [dftOk, hb] using hok) v hv
  · exact dft_steplike_sound numeric t N q hq h2 0 (Or.inl ⟨hb, rfl⟩) (by simp) v hv
  · simp [dftTerm, hb] at hv
  · simp [dftTerm, hb] at hv
  · simp [dftTerm, hb] at hv

end dftsound2
section orth
open Finset

theorem dftSum_eq_sum (x : ℕ → K) (q : K) (N : ℕ) :
    dftSum x q N = ∑ i ∈ range N, x i * q ^ i := by
  induction N with
  | zero => simp [dftSum]
  | succ N ih => simp [dftSum, ih, sum_range_succ]

/-- orthogonality of the N-th roots of unity -/
theorem root_orth (N : ℕ) (ω : K) (hω : IsPrimitiveRoot ω N) (m n : ℕ) (hm : m < N) (hn : n < N) :
    ∑ k ∈ range N, (ω ^ k) ^ m * ((ω⁻¹) ^ n) ^ k = if m = n then (N : K) else 0 := by
  have hω0 : ω ≠ 0 := hω.ne_zero (by omega)
  have e : ∀ k, (ω ^ k) ^ m * ((ω⁻¹) ^ n) ^ k = (ω ^ m * (ω⁻¹) ^ n) ^ k := by
    intro k; rw [mul_pow, ← pow_mul, ← pow_mul, ← pow_mul, mul_comm k m]
  simp only [e]
  by_cases h : m = n
  · subst h
    have : ω ^ m * ω⁻¹ ^ m = 1 := by rw [← mul_pow, mul_inv_cancel₀ hω0, one_pow]
    simp only [this, one_pow, sum_const, card_range, ↓reduceIte, nsmul_eq_mul, mul_one]
  · simp only [h, ↓reduceIte]
    set ζ := ω ^ m * (ω⁻¹) ^ n with hζ
    have hζN : ζ ^ N = 1 := by
      rw [hζ, mul_pow, ← pow_mul, ← pow_mul, mul_comm m N, mul_comm n N, pow_mul, pow_mul, hω.pow_eq_one,
        inv_pow, hω.pow_eq_one]; simp
    have hζ1 : ζ - 1 ≠ 0 := by
      intro h1
      apply h
      apply hω.pow_inj hm hn
      have : ζ = 1 := by linear_combination h1
      rw [hζ, inv_pow] at this
      field_simp at this
      exact this
    have := geom_sum_mul ζ N
    rw [hζN, sub_self] at this
    exact (mul_eq_zero.mp this).resolve_right hζ1

end orth
section ini
open PowerSeries

/-- the two-sided sequence that is `l[i]` at index `-1-i` and 0 at n ≥ 0 -/
def negSeq (l : List K) : ℤ → K := fun i => if 0 ≤ i then 0 else l.getD (-i - 1).toNat 0

theorem negSeq_natCast (l : List K) (n : ℕ) : negSeq l (n : ℤ) = 0 := if_pos (Int.natCast_nonneg n)

theorem negSeq_of_neg (l : List K) {i : ℤ} (hi : i < 0) : negSeq l i = l.getD (-i - 1).toNat 0 :=
  if_neg (not_le.mpr hi)

theorem dot_nil_right (c : List K) : dot c ([] : List K) = 0 := by cases c <;> simp [dot]

theorem bsum_negSeq_neg (c l : List K) (j : ℕ) :
    bsum c (negSeq l) (-1 - (j : ℤ)) = dot c (l.drop j) := by
  induction c generalizing j with
  | nil => simp [bsum, dot]
  | cons c0 cs ih =>
    have h2 : (-(-1 - (j : ℤ)) - 1).toNat = j := by omega
    have h3 : -1 - (j : ℤ) - 1 = -1 - ((j + 1 : ℕ) : ℤ) := by push_cast; ring
    rw [bsum, negSeq_of_neg l (by omega), h2, h3, ih (j + 1)]
    by_cases hj : j < l.length
    · rw [List.drop_eq_getElem_cons hj, List.getD_eq_getElem _ _ hj]; simp [dot]
    · have : l.length ≤ j := by omega
      rw [List.drop_eq_nil_of_le this, List.drop_eq_nil_of_le (by omega), List.getD_eq_default _ _ this]
      simp [dot_nil_right]

theorem bsum_negSeq_pos (c l : List K) (m : ℕ) :
    bsum c (negSeq l) (m : ℤ) = dot (c.drop (m + 1)) l := by
  induction c generalizing m with
  | nil => simp [bsum, dot]
  | cons c0 cs ih =>
    simp only [bsum, negSeq_natCast, mul_zero, zero_add, List.drop_succ_cons]
    cases m with
    | zero =>
      have := bsum_negSeq_neg cs l 0
      simpa using this
    | succ m =>
      have : ((m + 1 : ℕ) : ℤ) - 1 = (m : ℤ) := by push_cast; ring
      rw [this, ih m]

theorem bsum_add (c : List K) (u v : ℤ → K) (i : ℤ) :
    bsum c (fun j => u j + v j) i = bsum c u i + bsum c v i := by
  induction c generalizing i with
  | nil => simp [bsum]
  | cons c0 cs ih => simp only [bsum, ih]; ring

end ini
section specexec
variable [DecidableEq K]
set_option linter.unusedSectionVars false

theorem firstDiff_self (l : List K) (i : ℕ) : firstDiff l l i = none := by
  induction l generalizing i with
  | nil => simp [firstDiff]
  | cons a l ih => simp [firstDiff, ih]

/-- the executable spec predicate used by the oracle accepts exactly what `IsZT` describes:
    on a closed form that is the z-transform it finds no wrong coefficient, for every bound N -/
theorem ztSpecCheck_of_isZT (x : ℤ → K) (r : ZR K) (h : IsZT (fun n : ℕ => x n) r) (N : ℕ) :
    ztSpecCheck x r N = none := by
  obtain ⟨h0, h1, h2⟩ := h
  have hs := series_eq_of_isZT (x := fun n : ℕ => x n) ⟨h0, h1, h2⟩ (N + 1)
  simp only [ztSpecCheck, h2, ↓reduceIte, h0, Nat.zero_add, List.replicate_zero, List.nil_append, hs]
  exact firstDiff_self _ 0

end specexec
section seqfilter

/-- a value list as a two-sided sequence: zero before the first sample and after the last -/
def litZ (x : List K) : ℤ → K := fun i => if 0 ≤ i then x.getD i.toNat 0 else 0

theorem lfilter_getD (b a x : List K) (n : ℕ) (hn : n < x.length) :
    (lfilterPy b a x).getD n 0 = respY b a (litZ x) (List.replicate (a.length - 1) 0) n := by
  rw [List.getD_eq_getElem _ _ (by simpa [lfilterPy] using hn), respY_natCast]
  simp only [lfilterPy, List.getElem_map, List.getElem_range]
  rfl

theorem litZ_eq_extZ (x : List K) : litZ x = extZ (fun m => x.getD m 0) := rfl

theorem litZ_natCast (x : List K) (n : ℕ) : litZ x n = x.getD n 0 :=
  extZ_natCast (fun m => x.getD m 0) n

theorem litZ_causal (x : List K) (i : ℤ) (hi : i < 0) : litZ x i = 0 :=
  extZ_neg (fun m => x.getD m 0) hi

theorem litZ_append_zeros (x : List K) (k : ℕ) : litZ (x ++ List.replicate k 0) = litZ x := by
  funext i
  simp only [litZ, List.getD_eq_getElem?_getD, List.getElem?_append, List.getElem?_replicate]
  split_ifs <;> simp [*]

theorem lfilter_zeros_len (a : List K) (ha : a.headD 0 ≠ 0) :
    a.length = (List.replicate (a.length - 1) (0 : K)).length + 1 := by
  cases a with
  | nil => simp at ha
  | cons _ _ => simp

theorem lfilter_recursion (b a x : List K) (ha : a.headD 0 ≠ 0) (n : ℕ) :
    bsum a (respY b a (litZ x) (List.replicate (a.length - 1) 0)) n = bsum b (litZ x) n := by
  exact resp_recursion b a (litZ x) _ ha (lfilter_zeros_len a ha) n

theorem lfilter_convolution (b a x : List K) (ha : a.headD 0 ≠ 0) (n : ℕ) (hn : n < x.length) :
    (lfilterPy b a x).getD n 0 = ∑ p ∈ Finset.antidiagonal n, hCoeff b a p.1 * litZ x p.2 := by
  rw [lfilter_getD b a x n hn]
  exact recursion_is_convolution' b a (litZ x) _ ha (lfilter_zeros_len a ha) (by intro v hv; exact (List.mem_replicate.mp hv).2)
    (litZ_causal x) n

theorem convolve_getD (x h : List K) (hx : x ≠ []) (hh : h ≠ []) (n : ℕ)
    (hn : n < x.length + (h.length - 1)) :
    (convolvePy x h).getD n 0 = convAt h (litZ x) n := by
  have e : convolvePy x h = lfilterPy h [1] (x ++ List.replicate (h.length - 1) 0) := by
    simp [convolvePy, hx, hh]
  rw [e, lfilter_getD _ _ _ n (by simpa using hn), litZ_append_zeros]
  simp [respY_natCast, respRun, respStep, dot, convAt]

end seqfilter
end Lcapy.DT
