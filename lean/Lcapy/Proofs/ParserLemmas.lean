/-
  Helper lemmas for C06 (tokeniser, argument quoting, the predicates on values).  Core Lean only.
-/
import Lcapy.Spec.NetlistExec
namespace Lcapy.Parser

theorem step_of_scanStep (ds : List Char) (parts : List Str) (cur : Str) (bad : Bool) (b b' : BSt) (c : Char)
    (h : scanStep ds b c = some b') :
    step ds ⟨parts, cur, b.1, b.2, bad⟩ c = ⟨parts, c :: cur, b'.1, b'.2, bad⟩ := by
  obtain ⟨cl, st⟩ := b
  unfold scanStep at h
  unfold step
  simp only at h ⊢
  split at h
  · cases h
  · rename_i h1
    simp only [h1]
    split at h
    · rename_i h2
      simp only [h2]
      cases st with
      | nil => simp at h; subst h; simp
      | cons x r => simp at h; subst h; simp
    · rename_i h2
      simp only [h2]
      split at h
      · rename_i h3; simp at h; subst h; simp [h3]
      · rename_i h3
        split at h
        · rename_i h4; simp at h; subst h; simp [h3, h4]
        · rename_i h4
          split at h
          · cases h
          · rename_i h5; simp at h; subst h; simp [h3, h4, h5]

theorem fold_scan (ds : List Char) (t : Str) : ∀ (parts : List Str) (cur : Str) (bad : Bool) (b b' : BSt),
    scan ds t b = some b' →
    t.foldl (step ds) ⟨parts, cur, b.1, b.2, bad⟩ = ⟨parts, t.reverse ++ cur, b'.1, b'.2, bad⟩ := by
  induction t with
  | nil => intro parts cur bad b b' h; simp [scan] at h; subst h; simp
  | cons c t ih =>
    intro parts cur bad b b' h
    simp only [scan] at h
    cases hs : scanStep ds b c with
    | none => simp [hs] at h
    | some b1 =>
      simp only [hs] at h
      simp only [List.foldl_cons]
      rw [step_of_scanStep ds parts cur bad b b1 c hs, ih parts (c :: cur) bad b1 b' h]
      simp

theorem atomic_scan {ds : List Char} {t : Str} (h : atomic ds t = true) : scan ds t (none, []) = some (none, []) := by
  unfold atomic at h
  simp only [Bool.and_eq_true] at h
  obtain ⟨_, h2⟩ := h
  split at h2
  · rename_i heq; exact heq
  · cases h2

theorem atomic_fold {ds : List Char} {t : Str} (h : atomic ds t = true) (parts : List Str) (cur : Str) (bad : Bool) :
    t.foldl (step ds) ⟨parts, cur, none, [], bad⟩ = ⟨parts, t.reverse ++ cur, none, [], bad⟩ :=
  fold_scan ds t parts cur bad (none, []) (none, []) (atomic_scan h)

theorem atomic_ne_nil {ds : List Char} {t : Str} (h : atomic ds t = true) : t ≠ [] := by
  unfold atomic at h
  intro ht; subst ht; simp at h

theorem step_delim (ds : List Char) (parts : List Str) (t : Str) (d : Char) (bad : Bool)
    (hd : ds.contains d = true) (ht : t ≠ []) :
    step ds ⟨parts, t.reverse, none, [], bad⟩ d = ⟨t :: parts, [], none, [], bad⟩ := by
  unfold step
  have : t.reverse.isEmpty = false := by
    cases t with
    | nil => exact absurd rfl ht
    | cons a b => simp
  have hd' : d ∈ ds := by simpa using hd
  simp [hd', this]

theorem split_join_aux (ds : List Char) (sep last : Char) (hsep : ds.contains sep = true) (hlast : ds.contains last = true)
    (ts : List Str) (h : ∀ t ∈ ts, atomic ds t = true) :
    ∀ parts, ((joinWith [sep] ts ++ [last]).foldl (step ds) ⟨parts, [], none, [], false⟩)
      = ⟨ts.reverse ++ parts, [], none, [], false⟩ := by
  induction ts with
  | nil =>
    intro parts
    have hl' : last ∈ ds := by simpa using hlast
    simp [joinWith, step, hl']
  | cons t ts ih =>
    intro parts
    have hp := h t (by simp)
    have hne := atomic_ne_nil hp
    cases ts with
    | nil =>
      simp only [joinWith, List.foldl_append, List.foldl_cons, List.foldl_nil]
      rw [atomic_fold hp]
      simp only [List.append_nil]
      rw [step_delim ds parts t last false hlast hne]
      simp
    | cons t2 ts2 =>
      have ih' := ih (fun u hu => h u (by simp [hu])) (t :: parts)
      simp only [joinWith, List.append_assoc, List.cons_append, List.nil_append, List.foldl_append, List.foldl_cons] at ih' ⊢
      rw [atomic_fold hp]
      simp only [List.append_nil]
      rw [step_delim ds parts t sep false hsep hne]
      simpa using ih'

/-- scanning distributes over concatenation -/
theorem scan_append (ds : List Char) (a b : Str) (s : BSt) :
    scan ds (a ++ b) s = (scan ds a s).bind (scan ds b) := by
  induction a generalizing s with
  | nil => simp [scan]
  | cons c a ih =>
    simp only [List.cons_append, scan]
    cases scanStep ds s c with
    | none => simp
    | some s' => simpa using ih s'

theorem okValue_iff (ds : List Char) (v : Str) : okValue ds v = true ↔
    v ≠ [] ∧ v.head? ≠ some '{' ∧ v.head? ≠ some '"'
    ∧ (if v.any ds.contains then scan ds v (some '}', [none]) = some (some '}', [none])
       else scan ds v (none, []) = some (none, []))
    ∧ split ['='] (argFormat ds v) = some [argFormat ds v] := by
  simp only [okValue, Bool.and_eq_true, Bool.not_eq_true', bne_iff_ne, ne_eq, decide_eq_true_eq, and_assoc,
    List.isEmpty_eq_false_iff]
  split <;> simp

theorem argFormat_eq (ds : List Char) (v : Str) (h : v.head? ≠ some '{') :
    argFormat ds v = if v.any ds.contains then '{' :: (v ++ ['}']) else v := by
  simp [argFormat, h]

/-- `value_parser` on a text whose suffix alias (`Meg`, `K`) resolves to `m ++ [c]` -/
theorem valueParser_resolved (suf : List (Char × Int)) (arg m : Str) (c : Char) (e : Int) (q : Rat)
    (hlen : ¬ arg.length < 2)
    (h : (if endsWith arg ['M','e','g'] then arg.take (arg.length - 3) ++ ['M']
          else if endsWith arg ['K'] then arg.dropLast ++ ['k'] else arg) = m ++ [c])
    (hm : parseDecimal m = some q) (hc : suf.find? (fun p => p.1 == c) = some (c, e)) :
    valueParser suf arg = .num (q * pow10 e) := by
  unfold valueParser
  simp [hlen, h, hm, hc]

theorem takeWhile_all {α} (p : α → Bool) (l : List α) (h : l.all p = true) : l.takeWhile p = l := by
  induction l with
  | nil => rfl
  | cons a t ih =>
    simp only [List.all_cons, Bool.and_eq_true] at h
    simp [h.1, ih h.2]

theorem mem_split_takeWhile (l : List Rule) (r : Rule) (h : r ∈ l) :
    ∃ post, l = l.takeWhile (fun r' => r' != r) ++ r :: post := by
  induction l with
  | nil => simp at h
  | cons a t ih =>
    by_cases ha : a = r
    · subst ha; exact ⟨t, by simp⟩
    · have : r ∈ t := by
        rcases List.mem_cons.mp h with h | h
        · exact absurd h.symm ha
        · exact h
      obtain ⟨post, hp⟩ := ih this
      refine ⟨post, ?_⟩
      have : (a != r) = true := by simp [ha]
      simp only [List.takeWhile_cons, this, ↓reduceIte, List.cons_append]
      rw [← hp]

end Lcapy.Parser
